/-
Lemmas for `S4V.Model.FixedWalk` over an abstract reader invariant `I` that makes every `read_data_to_buffer` exact
(`ReadsExact`; `S4V.Lemmas.FixedWalkRead` proves it for the plain reader and the streamed reader that keeps its blocks).
The loop of `preprocess_timevalues` is then a fold of `preBody` over the record offsets (`preLoop_eq`), and the worker
loop sends one entry per key of a well-formed map, in map order (`walk_exact`).
-/
import S4V.Model.FixedWalk
import S4V.Lemmas.SortDrain

namespace S4V.Lemmas.FixedWalk
open S4V.Gen.Blocks S4V.Gen.Stream S4V.Gen.Keys S4V.Gen.FixedWalk S4V.Model.Lines S4V.Model.Stream
  S4V.Model.SortDrain S4V.Model.FixedWalk S4V.Lemmas.SortDrain

def sl (d : Bytes) (a b : Nat) : Bytes := (d.drop a).take (b - a)

theorem sl_length (d : Bytes) (a b : Nat) (h : b ≤ d.length) : (sl d a b).length = b - a := by
  unfold sl
  rw [List.length_take, List.length_drop]
  omega

theorem sl_append (d : Bytes) {a b c : Nat} (h1 : a ≤ b) (h2 : b ≤ c) : sl d a b ++ sl d b c = sl d a c := by
  unfold sl
  have e : c - a = (b - a) + (c - b) := by omega
  rw [e, List.take_add, List.drop_drop]
  congr 3
  omega

/-- what the lemmas below need of a reader: from every state satisfying `I`, a `read_data_to_buffer` of at most `span`
bytes is answered with the bytes of `d` and leads to such a state again, and so does `drop_block` -/
structure ReadsExact (d : Bytes) (I : Rd → Prop) (span : Nat) : Prop where
  fsz : ∀ r, I r → r.fsz = d.length
  read : ∀ r beg e len, I r → 1 ≤ len → e ≤ beg + span →
    ∃ r', I r' ∧ r'.bs = r.bs ∧ readDataToBuffer r beg e false len =
      (if beg ≥ min e d.length then R3.done
       else if len < min e d.length - beg then R3.err
       else R3.found (sl d beg (min e d.length)), r')
  drop : ∀ r k, I r → I (dropBlock r k) ∧ (dropBlock r k).bs = r.bs

/-! ### `preprocess_timevalues` -/

/-- the time value `preprocess_timevalues` computes for the record at `fo` -/
def tvAt (p : P) (d : Bytes) (fo : Nat) : Option (Int × Int) :=
  p.tvOf (sl d (fo + p.tvOff) (fo + p.tvOff + p.tvSz))

def preFold (c : Cfg) (p : P) (a b : Option (Int × Int)) (d : Bytes) :
    List Nat → Option (Int × Int) × Cnt × Map → Option (Int × Int) × Cnt × Map
  | [], s => s
  | fo :: rest, s => preFold c p a b d rest (preBody c a b (tvAt p d fo) fo s.1 s.2.1 s.2.2)

def offs (sz : Nat) : Nat → Nat → List Nat
  | 0, _ => []
  | n + 1, fo => fo :: offs sz n (fo + sz)

theorem offs_eq (sz : Nat) : ∀ (n fo : Nat), offs sz n fo = (List.range n).map fun i => fo + i * sz
  | 0, _ => rfl
  | n + 1, fo => by
    rw [offs, offs_eq sz n, List.range_succ_eq_map, List.map_cons, List.map_map]
    simp only [Nat.zero_mul, Nat.add_zero, List.cons.injEq, true_and]
    exact List.map_congr_left fun i _ => by simp only [Function.comp, Nat.succ_mul]; omega

theorem preLoop_eq {d : Bytes} {I : Rd → Prop} {span : Nat} (hI : ReadsExact d I span) (p : P) (a b : Option (Int × Int))
    (htv : 1 ≤ p.tvSz) (hin : p.tvOff + p.tvSz ≤ p.sz) (hsp : p.tvSz ≤ span) :
    ∀ (n fuel : Nat) (r : Rd) (fo : Nat) (buf : Bytes) (s : Option (Int × Int) × Cnt × Map),
      I r → n + 1 ≤ fuel → fo + n * p.sz = d.length → buf.length = p.tvSz →
      ∃ r', I r' ∧ r'.bs = r.bs ∧ preLoop cfg0 p a b fuel r fo buf s.1 s.2.1 s.2.2 =
        (.found ((preFold cfg0 p a b d (offs p.sz n fo) s).2.1, (preFold cfg0 p a b d (offs p.sz n fo) s).2.2), r')
  | _, 0, _, _, _, _, _, hf, _, _ => by omega
  | n, fuel + 1, r, fo, buf, s, hr, hf, hfo, hbuf => by
    obtain ⟨r', h1, h2, h3⟩ := hI.read r (fo + p.tvOff) (fo + p.tvOff + p.tvSz) p.tvSz hr htv (by omega)
    simp only [preLoop, cfg0, tvBeg, tvEnd, PRE_ONEBLOCK, h3]
    cases n with
    | zero =>
      -- `fo` is the end of the file: `Done`
      rw [if_pos (by omega)]
      exact ⟨r', h1, h2, rfl⟩
    | succ n =>
      have hle : fo + p.sz + n * p.sz = d.length := by rw [← hfo, Nat.succ_mul]; omega
      have hw : (sl d (fo + p.tvOff) (fo + p.tvOff + p.tvSz)).length = p.tvSz := by
        rw [sl_length _ _ _ (by omega)]; omega
      obtain ⟨r'', g1, g2, g3⟩ := preLoop_eq hI p a b htv hin hsp n fuel r' (fo + p.sz) _
        (preBody cfg0 a b (tvAt p d fo) fo s.1 s.2.1 s.2.2) h1 (by omega) hle hw
      rw [Nat.min_eq_left (by omega), if_neg (by omega), if_neg (by omega)]
      simp only [offs, preFold]
      -- the whole time value was read: nothing of the previous round's buffer is left
      rw [show List.drop (sl d (fo + p.tvOff) (fo + p.tvOff + p.tvSz)).length buf = [] by
        rw [hw, ← hbuf]; exact List.drop_length, List.append_nil]
      exact ⟨r'', g1, g2.trans h2, g3⟩

/-- the records at the offsets `os` as `Rec`s of the sort model (`S4V.Model.SortDrain`), with `idx` = file offset -/
def recsAt (p : P) (d : Bytes) : List Nat → List Rec
  | [] => []
  | fo :: rest =>
    match tvAt p d fo with
    | some tv => ⟨tv, fo⟩ :: recsAt p d rest
    | none => recsAt p d rest

theorem recsAt_eq (p : P) (d : Bytes) :
    ∀ os : List Nat, recsAt p d os = os.filterMap fun fo => (tvAt p d fo).map (⟨·, fo⟩)
  | [] => rfl
  | fo :: rest => by
    rw [recsAt, List.filterMap_cons, recsAt_eq p d rest]
    cases tvAt p d fo <;> rfl

theorem keep_iff_body (a b : Option (Int × Int)) (tv : Int × Int) (fo : Nat) :
    fixedKeep a b ⟨tv, fo⟩ = (!fixedIsNull tv && !optSkip fixedSkipAfter tv a && !optSkip fixedSkipBefore tv b) := by
  cases a <;> cases b <;> simp [fixedKeep, optSkip]

/-- `total_entries` counts these -/
def nonNull (rs : List Rec) : List Rec := rs.filter (fun r => !fixedIsNull r.tv)

/-- `out_of_order`: the records earlier than their predecessor in the list (`prev` before the first) -/
def descents : Option (Int × Int) → List Rec → Nat
  | _, [] => 0
  | prev, r :: rest =>
    (match prev with | some pv => if fixedOutOfOrder r.tv pv then 1 else 0 | none => 0) + descents (some r.tv) rest

def noneCount (p : P) (d : Bytes) (os : List Nat) : Nat := (os.filter (fun fo => (tvAt p d fo).isNone)).length

theorem preBody_null (a b : Option (Int × Int)) (tv : Int × Int) (fo : Nat) (prev : Option (Int × Int)) (k : Cnt)
    (m : Map) (hn : fixedIsNull tv = true) : preBody cfg0 a b (some tv) fo prev k m = (prev, k, m) := by
  simp only [preBody, cfg0, hn, if_true]

theorem preBody_rec (a b : Option (Int × Int)) (tv : Int × Int) (fo : Nat) (prev : Option (Int × Int)) (k : Cnt)
    (m : Map) (hn : fixedIsNull tv = false) :
    preBody cfg0 a b (some tv) fo prev k m =
      (some tv,
       { total := k.total + 1, invalid := k.invalid,
         noPass := k.noPass + (if fixedKeep a b ⟨tv, fo⟩ then 0 else 1),
         ooo := k.ooo + descents prev [⟨tv, fo⟩] },
       if fixedKeep a b ⟨tv, fo⟩ then S4V.Model.SortDrain.insert m (fixedKey ⟨tv, fo⟩) fo else m) := by
  rw [keep_iff_body, hn]
  simp only [preBody, cfg0, hn, Bool.false_eq_true, if_false]
  cases prev with
  | none =>
    by_cases ha : optSkip fixedSkipAfter tv a = true <;> by_cases hb : optSkip fixedSkipBefore tv b = true <;>
      simp [ha, hb, descents]
  | some pv =>
    by_cases ho : fixedOutOfOrder tv pv = true <;> by_cases ha : optSkip fixedSkipAfter tv a = true <;>
      by_cases hb : optSkip fixedSkipBefore tv b = true <;> simp [ho, ha, hb, descents]

theorem preFold_map (p : P) (a b : Option (Int × Int)) (d : Bytes) :
    ∀ (os : List Nat) (s : Option (Int × Int) × Cnt × Map),
      (preFold cfg0 p a b d os s).2.2 =
        (((recsAt p d os).filter (fixedKeep a b)).map fun r => (fixedKey r, r.idx)).foldl
          (fun m x => S4V.Model.SortDrain.insert m x.1 x.2) s.2.2 := by
  intro os
  induction os with
  | nil => intro s; rfl
  | cons fo rest ih =>
    intro s
    rw [preFold, ih, recsAt]
    cases tvAt p d fo with
    | none => rfl
    | some tv =>
      cases hn : fixedIsNull tv with
      | true => rw [preBody_null _ _ _ _ _ _ _ hn, List.filter_cons_of_neg (by rw [keep_iff_body, hn]; simp)]
      | false =>
        rw [preBody_rec _ _ _ _ _ _ _ hn, List.filter_cons]
        split <;> rfl

theorem preFold_cnt (p : P) (a b : Option (Int × Int)) (d : Bytes) :
    ∀ (os : List Nat) (s : Option (Int × Int) × Cnt × Map),
      let k := (preFold cfg0 p a b d os s).2.1
      let nn := nonNull (recsAt p d os)
      k.total = s.2.1.total + nn.length
      ∧ k.invalid = s.2.1.invalid + noneCount p d os
      ∧ k.noPass = s.2.1.noPass + (nn.filter (fun r => !fixedKeep a b r)).length
      ∧ k.ooo = s.2.1.ooo + descents s.1 nn := by
  intro os
  induction os with
  | nil => intro s; simp [preFold, recsAt, nonNull, noneCount, descents]
  | cons fo rest ih =>
    intro ⟨prev, k, m⟩
    have h := ih (preBody cfg0 a b (tvAt p d fo) fo prev k m)
    cases htv : tvAt p d fo with
    | none =>
      simp only [preFold, recsAt, noneCount, List.filter_cons, htv, preBody, Option.isNone_none, if_true,
        List.length_cons] at h ⊢
      exact ⟨h.1, by omega, h.2.2⟩
    | some tv =>
      cases hn : fixedIsNull tv with
      | true =>
        simpa only [preFold, recsAt, noneCount, nonNull, List.filter_cons, htv, preBody_null _ _ _ _ _ _ _ hn,
          Option.isNone_some, Bool.false_eq_true, if_false, hn, Bool.not_true] using h
      | false =>
        simp only [preFold, recsAt, noneCount, nonNull, List.filter_cons, htv, preBody_rec _ _ _ _ _ _ _ hn,
          Option.isNone_some, Bool.false_eq_true, if_false, hn, Bool.not_false, if_true, List.length_cons, descents] at h ⊢
        cases hk : fixedKeep a b ⟨tv, fo⟩ <;>
          simp only [hk, Bool.not_true, Bool.not_false, if_true, Bool.false_eq_true, if_false, List.length_cons] at h ⊢ <;>
          omega

/-! ### `process_entry_at` and the worker loop -/

def recAt (d : Bytes) (fo sz : Nat) : Bytes := sl d fo (fo + sz)

def emitOf (p : P) (d : Bytes) (e : Key × Nat) : Emit :=
  if p.newOk (recAt d e.2 p.sz) then .msg e.2 (recAt d e.2 p.sz) (isLastRec e.2 p.sz d.length) else .bad

structure MapOk (sz L : Nat) (m : Map) : Prop where
  sorted : KSorted m
  off : ∀ e ∈ m, e.2 % sz = 0 ∧ e.2 + sz ≤ L
  nodup : (m.map (·.2)).Nodup

theorem MapOk.tail {sz L : Nat} {e : Key × Nat} {m : Map} (h : MapOk sz L (e :: m)) : MapOk sz L m :=
  ⟨(List.pairwise_cons.1 h.sorted).2, fun x hx => h.off x (List.mem_cons_of_mem _ hx),
   by have := h.nodup; rw [List.map_cons, List.nodup_cons] at this; exact this.2⟩

def CacheOk (p : P) (d : Bytes) (c : List (Nat × Bytes)) : Prop :=
  ∀ e ∈ c, e.2 = recAt d e.1 p.sz ∧ p.newOk e.2 = true

def nextFo (fsz : Nat) : Map → Nat
  | [] => fsz
  | e :: _ => e.2

theorem scan_head (fsz : Nat) (k0 : Key) (fo0 : Nat) (rest : Map) :
    scan cfg0 fo0 ((k0, fo0) :: rest) false fsz none = (nextFo fsz rest, some k0) := by
  cases rest <;> simp [scan, cfg0, WALK_NEXT_CHECK_FIRST, nextFo]

theorem filter_head_key {k0 : Key} {fo0 : Nat} {rest : Map} (h : KSorted ((k0, fo0) :: rest)) :
    ((k0, fo0) :: rest).filter (fun e => e.1 != k0) = rest := by
  have h1 := (List.pairwise_cons.1 h).1
  rw [List.filter_cons]
  simp only [bne_self_eq_false, Bool.false_eq_true, if_false]
  apply List.filter_eq_self.2
  intro e he
  have := h1 e he
  simp only [bne_iff_ne, ne_eq]
  intro heq
  rw [heq, klt_irrefl] at this
  cases this

theorem dropLoop_inv {d : Bytes} {I : Rd → Prop} {span : Nat} (hI : ReadsExact d I span) :
    ∀ (n : Nat) (rd : Rd) (u : UMap) (bo ok er : Nat), I rd →
      I (dropLoop n rd u bo ok er).1 := by
  intro n
  induction n with
  | zero => intro rd u bo ok er h; exact h
  | succ n ih =>
    intro rd u bo ok er h
    simp only [dropLoop]
    cases uget u bo with
    | none => exact ih rd u (bo + 1) ok er h
    | some cnt =>
      simp only
      split
      · split
        · exact ih (dropBlock rd bo) (udel u bo) (bo + 1) (ok + 1) er (hI.drop rd bo h).1
        · exact ih rd u (bo + 1) ok (er + 1) h
      · exact ih rd (uset u bo (cnt - 1)) (bo + 1) ok er h

theorem dropEntry_inv {d : Bytes} {I : Rd → Prop} {span : Nat} (hI : ReadsExact d I span) (p : P) (fr : FR) (fo : Nat)
    (h : I fr.rd) :
    I (dropEntry p fr fo).rd ∧ (dropEntry p fr fo).map = fr.map ∧ (dropEntry p fr fo).cache = fr.cache :=
  ⟨dropLoop_inv hI _ fr.rd fr.use _ 0 0 h, rfl, rfl⟩

theorem cacheGet_ok {d : Bytes} {p : P} {c : List (Nat × Bytes)} (h : CacheOk p d c) {fo : Nat} {b : Bytes}
    (hg : cacheGet c fo = some b) : b = recAt d fo p.sz ∧ p.newOk b = true :=
  h _ (Lists.find?_fst_map hg).2

theorem CacheOk.filter {d : Bytes} {p : P} {c : List (Nat × Bytes)} (h : CacheOk p d c) (f : Nat × Bytes → Bool) :
    CacheOk p d (c.filter f) := fun e he => h e (List.mem_filter.1 he).1

structure Ready (d : Bytes) (I : Rd → Prop) (p : P) (fr : FR) : Prop where
  rd : I fr.rd
  map : MapOk p.sz d.length fr.map
  cache : CacheOk p d fr.cache

/-- a cache hit and a fresh read hand out the same bytes: only `cached` tells them apart -/
theorem pe_step {d : Bytes} {I : Rd → Prop} {span : Nat} (hI : ReadsExact d I span) (p : P) (hsz : 1 ≤ p.sz)
    (hsp : p.sz ≤ span) (buflen : Nat)
    (hbuf : p.sz ≤ buflen) {fr : FR} {k0 : Key} {fo0 : Nat} {rest : Map}
    (h : Ready d I p fr) (hm : fr.map = (k0, fo0) :: rest) :
    ∃ fr' cached, Ready d I p fr' ∧ fr'.map = rest ∧
      processEntryAt cfg0 p fr fo0 buflen =
        ((if p.newOk (recAt d fo0 p.sz)
          then PE.found (nextFo d.length rest) fo0 (recAt d fo0 p.sz) cached
          else PE.err (some (nextFo d.length rest))), fr') := by
  obtain ⟨hr, hok, hc⟩ := h
  have hfsz := hI.fsz fr.rd hr
  rw [hm] at hok
  obtain ⟨hmod, hle⟩ := hok.off (k0, fo0) (List.mem_cons_self ..)
  simp only at hmod hle
  have hfloor : peFloor fo0 p.sz = fo0 := by unfold peFloor; omega
  have hlt : ¬ fo0 ≥ d.length := by omega
  unfold processEntryAt
  simp only [hfloor, PE_DONE_GE, if_true, hfsz, decide_eq_true_eq, hlt, if_false, hm]
  rw [scan_head]
  simp only [cfg0, WALK_REMOVES_KEY, if_true, CACHE_HIT_REMOVES, CACHE_HIT_DROPS, FRESH_READ_DROPS, NEW_ERR_CONTINUES,
    REC_ONEBLOCK, recBeg, recEnd]
  rw [filter_head_key hok.sorted]
  cases hcg : cacheGet fr.cache fo0 with
  | some rcd =>
    obtain ⟨hrcd, hnew⟩ := cacheGet_ok hc hcg
    simp only
    subst hrcd
    simp only [hnew, ↓reduceIte]
    let fr2 : FR := { fr with map := rest, hits := fr.hits + 1, cache := fr.cache.filter (fun e => e.1 != fo0) }
    obtain ⟨g1, g2, g3⟩ := dropEntry_inv hI p fr2 fo0 hr
    exact ⟨dropEntry p fr2 fo0, true, ⟨g1, g2 ▸ hok.tail, g3 ▸ hc.filter _⟩, g2, rfl⟩
  | none =>
    simp only
    rw [if_neg (by omega)]
    obtain ⟨r', h1, -, h3⟩ := hI.read fr.rd fo0 (fo0 + p.sz) p.sz hr hsz (by omega)
    rw [h3]
    have hmin : min (fo0 + p.sz) d.length = fo0 + p.sz := by omega
    rw [hmin, if_neg (by omega), if_neg (by omega)]
    simp only
    have hlen : (sl d fo0 (fo0 + p.sz)).length = p.sz := by rw [sl_length _ _ _ hle]; omega
    rw [hlen, Nat.sub_self, List.replicate_zero, List.append_nil]
    change ∃ fr' cached, _ ∧ _ ∧ (if p.newOk (recAt d fo0 p.sz) = true then _ else _) = _
    by_cases hnew : p.newOk (recAt d fo0 p.sz) = true
    · simp only [hnew, ↓reduceIte]
      let fr4 : FR := { fr with map := rest, miss := fr.miss + 1, rd := r', processed := fr.processed + 1 }
      obtain ⟨g1, g2, g3⟩ := dropEntry_inv hI p fr4 fo0 h1
      exact ⟨dropEntry p fr4 fo0, false, ⟨g1, g2 ▸ hok.tail, g3 ▸ hc⟩, g2, rfl⟩
    · have hnew' : p.newOk (recAt d fo0 p.sz) = false := by simpa using hnew
      simp only [hnew', Bool.false_eq_true, ↓reduceIte]
      exact ⟨{ fr with map := rest, miss := fr.miss + 1, rd := r' }, false, ⟨h1, hok.tail, hc⟩, rfl, rfl⟩

theorem pe_done {d : Bytes} {I : Rd → Prop} {span : Nat} (hI : ReadsExact d I span) (p : P) (hdiv : d.length % p.sz = 0)
    (buflen : Nat) (fr : FR) (hr : I fr.rd) : processEntryAt cfg0 p fr d.length buflen = (.done, fr) := by
  have hfloor : peFloor d.length p.sz = d.length := by unfold peFloor; omega
  unfold processEntryAt
  simp only [hfloor, PE_DONE_GE, if_true, hI.fsz fr.rd hr, ge_iff_le, Nat.le_refl, decide_true]

theorem walkLoop_step {d : Bytes} {I : Rd → Prop} {span : Nat} (hI : ReadsExact d I span) (p : P) (hsz : 1 ≤ p.sz)
    (hsp : p.sz ≤ span) (buflen : Nat) (hbuf : p.sz ≤ buflen) {fr : FR} {k0 : Key} {fo0 : Nat} {rest : Map}
    (h : Ready d I p fr) (hm : fr.map = (k0, fo0) :: rest) (fuel : Nat) (acc : List Emit) :
    ∃ fr', Ready d I p fr' ∧ fr'.map = rest ∧
      walkLoop cfg0 p buflen (fuel + 1) fr fo0 acc =
        walkLoop cfg0 p buflen fuel fr' (nextFo d.length rest) (acc ++ [emitOf p d (k0, fo0)]) := by
  obtain ⟨fr', cached, g1, g2, g5⟩ := pe_step hI p hsz hsp buflen hbuf h hm
  refine ⟨fr', g1, g2, ?_⟩
  rw [walkLoop, g5, emitOf, hI.fsz fr.rd h.rd]
  by_cases hnew : p.newOk (recAt d fo0 p.sz) = true
  · rw [if_pos hnew, if_pos hnew]
  · rw [if_neg hnew, if_neg hnew]

theorem walkLoop_spec {d : Bytes} {I : Rd → Prop} {span : Nat} (hI : ReadsExact d I span) (p : P) (hsz : 1 ≤ p.sz)
    (hsp : p.sz ≤ span) (hdiv : d.length % p.sz = 0) (buflen : Nat) (hbuf : p.sz ≤ buflen) :
    ∀ (rest : Map) (fuel : Nat) (fr : FR) (k0 : Key) (fo0 : Nat) (acc : List Emit),
      Ready d I p fr → fr.map = (k0, fo0) :: rest → rest.length + 2 ≤ fuel →
      ∃ fr', walkLoop cfg0 p buflen fuel fr fo0 acc = (acc ++ ((k0, fo0) :: rest).map (emitOf p d), .done, fr')
  | _, 0, _, _, _, _, _, _, hf | _, 1, _, _, _, _, _, _, hf => by omega
  | rest, fuel + 2, fr, k0, fo0, acc, h, hm, hf => by
    obtain ⟨fr', g1, g2, g5⟩ := walkLoop_step hI p hsz hsp buflen hbuf h hm (fuel + 1) acc
    rw [g5]
    cases rest with
    | nil =>
      exact ⟨fr', by rw [nextFo, walkLoop, pe_done hI p hdiv buflen fr' g1.rd]; rfl⟩
    | cons e rest =>
      obtain ⟨fr'', f4⟩ := walkLoop_spec hI p hsz hsp hdiv buflen hbuf rest (fuel + 1) fr' e.1 e.2 _ g1 g2
        (by simp at hf ⊢; omega)
      exact ⟨fr'', by rw [nextFo, f4, List.append_assoc]; rfl⟩

theorem foFirst_head {k0 : Key} {fo0 : Nat} {rest : Map} (h : KSorted ((k0, fo0) :: rest)) :
    foFirst ((k0, fo0) :: rest) = some fo0 := by
  have h1 := (List.pairwise_cons.1 h).1
  -- no later entry is smaller, so the fold keeps the head
  have hs : ∀ (l : Map), (∀ e ∈ l, klt k0 e.1 = true) →
      l.foldl (fun best y => if kvLt y best then y else best) (k0, fo0) = (k0, fo0) := by
    intro l
    induction l with
    | nil => intro _; rfl
    | cons y l ih =>
      intro hl
      have hy := hl y (List.mem_cons_self ..)
      have h2 : kvLt y (k0, fo0) = false := by
        rw [kvLt, klt_asymm hy, Bool.false_or, Bool.and_eq_false_imp]
        intro heq
        rw [beq_iff_eq.mp heq, klt_irrefl] at hy
        cases hy
      rw [List.foldl_cons, h2]
      exact ih fun e he => hl e (List.mem_cons_of_mem _ he)
  rw [foFirst, hs rest h1]

theorem walk_exact {d : Bytes} {I : Rd → Prop} {span : Nat} (hI : ReadsExact d I span) (p : P) (hsz : 1 ≤ p.sz)
    (hsp : p.sz ≤ span) (hdiv : d.length % p.sz = 0) (buflen : Nat) (hbuf : p.sz ≤ buflen) (fr : FR)
    (h : Ready d I p fr) : ∃ fr', walk cfg0 p buflen fr = (fr.map.map (emitOf p d), .done, fr') := by
  unfold walk
  cases hm : fr.map with
  | nil => exact ⟨fr, rfl⟩
  | cons e rest =>
    rw [foFirst_head (hm ▸ h.map.sorted)]
    exact walkLoop_spec hI p hsz hsp hdiv buflen hbuf rest (rest.length + 1 + 2) fr e.1 e.2 [] h hm (by omega)

end S4V.Lemmas.FixedWalk
