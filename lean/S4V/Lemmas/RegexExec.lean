/-
Soundness of the executable backtracking matcher `S4V.Model.Regex.search` with respect to the
language semantics `Matches`: every reported match is a match.
(Completeness / priority are NOT proved; they are the subject of the `rgx` correspondence.)
-/
import S4V.Lemmas.RegexStep

namespace S4V.Lemmas.RegexExec
open S4V.Model.Regex S4V.Lemmas.RegexStep

theorem isPrefix_spec {a b : List UInt8} (h : isPrefix a b = true) : b = a ++ b.drop a.length := by
  obtain ⟨t, rfl⟩ := isPrefix_iff.mp h
  simp

/-- the shape of every soundness statement: a successful run consumed some `mid` that `r` matches
and then the continuation succeeded with the same result -/
def Sound (r : Re) (f : Nat → List UInt8 → Caps → K → Option Res) : Prop :=
  ∀ (pre rest : List UInt8) (caps : Caps) (k : K) (res : Res),
    f pre.length rest caps k = some res →
    ∃ mid rest' c', rest = mid ++ rest' ∧ Matches r pre mid rest' ∧
      k (pre.length + mid.length) rest' c' = some res

theorem repLoop_sound {r : Re} {body : Nat → List UInt8 → Caps → K → Option Res} (hb : Sound r body) :
    ∀ (fuel need : Nat) (hi : Option Nat), (hi = none ∨ hi = some fuel) →
      Sound (.rep r need hi) (repLoop body fuel need) := by
  intro fuel
  induction fuel with
  | zero =>
    intro need hi _ pre rest caps k res h
    simp only [repLoop] at h
    split at h
    · rename_i hn
      subst hn
      exact ⟨[], rest, caps, by simp, Matches.repNil _ _ _ _, by simpa using h⟩
    · cases h
  | succ f ih =>
    intro need hi hhi pre rest caps k res h
    have hne : hi ≠ some 0 := by
      rcases hhi with h1 | h1 <;> simp [h1]
    have hpred : predHi hi = none ∨ predHi hi = some f := by
      rcases hhi with h1 | h1 <;> simp [h1, predHi]
    simp only [repLoop] at h
    -- one iteration followed by the rest of the loop
    have step : ∀ need', need' = need - 1 →
        body pre.length rest caps (fun p r' c => repLoop body f need' p r' c k) = some res →
        ∃ mid rest' c', rest = mid ++ rest' ∧ Matches (.rep r need hi) pre mid rest' ∧
          k (pre.length + mid.length) rest' c' = some res := by
      intro need' hn' hrun
      obtain ⟨mid1, rest1, c1, hr1, hm1, hk1⟩ := hb pre rest caps _ res hrun
      have hk1' : repLoop body f need' (pre ++ mid1).length rest1 c1 k = some res := by
        simpa [List.length_append] using hk1
      obtain ⟨mid2, rest2, c2, hr2, hm2, hk2⟩ := ih need' (predHi hi) hpred (pre ++ mid1) rest1 c1 k res hk1'
      refine ⟨mid1 ++ mid2, rest2, c2, by simp [hr1, hr2], ?_, ?_⟩
      · subst hn'
        subst hr2
        exact Matches.repCons hne hm1 hm2
      · simpa [List.length_append, Nat.add_assoc] using hk2
    split at h
    · rename_i hn
      subst hn
      split at h
      · rename_i x hx
        simp only [Option.some.injEq] at h
        subst h
        exact step 0 rfl hx
      · exact ⟨[], rest, caps, by simp, Matches.repNil _ _ _ _, by simpa using h⟩
    · exact step (need - 1) rfl h

theorem m_sound : ∀ (r : Re), Sound r (m r) := by
  intro r pre rest caps k res h
  induction r generalizing pre rest caps k res with
  | eps =>
    exact ⟨[], rest, caps, by simp, Matches.eps _ _, by simpa [m] using h⟩
  | lit bs =>
    simp only [m] at h
    split at h
    · rename_i hp
      exact ⟨bs, rest.drop bs.length, caps, isPrefix_spec hp, Matches.lit _ _ _, h⟩
    · cases h
  | cls rs =>
    simp only [m] at h
    split at h
    · rename_i c n hd
      split at h
      · rename_i hin
        obtain ⟨hl, hd', _⟩ := decode_some hd
        refine ⟨rest.take n, rest.drop n, caps, (List.take_append_drop n rest).symm, ?_, ?_⟩
        · apply Matches.cls
          simp [clsMatch, hd', hl, hin]
        · rw [hl]; exact h
      · cases h
    · cases h
  | cat a b iha ihb =>
    simp only [m] at h
    obtain ⟨mid1, rest1, c1, hr1, hm1, hk1⟩ := iha pre rest caps _ res h
    have hk1' : m b (pre ++ mid1).length rest1 c1 k = some res := by
      simpa [List.length_append] using hk1
    obtain ⟨mid2, rest2, c2, hr2, hm2, hk2⟩ := ihb (pre ++ mid1) rest1 c1 k res hk1'
    refine ⟨mid1 ++ mid2, rest2, c2, by simp [hr1, hr2], ?_, ?_⟩
    · subst hr2
      exact Matches.cat hm1 hm2
    · simpa [List.length_append, Nat.add_assoc] using hk2
  | alt a b iha ihb =>
    simp only [m] at h
    split at h
    · rename_i x hx
      simp only [Option.some.injEq] at h
      subst h
      obtain ⟨mid, rest', c', hr, hm, hk⟩ := iha pre rest caps k _ hx
      exact ⟨mid, rest', c', hr, Matches.altL hm, hk⟩
    · obtain ⟨mid, rest', c', hr, hm, hk⟩ := ihb pre rest caps k _ h
      exact ⟨mid, rest', c', hr, Matches.altR hm, hk⟩
  | rep r lo hi ih =>
    simp only [m] at h
    have hb : Sound r (fun p r' c k' => m r p r' c k') := fun pre rest caps k res h => ih pre rest caps k res h
    cases hi with
    | none => exact repLoop_sound hb _ lo none (Or.inl rfl) pre rest caps k res h
    | some hh => exact repLoop_sound hb _ lo (some hh) (Or.inr rfl) pre rest caps k res h
  | group i r ih =>
    simp only [m] at h
    obtain ⟨mid, rest', c', hr, hm, hk⟩ := ih pre rest caps _ res h
    exact ⟨mid, rest', _, hr, Matches.group hm, hk⟩
  | bol =>
    simp only [m] at h
    split at h
    · rename_i hp
      have : pre = [] := List.eq_nil_of_length_eq_zero hp
      subst this
      exact ⟨[], rest, caps, by simp, Matches.bol _, by simpa using h⟩
    · cases h
  | eol =>
    simp only [m] at h
    split at h
    · rename_i hp
      have : rest = [] := by simpa using hp
      subst this
      exact ⟨[], [], caps, by simp, Matches.eol _, by simpa using h⟩
    · cases h

theorem searchFrom_sound (r : Re) : ∀ (rest pre : List UInt8) (res : Res),
    searchFrom r pre.length rest = some res →
    ∃ pre' mid post, pre ++ rest = pre' ++ mid ++ post ∧ pre'.length = res.start ∧
      res.stop = res.start + mid.length ∧ Matches r pre' mid post := by
  intro rest
  induction rest with
  | nil =>
    intro pre res h
    simp only [searchFrom] at h
    obtain ⟨mid, rest', c', hr, hm, hk⟩ := m_sound r pre [] [] _ res h
    simp only [Option.some.injEq] at hk
    subst hk
    exact ⟨pre, mid, rest', by simp [hr], rfl, rfl, hm⟩
  | cons b t ih =>
    intro pre res h
    simp only [searchFrom] at h
    split at h
    · rename_i x hx
      simp only [Option.some.injEq] at h
      subst h
      obtain ⟨mid, rest', c', hr, hm, hk⟩ := m_sound r pre (b :: t) [] _ _ hx
      simp only [Option.some.injEq] at hk
      subst hk
      exact ⟨pre, mid, rest', by simp [hr], rfl, rfl, hm⟩
    · have h' : searchFrom r (pre ++ [b]).length t = some res := by
        simpa [List.length_append] using h
      obtain ⟨pre', mid, post, hs, h1, h2, hm⟩ := ih (pre ++ [b]) res h'
      exact ⟨pre', mid, post, by simpa using hs, h1, h2, hm⟩

theorem search_sound {r : Re} {s : List UInt8} {res : Res} (h : search r s = some res) :
    ∃ pre mid post, s = pre ++ mid ++ post ∧ pre.length = res.start ∧
      res.stop = res.start + mid.length ∧ Matches r pre mid post := by
  have := searchFrom_sound r s [] res (by simpa [search] using h)
  simpa using this

theorem search_matchesIn {r : Re} {s : List UInt8} {res : Res} (h : search r s = some res) :
    MatchesIn r s := by
  obtain ⟨pre, mid, post, hs, _, _, hm⟩ := search_sound h
  exact ⟨pre, mid, post, hs, hm⟩

end S4V.Lemmas.RegexExec
