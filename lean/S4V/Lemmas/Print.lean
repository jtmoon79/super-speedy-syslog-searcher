/-
Lemmas about the printing model (`S4V.Model.Print`). The bytes a list of calls hands to `buffer_write_or_return!`
(`wrOf`; for the 24 print functions: `S4V.Props.PrintSpec.wrOf_ops`) are what every view of stdout reduces to: the
colour state decides only which escapes go between them.
-/
import S4V.Model.Print

namespace S4V.Lemmas.Print
open S4V.Model.Print

theorem wrOf_append (a b : List Op) : wrOf (a ++ b) = wrOf a ++ wrOf b := by
  induction a with
  | nil => rfl
  | cons x r ih => cases x <;> simp [wrOf, ih]

theorem wrOf_flatMap {α} (f : α → List Op) (xs : List α) :
    wrOf (xs.flatMap f) = xs.flatMap (fun x => wrOf (f x)) := by
  induction xs with
  | nil => rfl
  | cons x r ih => simp [List.flatMap_cons, wrOf_append, ih]

theorem exec_data (p : Pal) (last : Last) (os : List Op) : dataOf (exec p last os).1 = wrOf os := by
  induction os generalizing last with
  | nil => rfl
  | cons x r ih =>
    cases x with
    | wr b => simp [exec, dataOf, wrOf, ih]
    | setc s =>
      simp only [exec, wrOf]
      split
      · exact ih _
      · simp [dataOf, ih]

theorem exec_plain (p : Pal) (last : Last) (os : List Op) : plainOf (exec p last os).1 = wrOf os := by
  induction os generalizing last with
  | nil => rfl
  | cons x r ih =>
    cases x with
    | wr b => simp [exec, plainOf, Chunk.bytes, wrOf, ih]
    | setc s =>
      simp only [exec, wrOf]
      split
      · exact ih _
      · simp [plainOf, ih]

def noSetc (os : List Op) : Bool := os.all fun | .wr _ => true | .setc _ => false

theorem noSetc_lineOps (l : Bytes) : noSetc (lineOps l) = true := by unfold lineOps; split <;> rfl

theorem exec_bytes_noSetc {p : Pal} {last : Last} {os : List Op} (h : noSetc os = true) :
    bytesOf (exec p last os).1 = wrOf os := by
  induction os generalizing last with
  | nil => rfl
  | cons x r ih =>
    cases x with
    | wr b =>
      simp [noSetc, exec, bytesOf, Chunk.bytes, wrOf] at *
      exact ih h
    | setc s => simp [noSetc] at h

theorem plainOf_append (a b : List Chunk) : plainOf (a ++ b) = plainOf a ++ plainOf b := by
  induction a with
  | nil => rfl
  | cons x r ih => cases x <;> simp [plainOf, ih]

theorem dataOf_append (a b : List Chunk) : dataOf (a ++ b) = dataOf a ++ dataOf b := by
  induction a with
  | nil => rfl
  | cons x r ih => cases x <;> simp [dataOf, ih]

theorem bytesOf_append (a b : List Chunk) : bytesOf (a ++ b) = bytesOf a ++ bytesOf b := by
  simp [bytesOf]

theorem take_mid_drop (l : Bytes) {b e : Nat} (h : b ≤ e) :
    l.take b ++ ((l.drop b).take (e - b) ++ l.drop e) = l := by
  have h1 : l.drop e = (l.drop b).drop (e - b) := by
    rw [List.drop_drop]; congr 1; omega
  rw [h1, List.take_append_drop, List.take_append_drop]

theorem wrOf_wrNE (s : Spec) (b : Bytes) : wrOf (wrNE s b) = b := by
  unfold wrNE; split <;> simp_all [wrOf]

theorem wrOf_lineOps (l : Bytes) : wrOf (lineOps l) = l := by
  unfold lineOps; split <;> simp_all [wrOf]

theorem wrOf_hlLine (l : Bytes) {b e : Nat} (h : b ≤ e) : wrOf (hlLine l b e) = l := by
  unfold hlLine
  split
  · simp_all [wrOf]
  · split
    · simp only [wrOf_append, wrOf_wrNE, List.append_assoc]; exact take_mid_drop l h
    · split
      · simp [wrOf_append, wrOf_wrNE]
      · simp [wrOf]

theorem wrOf_hlBuf (d : Bytes) {b e : Nat} (h : b ≤ e) : wrOf (hlBuf d b e) = d := by
  simp only [hlBuf, wrOf, List.append_nil]; exact take_mid_drop d h

theorem wrOf_hlAt (l : Bytes) (at_ : Nat) {b e : Nat} (h : b ≤ e) : wrOf (hlAt l at_ b e) = l := by
  unfold hlAt
  split
  next hc =>
    simp only [wrOf, List.append_nil]
    rw [← Nat.sub_sub_sub_cancel_right hc.1]
    exact take_mid_drop l (Nat.sub_le_sub_right h at_)
  next => simp [wrOf]

theorem wrOf_colorLines (pre : List Op) {b e : Nat} (h : b ≤ e) (first : Bool) (ls : List Bytes) :
    wrOf (colorLines pre b e first ls) = ls.flatMap (fun l => wrOf pre ++ l) := by
  induction ls generalizing first with
  | nil => rfl
  | cons l r ih =>
    simp only [colorLines, wrOf_append, List.flatMap_cons, ih]
    cases first <;> simp [wrOf_lineOps, wrOf_hlLine l h]

theorem wrOf_prependColorLoop (pre : List Op) {b e : Nat} (h : b ≤ e) (at_ : Nat) (ls : List Bytes) :
    wrOf (prependColorLoop pre b e at_ ls) = ls.flatMap (fun l => wrOf pre ++ l) := by
  induction ls generalizing at_ with
  | nil => rfl
  | cons l r ih => simp [prependColorLoop, wrOf_append, List.flatMap_cons, ih, wrOf_hlAt l at_ h]

def optBytes : Option Bytes → Bytes
  | none => []
  | some b => b

theorem wrOf_optB (x : Option Bytes) : wrOf (optB x) = optBytes x := by
  cases x <;> simp [optB, optBytes, wrOf]

/-- every printed line of a message: file field, then datetime field, then the line -/
def decorated (o : Opts) (ls : List Bytes) : Bytes :=
  ls.flatMap fun l => optBytes o.file ++ (optBytes o.date ++ l)

def plainOpts (o : Opts) : Bool := o.file.isNone && o.date.isNone

theorem optBytes_plain {o : Opts} (h : plainOpts o = true) : optBytes o.file = [] ∧ optBytes o.date = [] := by
  obtain ⟨c, f, d⟩ := o
  cases f <;> cases d <;> first | exact ⟨rfl, rfl⟩ | exact Bool.noConfusion h

theorem wrOf_print_buf_prepend (f d : Option Bytes) (m : BufMsg) :
    wrOf (print_buf_prepend f d m) = decorated ⟨false, f, d⟩ (nlLines m.data) := by
  simp [print_buf_prepend, wrOf_flatMap, wrOf_append, wrOf_optB, wrOf, decorated]

theorem wrOf_journalPre (f d : Option Bytes) : wrOf (journalPre f d) = optBytes f ++ optBytes d := by
  cases f <;> cases d <;> simp [journalPre, wrOf, optBytes]

/-- The two differ only in the prefix of the prefixed colour variant, and there the journal's 4-way `match`
(`journalPre`) never sees "no field". -/
theorem print_journalentry_eq (o : Opts) (m : BufMsg) : print_journalentry o m = print_evtx o m := by
  obtain ⟨c, f, d⟩ := o
  cases c <;> cases f <;> cases d <;> rfl

theorem ops_journal (o : Opts) (m : BufMsg) : ops o (.journal m) = ops o (.evtx m) := print_journalentry_eq o m

theorem noSetc_ops_nocolor (o : Opts) (m : Msg) (hc : o.color = false) : noSetc (ops o m) = true := by
  obtain ⟨c, f, d⟩ := o
  subst hc
  have evtx (m : BufMsg) : noSetc (print_evtx ⟨false, f, d⟩ m) = true := by
    have pre : noSetc (print_buf_prepend f d m) = true := by
      cases f <;> cases d <;> simp [noSetc, print_buf_prepend, optB]
    cases f <;> cases d <;> first | rfl | exact pre
  cases m with
  | sysline m =>
    cases f <;> cases d <;> exact List.all_flatMap.trans (List.all_eq_true.mpr fun l _ => noSetc_lineOps l)
  | fixedstruct m => cases f <;> cases d <;> rfl
  | evtx m => exact evtx m
  | journal m => rw [ops_journal]; exact evtx m

theorem nl_split_aux (d acc : Bytes) :
    (nlLinesAux d acc).flatten ++ nlTailAux d acc = acc.reverse ++ d := by
  induction d generalizing acc with
  | nil => simp [nlLinesAux, nlTailAux]
  | cons c r ih =>
    simp only [nlLinesAux, nlTailAux]
    split
    next hc => simp [ih, hc]
    next => rw [ih]; simp

theorem nl_split (d : Bytes) : (nlLines d).flatten ++ nlTail d = d := by
  simpa [nlLines, nlTail] using nl_split_aux d []

theorem nlTailAux_endsNL (d acc : Bytes) : nlTailAux (d ++ [NL]) acc = [] := by
  induction d generalizing acc with
  | nil => simp [nlTailAux]
  | cons c r ih =>
    simp only [List.cons_append, nlTailAux]
    split <;> exact ih _

theorem nlLines_flatten_of_endsNL (d : Bytes) (h : d = [] ∨ endsNL d = true) : (nlLines d).flatten = d := by
  have hs := nl_split d
  rcases h with h | h
  · subst h; rfl
  · have : nlTail d = [] := by
      unfold endsNL at h
      obtain ⟨ys, hd⟩ := List.getLast?_eq_some_iff.mp (of_decide_eq_true h)
      rw [hd]; exact nlTailAux_endsNL _ _
    rw [this, List.append_nil] at hs; exact hs

def IsLine (l : Bytes) : Prop := ∃ body, l = body ++ [NL] ∧ NL ∉ body

theorem nlLinesAux_isLine (d acc : Bytes) (hacc : NL ∉ acc) : ∀ l ∈ nlLinesAux d acc, IsLine l := by
  induction d generalizing acc with
  | nil => simp [nlLinesAux]
  | cons c r ih =>
    simp only [nlLinesAux]
    split
    next =>
      intro l hl
      rcases List.mem_cons.mp hl with h | h
      · exact ⟨acc.reverse, h, by simpa using hacc⟩
      · exact ih [] (by simp) l h
    next hc => exact ih (c :: acc) (by simp [hacc]; exact fun h => hc h.symm)

theorem nlLines_isLine (d : Bytes) : ∀ l ∈ nlLines d, IsLine l := nlLinesAux_isLine d [] (by simp)

theorem nl_skip (body rest acc : Bytes) (hb : NL ∉ body) :
    nlLinesAux (body ++ rest) acc = nlLinesAux rest (body.reverse ++ acc) ∧
    nlTailAux (body ++ rest) acc = nlTailAux rest (body.reverse ++ acc) := by
  induction body generalizing acc with
  | nil => exact ⟨rfl, rfl⟩
  | cons c r ih =>
    have hc : c ≠ NL := fun h => hb (by simp [h])
    simpa [nlLinesAux, nlTailAux, hc] using ih (c :: acc) (fun h => hb (by simp [h]))

/-- the printed lines of a byte stream: the `\n`-terminated pieces and the unterminated rest -/
def pieces (d : Bytes) : List Bytes := nlLines d ++ (if nlTail d = [] then [] else [nlTail d])

def unprefix (fd l : Bytes) : Bytes := if fd.isPrefixOf l then l.drop fd.length else l

/-- delete the leading field bytes `fd` from every printed line -/
def stripFields (fd out : Bytes) : Bytes := ((pieces out).map (unprefix fd)).flatten

/-- the lines of a message: each ends in its only `\n`; the last may be unterminated -/
def WFLines : List Bytes → Prop
  | [] => True
  | [l] => IsLine l ∨ (l ≠ [] ∧ NL ∉ l)
  | l :: r => IsLine l ∧ WFLines r

theorem pieces_line (body rest : Bytes) (hb : NL ∉ body) :
    pieces (body ++ NL :: rest) = (body ++ [NL]) :: pieces rest := by
  unfold pieces nlLines nlTail
  rw [(nl_skip body (NL :: rest) [] hb).1, (nl_skip body (NL :: rest) [] hb).2]
  simp [nlLinesAux, nlTailAux]

theorem pieces_noNL (body : Bytes) (hb : NL ∉ body) (hne : body ≠ []) : pieces body = [body] := by
  have := nl_skip body [] [] hb
  simp only [List.append_nil] at this
  simp [pieces, nlLines, nlTail, this, nlLinesAux, nlTailAux, hne]

theorem pieces_nil : pieces [] = [] := by simp [pieces, nlLines, nlTail, nlLinesAux, nlTailAux]

theorem pieces_flatten (d : Bytes) : (pieces d).flatten = d := by
  have h := nl_split d
  unfold pieces
  split
  next ht => rw [ht] at h; simpa using h
  next => simpa using h

theorem pieces_decorated (fd : Bytes) (hfd : NL ∉ fd) (ls : List Bytes) (h : WFLines ls) :
    pieces (ls.flatMap (fun l => fd ++ l)) = ls.map (fun l => fd ++ l) := by
  induction ls with
  | nil => simp [pieces_nil]
  | cons l r ih =>
    cases r with
    | nil =>
      simp only [WFLines] at h
      rcases h with ⟨body, hl, hb⟩ | ⟨hne, hb⟩
      · subst hl
        have : NL ∉ fd ++ body := by simp [hfd, hb]
        simpa [List.flatMap_cons, pieces_nil] using pieces_line (fd ++ body) [] this
      · have : NL ∉ fd ++ l := by simp [hfd, hb]
        simpa [List.flatMap_cons] using pieces_noNL (fd ++ l) this (by simp [hne])
    | cons l2 r2 =>
      simp only [WFLines] at h
      obtain ⟨⟨body, hl, hb⟩, hr⟩ := h
      subst hl
      have hn : NL ∉ fd ++ body := by simp [hfd, hb]
      have := pieces_line (fd ++ body) ((l2 :: r2).flatMap (fun l => fd ++ l)) hn
      simp only [List.flatMap_cons, List.map_cons] at *
      -- reassociated so that the first `\n` of the stream stands where `pieces_line` looks for it
      rw [show fd ++ (body ++ [NL]) ++ (fd ++ l2 ++ List.flatMap (fun l => fd ++ l) r2) =
            (fd ++ body) ++ NL :: (fd ++ l2 ++ List.flatMap (fun l => fd ++ l) r2) by simp]
      rw [this, ih hr]; simp

theorem unprefix_append (fd l : Bytes) : unprefix fd (fd ++ l) = l := by
  have : fd.isPrefixOf (fd ++ l) = true := by
    rw [List.isPrefixOf_iff_prefix]; exact List.prefix_append fd l
  simp [unprefix, this]

theorem stripFields_decorated (fd : Bytes) (hfd : NL ∉ fd) (ls : List Bytes) (h : WFLines ls) :
    stripFields fd (ls.flatMap (fun l => fd ++ l)) = ls.flatten := by
  unfold stripFields
  rw [pieces_decorated fd hfd ls h, List.map_map]
  simp [Function.comp_def, unprefix_append]

theorem wfLines_of_isLine (ls : List Bytes) (h : ∀ l ∈ ls, IsLine l) : WFLines ls := by
  induction ls with
  | nil => trivial
  | cons l r ih =>
    cases r with
    | nil => exact Or.inl (h l (by simp))
    | cons l2 r2 => exact ⟨h l (by simp), ih (fun x hx => h x (by simp [hx]))⟩

/-- one `ESC [ params m` -/
def SGR (p : Bytes) : Prop := ∃ ps, p = ESC :: LBR :: (ps ++ [LM]) ∧ LM ∉ ps

/-- what termcolor writes for a `ColorSpec`: a run of SGR sequences -/
def WFEsc (e : Bytes) : Prop := ∃ parts : List Bytes, e = parts.flatten ∧ ∀ p ∈ parts, SGR p

structure WFPal (p : Pal) : Prop where
  dflt : WFEsc p.dflt
  txt : WFEsc p.txt
  dt : WFEsc p.dt

theorem WFPal.esc {p : Pal} (h : WFPal p) (s : Spec) : WFEsc (p.esc s) := by
  cases s <;> simp [Pal.esc, h.dflt, h.txt, h.dt]

theorem strip_noESC (b rest : Bytes) (h : ESC ∉ b) :
    stripEscAux .n (b ++ rest) = b ++ stripEscAux .n rest := by
  induction b with
  | nil => rfl
  | cons c r ih =>
    have hc : c ≠ ESC := fun e => h (by simp [e])
    have hr : ESC ∉ r := fun e => h (by simp [e])
    simp [stripEscAux, hc, ih hr]

theorem strip_inEsc (ps rest : Bytes) (h : LM ∉ ps) :
    stripEscAux .i (ps ++ LM :: rest) = stripEscAux .n rest := by
  induction ps with
  | nil => simp [stripEscAux]
  | cons c r ih =>
    have hc : c ≠ LM := fun e => h (by simp [e])
    have hr : LM ∉ r := fun e => h (by simp [e])
    simp [stripEscAux, hc, ih hr]

theorem strip_SGR (p rest : Bytes) (h : SGR p) : stripEscAux .n (p ++ rest) = stripEscAux .n rest := by
  obtain ⟨ps, hp, hm⟩ := h
  subst hp
  have := strip_inEsc ps rest hm
  simpa [stripEscAux] using this

theorem strip_WFEsc (e rest : Bytes) (h : WFEsc e) : stripEscAux .n (e ++ rest) = stripEscAux .n rest := by
  obtain ⟨parts, he, hp⟩ := h
  subst he
  induction parts with
  | nil => rfl
  | cons p r ih =>
    simp only [List.flatten_cons, List.append_assoc]
    rw [strip_SGR _ _ (hp p (by simp))]
    exact ih (fun q hq => hp q (by simp [hq]))

theorem stripEsc_noESC (b : Bytes) (h : ESC ∉ b) : stripEsc b = b := by
  have := strip_noESC b [] h
  simpa [stripEsc, stripEscAux] using this

theorem strip_exec (p : Pal) (hp : WFPal p) (last : Last) (os : List Op) (h : ESC ∉ wrOf os) (rest : Bytes) :
    stripEscAux .n (bytesOf (exec p last os).1 ++ rest) = wrOf os ++ stripEscAux .n rest := by
  induction os generalizing last with
  | nil => rfl
  | cons x r ih =>
    cases x with
    | wr b =>
      have hb : ESC ∉ b := fun e => h (by simp [wrOf, e])
      have hr : ESC ∉ wrOf r := fun e => h (by simp [wrOf, e])
      have := ih last hr
      simp only [exec, bytesOf, List.map_cons, List.flatten_cons, Chunk.bytes, wrOf, List.append_assoc] at *
      rw [strip_noESC _ _ hb, this]
    | setc s =>
      have hr : ESC ∉ wrOf r := by simpa [wrOf] using h
      simp only [exec, wrOf]
      split
      · exact ih _ hr
      · have := ih (some (p.esc s)) hr
        simp only [bytesOf, List.map_cons, List.flatten_cons, Chunk.bytes, List.append_assoc] at *
        rw [strip_WFEsc _ _ (hp.esc s), this]

theorem update_eq (s : SumPr) (k : Kind) (n pr fl : Nat) (dt : Int) :
    s.update k n pr fl dt =
      { bytes := s.bytes + pr, flushed := s.flushed + fl
        lines := s.lines + (if k = .sysline then n else 0)
        syslines := s.syslines + (if k = .sysline then 1 else 0)
        fixedstructentries := s.fixedstructentries + (if k = .fixedstruct then 1 else 0)
        evtxentries := s.evtxentries + (if k = .evtx then 1 else 0)
        journalentries := s.journalentries + (if k = .journal then 1 else 0)
        dtFirst := (s.updateDt dt).dtFirst, dtLast := (s.updateDt dt).dtLast } := by
  cases k <;> rfl

theorem updateDt_eq (s : SumPr) (dt : Int) :
    (s.updateDt dt).dtFirst = some (s.dtFirst.elim dt fun d => min d dt) ∧
    (s.updateDt dt).dtLast = some (s.dtLast.elim dt fun d => max d dt) := by
  unfold SumPr.updateDt
  constructor
  · cases s.dtFirst with
    | none => rfl
    | some d => show (if dt < d then some dt else some d) = some (min d dt); split <;> congr 1 <;> omega
  · cases s.dtLast with
    | none => rfl
    | some d => show (if dt > d then some dt else some d) = some (max d dt); split <;> congr 1 <;> omega

def coordLen (sep : Bytes) (m : Msg) (isLast : Bool) : Nat := (plainOf (coordAfter sep m isLast)).length

theorem bytesOf_coordAfter (sep : Bytes) (m : Msg) (isLast : Bool) :
    bytesOf (coordAfter sep m isLast) = plainOf (coordAfter sep m isLast) := by
  unfold coordAfter
  cases m <;> by_cases hs : sep = [] <;> simp [hs, bytesOf, plainOf, Chunk.bytes]
  all_goals (split <;> simp [plainOf, Chunk.bytes])

theorem dataOf_coordAfter (sep : Bytes) (m : Msg) (isLast : Bool) : dataOf (coordAfter sep m isLast) = [] := by
  unfold coordAfter
  cases m <;> by_cases hs : sep = [] <;> simp [hs, dataOf]
  all_goals (split <;> simp [dataOf])

theorem coordAcct_eq (t : SumPr) (sep : Bytes) (m : Msg) (isLast : Bool) :
    coordAcct t sep m isLast =
      { t with bytes := t.bytes + coordLen sep m isLast, flushed := t.flushed + (coordAfter sep m isLast).length } := by
  unfold coordAcct coordLen coordAfter addCoord
  cases m <;> by_cases hs : sep = [] <;> simp [hs, plainOf, Chunk.bytes]
  all_goals (split <;> simp [plainOf, Chunk.bytes, Nat.add_assoc])

theorem nlines_of_kind (m : Msg) : (if m.kind = .sysline then m.nlines else 0) = m.nlines := by cases m <;> rfl

theorem account_total (a : Acct) (sep : Bytes) (pid : Nat) (m : Msg) (isLast : Bool) (dt : Int) (pr fl : Nat) :
    (account a sep pid m isLast dt pr fl).total =
      { bytes := a.total.bytes + coordLen sep m isLast + pr
        flushed := a.total.flushed + (coordAfter sep m isLast).length + fl
        lines := a.total.lines + m.nlines
        syslines := a.total.syslines + (if m.kind = .sysline then 1 else 0)
        fixedstructentries := a.total.fixedstructentries + (if m.kind = .fixedstruct then 1 else 0)
        evtxentries := a.total.evtxentries + (if m.kind = .evtx then 1 else 0)
        journalentries := a.total.journalentries + (if m.kind = .journal then 1 else 0)
        dtFirst := (a.total.updateDt dt).dtFirst, dtLast := (a.total.updateDt dt).dtLast } := by
  simp only [account, update_eq, coordAcct_eq, nlines_of_kind]
  rfl

def sumBy (f : SumPr → Nat) (mp : List (Nat × SumPr)) : Nat := (mp.map (fun x => f x.2)).sum

theorem sumBy_mapUpdate (f : SumPr → Nat) (g : Nat) {mp : List (Nat × SumPr)} {pid : Nat} {k : Kind} {n pr fl : Nat}
    {dt : Int} (h0 : f {} = 0) (h : ∀ s : SumPr, f (s.update k n pr fl dt) = f s + g) :
    sumBy f (mapUpdate mp pid k n pr fl dt) = sumBy f mp + g := by
  induction mp with
  | nil => simp [mapUpdate, sumBy, h, h0]
  | cons x r ih =>
    simp only [mapUpdate]
    split
    · simp only [sumBy, List.map_cons, List.sum_cons, h]; omega
    · simp only [sumBy, List.map_cons, List.sum_cons] at *; rw [ih]; omega

def msgsOf (s : SumPr) : Nat := s.syslines + s.fixedstructentries + s.evtxentries + s.journalentries

theorem update_msgs (s : SumPr) (k : Kind) (n pr fl : Nat) (dt : Int) :
    msgsOf (s.update k n pr fl dt) = msgsOf s + 1 := by
  rw [update_eq]; cases k <;> simp [msgsOf] <;> omega

end S4V.Lemmas.Print
