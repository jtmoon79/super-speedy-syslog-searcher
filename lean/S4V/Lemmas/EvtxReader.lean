/-
Closed form of the record loop of `EvtxReader::analyze` (`S4V.Model.EvtxReader.step`, with the regenerated choices
`genCfg`): what each field holds after the loop, in terms of the `ok` items alone — the `err` items only advance the
enumeration index and leave their index in `error`.
-/
import S4V.Model.EvtxReader

namespace S4V.Lemmas.EvtxReader
open S4V.Gen.Evtx S4V.Gen.Summary S4V.Gen.Filter S4V.Gen.Keys S4V.Model.Summary S4V.Model.SortDrain S4V.Model.EvtxReader

def evsFrom (k : Nat) : List Item → List Ev
  | [] => []
  | .ok ts _ :: r => ⟨ts, k⟩ :: evsFrom (k + 1) r
  | .err :: r => evsFrom (k + 1) r

def okTs : List Item → List Int
  | [] => []
  | .ok ts _ :: r => ts :: okTs r
  | .err :: r => okTs r

/-- how many records are older than the record before them (`oooCounts` regenerated) -/
def descents (last : Option Int) : List Int → Nat
  | [] => 0
  | t :: r => (if oooBump last t then 1 else 0) + descents (some t) r

def lastTs (last : Option Int) : List Int → Option Int
  | [] => last
  | t :: r => lastTs (some t) r

def lastErr (k : Nat) (e : Option Nat) : List Item → Option Nat
  | [] => e
  | .ok _ _ :: r => lastErr (k + 1) e r
  | .err :: r => lastErr (k + 1) (some k) r

def win (a b : Option Int) (e : Ev) : Bool := tsPassFilters e.ts a b == .InRange

theorem armStores_EVTX (a b : Option Int) (ts : Int) :
    armStores a b ts EVTX_ANALYZE = if tsPassFilters ts a b == .InRange then 1 else 0 := by
  have key : ∀ res, tsPassFilters ts a b = res →
      armStores a b ts EVTX_ANALYZE = if res == .InRange then 1 else 0 := by
    intro res hres
    simp only [EVTX_ANALYZE, armStores, hres]
    cases res <;> decide
  exact key _ rfl

theorem step_ok (a b : Option Int) (l : Loop) (hl : l.live = true) (ts : Int) (id : Nat) :
    step genCfg a b l (.ok ts id) =
      { l with
        rd := { l.rd with
          ev := runR a b ts EVTX_ANALYZE l.rd.ev
          events := if win a b ⟨ts, l.index⟩ then insert l.rd.events (evtxKey ⟨ts, l.index⟩) l.index else l.rd.events
          outOfOrder := l.rd.outOfOrder + (if oooBump l.tsLast ts then 1 else 0) }
        tsLast := some ts
        index := l.index + 1 } := by
  simp only [step, hl, genCfg, OOO_BEFORE_FILTER, armStores_EVTX, win]
  generalize oooBump l.tsLast ts = c
  by_cases hw : (tsPassFilters ts a b == .InRange) = true <;> cases c <;> simp [hw]

theorem step_err (a b : Option Int) (l : Loop) (hl : l.live = true) (hr : l.returned = false) :
    step genCfg a b l .err = { l with rd := { l.rd with error := some l.index }, index := l.index + 1 } := by
  simp [step, hl, hr, genCfg, ERR_ARM_STORES_ERROR, ERR_ARM_EXIT]

theorem foldl_step (a b : Option Int) (items : List Item) :
    ∀ (l : Loop), l.live = true → l.returned = false →
    items.foldl (step genCfg a b) l =
      { rd := { ev := S4V.Model.Summary.analyze EVTX_ANALYZE a b (okTs items) l.rd.ev
                events := ((evsFrom l.index items).filter (win a b)).foldl
                  (fun m e => insert m (evtxKey e) e.idx) l.rd.events
                outOfOrder := l.rd.outOfOrder + descents l.tsLast (okTs items)
                error := lastErr l.index l.rd.error items
                analyzed := l.rd.analyzed }
        tsLast := lastTs l.tsLast (okTs items)
        index := l.index + items.length
        live := true
        returned := false } := by
  induction items with
  | nil =>
    intro l hl hr
    -- both sides are `l` field by field, once `l.live` and `l.returned` are the constants `hl`, `hr` say
    cases l
    cases hl
    cases hr
    rfl
  | cons it r ih =>
    intro l hl hr
    cases it with
    | ok ts id =>
      rw [List.foldl_cons, step_ok a b l hl, ih]
      · simp only [okTs, evsFrom, descents, lastErr, lastTs, List.filter_cons, List.length_cons, Nat.add_assoc,
          Nat.add_comm 1]
        cases win a b ⟨ts, l.index⟩ <;> rfl
      · exact hl
      · exact hr
    | err =>
      rw [List.foldl_cons, step_err a b l hl hr, ih]
      · simp only [okTs, evsFrom, lastErr, List.length_cons, Nat.add_assoc, Nat.add_comm 1]
      · exact hl
      · exact hr

end S4V.Lemmas.EvtxReader
