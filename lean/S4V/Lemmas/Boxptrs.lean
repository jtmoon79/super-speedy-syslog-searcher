/-
Lemmas about `S4V.Model.Boxptrs` (`Line::get_boxptrs`): what each loop returns.
-/
import S4V.Model.Boxptrs

namespace S4V.Lemmas.Boxptrs
open S4V.Model.Boxptrs

theorem flat_nil : flat ([] : List Bytes) = [] := rfl
theorem flat_cons (p : Bytes) (ps : List Bytes) : flat (p :: ps) = p ++ flat ps := by
  simp [flat]

theorem spec_eq (parts : List Bytes) (a b : Nat) :
    spec parts a b = ((flat parts).take b).drop a := by
  unfold spec
  rw [List.drop_take]
  rcases Nat.le_total b (flat parts).length with h | h
  · rw [Nat.min_eq_left h]
  · rw [Nat.min_eq_right h]
    rw [List.take_of_length_le (by simp), List.take_of_length_le (by simp; omega)]

/-! Bytes `[a, b)` of `p ++ F`, by where `a` and `b` lie relative to the end of `p`. -/

theorem td_left (p F : Bytes) (a b : Nat) (hb : b ≤ p.length) :
    ((p ++ F).take b).drop a = (p.take b).drop a := by
  rw [List.take_append_of_le_length hb]

theorem td_mid (p F : Bytes) (a b : Nat) (ha : a ≤ p.length) (hb : p.length ≤ b) :
    ((p ++ F).take b).drop a = p.drop a ++ F.take (b - p.length) := by
  rw [List.take_append, List.take_of_length_le hb, List.drop_append_of_le_length ha]

theorem td_right (p F : Bytes) (a b : Nat) (ha : p.length ≤ a) :
    ((p ++ F).take b).drop a = (F.take (b - p.length)).drop (a - p.length) := by
  rw [List.take_append, List.drop_append]
  have h1 : List.drop a (List.take b p) = [] := List.drop_of_length_le (by simp; omega)
  rw [h1, List.nil_append]
  rcases Nat.le_total p.length b with h | h
  · rw [List.take_of_length_le h]
  · have h0 : b - p.length = 0 := by omega
    simp [h0]

theorem skipLen_first (p : Bytes) (ps : List Bytes) (a : Nat) (h : a < p.length) :
    skipLen (p :: ps) a = 0 := by simp [skipLen, h]

theorem skipLen_skip {p : Bytes} {a : Nat} (ps : List Bytes) (h : p.length ≤ a) :
    skipLen (p :: ps) a = p.length + skipLen ps (a - p.length) := by
  simp only [skipLen, Nat.not_lt.mpr h, if_false]

theorem skipLen_zero (parts : List Bytes) : skipLen parts 0 = 0 := by
  induction parts with
  | nil => rfl
  | cons p ps ih =>
    rcases Nat.eq_zero_or_pos p.length with h | h
    · rw [skipLen_skip ps (Nat.le_of_eq h), h, Nat.sub_zero, ih]
    · exact skipLen_first p ps 0 h

theorem skipLen_pos (p : Bytes) (ps : List Bytes) (a : Nat) (hp : p ≠ []) (h : p.length ≤ a) :
    0 < skipLen (p :: ps) a := by
  rw [skipLen_skip ps h]
  exact Nat.add_pos_left (List.length_pos_iff.mpr hp) _

theorem skipLen_le (parts : List Bytes) (a : Nat) : skipLen parts a ≤ a := by
  induction parts generalizing a with
  | nil => exact Nat.zero_le _
  | cons p ps ih =>
    rcases Nat.lt_or_ge a p.length with h | h
    · rw [skipLen_first p ps a h]; exact Nat.zero_le _
    · rw [skipLen_skip ps h]
      have := ih (a - p.length)
      omega

theorem spans3_first {p : Bytes} {a : Nat} (ps : List Bytes) (b : Nat) (h : a < p.length) :
    spans3 (p :: ps) a b = match ps with
      | [] => false
      | q :: _ => decide (p.length + q.length < b) := by
  simp only [spans3, h, if_true]
  cases ps <;> rfl

theorem spans3_single {p : Bytes} {a b : Nat} (ps : List Bytes) (ha : a < p.length)
    (hb : b ≤ p.length) : spans3 (p :: ps) a b = false := by
  rw [spans3_first ps b ha]
  cases ps with
  | nil => rfl
  | cons q qs => exact decide_eq_false (by omega)

theorem spans3_skip {p : Bytes} {a : Nat} (ps : List Bytes) (b : Nat) (h : p.length ≤ a) :
    spans3 (p :: ps) a b = spans3 ps (a - p.length) (b - p.length) := by
  simp only [spans3, Nat.not_lt.mpr h, if_false]

/-- `s` is `&p[i..j]` for in-range `i ≤ j ≤ p.len()` -/
def IsSub (s p : Bytes) : Prop := ∃ i j, i ≤ j ∧ j ≤ p.length ∧ s = (p.take j).drop i

theorem isSub_boxAB (p : Bytes) (a b : Nat) (h1 : a ≤ b) (h2 : b ≤ p.length) :
    IsSub (boxAB p a b) p :=
  ⟨a, b, h1, h2, rfl⟩

theorem isSub_boxA (p : Bytes) (a : Nat) (h : a ≤ p.length) : IsSub (boxA p a) p :=
  ⟨a, p.length, h, Nat.le_refl _, by simp [boxA]⟩

theorem isSub_boxB (p : Bytes) (b : Nat) (h : b ≤ p.length) : IsSub (boxB p b) p :=
  ⟨0, b, Nat.zero_le _, h, by simp [boxB]⟩

theorem isSub_self (p : Bytes) : IsSub p p :=
  ⟨0, p.length, Nat.zero_le _, Nat.le_refl _, by simp⟩

theorem sub_head {s p : Bytes} (ps : List Bytes) (h : IsSub s p) : ∃ q ∈ p :: ps, IsSub s q :=
  ⟨p, List.mem_cons_self, h⟩

theorem sub_tail {s : Bytes} {ps : List Bytes} (p : Bytes) (h : ∃ q ∈ ps, IsSub s q) :
    ∃ q ∈ p :: ps, IsSub s q :=
  let ⟨q, hq, h⟩ := h
  ⟨q, List.mem_cons_of_mem _ hq, h⟩

theorem loop2_multi (ps : List Bytes) (a b : Nat) (f g : Bool) (acc : List Bytes) :
    ∃ ss, loop2 ps a b f g acc = .multi ss := by
  -- every branch either returns `MultiPtr` or continues the loop
  fun_induction loop2 ps a b f g acc <;> first | exact ⟨_, rfl⟩ | assumption

theorem loop2_found : ∀ (ps : List Bytes) (a b : Nat) (acc : List Bytes),
    ∃ ss, loop2 ps a b true true acc = .multi (acc ++ ss) ∧ ss.flatten = (flat ps).take b ∧
      (∀ s ∈ ss, ∃ p ∈ ps, IsSub s p) ∧ (ps ≠ [] → ss ≠ [])
  | [], a, b, acc => ⟨[], by simp [loop2], by simp [flat], nofun, fun h => absurd rfl h⟩
  | p :: ps, a, b, acc => by
    rw [flat_cons]
    rcases Nat.lt_or_ge b p.length with hb | hb
    · refine ⟨[boxB p b],
        by simp only [loop2, hb, and_self, if_true, Bool.true_eq_false, false_and, if_false], ?_,
        List.forall_mem_singleton.mpr (sub_head ps (isSub_boxB p b (Nat.le_of_lt hb))),
        fun _ => List.cons_ne_nil _ _⟩
      rw [List.take_append_of_le_length (Nat.le_of_lt hb), List.flatten_singleton, boxB]
    · obtain ⟨ss, h1, h2, h3, _⟩ := loop2_found ps a (b - p.length) (acc ++ [p])
      refine ⟨p :: ss, ?_, ?_,
        List.forall_mem_cons.mpr ⟨sub_head ps (isSub_self p), fun s hs => sub_tail p (h3 s hs)⟩,
        fun _ => List.cons_ne_nil _ _⟩
      · simp only [loop2, Nat.not_lt.mpr hb, and_false, Bool.true_eq_false, false_and, if_false]
        rw [h1, List.append_assoc, List.singleton_append]
      · rw [List.take_append, List.take_of_length_le hb, List.flatten_cons, h2]

/-- the parts wholly before `a` are skipped with `a -= len_` only, `b` stays: hence `b + skipLen ps a` -/
theorem loop2_notfound : ∀ (ps : List Bytes) (a b : Nat), a ≤ b → a < (flat ps).length →
    ∃ ss, loop2 ps a b false false [] = .multi ss ∧
      ss.flatten = ((flat ps).take (b + skipLen ps a)).drop a ∧
      (∀ s ∈ ss, ∃ p ∈ ps, IsSub s p) ∧
      (∀ b₀, b₀ ≤ b → spans3 ps a b₀ = true → 2 ≤ ss.length)
  | [], a, b, _, h => absurd h (Nat.not_lt_zero _)
  | p :: ps, a, b, hab, hlt => by
    rw [flat_cons] at hlt ⊢
    rcases Nat.lt_or_ge a p.length with ha | ha
    · rw [skipLen_first p ps a ha, Nat.add_zero]
      rcases Nat.lt_or_ge b p.length with hb | hb
      · refine ⟨[boxAB p a b],
          by simp only [loop2, ha, hb, and_self, if_true, List.nil_append], ?_,
          List.forall_mem_singleton.mpr (sub_head ps (isSub_boxAB p a b hab (Nat.le_of_lt hb))),
          fun b₀ hb₀ hs => ?_⟩
        · rw [td_left p (flat ps) a b (Nat.le_of_lt hb), List.flatten_singleton, boxAB]
        · -- `b₀` ends inside `p`: the range does not span three parts
          rw [spans3_first ps b₀ ha] at hs
          cases ps with
          | nil => cases hs
          | cons q qs => have := of_decide_eq_true hs; omega
      · obtain ⟨ss, h1, h2, h3, h4⟩ := loop2_found ps a (b - p.length) [boxA p a]
        refine ⟨boxA p a :: ss, ?_, ?_,
          List.forall_mem_cons.mpr
            ⟨sub_head ps (isSub_boxA p a (Nat.le_of_lt ha)), fun s hs => sub_tail p (h3 s hs)⟩,
          fun b₀ _ hs => ?_⟩
        · simp only [loop2, ha, Nat.not_lt.mpr hb, and_self, if_true, if_false]
          exact h1
        · rw [td_mid p (flat ps) a b (Nat.le_of_lt ha) hb, List.flatten_cons, h2, boxA]
        · rw [spans3_first ps b₀ ha] at hs
          have : ss ≠ [] := h4 (by rintro rfl; cases hs)
          exact Nat.succ_le_succ (List.length_pos_iff.mpr this)
    · obtain ⟨ss, h1, h2, h3, h4⟩ :=
        loop2_notfound ps (a - p.length) b (by omega) (by rw [List.length_append] at hlt; omega)
      refine ⟨ss, ?_, ?_, fun s hs => sub_tail p (h3 s hs), fun b₀ hb₀ hs => ?_⟩
      · simp only [loop2, Nat.not_lt.mpr ha, and_false, if_true, if_false]
        exact h1
      · rw [td_right p (flat ps) a _ ha, h2, skipLen_skip ps ha]
        congr 2
        omega
      · rw [spans3_skip ps b₀ ha] at hs
        exact h4 (b₀ - p.length) (by omega) hs

theorem loop1_ne_none (ps : List Bytes) (a1 b1 : Nat) (f : Bool) (bp : Option Bytes) :
    loop1 ps a1 b1 f bp ≠ .ret .none := by
  -- every branch returns some other variant, falls through, or continues the loop
  fun_induction loop1 ps a1 b1 f bp <;> first | assumption | (intro h; cases h)

theorem loop1_found (ps : List Bytes) (a1 b1 : Nat) (s : Bytes) :
    loop1 ps a1 b1 true (some s) =
      match ps with
      | [] => .ret (.single s)
      | q :: _ => if b1 ≤ q.length then .ret (.double s (boxB q b1)) else .fall := by
  cases ps with
  | nil => rfl
  | cons q qs =>
    simp only [loop1]
    by_cases h : b1 ≤ q.length
    · simp [h]
    · have h' : q.length < b1 := by omega
      simp [h, h']

theorem loop1_notfound : ∀ (ps : List Bytes) (a1 b1 : Nat), a1 ≤ b1 → a1 < (flat ps).length →
    if spans3 ps a1 b1 = true then loop1 ps a1 b1 false none = .fall
    else ∃ q, loop1 ps a1 b1 false none = .ret q ∧ q.bytes = ((flat ps).take b1).drop a1 ∧
      (∀ ss, q ≠ .multi ss) ∧ q ≠ .none ∧ ∀ s ∈ q.slices, ∃ p ∈ ps, IsSub s p
  | [], a1, b1, _, h => absurd h (Nat.not_lt_zero _)
  | p :: ps, a1, b1, hab, hlt => by
    rw [flat_cons] at hlt ⊢
    rcases Nat.lt_or_ge a1 p.length with ha | ha
    · have hA := sub_head ps (isSub_boxA p a1 (Nat.le_of_lt ha))
      rcases Nat.lt_or_ge p.length b1 with hb | hb
      · simp only [loop1, ha, hb, Nat.not_le.mpr hb, and_self, and_false, false_and, if_true,
          if_false]
        rw [spans3_first ps b1 ha, loop1_found]
        cases ps with
        | nil =>
          refine ⟨_, rfl, ?_, nofun, nofun, List.forall_mem_singleton.mpr hA⟩
          rw [flat_nil, List.append_nil, List.take_of_length_le (Nat.le_of_lt hb)]
          rfl
        | cons q qs =>
          dsimp only
          by_cases hq : b1 - p.length ≤ q.length
          · rw [if_neg (by simpa using (by omega : ¬ p.length + q.length < b1)), if_pos hq]
            refine ⟨_, rfl, ?_, nofun, nofun, List.forall_mem_cons.mpr ⟨hA,
              List.forall_mem_singleton.mpr (sub_tail p (sub_head qs (isSub_boxB q _ hq)))⟩⟩
            rw [td_mid p _ a1 b1 (Nat.le_of_lt ha) (Nat.le_of_lt hb), flat_cons,
              List.take_append_of_le_length hq]
            rfl
          · rw [if_pos (by simpa using (by omega : p.length + q.length < b1)), if_neg hq]
      · -- SinglePtr(block_boxptr_ab)
        simp only [loop1, ha, hb, and_self, if_true]
        rw [spans3_single ps ha hb, if_neg Bool.false_ne_true]
        refine ⟨_, rfl, ?_, nofun, nofun,
          List.forall_mem_singleton.mpr (sub_head ps (isSub_boxAB p a1 b1 hab hb))⟩
        rw [td_left p (flat ps) a1 b1 hb]
        rfl
    · -- `a1 -= len_; b1 -= len_`
      simp only [loop1, Nat.not_lt.mpr ha, false_and, and_false, if_false, Bool.false_eq_true]
      rw [spans3_skip ps b1 ha, td_right p (flat ps) a1 b1 ha]
      have ih := loop1_notfound ps (a1 - p.length) (b1 - p.length) (by omega)
        (by rw [List.length_append] at hlt; omega)
      by_cases hs : spans3 ps (a1 - p.length) (b1 - p.length) = true
      · rw [if_pos hs] at ih ⊢
        exact ih
      · rw [if_neg hs] at ih ⊢
        obtain ⟨q, h1, h2, h3, h4, h5⟩ := ih
        exact ⟨q, h1, h2, h3, h4, fun s hs => sub_tail p (h5 s hs)⟩

theorem not_lineLen_le {parts : List Bytes} {a : Nat} (h : a < (flat parts).length) :
    ¬ lineLen parts ≤ a := Nat.not_le.mpr h

theorem getBoxptrs_none_of_le (parts : List Bytes) (a b : Nat) (h : (flat parts).length ≤ a) :
    getBoxptrs parts a b = .none := if_pos h

theorem getBoxptrs_inside (parts : List Bytes) (a b : Nat) (hab : a ≤ b) (hlt : a < (flat parts).length) :
    (∀ s ∈ (getBoxptrs parts a b).slices, ∃ p ∈ parts, IsSub s p) ∧
      if spans3 parts a b = true then
        (getBoxptrs parts a b).bytes = ((flat parts).take (b + skipLen parts a)).drop a ∧
          ∃ ss, getBoxptrs parts a b = .multi ss ∧ 2 ≤ ss.length
      else (getBoxptrs parts a b).bytes = ((flat parts).take b).drop a ∧
        ((∃ s, getBoxptrs parts a b = .single s) ∨ ∃ s t, getBoxptrs parts a b = .double s t) := by
  have h1 := loop1_notfound parts a b hab hlt
  unfold getBoxptrs
  rw [if_neg (not_lineLen_le hlt)]
  by_cases hs : spans3 parts a b = true
  · obtain ⟨ss, h2, h3, h4, h5⟩ := loop2_notfound parts a b hab hlt
    rw [if_pos hs] at h1 ⊢
    rw [h1, h2]
    exact ⟨h4, h3, ss, rfl, h5 b (Nat.le_refl _) hs⟩
  · rw [if_neg hs] at h1 ⊢
    obtain ⟨q, h2, h3, h4, h5, h6⟩ := h1
    rw [h2]
    refine ⟨h6, h3, ?_⟩
    cases q with
    | none => exact absurd rfl h5
    | single s => exact .inl ⟨s, rfl⟩
    | double s t => exact .inr ⟨s, t, rfl⟩
    | multi ss => exact absurd rfl (h4 ss)

theorem loop1Ok_found (ps : List Bytes) (a1 b1 : Nat) (s : Bytes) :
    loop1Ok ps a1 b1 true (some s) = true := by
  cases ps with
  | nil => rfl
  | cons q qs =>
    simp only [loop1Ok]
    by_cases h : b1 ≤ q.length
    · simp [h, okB]
    · have h' : q.length < b1 := by omega
      simp [h, h']

theorem loop1Ok_notfound : ∀ (ps : List Bytes) (a1 b1 : Nat), a1 ≤ b1 →
    loop1Ok ps a1 b1 false none = true
  | [], _, _, _ => rfl
  | p :: ps, a1, b1, hab => by
    simp only [loop1Ok]
    by_cases ha : a1 < p.length
    · by_cases hb : b1 ≤ p.length
      · simp [ha, hb, okAB, hab]
      · have hb' : p.length < b1 := by omega
        simp [ha, hb, hb', okA, loop1Ok_found]
        omega
    · simp [ha]
      exact ⟨⟨by omega, by omega⟩, loop1Ok_notfound ps _ _ (by omega)⟩

theorem loop2Ok_found : ∀ (ps : List Bytes) (a b : Nat), loop2Ok ps a b true true = true
  | [], _, _ => rfl
  | p :: ps, a, b => by
    simp only [loop2Ok]
    by_cases hb : b < p.length
    · simp [hb, okB]; omega
    · simp [hb]
      exact ⟨by omega, loop2Ok_found ps a _⟩

theorem loop2Ok_notfound : ∀ (ps : List Bytes) (a b : Nat), a ≤ b →
    loop2Ok ps a b false false = true
  | [], _, _, _ => rfl
  | p :: ps, a, b, hab => by
    simp only [loop2Ok]
    by_cases ha : a < p.length
    · by_cases hb : b < p.length
      · simp [ha, hb, okAB, hab]; omega
      · simp [ha, hb, okA, loop2Ok_found]; omega
    · simp [ha]
      exact ⟨by omega, loop2Ok_notfound ps _ _ (by omega)⟩

theorem getBoxptrsOk_of_le (parts : List Bytes) (a b : Nat) (hab : a ≤ b) :
    getBoxptrsOk parts a b = true := by
  unfold getBoxptrsOk
  split
  · rfl
  · rw [loop1Ok_notfound parts a b hab]
    cases loop1 parts a b false none with
    | ret p => rfl
    | fall => simp [loop2Ok_notfound parts a b hab]

end S4V.Lemmas.Boxptrs
