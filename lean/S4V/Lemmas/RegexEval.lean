/-
C04, regex slice — the derived catalogues in the form the kernel evaluates.

`rowBodyP re k` / `rowBodyE re k` (`S4V.Lemmas.RegexAuto`) are specified by the plain definitions `rawBody` and `pruneA`. The
generated row files evaluate them in the kernel (`S4V.Lemmas.RegexTable`), where three things are dear in that form. Each has an
equal, cheaper form here; `rowBodyP_eq` / `rowBodyE_eq` put the cheap forms in place of the specified ones:

* class tests      `subCls`, `disjCls`, `follFails`, `startsIn` walk the 128 ASCII points; `mask` holds the ASCII members of a class
                   as the bits of one number, on which the kernel computes `&&&`, `|||`, `<<<`, `^` in one step each
                   (`subCls_eq` …; `amF_eq`, `rawBodyAuxF_eq`)
* zone names       a group around an alternation of literals written in `ltEnd` order keeps every entry (`keepsAll`,
                   `am_litAlt`): the ~n²/2 failing matcher runs of its n = 392 entries are skipped
* follow sets      the matcher sees a follow set only as a set (`entryOk_congr`), so it is run against the follow set without
                   repeated ranges (the first bytes of the 392 zone names are 392 ranges, 48 of them different), and against the
                   same TERM for equal sets (`withRebuilt`), so that rows evaluated together share their matcher runs
-/
import S4V.Lemmas.RegexAuto

namespace S4V.Lemmas.RegexAuto
open S4V.Model.Regex S4V.Lemmas.RegexStep S4V.Lemmas.RegexSym S4V.Lemmas.RegexRows

/-- the ASCII members of a class, as a bit set -/
def mask (rs : List (Nat × Nat)) : Nat := rs.foldl (fun m r => m ||| ((2 ^ (min r.2 127 + 1 - r.1) - 1) <<< r.1)) 0

theorem testBit_mask (rs : List (Nat × Nat)) (n : Nat) : (mask rs).testBit n = (decide (n < 128) && inRanges rs n) := by
  suffices h : ∀ m, (rs.foldl (fun m r => m ||| ((2 ^ (min r.2 127 + 1 - r.1) - 1) <<< r.1)) m).testBit n =
      (m.testBit n || (decide (n < 128) && inRanges rs n)) by simpa [mask] using h 0
  induction rs with
  | nil => intro m; simp [inRanges]
  | cons r rs ih =>
    intro m
    have hr : ((2 ^ (min r.2 127 + 1 - r.1) - 1) <<< r.1).testBit n =
        (decide (n < 128) && (decide (r.1 ≤ n) && decide (n ≤ r.2))) := by
      rw [Nat.testBit_shiftLeft, Nat.testBit_two_pow_sub_one, Bool.eq_iff_iff]
      simp only [Bool.and_eq_true, decide_eq_true_eq, ge_iff_le]
      omega
    rw [List.foldl_cons, ih, Nat.testBit_or, hr]
    simp only [inRanges, List.any_cons, Bool.and_or_distrib_left, Bool.or_assoc]

theorem all128 {p : Nat → Bool} : (List.range 128).all p = true ↔ ∀ n < 128, p n = true := by simp

theorem eq_iff_testBit {x y : Nat} : x = y ↔ ∀ n, x.testBit n = y.testBit n :=
  ⟨fun h _ => h ▸ rfl, Nat.eq_of_testBit_eq⟩

theorem mask_disj (a b : List (Nat × Nat)) :
    (mask a &&& mask b == 0) = (List.range 128).all (fun n => !(inRanges a n && inRanges b n)) := by
  rw [Bool.eq_iff_iff, beq_iff_eq, all128, eq_iff_testBit]
  refine forall_congr' fun n => ?_
  simp only [Nat.testBit_and, testBit_mask, Nat.zero_testBit]
  by_cases hn : n < 128 <;> cases inRanges a n <;> simp [hn]

theorem mask_sub (a b : List (Nat × Nat)) :
    (mask a &&& mask b == mask a) = (List.range 128).all (fun n => !inRanges a n || inRanges b n) := by
  rw [Bool.eq_iff_iff, beq_iff_eq, all128, eq_iff_testBit]
  refine forall_congr' fun n => ?_
  simp only [Nat.testBit_and, testBit_mask]
  by_cases hn : n < 128 <;> cases inRanges a n <;> simp [hn]

theorem subCls_eq (s : Sym) (rs : List (Nat × Nat)) : subCls s rs = (asciiOnly s && (mask s &&& mask rs == mask s)) := by
  rw [subCls, mask_sub]

theorem disjCls_eq (s : Sym) (rs : List (Nat × Nat)) : disjCls s rs = (asciiOnly s && (mask s &&& mask rs == 0)) := by
  rw [disjCls, mask_disj]

theorem follFails_eq (F : Sym) (rs : List (Nat × Nat)) :
    follFails F rs = ((mask F &&& mask rs == 0) && (asciiOnly F || asciiOnly rs)) := by
  rw [follFails, mask_disj]

theorem startsIn_eq (rs : List (Nat × Nat)) (e : Entry) :
    startsIn rs e = match e.1 with | [] => false | s :: _ => mask s &&& mask rs != 0 := by
  obtain ⟨_ | ⟨s, _⟩, _⟩ := e
  · rfl
  · simp [startsIn, bne, mask_disj, List.all_eq_not_any_not]

/-- `am` with the class tests on bit sets -/
def amF (F : Sym) : Re → Nat → List Sym → Caps → AK → R
  | .eps, pos, rest, caps, k => k pos rest caps
  | .lit bs, pos, rest, caps, k =>
    match amLit F bs rest with
    | .ok rest' => k (pos + bs.length) rest' caps
    | .fail => .fail
    | .unk => .unk
  | .cls rs, pos, rest, caps, k =>
    match rest with
    | [] => if (mask F &&& mask rs == 0) && (asciiOnly F || asciiOnly rs) then .fail else .unk
    | s :: rest' =>
      if asciiOnly s && (mask s &&& mask rs == mask s) then k (pos + 1) rest' caps
      else if asciiOnly s && (mask s &&& mask rs == 0) then .fail else .unk
  | .cat a b, pos, rest, caps, k => amF F a pos rest caps (fun p r c => amF F b p r c k)
  | .alt a b, pos, rest, caps, k =>
    match amF F a pos rest caps k with
    | .fail => amF F b pos rest caps k
    | .unk => .unk
    | .done => .done
  | .rep r lo hi, pos, rest, caps, k =>
    amRep (fun p r' c k' => amF F r p r' c k') hi.isSome
      (match hi with | some h => h | none => lo + rest.length + 1) lo pos rest caps k
  | .group i r, pos, rest, caps, k => amF F r pos rest caps (fun p r' c => k p r' ((i, pos, p) :: c))
  | .bol, _, _, _, _ => .unk
  | .eol, pos, rest, caps, k =>
    match rest with
    | [] => if F.isEmpty then k pos rest caps else .unk
    | _ :: _ => .fail

theorem amF_eq (F : Sym) (a : Re) : amF F a = am F a := by
  induction a with
  | cls rs =>
    funext pos rest caps k
    cases rest <;> simp only [amF, am, subCls_eq, disjCls_eq, follFails_eq]
  | cat a b iha ihb => funext pos rest caps k; simp only [amF, am, iha, ihb]
  | alt a b iha ihb => funext pos rest caps k; simp only [amF, am, iha, ihb]; rfl
  | rep r lo hi ih => funext pos rest caps k; simp only [amF, am, ih]; rfl
  | group i r ih => funext pos rest caps k; simp only [amF, am, ih]
  | _ => rfl

def entryOkF (F : Sym) (item : Re) (e : Entry) : Bool :=
  amF F item 0 e.1 [] (topK e.1.length e.2) == .done && slotsOk e

theorem entryOkF_eq (F : Sym) (item : Re) : entryOkF F item = entryOk F item := by
  funext e; rw [entryOkF, entryOk, amF_eq]

/-- `rowOk` with the class tests on bit sets: how the hand-written catalogues are checked -/
def rowOkF : List Piece → Sym → Bool
  | [], _ => true
  | q :: qs, tF => q.dom.all (fun e => amF (follow qs tF) q.item 0 e.1 [] (topK e.1.length e.2) == .done) && rowOkF qs tF

theorem rowOkF_eq : ∀ (qs : List Piece) (tF : Sym), rowOkF qs tF = rowOk qs tF
  | [], _ => rfl
  | q :: qs, tF => by rw [rowOkF, rowOk, pieceOk, rowOkF_eq qs tF, amF_eq]

/-- `restrictFirst` with the overlap test on bit sets -/
def restrictFirstF (prev : List (List (Nat × Nat))) (e : Entry) : Option Entry :=
  match e.1 with
  | [] => some e
  | s :: w =>
    if prev.any (fun rs => mask s &&& mask rs != 0) then
      if (symMinus s prev).isEmpty then none else some (symMinus s prev :: w, e.2)
    else some e

theorem restrictFirstF_eq (prev : List (List (Nat × Nat))) (e : Entry) : restrictFirstF prev e = restrictFirst prev e := by
  obtain ⟨_ | ⟨s, w⟩, c⟩ := e <;> simp [restrictFirstF, restrictFirst, startsIn_eq]

def rawBodyAuxF : List (List (Nat × Nat)) → List Re → List Piece
  | _, [] => []
  | prev, it :: rest =>
    ⟨it, (symEntriesOf it).filterMap (restrictFirstF prev)⟩ ::
      rawBodyAuxF ((greedyTail it).eraseDups ++
        (if (symEntriesOf it).any (fun e => e.1.isEmpty) then prev else [])) rest

theorem rawBodyAuxF_eq : ∀ (items : List Re) (prev : List (List (Nat × Nat))), rawBodyAuxF prev items = rawBodyAux prev items
  | [], _ => rfl
  | it :: rest, prev => by
    rw [rawBodyAuxF, rawBodyAux, rawBodyAuxF_eq rest, funext (restrictFirstF_eq prev)]

/-! ### alternations of literals keep every entry -/

/-- the literals of a right-nested alternation of literals (`altL` of `.lit`s) -/
def litsOf : Re → Option (List (List UInt8))
  | .lit bs => some [bs]
  | .alt (.lit bs) b => (litsOf b).map (bs :: ·)
  | _ => none

/-- lexicographic order in which the END of a string is greater than every byte, so that a string comes after its proper
extensions (`PETT` before `PET`): the order the zone-name alternations of `datetime.rs` are written in -/
def ltEnd : List UInt8 → List UInt8 → Bool
  | [], _ => false
  | _ :: _, [] => true
  | x :: as, y :: bs => decide (x.toNat < y.toNat) || (x.toNat == y.toNat && ltEnd as bs)

def sortedEnd : List (List UInt8) → Bool
  | a :: b :: rest => ltEnd a b && sortedEnd (b :: rest)
  | _ => true

theorem ltEnd_trans : ∀ {a b c : List UInt8}, ltEnd a b = true → ltEnd b c = true → ltEnd a c = true := by
  intro a
  induction a with
  | nil => intro b c h; simp [ltEnd] at h
  | cons x as ih =>
    intro b c hab hbc
    cases b with
    | nil => simp [ltEnd] at hbc
    | cons y bs =>
      cases c with
      | nil => rfl
      | cons z cs =>
        simp only [ltEnd, Bool.or_eq_true, decide_eq_true_eq, Bool.and_eq_true, beq_iff_eq] at hab hbc ⊢
        rcases hab with h1 | ⟨h1, h1'⟩ <;> rcases hbc with h2 | ⟨h2, h2'⟩
        · left; omega
        · left; omega
        · left; omega
        · right; exact ⟨by omega, ih h1' h2'⟩

theorem sortedEnd_tail {a : List UInt8} {rest : List (List UInt8)} (h : sortedEnd (a :: rest) = true) : sortedEnd rest = true := by
  cases rest with
  | nil => rfl
  | cons b r => simp only [sortedEnd, Bool.and_eq_true] at h; exact h.2

theorem sortedEnd_head : ∀ {rest : List (List UInt8)} {a : List UInt8}, sortedEnd (a :: rest) = true → ∀ b ∈ rest, ltEnd a b = true := by
  intro rest
  induction rest with
  | nil => intro a _ b hb; cases hb
  | cons b r ih =>
    intro a h c hc
    simp only [sortedEnd, Bool.and_eq_true] at h
    rcases List.mem_cons.mp hc with rfl | hc
    · exact h.1
    · exact ltEnd_trans h.1 (ih h.2 c hc)

theorem amLit_fail_of_ltEnd {F : Sym} : ∀ {a w : List UInt8}, (∀ b ∈ a, symHas F b = false) → ltEnd a w = true →
    amLit F a (cw w) = .fail := by
  intro a
  induction a with
  | nil => intro w _ h; simp [ltEnd] at h
  | cons x as ih =>
    intro w hF h
    cases w with
    | nil => simp [cw, amLit, hF x (by simp)]
    | cons y ws =>
      simp only [ltEnd, Bool.or_eq_true, decide_eq_true_eq, Bool.and_eq_true, beq_iff_eq] at h
      rcases h with h | ⟨h, h'⟩
      · have hne : ¬ (y.toNat = x.toNat) := by omega
        simp [cw, amLit, hne, symHas, inRanges]
        omega
      · have := ih (fun b hb => hF b (List.mem_cons_of_mem _ hb)) h'
        simpa [cw, amLit, h] using this

theorem amLit_self (F : Sym) : ∀ bs : List UInt8, amLit F bs (cw bs) = .ok [] := by
  intro bs
  induction bs with
  | nil => rfl
  | cons b bs ih => simpa [cw, amLit] using ih

/-- the symbolic run of an alternation of literals, sorted by `ltEnd`, on one of its own literals: the earlier alternatives fail
(one that differs at a byte there; a proper extension of the literal at the first byte past it, which the follow set does not hold),
the literal itself matches -/
theorem am_litAlt {F : Sym} : ∀ {A : Re} {lits : List (List UInt8)}, litsOf A = some lits →
    (∀ a ∈ lits, ∀ b ∈ a, symHas F b = false) → sortedEnd lits = true →
    ∀ l ∈ lits, ∀ (pos : Nat) (caps : Caps) (k : AK), k (pos + l.length) [] caps = .done → am F A pos (cw l) caps k = .done := by
  intro A
  induction A with
  | lit bs =>
    intro lits hl _ _ l hm pos caps k hk
    simp only [litsOf, Option.some.injEq] at hl
    subst hl
    have : l = bs := by simpa using hm
    subst this
    simp only [am, amLit_self]
    exact hk
  | alt a b _ ihb =>
    intro lits hl hF hs l hm pos caps k hk
    cases a with
    | lit bs =>
      simp only [litsOf, Option.map_eq_some_iff] at hl
      obtain ⟨lits', hl', rfl⟩ := hl
      simp only [am]
      rcases List.mem_cons.mp hm with rfl | hm'
      · simp only [amLit_self, hk]
      · have hf := amLit_fail_of_ltEnd (hF bs (by simp)) (sortedEnd_head hs l hm')
        simp only [hf]
        exact ihb hl' (fun a ha => hF a (List.mem_cons_of_mem _ ha)) (sortedEnd_tail hs) l hm' pos caps k hk
    | _ => simp [litsOf] at hl
  | _ => intro lits hl; simp [litsOf] at hl

/-- the catalogue of `(?P<g>l₁|l₂|…)` as `symEntriesOf` lists it -/
def litEntries (g : Nat) (lits : List (List UInt8)) : List Entry := lits.map (fun l => (cw l, [(g, 0, l.length)]))

/-- cheap sufficient test for "every entry of the piece is determinate": the item is a group around an alternation of literals in
`ltEnd` order, none of whose bytes can follow, and the catalogue is the literals themselves -/
def keepsAll (F : Sym) (q : Piece) : Bool :=
  match q.item with
  | .group g A =>
    match litsOf A with
    | some lits => sortedEnd lits && lits.all (fun a => a.all (fun b => !symHas F b)) && q.dom == litEntries g lits
    | none => false
  | _ => false

theorem filter_of_keepsAll {F : Sym} {q : Piece} (h : keepsAll F q = true) : q.dom.filter (entryOk F q.item) = q.dom := by
  unfold keepsAll at h
  split at h
  · next g A hi =>
    split at h
    · next lits hl =>
      simp only [Bool.and_eq_true, List.all_eq_true, Bool.not_eq_true', beq_iff_eq] at h
      obtain ⟨⟨hs, hF⟩, hd⟩ := h
      rw [hi, List.filter_eq_self, hd]
      intro e he
      obtain ⟨l, hm, rfl⟩ := List.mem_map.mp he
      have := am_litAlt hl hF hs l hm 0 [] (fun p r' c => topK l.length [(g, 0, l.length)] p r' ((g, 0, p) :: c))
        (by simp [topK])
      simp [entryOk, am, cw_length, this, slotsOk]
    · cases h
  · cases h

theorem pieceOk_of_keepsAll {F : Sym} {q : Piece} (h : keepsAll F q = true) : pieceOk F q = true :=
  List.all_eq_true.mpr fun _ he =>
    beq_iff_eq.mpr (of_mem_prune (F := F) (item := q.item) (dom := q.dom) ((filter_of_keepsAll h).symm ▸ he)).1

/-- the symbolic run sees the follow set only as a set of ranges: the same ranges in another list give the same run -/
theorem entryOk_congr {F F' : Sym} (h : F ⊆ F') (h' : F' ⊆ F) (item : Re) (e : Entry) : entryOk F item e = entryOk F' item e := by
  have key : am F item 0 e.1 [] (topK e.1.length e.2) = am F' item 0 e.1 [] (topK e.1.length e.2) := by
    have h1 := am_mono h item 0 e.1 [] _ _ (fun p r c => Or.inr (rfl : topK e.1.length e.2 p r c = _))
    have h2 := am_mono h' item 0 e.1 [] _ _ (fun p r c => Or.inr (rfl : topK e.1.length e.2 p r c = _))
    rcases h2 with h2 | h2
    · rcases h1 with h1 | h1
      · rw [h1, h2]
      · exact h1.symm
    · exact h2
  simp only [entryOk, key]

/-- `k F`, with `F` rebuilt from its matched parts first. The follow sets of a row are computed from expressions that name the
row, so two rows with EQUAL follow sets hand `entryOkF` different terms; rebuilt, they hand it the same one, and the kernel's
cache shares the matcher runs of the items the two rows have in common (`S4V.Lemmas.RegexTable`: one evaluation for the rows
of a file). -/
def withRebuilt {α : Type} : Sym → (Sym → α) → α
  | [], k => k []
  | (a, b) :: r, k =>
    withRebuilt r fun r' =>
      match a, b with
      | 0, 0 => k ((0, 0) :: r')
      | 0, b + 1 => k ((0, b + 1) :: r')
      | a + 1, 0 => k ((a + 1, 0) :: r')
      | a + 1, b + 1 => k ((a + 1, b + 1) :: r')

theorem withRebuilt_eq {α : Type} : ∀ (F : Sym) (k : Sym → α), withRebuilt F k = k F
  | [], _ => rfl
  | (a, b) :: r, k => by
    rw [withRebuilt, withRebuilt_eq r]
    cases a <;> cases b <;> rfl

/-- `pruneA` as evaluated: pieces that pass `keepsAll` are kept whole, the others are filtered by `amF` against the follow
set without repeated ranges -/
def pruneF : List Piece → Sym → List Piece
  | [], _ => []
  | q :: qs, A =>
    withRebuilt (follow (pruneF qs A) A).eraseDups fun F =>
      ⟨q.item, if keepsAll F q then q.dom else q.dom.filter (entryOkF F q.item)⟩ :: pruneF qs A

theorem pruneF_eq : ∀ (qs : List Piece) (A : Sym), pruneF qs A = pruneA qs A := by
  intro qs A
  induction qs with
  | nil => rfl
  | cons q qs ih =>
    have hF : entryOk (follow (pruneA qs A) A).eraseDups q.item = entryOk (follow (pruneA qs A) A) q.item :=
      funext (entryOk_congr (fun _ h => List.mem_eraseDups.mp h) (fun _ h => List.mem_eraseDups.mpr h) q.item)
    simp only [pruneF, pruneA, ih, entryOkF_eq, withRebuilt_eq]
    split
    · next h => rw [← hF, filter_of_keepsAll h]
    · rw [hF]

theorem rowBodyP_eq (re : Re) (skip : Nat) :
    rowBodyP re skip = pruneF (rawBodyAuxF [] ((itemsOf re).drop skip)) (autoTail re) := by
  rw [pruneF_eq, rawBodyAuxF_eq]; rfl

theorem rowBodyE_eq (re : Re) (skip : Nat) :
    rowBodyE re skip = pruneF (rawBodyAuxF [] (midItems re skip)) (endFollow (endG re).1 (endG re).2) := by
  rw [pruneF_eq, rawBodyAuxF_eq]; rfl

end S4V.Lemmas.RegexAuto
