/-
Static analyses of the regex AST (`S4V.Model.Regex.Re`) with soundness proofs against the language
semantics `Matches`:

* `needsByte p r`  every match of `r` contains a byte satisfying `p`
                   (`needsDigit = needsByte isDigit`, `needs12 = needsByte is12`)
* `needsD2 r`      every match of `r` contains two consecutive ASCII digits
                   (helpers `nullOnly`, `startsD`, `endsD`; the five are sound together: `DigitShape`)

All analyses are conservative (`false` = "don't know").
-/
import S4V.Lemmas.RegexStep
import S4V.Lemmas.Ezcheck

namespace S4V.Lemmas.Regex
open S4V.Model.Regex S4V.Model.Ezcheck S4V.Lemmas.Ezcheck S4V.Lemmas.RegexStep

/-- every member of the class is an ASCII byte satisfying `p` -/
def clsAll (p : UInt8 → Bool) (rs : List (Nat × Nat)) : Bool :=
  rs.all (fun r => r.2 < 128 && (List.range' r.1 (r.2 + 1 - r.1)).all (fun c => p (UInt8.ofNat c)))

def needsByte (p : UInt8 → Bool) : Re → Bool
  | .eps => false
  | .bol => false
  | .eol => false
  | .lit bs => hasByte p bs
  | .cls rs => clsAll p rs
  | .cat a b => needsByte p a || needsByte p b
  | .alt a b => needsByte p a && needsByte p b
  | .rep r lo _ => decide (1 ≤ lo) && needsByte p r
  | .group _ r => needsByte p r

def needsDigit (r : Re) : Bool := needsByte isDigit r

def needs12 (r : Re) : Bool := needsByte is12 r

/-- only the empty string matches -/
def nullOnly : Re → Bool
  | .eps => true
  | .bol => true
  | .eol => true
  | .lit bs => bs.isEmpty
  | .cls _ => false
  | .cat a b => nullOnly a && nullOnly b
  | .alt a b => nullOnly a && nullOnly b
  | .rep r _ _ => nullOnly r
  | .group _ r => nullOnly r

/-- every match starts with an ASCII digit -/
def startsD : Re → Bool
  | .eps => false
  | .bol => false
  | .eol => false
  | .lit bs => startsDb bs
  | .cls rs => clsAll isDigit rs
  | .cat a b => startsD a || (nullOnly a && startsD b)
  | .alt a b => startsD a && startsD b
  | .rep r lo _ => decide (1 ≤ lo) && startsD r
  | .group _ r => startsD r

/-- every match ends with an ASCII digit -/
def endsD : Re → Bool
  | .eps => false
  | .bol => false
  | .eol => false
  | .lit bs => endsDb bs
  | .cls rs => clsAll isDigit rs
  | .cat a b => endsD b || (nullOnly b && endsD a)
  | .alt a b => endsD a && endsD b
  | .rep r lo _ => decide (1 ≤ lo) && endsD r
  | .group _ r => endsD r

/-- every match is empty or ends with an ASCII digit (only needed for the repetition case) -/
def endsDE : Re → Bool
  | .rep r _ _ => endsD r
  | r => endsD r

/-- every match contains two consecutive ASCII digits -/
def needsD2 : Re → Bool
  | .eps => false
  | .bol => false
  | .eol => false
  | .lit bs => hasD2 bs
  | .cls _ => false
  | .cat a b => needsD2 a || needsD2 b || (endsD a && startsD b)
  | .alt a b => needsD2 a && needsD2 b
  | .rep r lo _ => (decide (1 ≤ lo) && needsD2 r) || (decide (2 ≤ lo) && startsD r && endsD r)
  | .group _ r => needsD2 r

theorem clsMatch_clsAll {p : UInt8 → Bool} {rs : List (Nat × Nat)} {s : List UInt8}
    (hm : clsMatch rs s = true) (ha : clsAll p rs = true) : ∃ b, s = [b] ∧ p b = true := by
  unfold clsMatch at hm
  split at hm
  · rename_i c n hd
    simp only [Bool.and_eq_true, beq_iff_eq] at hm
    obtain ⟨hn, hin⟩ := hm
    simp only [inRanges, List.any_eq_true, Bool.and_eq_true, decide_eq_true_eq] at hin
    obtain ⟨r, hr, hlo, hhi⟩ := hin
    simp only [clsAll, List.all_eq_true, Bool.and_eq_true, decide_eq_true_eq] at ha
    obtain ⟨h128, hall⟩ := ha r hr
    have hc : c < 128 := by omega
    obtain ⟨b, t, hs, hb, hn1⟩ := (decode_some hd).2.2 hc
    subst hs
    have ht : t = [] := by
      subst hn1
      simp only [List.length_cons] at hn
      cases t with
      | nil => rfl
      | cons _ _ => simp at hn
    subst ht
    refine ⟨b, rfl, ?_⟩
    have := hall c (by
      rw [List.mem_range']
      refine ⟨c - r.1, by omega, by omega⟩)
    rw [← hb] at this
    simpa using this
  · cases hm

theorem needsByte_sound (p : UInt8 → Bool) {r : Re} {pre s post : List UInt8}
    (h : Matches r pre s post) : needsByte p r = true → hasByte p s = true := by
  induction h with
  | eps => simp [needsByte]
  | lit => simp [needsByte]
  | cls rs pre s post hm =>
    intro ha
    obtain ⟨b, hs, hb⟩ := clsMatch_clsAll hm ha
    subst hs
    simp [hasByte, hb]
  | cat _ _ ih1 ih2 =>
    intro hn
    simp only [needsByte, Bool.or_eq_true] at hn
    rw [hasByte_append]
    rcases hn with hn | hn
    · simp [ih1 hn]
    · simp [ih2 hn]
  | altL _ ih =>
    intro hn
    simp only [needsByte, Bool.and_eq_true] at hn
    exact ih hn.1
  | altR _ ih =>
    intro hn
    simp only [needsByte, Bool.and_eq_true] at hn
    exact ih hn.2
  | repNil => simp [needsByte]
  | repCons _ _ _ ih1 _ =>
    intro hn
    simp only [needsByte, Bool.and_eq_true, decide_eq_true_eq] at hn
    rw [hasByte_append]
    simp [ih1 hn.2]
  | group _ ih =>
    intro hn
    exact ih hn
  | bol => simp [needsByte]
  | eol => simp [needsByte]

theorem needsDigit_sound {r : Re} {pre s post : List UInt8} (h : Matches r pre s post)
    (hn : needsDigit r = true) : hasDigit s = true := needsByte_sound isDigit h hn

theorem needs12_sound {r : Re} {pre s post : List UInt8} (h : Matches r pre s post)
    (hn : needs12 r = true) : has12 s = true := needsByte_sound is12 h hn

theorem endsDE_of_endsD {r : Re} (h : endsD r = true) : endsDE r = true := by
  cases r <;> simp_all [endsDE, endsD]

/-- what the analyses say of a string `s` that `r` matches; proved together by induction on the derivation -/
structure DigitShape (r : Re) (s : List UInt8) : Prop where
  null : nullOnly r = true → s = []
  starts : startsD r = true → startsDb s = true
  ends : endsD r = true → endsDb s = true
  endsE : endsDE r = true → s = [] ∨ endsDb s = true
  d2 : needsD2 r = true → hasD2 s = true

theorem d2_pack {r : Re} {pre s post : List UInt8} (h : Matches r pre s post) : DigitShape r s := by
  induction h with
  | eps => constructor <;> simp [nullOnly, startsD, endsD, endsDE, needsD2]
  | lit bs =>
    refine ⟨?_, ?_, ?_, ?_, ?_⟩
    · simp [nullOnly]
    · simp [startsD]
    · simp [endsD]
    · intro h; right; simpa [endsDE, endsD] using h
    · simp [needsD2]
  | cls rs pre s post hm =>
    have one : clsAll isDigit rs = true → startsDb s = true ∧ endsDb s = true := fun ha => by
      obtain ⟨b, rfl, hb⟩ := clsMatch_clsAll hm ha
      simpa [startsDb, endsDb] using hb
    exact ⟨by simp [nullOnly], fun ha => (one ha).1, fun ha => (one ha).2, fun ha => Or.inr (one ha).2, by simp [needsD2]⟩
  | @cat a b pre s1 s2 post _ _ ih1 ih2 =>
    have hends : endsD (.cat a b) = true → endsDb (s1 ++ s2) = true := by
      intro h
      simp only [endsD, Bool.or_eq_true, Bool.and_eq_true] at h
      rcases h with h | ⟨hn, h⟩
      · exact endsDb_append_right _ (ih2.ends h)
      · rw [ih2.null hn, List.append_nil]; exact ih1.ends h
    refine ⟨?_, ?_, hends, ?_, ?_⟩
    · intro h
      simp only [nullOnly, Bool.and_eq_true] at h
      rw [ih1.null h.1, ih2.null h.2]; rfl
    · intro h
      simp only [startsD, Bool.or_eq_true, Bool.and_eq_true] at h
      rcases h with h | ⟨hn, h⟩
      · exact startsDb_append_left _ (ih1.starts h)
      · rw [ih1.null hn]; exact ih2.starts h
    · intro h; right; exact hends h
    · intro h
      simp only [needsD2, Bool.or_eq_true, Bool.and_eq_true] at h
      rcases h with (h | h) | ⟨he, hs⟩
      · exact hasD2_append_left _ (ih1.d2 h)
      · exact hasD2_append_right _ (ih2.d2 h)
      · exact hasD2_boundary (ih1.ends he) (ih2.starts hs)
  | @altL a b pre s post _ ih =>
    constructor <;> simp only [nullOnly, startsD, endsD, endsDE, needsD2, Bool.and_eq_true] <;> intro h
    · exact ih.null h.1
    · exact ih.starts h.1
    · exact ih.ends h.1
    · exact Or.inr (ih.ends h.1)
    · exact ih.d2 h.1
  | @altR a b pre s post _ ih =>
    constructor <;> simp only [nullOnly, startsD, endsD, endsDE, needsD2, Bool.and_eq_true] <;> intro h
    · exact ih.null h.2
    · exact ih.starts h.2
    · exact ih.ends h.2
    · exact Or.inr (ih.ends h.2)
    · exact ih.d2 h.2
  | repNil => constructor <;> simp [startsD, endsD, needsD2]
  | @repCons r lo hi pre s1 s2 post _ _ _ ih1 ih2 =>
    have hE : endsD r = true → endsDb (s1 ++ s2) = true := by
      intro h
      rcases ih2.endsE (by simpa [endsDE] using h) with h2 | h2
      · rw [h2, List.append_nil]; exact ih1.ends h
      · exact endsDb_append_right _ h2
    refine ⟨?_, ?_, ?_, ?_, ?_⟩
    · intro h
      simp only [nullOnly] at h
      rw [ih1.null h, ih2.null (by simpa [nullOnly] using h)]; rfl
    · intro h
      simp only [startsD, Bool.and_eq_true, decide_eq_true_eq] at h
      exact startsDb_append_left _ (ih1.starts h.2)
    · intro h
      simp only [endsD, Bool.and_eq_true, decide_eq_true_eq] at h
      exact hE h.2
    · intro h
      simp only [endsDE] at h
      right; exact hE h
    · intro h
      simp only [needsD2, Bool.or_eq_true, Bool.and_eq_true, decide_eq_true_eq] at h
      rcases h with ⟨_, h⟩ | ⟨⟨hlo, hs⟩, he⟩
      · exact hasD2_append_left _ (ih1.d2 h)
      · refine hasD2_boundary (ih1.ends he) (ih2.starts ?_)
        simp only [startsD, Bool.and_eq_true, decide_eq_true_eq]
        exact ⟨by omega, hs⟩
  | @group i r pre s post _ ih =>
    exact ⟨ih.null, ih.starts, ih.ends, fun h => Or.inr (ih.ends (by simpa [endsDE, endsD] using h)), ih.d2⟩
  | bol => constructor <;> simp [startsD, endsD, endsDE, needsD2]
  | eol => constructor <;> simp [startsD, endsD, endsDE, needsD2]

theorem needsD2_sound {r : Re} {pre s post : List UInt8} (h : Matches r pre s post)
    (hn : needsD2 r = true) : hasD2 s = true :=
  (d2_pack h).d2 hn

theorem hasByte_of_matchesIn {p : UInt8 → Bool} {r : Re} {slice : List UInt8}
    (hn : needsByte p r = true) (h : MatchesIn r slice) : hasByte p slice = true := by
  obtain ⟨pre, s, post, hs, hm⟩ := h
  subst hs
  rw [hasByte_append, hasByte_append, needsByte_sound p hm hn]
  simp

theorem hasD2_of_matchesIn {r : Re} {slice : List UInt8}
    (hn : needsD2 r = true) (h : MatchesIn r slice) : hasD2 slice = true := by
  obtain ⟨pre, s, post, hs, hm⟩ := h
  subst hs
  exact hasD2_append_left _ (hasD2_append_right _ (needsD2_sound hm hn))

end S4V.Lemmas.Regex
