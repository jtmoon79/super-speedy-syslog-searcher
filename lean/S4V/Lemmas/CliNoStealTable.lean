/-
The first-match decision of C14 on the generated table (see `S4V.Lemmas.CliNoSteal`).

The kernel spends ~0.1 s on every `String.toList` of a generated pattern, and the decision looks at
2850 ordered pairs of rows; so the item lists of each row are taken from the generated cache
`S4V.Gen.CliItems.cliRowItems`, which is FIRST checked against the generated rows (`infos_eq`:
`parsePattern (rowPattern row)`, `parsePattern row.pattern`, `effItems row` for every row of
`cliFilterPatterns`; the flags are read off the rows themselves). A change of the table in s4.rs
regenerates both files and re-runs every decision below.
-/
import S4V.Gen.CliItems
import S4V.Lemmas.CliNoSteal

namespace S4V.Lemmas.CliNoSteal
open S4V.Model.Cli S4V.Gen.CliTables S4V.Gen.CliItems S4V.Lemmas.CliAbs

/-- the item a code of `S4V.Gen.CliItems` stands for -/
def decodeItem : Nat × Nat → Item
  | (0, c) => .lit (Char.ofNat c)
  | (1, _) => .space
  | (2, _) => .year
  | (3, _) => .month
  | (4, _) => .day
  | (5, _) => .hour
  | (6, _) => .minute
  | (7, _) => .second
  | (8, _) => .timestamp
  | (9, k) => .nano k
  | (10, 0) => .tz false
  | (10, _) => .tz true
  | (11, _) => .tzName
  | _ => .bad

/-- the rows as the decision sees them: flags from the generated rows, items from the generated cache -/
def infosGen : List RowInfo :=
  List.zipWith (fun r c => ⟨r.hasTz, r.hasTzZ, r.hasTime, c.1.map decodeItem, c.2.1.map decodeItem, c.2.2.map decodeItem⟩)
    cliFilterPatterns cliRowItems

/-- decided together, so that the pattern strings are unfolded once (≈ 20M heartbeats, see above): every row
satisfies the condition of the round trip, and the cache is what the model computes from the generated rows -/
theorem row_facts :
    (cliFilterPatterns.all RowOk && decide (cliFilterPatterns.map rowInfo = infosGen)) = true := by
  decide +kernel

theorem rows_ok : ∀ row ∈ cliFilterPatterns, RowOk row = true := by
  have h := row_facts; simp only [Bool.and_eq_true] at h; exact List.all_eq_true.mp h.1

theorem infos_eq : cliFilterPatterns.map rowInfo = infosGen := by
  have h := row_facts; simp only [Bool.and_eq_true, decide_eq_true_eq] at h; exact h.2

/-- table fact: how the 2850 ordered pairs are settled — refused / "refuses or same `Parsed`" / open -/
theorem table_kinds : pairKinds infosGen = (2754, 96, 0) := by decide +kernel

theorem table_pairs : allPairs pairOkI infosGen = true := allPairs_of_kinds (by rw [table_kinds])

/-- for every row of the generated table and every earlier row: `pairOk`, read off the tally -/
theorem pairOk_table (i : Nat) (ri : Row) (hrow : cliFilterPatterns[i]? = some ri) :
    ∀ rj ∈ cliFilterPatterns.take i, pairOk rj ri = true := fun rj hrj =>
  pairOk_of_kinds (l := infosGen) (by rw [table_kinds]) (b := rowInfo ri)
    (by rw [← infos_eq, List.getElem?_map, hrow]; rfl) (rowInfo rj)
    (by rw [← infos_eq, ← List.map_take]; exact List.mem_map_of_mem hrj)

/-- table fact: the rows ALL of whose earlier rows refuse every value -/
theorem table_refused :
    rowsWhere refusePairI infosGen =
      [0, 1, 2, 3, 4, 5, 15, 16, 17, 18, 19, 20, 30, 31, 32, 33, 35, 36, 57, 58, 59, 60, 61, 62, 72, 73, 74, 75] := by
  decide +kernel

end S4V.Lemmas.CliNoSteal
