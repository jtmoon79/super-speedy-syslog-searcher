/-
Running the regenerated accounting program (`S4V.Model.Summary.SRC`) IS the hand model of `S4V.Model.Print`:
`summaryprint_update_dt` = `SumPr.updateDt`, `summaryprint_update_*` = `SumPr.update`, `summaryprint_map_update_*` =
`mapUpdate`.  The first/last matches of the printer and of the readers all go through `runOpt_guarded`.
-/
import S4V.Model.Summary
import S4V.Lemmas.Print

namespace S4V.Lemmas.Summary
open S4V.Model.Print S4V.Model.Summary S4V.Gen.Summary

/-- `match self.f { Some(b) => if <cmp> { self.f = Some(new) } None => self.f = Some(new) }` keeps the old value or
takes the new one — for any record whose `set` puts back what `get` reads (the untouched `Some(b)` arm) -/
theorem runOpt_guarded {F S : Type} (get : S → F → Option Int) (set : S → F → Option Int → S)
    (hgs : ∀ s f, set s f (get s f) = s) (f : F) (nl : Bool) (c : Cmp) (new : Int) (s : S) :
    runOpt get set new s ⟨f, .guarded nl c [f], [f]⟩ =
      set s f (some ((get s f).elim new fun b =>
        if (if nl then evalCmp c new b else evalCmp c b new) then new else b)) := by
  unfold runOpt
  cases h : get s f with
  | none => rfl
  | some b =>
    simp only [Option.elim]
    generalize (if nl then evalCmp c new b else evalCmp c b new) = g
    cases g
    · exact (h ▸ hgs s f).symm
    · rfl

theorem dtSet_dtGet (s : SumPr) (f : DtF) : dtSet s f (dtGet s f) = s := by cases f <;> rfl

theorem runUpdateDt_src (s : SumPr) (dt : Int) : runUpdateDt SRC s dt = s.updateDt dt := by
  simp only [runUpdateDt, SRC, UPDATE_DT, runOpts, List.foldl, runOpt_guarded dtGet dtSet dtSet_dtGet, evalCmp, dtGet,
    dtSet, SumPr.updateDt]
  cases s.dtFirst <;> cases s.dtLast <;> simp [apply_ite some]

theorem runUpdate_src (k : Kind) (env : Vals) (s : SumPr) :
    runUpdate SRC (kOf k) env s = s.update k env.nlines env.printed env.flushed env.dt := by
  cases k <;>
    simp [runUpdate, kOf, show SRC.update = UPDATE from rfl, UPDATE, UPDATE_SYSLINE, UPDATE_FIXEDSTRUCT, UPDATE_EVTX,
      UPDATE_JOURNALENTRY, runStmt, bump, evalE, SumPr.update, runUpdateDt_src]

theorem fresh_src : fresh SRC = {} := by decide

theorem runMapUpd_src (k : Kind) (env : Vals) (pid : Nat) (mp : List (Nat × SumPr)) :
    runMapUpd SRC (SRC.mapUpdate (kOf k)) env pid mp = mapUpdate mp pid k env.nlines env.printed env.flushed env.dt := by
  have hm : SRC.mapUpdate (kOf k) =
      ⟨[⟨kOf k, .printed, .flushed⟩], kOf k, [⟨kOf k, .printed, .flushed⟩], true⟩ := by cases k <;> rfl
  have hc : ∀ s, runCall SRC env s ⟨kOf k, .printed, .flushed⟩ = s.update k env.nlines env.printed env.flushed env.dt :=
    fun s => runUpdate_src k env s
  rw [hm]
  induction mp with
  | nil => simp [runMapUpd, mapUpdate, hc, fresh_src]
  | cons x r ih => simp only [runMapUpd, mapUpdate, List.foldl, hc, ih]

/-! ### the statements of an arm of `processing_loop` -/

theorem runAtom_printCall (P : Progs) (cx : Ctx) (st : LState) (k : K) :
    runAtom P cx st (.printCall k true) =
      { st with printed := (cx.res.getD (st.printed, st.flushed)).1, flushed := (cx.res.getD (st.printed, st.flushed)).2 } := by
  rcases h : cx.res with _ | ⟨p, f⟩ <;> simp [runAtom, h]

theorem runAtom_write_sepb (P : Progs) (cx : Ctx) (st : LState) :
    runAtom P cx st (.write .sepb) = { st with out := st.out ++ [.coord cx.sep] } := rfl

theorem runAtom_write_nl (P : Progs) (cx : Ctx) (st : LState) :
    runAtom P cx st (.write .nl) = { st with out := st.out ++ [.coord (List.replicate P.nlLen NL)] } := rfl

theorem runAtom_add (P : Progs) (cx : Ctx) (st : LState) (c : Ctr) (e : Expr) :
    runAtom P cx st (.add c e) =
      { st with acct := { st.acct with total := bump st.acct.total c (evalE (envOf P cx st) e) } } := rfl

theorem runAtom_notePath (P : Progs) (cx : Ctx) (st : LState) :
    runAtom P cx st .notePath = if cx.pid ∈ st.paths then st else { st with paths := st.paths ++ [cx.pid] } := rfl

theorem runAtom_mapUpdate_src (k : Kind) (cx : Ctx) (st : LState) :
    runAtom SRC cx st (.mapUpdate (kOf k) .printed .flushed) =
      { st with acct := { st.acct with
          perFile := mapUpdate st.acct.perFile cx.pid k cx.nlines st.printed st.flushed cx.dt } } := by
  simp only [runAtom, envOf, evalE]
  rw [runMapUpd_src]

theorem runAtom_totalUpdate_src (k : Kind) (cx : Ctx) (st : LState) :
    runAtom SRC cx st (.totalUpdate (kOf k) .printed .flushed) =
      { st with acct := { st.acct with total := st.acct.total.update k cx.nlines st.printed st.flushed cx.dt } } := by
  simp only [runAtom, envOf, evalE, runCall]
  rw [runUpdate_src]

/-- `summaryprinted.bytes += n; summaryprinted.flushed += 1` is the hand model's `addCoord` -/
theorem bump_bytes_flushed (t : SumPr) (n : Nat) : bump (bump t .bytes n) .flushed 1 = addCoord t n := rfl

end S4V.Lemmas.Summary
