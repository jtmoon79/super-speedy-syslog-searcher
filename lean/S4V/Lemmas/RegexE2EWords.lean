/-
C04, regex slice — `C04_words_denote`: well-shaped captured words with calendar values are attributed the instant they
spell, for EVERY generated date-time field set (definitions: `S4V.Lemmas.RegexE2E`).
One lemma per buffer piece (`year_piece` … `tz_piece`: the word's piece is the canonical piece of the value the word
spells), then `S4V.Props.TimeSpec.C04_normalise_parse`.
-/
import S4V.Lemmas.RegexE2E

namespace S4V.Lemmas.RegexE2E
open S4V.Gen.TimeTables S4V.Model.Time S4V.Model.DtParse S4V.Lemmas.DtParse S4V.Props.TimeSpec S4V.Lemmas.RegexZones

theorem allDigits_of_all {t : Bytes} (h : t.all isDigit = true) : AllDigits t :=
  fun b hb => List.all_eq_true.mp h b hb

theorem year_piece (yk : DTFS_Year) (c : Captures) (fill : Option Int) (h : yearOK yk c.year fill = true) :
    ∃ yb, yearPiece yk c fill = some yb ∧ YearPieceOK yk yb (yearVal yk c.year fill) := by
  cases hy : c.year with
  | some t =>
    rw [hy] at h
    match yk, h with
    | .Y, h | .fill, h =>
      obtain ⟨e, l⟩ := digs4_dec4 h
      exact ⟨t, by simp [yearPiece, hy], natVal t, l, e, numVal_eq_natVal t⟩
    | .y, h =>
      obtain ⟨e, l⟩ := digs2_dec2 h
      refine ⟨t, by simp [yearPiece, hy], natVal t, l, e, ?_⟩
      simp only [yearVal, numVal_eq_natVal t]
      by_cases h70 : natVal t < 70
      · rw [if_pos h70, if_pos (by omega)]
      · rw [if_neg h70, if_neg (by omega)]
  | none =>
    rw [hy] at h
    match yk, fill, h with
    | .fill, some y, h =>
      simp only [yearOK, decide_eq_true_eq] at h
      refine ⟨dec4 y.toNat, ?_, y.toNat, by omega, rfl, by simp only [yearVal]; omega⟩
      simp [yearPiece, hy, intDec, show ¬ y < 0 by omega, natDec_4 y.toNat (by omega) (by omega)]
    | .fill, none, _ => exact ⟨YEAR_FALLBACKDUMMY, by simp [yearPiece, hy], 1972, by decide, by decide, by decide⟩

theorem month_name {t : Bytes} (h : (lookup monthNamesB t).isSome = true) :
    ∃ m, monthOfName t = some m ∧ lookup monthNamesB t = some (dec2 m) := by
  obtain ⟨v, hl⟩ := Option.isSome_iff_exists.mp h
  have := List.all_eq_true.mp C04_month_table (t, v) (lookup_mem hl)
  unfold monthEntryOK at this
  cases hmo : monthOfName t with
  | none => simp [hmo] at this
  | some m =>
    simp only [hmo, beq_iff_eq] at this
    exact ⟨m, rfl, by rw [hl, this]⟩

theorem pad_dec2 {t : Bytes} (h : (digs 1 t || digs 2 t) = true) :
    (if t.length = 1 then 48 :: t else t) = dec2 (natVal t) := by
  rcases Bool.or_eq_true _ _ ▸ h with h | h
  · obtain ⟨a, rfl, _⟩ := digs_one h
    exact (digs1_dec2 h).1
  · obtain ⟨a, b, rfl, _⟩ := digs_two h
    exact (digs2_dec2 h).1

theorem month_piece (mk : DTFS_Month) (c : Captures) (h : monthOK mk c.month = true) :
    monthPiece mk c = some (dec2 (monthVal mk c.month)) := by
  cases hm : c.month with
  | none => rw [hm] at h; cases mk <;> simp [monthOK] at h
  | some t =>
    rw [hm] at h
    match mk, h with
    | .m, h => simp only [monthPiece, hm, monthVal]; rw [← (digs2_dec2 h).1]
    | .ms, h => simp only [monthPiece, hm, monthVal, Option.map_some]; rw [pad_dec2 h]
    | .b, h | .B, h =>
      obtain ⟨m, h1, h2⟩ := month_name h
      simp [monthPiece, hm, monthVal, h1, h2]

theorem day_piece (c : Captures) (h : dayOK c.day = true) : dayPiece .e_or_d c = some (dec2 (dayVal c.day)) := by
  cases hd : c.day with
  | none => rw [hd] at h; simp [dayOK] at h
  | some t =>
    rw [hd] at h
    match t, h with
    | [x], h =>
      have hx : digs 1 [x] = true := by simpa [digs, dayOK] using h
      simp only [dayPiece, hd, dayVal]
      rw [(digs1_dec2 hx).1]
    | [a, b], h =>
      simp only [dayOK, Bool.and_eq_true, Bool.or_eq_true, beq_iff_eq] at h
      simp only [dayPiece, hd, dayVal]
      by_cases e : a = 32
      · have hb : digs 1 [b] = true := by simpa [digs] using h.2
        rw [if_pos e, if_pos e, (digs1_dec2 hb).1]
      · have hab : digs 2 [a, b] = true := by simpa [digs, e] using h
        rw [if_neg e, if_neg e, ← (digs2_dec2 hab).1]

theorem hour_piece (hk : DTFS_Hour) (c : Captures) (h : hourOK hk c.hour = true) :
    hourPiece hk c = some (dec2 (numOptVal c.hour)) := by
  cases hh : c.hour with
  | none => rw [hh] at h; cases hk <;> simp [hourOK] at h
  | some t =>
    rw [hh] at h
    match hk, h with
    | .H, h => simp only [hourPiece, hh, numOptVal]; rw [← (digs2_dec2 h).1]
    | .k, h => simp only [hourPiece, hh, numOptVal, Option.map_some]; rw [pad_dec2 h]

theorem minute_piece (c : Captures) (h : minuteOK c.minute = true) :
    minutePiece .M c = some (dec2 (numOptVal c.minute)) := by
  cases hm : c.minute with
  | none => rw [hm] at h; simp [minuteOK] at h
  | some t =>
    rw [hm] at h
    simp only [minutePiece, hm, numOptVal]
    rw [← (digs2_dec2 h).1]

theorem sec_piece (sk : DTFS_Second) (c : Captures) (h : secOK sk c.second = true) (hr : secVal sk c.second ≤ 60) :
    ∃ sb, secondPiece sk c = some sb ∧ SecPieceOK sk sb (secVal sk c.second) := by
  cases sk with
  | S =>
    cases hs : c.second with
    | none => rw [hs] at h; simp [secOK] at h
    | some t =>
      rw [hs] at h hr
      simp only [secVal, numVal_eq_natVal t] at hr ⊢
      exact ⟨t, by simp [secondPiece, hs], natVal t, by omega, (digs2_dec2 h).1, rfl⟩
  | fill => exact ⟨[48, 48], rfl, 0, by omega, by decide, by cases c.second <;> rfl⟩
  | none_ => exact ⟨[], rfl, rfl, by cases c.second <;> rfl⟩

theorem frac_piece (fk : DTFS_Fractional) (c : Captures) (h : fracOK fk c.fractional = true) :
    ∃ fb, fracPiece fk c = some fb ∧ FracPieceOK fk fb (fracVal fk c.fractional) := by
  cases fk with
  | f =>
    cases hf : c.fractional with
    | none => rw [hf] at h; simp [fracOK] at h
    | some t =>
      rw [hf] at h
      simp only [fracOK, Bool.and_eq_true, decide_eq_true_eq] at h
      obtain ⟨⟨hd, h1⟩, h12⟩ := h
      by_cases h9 : t.length ≤ 9
      · obtain ⟨p1, p2⟩ := C04_fraction_pad c t (allDigits_of_all hd) h9 hf
        refine ⟨_, p1, ?_⟩
        simp only [fracVal, if_pos h9, ← numVal_pad]
        exact p2
      · obtain ⟨p1, p2⟩ := C04_fraction_truncate c t (allDigits_of_all hd) (by omega) h12 hf
        refine ⟨_, p1, ?_⟩
        simp only [fracVal, if_neg h9]
        exact p2
  | none_ => exact ⟨[], rfl, rfl, by cases c.fractional <;> rfl⟩

theorem notBlank_sign {s : UInt8} (h : isSign s = true) : NotBlank s := by
  unfold NotBlank
  rcases isSign_iff.mp h with rfl | rfl <;> decide

theorem sgnOff_lt (s : UInt8) {a : Int} (h0 : 0 ≤ a) (h1 : a < 86400) : -86400 < sgnOff s a ∧ sgnOff s a < 86400 := by
  unfold sgnOff
  split <;> omega

/-- the first conjunct is `TzPieceOK zk perm t fbOff (tzNumVal t)` for each of the numeric kinds `.z`, `.zc`, `.zp` -/
theorem tzNum_scan (short : Bool) (t : Bytes) (h : tzNumOK short t = true) (hr : tzNumRange t = true)
    (perm : Bool) (hp : short = true → perm = true) :
    (tzScan perm t = some (tzNumVal t, []) ∧ -86400 < tzNumVal t ∧ tzNumVal t < 86400 ∧ AllNotBlank t) ∧ t.length ≤ 9 := by
  unfold tzNumOK at h
  split at h
  · next s h1 h2 =>
    simp only [Bool.and_eq_true, and_assoc] at h
    obtain ⟨hs, hsg, d1, d2⟩ := h
    replace hr : (decide (numVal [h1, h2] ≤ 23) && true) = true := hr
    simp only [Bool.and_true, decide_eq_true_eq] at hr
    have n1 := numVal_nonneg [h1, h2]
    have hv : tzNumVal [s, h1, h2] = sgnOff s (numVal [h1, h2] * 3600) := by
      show sgnOff s (numVal [h1, h2] * 3600 + 0 * 60) = _
      rw [Int.zero_mul, Int.add_zero]
    have b := sgnOff_lt s (a := numVal [h1, h2] * 3600) (by omega) (by omega)
    have nb : AllNotBlank [s, h1, h2] := by
      simp [AllNotBlank, notBlank_sign hsg, notBlank_of_isDigit _ d1, notBlank_of_isDigit _ d2]
    rw [hv, hp hs]
    exact ⟨⟨tzScan_h hsg d1 d2, b.1, b.2, nb⟩, by simp⟩
  · next s h1 h2 m1 m2 =>
    simp only [Bool.and_eq_true, and_assoc] at h
    obtain ⟨hsg, d1, d2, d3, d4⟩ := h
    replace hr : (decide (numVal [h1, h2] ≤ 23) && decide (numVal [m1, m2] ≤ 59)) = true := hr
    simp only [Bool.and_eq_true, decide_eq_true_eq] at hr
    have n1 := numVal_nonneg [h1, h2]
    have n2 := numVal_nonneg [m1, m2]
    have b := sgnOff_lt s (a := numVal [h1, h2] * 3600 + numVal [m1, m2] * 60) (by omega) (by omega)
    have nb : AllNotBlank [s, h1, h2, m1, m2] := by
      simp [AllNotBlank, notBlank_sign hsg, notBlank_of_isDigit _ d1, notBlank_of_isDigit _ d2, notBlank_of_isDigit _ d3,
        notBlank_of_isDigit _ d4]
    exact ⟨⟨(tzScan_hm perm (isSign_iff.mp hsg) d1 d2 d3 d4 (tens_le_of_numVal d3 hr.2)).1, b.1, b.2, nb⟩, by simp⟩
  · next s h1 h2 c m1 m2 =>
    simp only [Bool.and_eq_true, beq_iff_eq, and_assoc] at h
    obtain ⟨hsg, d1, d2, rfl, d3, d4⟩ := h
    replace hr : (decide (numVal [h1, h2] ≤ 23) && decide (numVal [m1, m2] ≤ 59)) = true := hr
    simp only [Bool.and_eq_true, decide_eq_true_eq] at hr
    have n1 := numVal_nonneg [h1, h2]
    have n2 := numVal_nonneg [m1, m2]
    have b := sgnOff_lt s (a := numVal [h1, h2] * 3600 + numVal [m1, m2] * 60) (by omega) (by omega)
    have c58 : NotBlank 58 := by unfold NotBlank; decide
    have nb : AllNotBlank [s, h1, h2, 58, m1, m2] := by
      simp [AllNotBlank, notBlank_sign hsg, notBlank_of_isDigit _ d1, notBlank_of_isDigit _ d2, c58, notBlank_of_isDigit _ d3,
        notBlank_of_isDigit _ d4]
    exact ⟨⟨(tzScan_hm perm (isSign_iff.mp hsg) d1 d2 d3 d4 (tens_le_of_numVal d3 hr.2)).2, b.1, b.2, nb⟩, by simp⟩
  · cases h

theorem tz_named_scan {name v : Bytes} (hl : lookup tzTableB name = some v) (hv : v.isEmpty = false) :
    ∃ o, tzValueOffset v = some o ∧ v.length ≤ 9 ∧ ∀ perm fbOff, TzPieceOK .Z perm v fbOff o := by
  have := List.all_eq_true.mp C04_tz_table (name, v) (lookup_mem hl)
  simp only [tzEntryOK, Bool.and_eq_true, Bool.or_eq_true, hv, Bool.false_eq_true, false_or] at this
  obtain ⟨⟨h1, -⟩, -⟩ := this
  cases ho : tzValueOffset v with
  | none => simp [ho] at h1
  | some o =>
    simp only [ho, Bool.and_eq_true, beq_iff_eq] at h1
    obtain ⟨⟨s1, s2⟩, nb⟩ := h1
    -- the reference reading only accepts `±HH:MM` up to 14 h
    have hb : -86400 < o ∧ o < 86400 ∧ v.length ≤ 9 := by
      unfold tzValueOffset at ho
      split at ho
      · next s h1 h2 m1 m2 =>
        have n1 := numVal_nonneg [h1, h2]
        have n2 := numVal_nonneg [m1, m2]
        simp only [Option.ite_none_right_eq_some, Option.some.injEq] at ho
        obtain ⟨-, ⟨-, hle⟩, rfl⟩ := ho
        refine ⟨?_, ?_, by simp⟩ <;> split <;> omega
      · cases ho
    exact ⟨o, rfl, hb.2.2, fun perm _ => ⟨by cases perm; exact s1; exact s2, hb.1, hb.2.1, allNotBlank_of_notBlankB nb⟩⟩

theorem tz_piece (zk : DTFS_Tz) (c : Captures) (fbOff : Int) (hfb : FbOK' fbOff) (h : tzOK zk c.tz = true)
    (hr : tzRange zk c.tz = true) :
    ∃ zb, tzPiece zk c (offString fbOff) = some zb ∧ zb.length ≤ 9 ∧
      ∀ perm, (zk = .zp → perm = true) → TzPieceOK zk perm zb fbOff (tzVal zk c.tz fbOff) := by
  have hfbp := fun perm => fb_piece (fbOK_of_fbOK' hfb) perm
  match zk, h, hr with
  | .fill, _, _ =>
    exact ⟨offString fbOff, rfl, (hfbp true).1, fun perm _ => by cases c.tz <;> exact (hfbp perm).2⟩
  | .none_, _, _ => exact ⟨[], rfl, by simp, fun perm _ => ⟨rfl, by cases c.tz <;> rfl⟩⟩
  | .z, h, hr | .zc, h, hr | .zp, h, hr =>
    cases hz : c.tz with
    | none => rw [hz] at h; simp [tzOK] at h
    | some t =>
      rw [hz] at h hr
      have key := fun perm hp => tzNum_scan _ (stripMinus t) h hr perm hp
      exact ⟨stripMinus t, by simp [tzPiece, hz], (key true (fun _ => rfl)).2,
        fun perm hp => (key perm (fun hs => hp (by cases hs <;> rfl))).1⟩
  | .Z, h, _ =>
    cases hz : c.tz with
    | none => rw [hz] at h; simp [tzOK] at h
    | some name =>
      -- an unknown or ambiguous name is read in the fallback zone, whose string scans to the fallback offset itself
      have fb : ∀ perm, TzPieceOK .Z perm (offString fbOff) fbOff fbOff := fun perm =>
        have ⟨s, l1, l2⟩ := fb_scan hfb perm
        ⟨s, l1, l2, (hfbp perm).2.2.1⟩
      cases hl : lookup tzTableB name with
      | none =>
        exact ⟨offString fbOff, by simp [tzPiece, hz, hl], (hfbp true).1, fun perm _ => by simpa only [tzVal, hl] using fb perm⟩
      | some v =>
        cases hv : v.isEmpty with
        | true =>
          exact ⟨offString fbOff, by simp only [tzPiece, hz, Option.map_some, hl, hv, if_true], (hfbp true).1,
            fun perm _ => by simpa only [tzVal, hl, hv, if_true] using fb perm⟩
        | false =>
          obtain ⟨o, ho, hlen, hok⟩ := tz_named_scan hl hv
          exact ⟨v, by simp only [tzPiece, hz, Option.map_some, hl, hv, Bool.false_eq_true, if_false], hlen, fun perm _ => by
            simpa only [tzVal, hl, hv, Bool.false_eq_true, if_false, ho, Option.getD_some] using hok perm fbOff⟩

/-- **well-shaped words with calendar values are attributed the instant they spell** — every generated date-time set -/
theorem C04_words_denote (name : String) (set : DTFSSet) (hmem : (name, set) ∈ allDTFSS) (hdt : set.epoch = .none_)
    (c : Captures) (fbOff : Int) (hfb : FbOK' fbOff) (fill : Option Int)
    (hs : shapeOK set c fill = true) (hr : rangeOK set c fill = true) :
    capturesToInstant set c fbOff fill = some (fieldsOf set c fbOff fill).instant := by
  have hcons : Consistent set := C04_sets_consistent (name, set) hmem
  obtain ⟨hday, hmin⟩ : set.day = .e_or_d ∧ set.minute = .M := by
    rcases hcons with ⟨_, _, _, hd, _, hm, _⟩ | ⟨he, _⟩
    · exact ⟨hd, hm⟩
    · rw [hdt] at he; cases he
  simp only [shapeOK, Bool.and_eq_true, and_assoc] at hs
  obtain ⟨sy, sm, sd, sh, sn, ss, sf, sz⟩ := hs
  simp only [rangeOK, Bool.and_eq_true, decide_eq_true_eq, and_assoc] at hr
  obtain ⟨rm1, rm12, rd1, rd31, rh, rn, rs, rz, rv⟩ := hr
  obtain ⟨yb, hyP, hy⟩ := year_piece set.year c fill sy
  obtain ⟨sb, hsP, hsOK⟩ := sec_piece set.second c ss rs
  obtain ⟨fb, hfP, hfOK⟩ := frac_piece set.fractional c sf
  obtain ⟨zb, hzP, hzl, hz⟩ := tz_piece set.tz c fbOff hfb sz rz
  have := C04_normalise_parse name set hmem hdt c fbOff fill yb sb fb zb
    (yearVal set.year c.year fill) (monthVal set.month c.month) (dayVal c.day) (numOptVal c.hour) (numOptVal c.minute)
    (secVal set.second c.second) (fracVal set.fractional c.fractional) (tzVal set.tz c.tz fbOff)
    hyP hy (month_piece set.month c sm) ⟨rm1, rm12⟩ (by rw [hday]; exact day_piece c sd) ⟨rd1, rd31⟩ (hour_piece set.hour c sh) rh
    (by rw [hmin]; exact minute_piece c sn) rn hsP hsOK hfP hfOK hzP hzl hz rv
  simpa [fieldsOf, Fields.instant] using this

end S4V.Lemmas.RegexE2E
