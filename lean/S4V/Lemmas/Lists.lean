/-
Facts about core `List` operations that several slices need and core Lean does not state in this form; nothing
here mentions the model.  The last group is the list form the cached readers give `LruCache`: most recent first,
`put` = cons after filtering the key out, cut to the capacity.
-/
namespace S4V.Lemmas.Lists

theorem snoc_ind {α : Type _} {P : List α → Prop} (nil : P []) (snoc : ∀ l x, P l → P (l ++ [x])) (l : List α) : P l := by
  suffices h : ∀ l : List α, P l.reverse from List.reverse_reverse l ▸ h l.reverse
  intro l
  induction l with
  | nil => exact nil
  | cons x l ih => rw [List.reverse_cons]; exact snoc _ x ih

theorem getD_of_le {α} (l : List α) (j : Nat) (d : α) (h : l.length ≤ j) : l.getD j d = d := by
  simp [List.getD_eq_getElem?_getD, List.getElem?_eq_none h]

theorem lt_of_getD_ne {α} {l : List α} {j : Nat} {d : α} (h : l.getD j d ≠ d) : j < l.length :=
  Nat.lt_of_not_le fun hle => h (getD_of_le l j d hle)

theorem getD_mem {α} {l : List α} {i : Nat} (d : α) (h : i < l.length) : l.getD i d ∈ l := by
  simp only [List.getD_eq_getElem?_getD, List.getElem?_eq_getElem h, Option.getD_some, List.getElem_mem]

theorem getD_set {α} (l : List α) (i j : Nat) (v d : α) :
    (l.set i v).getD j d = if i = j ∧ j < l.length then v else l.getD j d := by
  simp only [List.getD_eq_getElem?_getD, List.getElem?_set]
  grind

theorem length_filter_eq_zero_iff {α} (p : α → Bool) (d : α) (hd : p d = false) (l : List α) :
    (l.filter p).length = 0 ↔ ∀ j : Nat, p (l.getD j d) = false := by
  rw [List.length_eq_zero_iff, List.filter_eq_nil_iff]
  constructor
  · intro h j
    by_cases hj : j < l.length
    · simpa using h _ (getD_mem d hj)
    · rw [getD_of_le l j d (Nat.le_of_not_lt hj)]; exact hd
  · intro h a ha
    obtain ⟨j, hj, rfl⟩ := List.getElem_of_mem ha
    have := h j
    rw [List.getD_eq_getElem?_getD, List.getElem?_eq_getElem hj] at this
    simpa using this

theorem foldl_pick {α : Type} (op : α → α → α) (le : α → α → Prop) (hrefl : ∀ a, le a a)
    (htrans : ∀ a b c, le a b → le b c → le a c) (hl : ∀ a b, le (op a b) a) (hr : ∀ a b, le (op a b) b)
    (hsel : ∀ a b, op a b = a ∨ op a b = b) (l : List α) (m : α) :
    l.foldl op m ∈ m :: l ∧ ∀ x ∈ m :: l, le (l.foldl op m) x := by
  induction l generalizing m with
  | nil => exact ⟨by simp, by simp [hrefl]⟩
  | cons y r ih =>
    obtain ⟨h1, h2⟩ := ih (op m y)
    have h0 := h2 _ (List.mem_cons_self ..)
    refine ⟨?_, fun x hx => ?_⟩
    · rcases List.mem_cons.mp h1 with e | e
      · rcases hsel m y with c | c <;> rw [List.foldl_cons, e, c] <;> simp
      · exact List.mem_cons_of_mem _ (List.mem_cons_of_mem _ e)
    · rcases List.mem_cons.mp hx with rfl | hx
      · exact htrans _ _ _ h0 (hl ..)
      · rcases List.mem_cons.mp hx with rfl | hx
        · exact htrans _ _ _ h0 (hr ..)
        · exact h2 x (List.mem_cons_of_mem _ hx)

theorem foldl_min_spec (l : List Int) (m : Int) : l.foldl min m ∈ m :: l ∧ ∀ x ∈ m :: l, l.foldl min m ≤ x :=
  foldl_pick min (· ≤ ·) Int.le_refl (fun _ _ _ => Int.le_trans) Int.min_le_left Int.min_le_right (fun a b => by omega) l m

theorem foldl_max_spec (l : List Int) (m : Int) : l.foldl max m ∈ m :: l ∧ ∀ x ∈ m :: l, x ≤ l.foldl max m :=
  foldl_pick max (· ≥ ·) Int.le_refl (fun _ _ _ h1 h2 => Int.le_trans h2 h1) Int.le_max_left Int.le_max_right
    (fun a b => by omega) l m

theorem foldl_maxBy_spec {α : Type} (f : α → Nat) (l : List α) (w : Nat) :
    (l.foldl (fun a x => max a (f x)) w = w ∨ ∃ x ∈ l, f x = l.foldl (fun a x => max a (f x)) w) ∧
      w ≤ l.foldl (fun a x => max a (f x)) w ∧ ∀ x ∈ l, f x ≤ l.foldl (fun a x => max a (f x)) w := by
  obtain ⟨h1, h2⟩ := foldl_pick (α := Nat) max (· ≥ ·) Nat.le_refl (fun _ _ _ h1 h2 => Nat.le_trans h2 h1)
    Nat.le_max_left Nat.le_max_right (fun a b => by omega) (l.map f) w
  rw [List.foldl_map] at h1 h2
  refine ⟨?_, h2 w List.mem_cons_self, fun x hx => h2 _ (List.mem_cons_of_mem _ (List.mem_map_of_mem hx))⟩
  rcases List.mem_cons.mp h1 with h | h
  · exact .inl h
  · obtain ⟨x, hx, e⟩ := List.mem_map.mp h
    exact .inr ⟨x, hx, e⟩

theorem foldl_max_ge (l : List Nat) (a : Nat) : a ≤ l.foldl max a ∧ ∀ x ∈ l, x ≤ l.foldl max a :=
  (foldl_maxBy_spec id l a).2

theorem find?_key {α β} [BEq β] [LawfulBEq β] (f : α → β) :
    ∀ (l : List α) (e : α), (l.map f).Nodup → e ∈ l → l.find? (fun x => f x == f e) = some e
  | a :: as, e, hn, hm => by
    rw [List.map_cons, List.nodup_cons] at hn
    by_cases hae : f a = f e
    · rcases List.mem_cons.mp hm with rfl | hm'
      · simp
      · exact absurd (hae ▸ List.mem_map_of_mem hm') hn.1
    · rw [List.find?_cons_of_neg (by simpa using hae)]
      exact find?_key f as e hn.2 ((List.mem_cons.mp hm).resolve_left fun h => hae (h ▸ rfl))

theorem find?_idx {α} {idx : α → Nat} {l : List α} (h : l.Pairwise (fun x y => idx x < idx y)) {r : α} (hr : r ∈ l) :
    l.find? (fun s => idx s == idx r) = some r :=
  find?_key idx l r (List.pairwise_map.mpr (h.imp Nat.ne_of_lt)) hr

theorem find?_filter_key_ne {α β} [BEq β] [LawfulBEq β] (f : α → β) (l : List α) {b k : β} (h : k ≠ b) :
    (l.filter (f · != b)).find? (f · == k) = l.find? (f · == k) := by
  rw [List.find?_filter]
  congr 1
  funext a
  by_cases ha : f a = k <;> simp [ha, h]

theorem find?_filter_key_self {α β} [BEq β] [LawfulBEq β] (f : α → β) (l : List α) (b : β) :
    (l.filter (f · != b)).find? (f · == b) = none := by
  rw [List.find?_eq_none]
  intro x hx
  simpa using (List.mem_filter.1 hx).2

theorem mem_of_lookup {α β} [BEq α] [LawfulBEq α] {l : List (α × β)} {k : α} {v : β}
    (h : l.lookup k = some v) : (k, v) ∈ l := by
  obtain ⟨l₁, l₂, rfl, _⟩ := List.lookup_eq_some_iff.mp h
  simp

/-- `LruCache::put`: the `lruPut` of `Model/LinesCached`, `Model/SyslCached` and `Model/LineSkel` (`lruPutG`) unfolds to this;
`Model/PatSel` filters with `≠`, hence `mem_take_cons_filter` below -/
def lruPut {α} (cap : Nat) (l : List (Nat × α)) (k : Nat) (v : α) : List (Nat × α) :=
  ((k, v) :: l.filter (·.1 != k)).take cap

theorem mem_take_cons_filter {α} {n : Nat} {a p : α} {q : α → Bool} {l : List α}
    (h : p ∈ (a :: l.filter q).take n) : p = a ∨ p ∈ l :=
  (List.mem_cons.mp (List.mem_of_mem_take h)).imp_right fun h => (List.mem_filter.mp h).1

theorem mem_lruPut {α} {cap : Nat} {l : List (Nat × α)} {k : Nat} {v : α} {p : Nat × α}
    (h : p ∈ lruPut cap l k v) : p = (k, v) ∨ p ∈ l :=
  mem_take_cons_filter h

theorem lruPut_length {α} (cap : Nat) (l : List (Nat × α)) (k : Nat) (v : α) : (lruPut cap l k v).length ≤ cap :=
  List.length_take_le _ _

/-- `LruCache::get` looks the key up: what it returns is stored under that key -/
theorem find?_fst_map {α} {l : List (Nat × α)} {k : Nat} {v : α} (h : (l.find? (·.1 == k)).map (·.2) = some v) :
    l.find? (·.1 == k) = some (k, v) ∧ (k, v) ∈ l := by
  obtain ⟨⟨k', v'⟩, hf, rfl⟩ := Option.map_eq_some_iff.mp h
  obtain rfl : k' = k := by simpa using List.find?_some hf
  exact ⟨hf, List.mem_of_find?_eq_some hf⟩

theorem find?_fst {α} {l : List (Nat × α)} {k : Nat} {e : Nat × α} (h : l.find? (·.1 == k) = some e) :
    e.1 = k ∧ e ∈ l :=
  ⟨by simpa using List.find?_some h, List.mem_of_find?_eq_some h⟩

/-- `LruCache::get` also promotes the entry it finds, which is a `put` of the value it has: within capacity nothing
falls out -/
theorem promote_eq_lruPut {α} {cap : Nat} {l : List (Nat × α)} {k : Nat} {e : Nat × α}
    (h : l.find? (·.1 == k) = some e) (hlen : l.length ≤ cap) :
    e :: l.filter (·.1 != k) = lruPut cap l k e.2 := by
  obtain ⟨rfl, h2⟩ := find?_fst h
  have hlt : (l.filter (·.1 != e.1)).length < l.length :=
    List.length_filter_lt_length_iff_exists.mpr ⟨e, h2, by simp⟩
  exact (List.take_of_length_le (Nat.le_trans hlt hlen)).symm

end S4V.Lemmas.Lists
