/-
Lists of pairs whose keys (first components) are pairwise distinct: the form both cached readers
(`S4V.Lemmas.LinesCached`, `S4V.Lemmas.SyslCached`) keep their maps and LRU lists in.
-/
namespace S4V.Lemmas.LinesCached

/-- keys (first components) are pairwise distinct -/
def KeysDistinct {α : Type} (l : List (Nat × α)) : Prop := l.Pairwise (fun a b => a.1 ≠ b.1)

theorem KeysDistinct.filter {α : Type} {l : List (Nat × α)} (p : Nat × α → Bool)
    (h : KeysDistinct l) : KeysDistinct (l.filter p) :=
  List.Pairwise.filter p h

theorem KeysDistinct.take {α : Type} {l : List (Nat × α)} (n : Nat)
    (h : KeysDistinct l) : KeysDistinct (l.take n) :=
  List.Pairwise.sublist (List.take_sublist n l) h

theorem KeysDistinct.cons_filter {α : Type} {l : List (Nat × α)} (k : Nat) (v : α)
    (h : KeysDistinct l) : KeysDistinct ((k, v) :: l.filter (·.1 != k)) := by
  refine List.pairwise_cons.mpr ⟨?_, h.filter _⟩
  intro a ha
  have := (List.mem_filter.mp ha).2
  simp only [bne_iff_ne, ne_eq] at this
  exact fun h => this h.symm

end S4V.Lemmas.LinesCached
