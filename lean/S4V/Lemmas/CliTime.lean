/-
Round-trip lemmas for the chrono-specifier interpreter of `S4V.Model.Cli`
(one per specifier family) and the calendar facts C14 needs.
-/
import S4V.Model.Cli

namespace S4V.Lemmas.CliTime
open S4V.Model.Cli S4V.Model.Time

theorem isWs_of_isDig {c : Char} (h : isDig c = true) : isWs c = false := by
  simp [isDig] at h
  simp [isWs]
  omega

theorem trimStart_digit (c : Char) (r : List Char) (h : isDig c = true) : trimStart (c :: r) = c :: r := by
  simp [trimStart, List.dropWhile, isWs_of_isDig h]

/-- `%m %d %H %M %S` (width 2), `%Y` without sign (width 4), `%3f`/`%6f` (exact width): a field
written with exactly the specifier's width is consumed whole, whatever follows -/
theorem takeDigits_exact (ds rest : List Char) (hd : ∀ c ∈ ds, isDig c = true) :
    takeDigits ds.length (ds ++ rest) = (ds, rest) := by
  induction ds with
  | nil => simp [takeDigits]
  | cons c cs ih =>
    have hc : isDig c = true := hd c (by simp)
    have := ih (fun x hx => hd x (by simp [hx]))
    simp [takeDigits, hc, this]

theorem scanNumber_exact (ds rest : List Char) (min : Nat) (hne : ds ≠ []) (hmin : min ≤ ds.length)
    (hd : ∀ c ∈ ds, isDig c = true) (hv : numVal ds ≤ i64Max) :
    scanNumber (ds ++ rest) min ds.length = some (numVal ds, rest) := by
  have hl : ds.length ≠ 0 := by simpa using hne
  simp only [scanNumber, takeDigits_exact ds rest hd]
  have h1 : ¬ (ds.length < min ∨ ds.length = 0) := by omega
  have h2 : ¬ numVal ds > i64Max := by omega
  simp [h2]
  exact ⟨hmin, hne⟩

/-- a signed `%Y` and `%s` read digits without limit: a field followed by a non-digit (or the end)
is consumed whole -/
theorem takeDigits_stop (ds rest : List Char) (n : Nat) (hd : ∀ c ∈ ds, isDig c = true) (hn : ds.length ≤ n)
    (hr : ∀ c r, rest = c :: r → isDig c = false) :
    takeDigits n (ds ++ rest) = (ds, rest) := by
  induction ds generalizing n with
  | nil =>
    cases n with
    | zero => simp [takeDigits]
    | succ k =>
      cases rest with
      | nil => simp [takeDigits]
      | cons c r => simp [takeDigits, hr c r rfl]
  | cons c cs ih =>
    cases n with
    | zero => simp at hn
    | succ k =>
      have hc : isDig c = true := hd c (by simp)
      have := ih k (fun x hx => hd x (by simp [hx])) (by simpa using hn)
      simp [takeDigits, hc, this]

theorem numVal_two (a b : Char) : numVal [a, b] = digVal a * 10 + digVal b := by
  simp [numVal]

theorem numVal_four (a b c d : Char) :
    numVal [a, b, c, d] = digVal a * 1000 + digVal b * 100 + digVal c * 10 + digVal d := by
  simp [numVal]; omega

/-- a digit is none of the characters chrono skips between the hours and the minutes of an offset -/
theorem digit_not_colon_ws (c : Char) (h : isDig c = true) : (c == ':' || isWs c) = false := by
  rw [isWs_of_isDig h]
  have : c ≠ ':' := by intro e; subst e; revert h; decide
  simp [this]

/-- `%z` / `%:z` / `%#z` on `±HHMM` -/
theorem scanTz_hhmm (perm : Bool) (sg h1 h2 m1 m2 : Char) (hs : sg = '+' ∨ sg = '-')
    (hh1 : isDig h1 = true) (hh2 : isDig h2 = true) (hm1 : isDig m1 = true) (hm2 : isDig m2 = true)
    (h5 : digVal m1 ≤ 5) :
    scanTz perm [sg, h1, h2, m1, m2] =
      some ((if sg = '-' then -1 else 1) *
        (((digVal h1 * 10 + digVal h2 : Nat) : Int) * 3600 + ((digVal m1 * 10 + digVal m2 : Nat) : Int) * 60), []) := by
  have hm := digit_not_colon_ws m1 hm1
  rcases hs with rfl | rfl <;>
    simp [scanTz, hh1, hh2, hm1, hm2, h5, List.dropWhile, hm] <;> omega

/-- `%z` / `%:z` / `%#z` on `±HH:MM` (all three accept the colon) -/
theorem scanTz_hh_colon_mm (perm : Bool) (sg h1 h2 m1 m2 : Char) (hs : sg = '+' ∨ sg = '-')
    (hh1 : isDig h1 = true) (hh2 : isDig h2 = true) (hm1 : isDig m1 = true) (hm2 : isDig m2 = true)
    (h5 : digVal m1 ≤ 5) :
    scanTz perm [sg, h1, h2, ':', m1, m2] =
      some ((if sg = '-' then -1 else 1) *
        (((digVal h1 * 10 + digVal h2 : Nat) : Int) * 3600 + ((digVal m1 * 10 + digVal m2 : Nat) : Int) * 60), []) := by
  have hm := digit_not_colon_ws m1 hm1
  rcases hs with rfl | rfl <;>
    simp [scanTz, hh1, hh2, hm1, hm2, h5, List.dropWhile, hm] <;> omega

/-- only `%#z` accepts `±HH` -/
theorem scanTz_hh (sg h1 h2 : Char) (hs : sg = '+' ∨ sg = '-') (hh1 : isDig h1 = true) (hh2 : isDig h2 = true) :
    scanTz true [sg, h1, h2] =
      some ((if sg = '-' then -1 else 1) * (((digVal h1 * 10 + digVal h2 : Nat) : Int) * 3600), []) ∧
    scanTz false [sg, h1, h2] = none := by
  rcases hs with hs | hs <;> subst hs <;> simp [scanTz, hh1, hh2, List.dropWhile] <;> omega

/-- only `%#z` accepts `Z` / `z` -/
theorem scanTz_zulu : scanTz true ['Z'] = some (0, []) ∧ scanTz true ['z'] = some (0, []) ∧
    scanTz false ['Z'] = none ∧ scanTz false ['z'] = none := by decide

/-- the era shift inside `civilDays` is exact (262400 = 656 · 400 years = 656 · 146097 days) -/
theorem civilDays_eq (y m d : Int) : civilDays y m d = daysFromCivil y m d := by
  unfold civilDays daysFromCivil
  by_cases h : m ≤ 2
  · simp only [h, if_true]; omega
  · simp only [h, if_false]; omega

/-- from more than a day before 0000-01-01 up to chrono's last second (`tsMax` plus a day) -/
theorem inRange_of_bounds (x : Int) (h0 : -62170000000 ≤ x) (h1 : x ≤ 8210266876799) : inRange x = true := by
  have a : minSec ≤ -62170000000 := by decide
  have b : (8210266876799 : Int) ≤ maxSec := by decide
  simp [inRange]; omega

/-- every instant of 1970-01-01 … 2099-12-31 (at any real zone) is inside chrono's range -/
theorem inRange_documented (sec : Int) (h1 : -100000 ≤ sec) (h2 : sec ≤ 4102500000) : inRange sec = true :=
  inRange_of_bounds sec (by omega) (by omega)

/-- `%Y` on four digits -/
theorem scanNumber_4 (a b c d : Char) (rest : List Char) (ha : isDig a = true) (hb : isDig b = true)
    (hc : isDig c = true) (hd : isDig d = true) :
    scanNumber (a :: b :: c :: d :: rest) 1 4 = some (numVal [a, b, c, d], rest) := by
  have hv : numVal [a, b, c, d] ≤ i64Max := by
    simp [isDig] at ha hb hc hd
    simp [numVal, digVal, i64Max]; omega
  have := scanNumber_exact [a, b, c, d] rest 1 (by simp) (by simp) (by simp [ha, hb, hc, hd]) hv
  simpa using this

/-- `%m %d %H %M %S` on two digits -/
theorem scanNumber_2 (a b : Char) (rest : List Char) (ha : isDig a = true) (hb : isDig b = true) :
    scanNumber (a :: b :: rest) 1 2 = some (numVal [a, b], rest) := by
  have hv : numVal [a, b] ≤ i64Max := by
    simp [isDig] at ha hb
    simp [numVal, digVal, i64Max]; omega
  have := scanNumber_exact [a, b] rest 1 (by simp) (by simp) (by simp [ha, hb]) hv
  simpa using this

end S4V.Lemmas.CliTime
