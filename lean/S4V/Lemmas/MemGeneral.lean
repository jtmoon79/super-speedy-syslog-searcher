/-
The invariant of the stage-3 loop of `S4V.Model.Mem` that bounds the three high-water marks for every number of
messages.  `Geometry M B P` bounds the lines of a message, the blocks it spans and the messages that start in one block
(`P` is bounded by the block size in bytes, and is what keeps "any number of messages per block" finite).  Two more
conditions exclude the known growth mechanisms, and each comes with the lower bound that shows it is needed: `Crossed`
(no line ends exactly where a block ends, F25; needed on a plain file only, a streamed reader drops blocks by its
look-back) and a `prompt` consumer (F8: a consumer that still holds messages).

The invariant carries two parameters: `G` — no drop can have run while `fb (k - 2) ≤ G` (1 for `S4V.Model.Mem`, 2 for
`S4V.Model.MemSkip`, whose first target 0 is skipped) — and the width `W ≥ max B G` of the window of stored messages.
-/
import S4V.Model.Mem
import S4V.Model.MemSkip
import S4V.Lemmas.Mem

namespace S4V.Lemmas.MemGeneral
open S4V.Model.Mem S4V.Model.MemSkip S4V.Gen.Consts S4V.Gen.Stream S4V.Gen.Blocks S4V.Lemmas.Mem S4V.Lemmas.Lists

/-- first block of message `j` (`blockoffset_first`) -/
def fb (msgs : List Msg) (j : Nat) : Nat := (msgs.getD j []).first
/-- last block of message `j` (`blockoffset_last`) -/
def lb (msgs : List Msg) (j : Nat) : Nat := (msgs.getD j []).last

/-- the geometries covered: any number of messages; each has `1 ..= M` lines, all inside the blocks
`fb j ..= lb j` with `lb j < fb j + B` (spans at most `B` blocks); message `j + 1` does not start
before the block in which message `j` ends; among any `P + 1` consecutive messages two start in
different blocks (at most `P` messages start in one block) -/
structure Geometry (M B P : Nat) (msgs : List Msg) : Prop where
  ppos : 0 < P
  len : ∀ j, j < msgs.length → 0 < (msgs.getD j []).length ∧ (msgs.getD j []).length ≤ M
  inside : ∀ j, j < msgs.length → ∀ ln ∈ msgs.getD j [], fb msgs j ≤ ln.f ∧ ln.f ≤ ln.l ∧ ln.l ≤ lb msgs j
  span : ∀ j, j < msgs.length → lb msgs j < fb msgs j + B
  mono : ∀ j, j < msgs.length - 1 → lb msgs j ≤ fb msgs (j + 1)
  dense : ∀ j, j < msgs.length - P → fb msgs j < fb msgs (j + P)

instance (M B P : Nat) (msgs : List Msg) : Decidable (Geometry M B P msgs) :=
  decidable_of_iff (_ ∧ _ ∧ _ ∧ _ ∧ _ ∧ _)
    ⟨fun ⟨a, b, c, d, e, f⟩ => ⟨a, b, c, d, e, f⟩, fun h => ⟨h.ppos, h.len, h.inside, h.span, h.mono, h.dense⟩⟩

/-- every block boundary below the last block of the file is crossed by a line: no line ends on the
last byte of a block (other than, possibly, the last line of the file) -/
def Crossed (msgs : List Msg) : Prop :=
  ∀ c, c < lb msgs (msgs.length - 1) →
    ∃ j, j < msgs.length ∧ ∃ ln ∈ msgs.getD j [], ln.f ≤ c ∧ c < ln.l

instance (msgs : List Msg) : Decidable (Crossed msgs) := by
  unfold Crossed; infer_instance

/-! Where the bounds come from.  At the head of iteration `k` the last drop was `drop_data_try(k - 2)`.  A stored message
starts at most `W` blocks before message `k - 2` (`Geometry.near`), so at most `P (W + 1)` messages lie from it to
message `k - 2` (`Geometry.count`); messages `k - 1` and `k` make the `+ 2`.  A stored block lies at most `W` blocks
behind the first block of message `k - 2` (`PB.lo_le`), and `findMsg k` reads less than `4 B - 3` blocks ahead of
it (`width_le`).  The `2` of `Ahead` below is `DROP_TRY_BACK` (`Model/Mem`), the `1 <` of `victim_iff` is `DROP_TRY_GUARD`; that a
window of `W = B` blocks suffices (`Geometry.near`) uses `DROP_TRY_BACK = 2`. -/

def sBound (B P : Nat) : Nat := P * (B + 1) + 2
def lBound (M B P : Nat) : Nat := M * sBound B P + 1
def bBound (B : Nat) : Nat := 5 * B - 3
def bBoundW (B W : Nat) : Nat := 4 * B - 3 + W

/-- message `j` is not yet behind the drop target of message `t` (`drop_data_try(t)` takes what ends at or before block
`fb t - 2`), or no drop can have run yet -/
abbrev Ahead (msgs : List Msg) (G t j : Nat) : Prop := fb msgs t < lb msgs j + 2 ∨ fb msgs t ≤ G

def Crosses (msgs : List Msg) (j c : Nat) : Prop := j < msgs.length ∧ ∃ ln ∈ msgs.getD j [], ln.f ≤ c ∧ c < ln.l

section geo
variable {M B P : Nat} {msgs : List Msg}

theorem Geometry.len_le (h : Geometry M B P msgs) (j : Nat) : (msgs.getD j []).length ≤ M := by
  by_cases hj : j < msgs.length
  · exact (h.len j hj).2
  · rw [getD_of_le msgs j [] (Nat.le_of_not_lt hj)]
    exact Nat.zero_le _

theorem lb_nil {msgs : List Msg} {j : Nat} (hj : msgs.length ≤ j) : lb msgs j = 0 := by
  unfold lb
  rw [getD_of_le msgs j [] hj]
  rfl

theorem Geometry.last_mem (h : Geometry M B P msgs) {j : Nat} (hj : j < msgs.length) :
    ∃ ln, ln ∈ msgs.getD j [] ∧ ln.l = lb msgs j := by
  have hne : msgs.getD j [] ≠ [] := List.ne_nil_of_length_pos (h.len j hj).1
  refine ⟨(msgs.getD j []).getLast hne, List.getLast_mem hne, ?_⟩
  unfold lb Msg.last
  rw [List.getLast?_eq_some_getLast hne]
  rfl

theorem Geometry.fl (h : Geometry M B P msgs) {j : Nat} (hj : j < msgs.length) : fb msgs j ≤ lb msgs j := by
  obtain ⟨ln, hln, hl⟩ := h.last_mem hj
  have := h.inside j hj ln hln
  omega

theorem Geometry.crosses (h : Geometry M B P msgs) {j c : Nat} (hx : Crosses msgs j c) :
    j < msgs.length ∧ fb msgs j ≤ c ∧ c < lb msgs j := by
  obtain ⟨hj, ln, hln, hf, hl⟩ := hx
  have := h.inside j hj ln hln
  exact ⟨hj, by omega, by omega⟩

theorem Geometry.fmono (h : Geometry M B P msgs) {i j : Nat} (hij : i ≤ j) (hj : j < msgs.length) :
    fb msgs i ≤ fb msgs j ∧ lb msgs i ≤ lb msgs j := by
  revert hj
  induction hij with
  | refl => exact fun _ => ⟨Nat.le_refl _, Nat.le_refl _⟩
  | @step j _ ih =>
    intro hj
    have ih := ih (Nat.lt_of_succ_lt hj)
    have h1 := h.fl (Nat.lt_of_succ_lt hj)
    have h2 := h.mono j (Nat.lt_sub_of_add_lt hj)
    have h3 := h.fl (j := j + 1) hj
    show fb msgs i ≤ fb msgs (j + 1) ∧ lb msgs i ≤ lb msgs (j + 1)
    omega

theorem Geometry.bpos (h : Geometry M B P msgs) {j : Nat} (hj : j < msgs.length) : 1 ≤ B := by
  have := h.fl hj
  have := h.span j hj
  omega

theorem Geometry.dense_iter (h : Geometry M B P msgs) : ∀ (w j : Nat), j + P * w < msgs.length →
    fb msgs j + w ≤ fb msgs (j + P * w)
  | 0, j, _ => Nat.le_refl _
  | w + 1, j, hj => by
    rw [Nat.mul_succ, ← Nat.add_assoc j] at hj ⊢
    have ih := h.dense_iter w j (Nat.lt_of_le_of_lt (Nat.le_add_right _ P) hj)
    have := h.dense (j + P * w) (Nat.lt_sub_of_add_lt hj)
    omega

theorem Geometry.count (h : Geometry M B P msgs) {a b W : Nat} (hb : b < msgs.length)
    (hW : fb msgs b ≤ fb msgs a + W) : b < a + P * (W + 1) := by
  refine Nat.lt_of_not_le fun hn => ?_
  have h1 := h.dense_iter (W + 1) a (Nat.lt_of_le_of_lt hn hb)
  have h2 := (h.fmono hn hb).1
  omega

theorem Geometry.near (h : Geometry M B P msgs) {G W j t : Nat} (hWB : B ≤ W) (hWG : G ≤ W) (hj : j < msgs.length)
    (hw : Ahead msgs G t j) : fb msgs t ≤ fb msgs j + W := by
  have := h.span j hj
  omega

theorem Geometry.win (h : Geometry M B P msgs) {G W j k : Nat} (hWB : B ≤ W) (hWG : G ≤ W) (hk : k < msgs.length)
    (hjk : j ≤ k) (hw : Ahead msgs G (k - 2) j) : k + 1 ≤ j + sBound W P := by
  have := h.count (Nat.lt_of_le_of_lt (Nat.sub_le k 2) hk) (h.near hWB hWG (Nat.lt_of_le_of_lt hjk hk) hw)
  unfold sBound
  omega

theorem Geometry.next_le (h : Geometry M B P msgs) (hc : Crossed msgs) {j : Nat} (hj : j + 1 < msgs.length) :
    fb msgs (j + 1) ≤ lb msgs j := by
  apply Classical.byContradiction
  intro hn
  -- the end of block `lb j` would be crossed by a line of a message at or before `j`, or after it
  have h1 := h.fl hj
  have h2 := (h.fmono (i := j + 1) (Nat.le_sub_one_of_lt hj) (Nat.sub_lt (Nat.zero_lt_of_lt hj) Nat.one_pos)).2
  obtain ⟨j', hx⟩ := hc (lb msgs j) (by omega)
  obtain ⟨hj', hin⟩ := h.crosses hx
  by_cases hle : j' ≤ j
  · have := (h.fmono hle (Nat.lt_of_succ_lt hj)).2
    omega
  · have := (h.fmono (i := j + 1) (Nat.lt_of_not_le hle) hj').1
    omega

theorem Geometry.first_zero (h : Geometry M B P msgs) (hc : Crossed msgs) (hn : 0 < msgs.length) :
    fb msgs 0 = 0 := by
  apply Classical.byContradiction
  intro hne
  have h1 := h.fl hn
  have h2 := (h.fmono (Nat.zero_le _) (Nat.sub_lt hn Nat.one_pos)).2
  obtain ⟨j', hx⟩ := hc 0 (by omega)
  obtain ⟨hj', hin⟩ := h.crosses hx
  have := (h.fmono (Nat.zero_le j') hj').1
  omega

theorem Geometry.first_pred (h : Geometry M B P msgs) (hc : Crossed msgs) {j : Nat} (hj : j < msgs.length) :
    fb msgs j + 1 ≤ fb msgs (j - 1) + B := by
  match j, hj with
  | 0, hj => exact Nat.add_le_add_left (h.bpos hj) _
  | i + 1, hj =>
    have := h.next_le hc hj
    have := h.span i (Nat.lt_of_succ_lt hj)
    show fb msgs (i + 1) + 1 ≤ fb msgs i + B
    omega

end geo

/-- highest block touched by `findMsg k`, plus one -/
def hiOf (msgs : List Msg) (k : Nat) : Nat := max (lb msgs k) (lb msgs (k + 1)) + 1

/-- the `blocks` map of a plain file.  `cross` is what bounds it: a block whose end is crossed by a line of message `j` is
stored only while message `j` is, or has not been found yet -/
structure PB (msgs : List Msg) (k Bd : Nat) (st : St) : Prop where
  desc : st.blocks.Pairwise (· > ·)
  lt : ∀ c ∈ st.blocks, c < st.nread
  high : st.bHigh ≤ Bd
  cross : ∀ c ∈ st.blocks, ∀ j, Crosses msgs j c → j ∈ st.syslines ∨ k ≤ j

/-- `n` messages have been found, and every stored message is not yet behind the drop target of message `t` (or no
drop can have run: `fb t ≤ G`).  `findMsg` raises `n`, the drop raises `t`. -/
structure InvAt (streamed : Bool) (msgs : List Msg) (M B P G W n t : Nat) (st : St) : Prop where
  b : (streamed = false ∧ Crossed msgs) →
    PB msgs n (bBoundW B W) st ∧ (n < msgs.length → st.nread ≤ lb msgs n + 1)
  nread_ge : ∀ j, j < n → lb msgs j < st.nread
  sdesc : st.syslines.Pairwise (· > ·)
  slt : ∀ j ∈ st.syslines, j < n
  ahead : ∀ j ∈ st.syslines, Ahead msgs G t j
  shigh : st.sHigh ≤ sBound W P
  l : LOk (Allowed msgs st.syslines n) (lBound M W P) st

/-- at the head of iteration `k`; after `findMsg k` it is `InvAt … (k + 1) (k - 2)`.  The last drop before iteration `k` was
`drop_data_try(k - 2)`; the subtraction is cut off at 0, and for `k ≤ 2` nothing can lie behind the target of message 0 -/
abbrev Inv (streamed : Bool) (msgs : List Msg) (M B P G W k : Nat) (st : St) : Prop :=
  InvAt streamed msgs M B P G W k (k - 2) st

section inv
variable {M B P G W : Nat} {msgs : List Msg} {streamed : Bool} {k n t : Nat} {st : St}

theorem hiOf_eq (hG : Geometry M B P msgs) (hk : k + 1 < msgs.length) : hiOf msgs k = lb msgs (k + 1) + 1 := by
  unfold hiOf
  rw [Nat.max_eq_right (hG.fmono (Nat.le_add_right k 1) hk).2]

theorem PB.lo_le (hG : Geometry M B P msgs) (hc : Crossed msgs) (hWB : B ≤ W) (hWG : G ≤ W) {Bd : Nat}
    (hk : k < msgs.length) (h : PB msgs k Bd st)
    (hs : ∀ j ∈ st.syslines, Ahead msgs G (k - 2) j) :
    ∀ c ∈ st.blocks, fb msgs (k - 2) ≤ c + W := by
  intro c hcm
  by_cases hlt : c < lb msgs (msgs.length - 1)
  · -- the end of block `c` is crossed by a line of a stored message, or of message `k` or a later one
    obtain ⟨j, hx⟩ := hc c hlt
    obtain ⟨hj, hin, _⟩ := hG.crosses hx
    rcases h.cross c hcm j hx with h1 | h1
    · exact Nat.le_trans (hG.near hWB hWG hj (hs j h1)) (Nat.add_le_add_right hin W)
    · have := (hG.fmono (Nat.le_trans (Nat.sub_le k 2) h1) hj).1
      omega
  · have hlast : msgs.length - 1 < msgs.length := Nat.sub_lt (Nat.zero_lt_of_lt hk) Nat.one_pos
    have h1 := hG.fl hlast
    have h2 := (hG.fmono (Nat.le_sub_one_of_lt (Nat.lt_of_le_of_lt (Nat.sub_le k 2) hk)) hlast).1
    omega

theorem width_le (hG : Geometry M B P msgs) (hc : Crossed msgs) (hk : k < msgs.length) :
    hiOf msgs k ≤ fb msgs (k - 2) + (4 * B - 3) := by
  -- three messages on, each starting less than `B` blocks after its predecessor, and message `k + 1` spans at most `B`
  have p1 := hG.first_pred hc hk
  have p2 : fb msgs (k - 1) + 1 ≤ fb msgs (k - 2) + B := hG.first_pred hc (Nat.lt_of_le_of_lt (Nat.sub_le k 1) hk)
  have s1 := hG.span k hk
  have hB := hG.bpos hk
  by_cases hk1 : k + 1 < msgs.length
  · have p0 : fb msgs (k + 1) + 1 ≤ fb msgs k + B := hG.first_pred hc hk1
    have s0 := hG.span (k + 1) hk1
    rw [hiOf_eq hG hk1]
    omega
  · unfold hiOf
    rw [lb_nil (Nat.le_of_not_lt hk1), Nat.max_zero]
    omega

theorem look_le_hiOf (hG : Geometry M B P msgs) (hk : k < msgs.length) {x : Nat × Nat × Ln}
    (hx : x ∈ look msgs k) : x.2.2.l + 1 ≤ hiOf msgs k := by
  unfold hiOf
  rcases mem_look hx with ⟨_, _, h3⟩ | ⟨_, _, h3⟩
  · exact Nat.succ_le_succ (Nat.le_trans (hG.inside k hk _ h3).2.2 (Nat.le_max_left _ _))
  · obtain ⟨hlt, hm⟩ := head_mem_lt h3
    exact Nat.succ_le_succ (Nat.le_trans (hG.inside (k + 1) hlt _ hm).2.2 (Nat.le_max_right _ _))

theorem findMsg_PB (hG : Geometry M B P msgs) (hc : Crossed msgs) (hWB : B ≤ W) (hWG : G ≤ W)
    (hk : k < msgs.length) (h : Inv false msgs M B P G W k st) :
    PB msgs (k + 1) (bBoundW B W) (findMsg false msgs st k) ∧ (findMsg false msgs st k).nread ≤ hiOf msgs k := by
  obtain ⟨pb, hnr⟩ := h.b ⟨rfl, hc⟩
  have hnr := hnr hk
  have hlo : fb msgs (k - 2) ≤ st.nread := by
    match k, hk with
    | 0, hk =>
      show fb msgs 0 ≤ st.nread
      rw [hG.first_zero hc hk]
      exact Nat.zero_le _
    | k + 1, hk =>
      have hk' := Nat.lt_of_succ_lt hk
      exact Nat.le_trans (hG.fmono (Nat.sub_le k 1) hk').1
        (Nat.le_trans (hG.fl hk') (Nat.le_of_lt (h.nread_ge k (Nat.lt_succ_self k))))
  have hw : hiOf msgs k ≤ fb msgs (k - 2) - W + bBoundW B W :=
    Nat.le_trans (width_le hG hc hk) (by unfold bBoundW; omega)
  -- the window: from `W` blocks behind the first block of message `k - 2` to the highest block `findMsg k` touches
  have hb := findMsg_BOk hw (fun x hx => look_le_hiOf hG hk hx)
    (Q := fun c => ∀ j, Crosses msgs j c → j ∈ st.syslines ∨ k ≤ j)
    { desc := pb.desc
      ge := fun c hcm => Nat.sub_le_iff_le_add.2 (pb.lo_le hG hc hWB hWG hk h.ahead c hcm)
      lt := pb.lt
      q := pb.cross
      unread := fun c hcn j hx => Or.inr (Nat.le_of_not_lt fun hjk => by
        -- a block not read yet lies beyond the messages below `k`
        have := h.nread_ge j hjk
        have := (hG.crosses hx).2.2
        omega)
      lo_le := Nat.le_trans (Nat.sub_le _ _) hlo
      le_hi := Nat.le_trans hnr (Nat.succ_le_succ (Nat.le_max_left _ _))
      high := pb.high }
  refine ⟨⟨hb.desc, hb.lt, hb.high, fun c hcm j hx => ?_⟩, hb.le_hi⟩
  rw [(findMsg_syslines false msgs st k).1, List.mem_cons]
  rcases hb.q c hcm j hx with h1 | h1
  · exact Or.inl (Or.inr h1)
  · exact (Nat.eq_or_lt_of_le h1).imp (fun h2 => Or.inl h2.symm) id

theorem findMsg_inv (hG : Geometry M B P msgs) (hWB : B ≤ W) (hWG : G ≤ W)
    (hk : k < msgs.length) (h : Inv streamed msgs M B P G W k st) :
    InvAt streamed msgs M B P G W (k + 1) (k - 2) (findMsg streamed msgs st k) := by
  obtain ⟨hss, hsh⟩ := findMsg_syslines streamed msgs st k
  have hdesc : (k :: st.syslines).Pairwise (· > ·) :=
    List.pairwise_cons.2 ⟨h.slt, h.sdesc⟩
  -- the stored messages are among the last `sBound W P`; their number bounds both `syslines high` and `lines high`
  have hlen : (k :: st.syslines).length ≤ sBound W P :=
    desc_length_le_window _ (k + 1) _ hdesc fun c hcm => by
      rcases List.mem_cons.1 hcm with rfl | hcm
      · exact ⟨Nat.lt_succ_self _, Nat.succ_le_of_lt (Nat.lt_add_of_pos_right (Nat.succ_pos _))⟩
      · exact ⟨Nat.lt_succ_of_lt (h.slt c hcm), hG.win hWB hWG hk (Nat.le_of_lt (h.slt c hcm)) (h.ahead c hcm)⟩
  refine { b := fun hs => ?_, nread_ge := fun j hj => ?_, sdesc := hss ▸ hdesc, slt := ?_, ahead := ?_, shigh := ?_, l := ?_ }
  · obtain ⟨rfl, hc⟩ := hs
    obtain ⟨pb, hle⟩ := findMsg_PB hG hc hWB hWG hk h
    exact ⟨pb, fun hk1 => hiOf_eq hG hk1 ▸ hle⟩
  · by_cases hjk : j < k
    · exact Nat.lt_of_lt_of_le (h.nread_ge j hjk) (foldStep_frame streamed (look msgs k) st).nread
    · have hjk' : j = k := Nat.le_antisymm (Nat.le_of_lt_succ hj) (Nat.le_of_not_lt hjk)
      subst hjk'
      obtain ⟨ln, hln, hl⟩ := hG.last_mem hk
      exact hl ▸ findMsg_nread_ge streamed st hln
  · rw [hss]
    exact List.forall_mem_cons.2 ⟨Nat.lt_succ_self _, fun j hj => Nat.lt_succ_of_lt (h.slt j hj)⟩
  · rw [hss]
    exact List.forall_mem_cons.2 ⟨Or.inl (Nat.lt_of_le_of_lt (Nat.le_trans (hG.fmono (Nat.sub_le k 2) hk).1 (hG.fl hk))
      (Nat.lt_add_of_pos_right Nat.two_pos)), h.ahead⟩
  · exact hsh ▸ Nat.max_le.2 ⟨h.shigh, hlen⟩
  · exact hss ▸ findMsg_LOk hG.len_le hlen h.l

theorem InvAt.retarget {t' : Nat} (h : InvAt streamed msgs M B P G W n t st)
    (hw : ∀ j ∈ st.syslines, Ahead msgs G t' j) : InvAt streamed msgs M B P G W n t' st :=
  { h with ahead := hw }

/-- `DROP_TRY_GUARD`, `DROP_TRY_BACK` as extracted: `if bo_first > 1 { drop_data(bo_first - 2) }` -/
theorem victim_iff {prev j : Nat} :
    Victim msgs st prev j ↔ 1 < fb msgs prev ∧ j ∈ st.syslines ∧ lb msgs j ≤ fb msgs prev - 2 := Iff.rfl

/-- `drop_data_try(message t')` with every line visited and a consumer that holds none of the stored messages: whatever
stays in `syslines` is ahead of the target (or the guard failed), and the lines and crossed blocks of what left
`syslines` have gone with it -/
theorem dropTryG_inv {held : Nat → Bool} {t' : Nat} (hG1 : 1 ≤ G) (h : InvAt streamed msgs M B P G W n t st)
    (hheld : ∀ j ∈ st.syslines, held j = false) :
    InvAt streamed msgs M B P G W n t' (dropTryG true msgs held st t') := by
  have d := dropTryG_frame true msgs held st t'
  refine
    { b := fun hs => ?_
      nread_ge := fun j hj => by rw [d.nread]; exact h.nread_ge j hj
      sdesc := h.sdesc.sublist d.syslines
      slt := fun j hj => h.slt j (d.syslines.subset hj)
      ahead := ?_
      shigh := by rw [d.sHigh]; exact h.shigh
      l := ⟨h.l.nodup.sublist d.lines, ?_, by rw [d.lHigh]; exact h.l.high⟩ }
  · obtain ⟨pb, hnr⟩ := h.b hs
    refine ⟨⟨pb.desc.sublist d.blocks, fun c hcm => by rw [d.nread]; exact pb.lt c (d.blocks.subset hcm),
      by rw [d.bHigh]; exact pb.high, fun c hcm j hx => ?_⟩, by rw [d.nread]; exact hnr⟩
    obtain ⟨hc1, hc2⟩ := mem_dropTryG_blocks.1 hcm
    refine (pb.cross c hc1 j hx).imp_left fun h1 => mem_dropTryG_syslines.2 ⟨h1, fun hv => hc2 ⟨j, ⟨hv, hheld j h1⟩, ?_⟩⟩
    rw [dropVisited_all, List.take_length]
    exact hx.2
  · intro j hj
    obtain ⟨h1, h2⟩ := mem_dropTryG_syslines.1 hj
    by_cases hg : 1 < fb msgs t'
    · exact Or.inl ((Nat.sub_lt_iff_lt_add hg).1 (Nat.lt_of_not_le fun hle => h2 (victim_iff.2 ⟨hg, h1, hle⟩)))
    · exact Or.inr (Nat.le_trans (Nat.le_of_not_lt hg) hG1)
  · intro p hp
    obtain ⟨hp1, hp2⟩ := mem_dropTryG_lines.1 hp
    have hA := h.l.mem p hp1
    refine ⟨hA.1, hA.2.imp_left fun h2 => mem_dropTryG_syslines.2 ⟨h2, fun hv => hp2 ⟨hv, hheld _ h2, ?_⟩⟩⟩
    rw [dropVisited_all]
    exact hA.1

/-- `S4V.Model.MemSkip`: target 0 never runs (`DROP_BLOCK_LAST_INIT = 0`), so nothing is dropped while `bo_first ≤ 2` -/
theorem dropTryS_inv {held : Nat → Bool} {t' : Nat} (hG2 : 2 ≤ G) (h : InvAt streamed msgs M B P G W n t st)
    (hheld : ∀ j ∈ st.syslines, held j = false) :
    InvAt streamed msgs M B P G W n t' (dropTryS true msgs held st t') := by
  unfold dropTryS
  simp only []
  split
  next hskip =>
    have : fb msgs t' - 2 = 0 := hskip.2
    exact h.retarget fun j _ => Or.inr (by omega)
  next => exact dropTryG_inv (Nat.le_of_succ_le hG2) h hheld

theorem dropStep_inv {D : (Nat → Bool) → St → Nat → St}
    (hG : Geometry M B P msgs) (hk : k + 1 < msgs.length) (h : InvAt streamed msgs M B P G W (k + 1) (k - 2) st)
    (hD : ∀ held, (∀ j ∈ st.syslines, held j = false) → InvAt streamed msgs M B P G W (k + 1) (k - 1) (D held st (k - 1))) :
    Inv streamed msgs M B P G W (k + 1) (dropStep D prompt k st) := by
  unfold dropStep
  split
  · exact hD _ fun j hj => held_prompt (Nat.le_of_lt_succ (h.slt j hj))
  · -- `k = 0`: no drop, and message 0 is not behind its own target
    refine h.retarget fun j hj => Or.inl ?_
    have := h.slt j hj
    have hk0 : k = 0 := by omega
    have hj0 : j = 0 := by omega
    subst hk0 hj0
    exact Nat.lt_succ_of_le (Nat.le_succ_of_le (hG.fl (Nat.zero_lt_of_lt hk)))

theorem loopS_isLoop (v s : Bool) (msgs : List Msg) (lag : Nat → Nat) :
    IsLoop s msgs (dropStep (dropTryS v msgs) lag) (loopS v s msgs lag) :=
  ⟨fun _ _ => rfl, fun _ _ _ => rfl⟩

/-- `blocks high` is claimed of a plain file with every boundary crossed only: a streamed reader has `IsLoop.bHigh_streamed` -/
def Bounded (streamed : Bool) (msgs : List Msg) (M B P W : Nat) (st : St) : Prop :=
  ((streamed = false ∧ Crossed msgs) → st.bHigh ≤ bBoundW B W) ∧ st.lHigh ≤ lBound M W P ∧ st.sHigh ≤ sBound W P

theorem Inv.init (streamed : Bool) (msgs : List Msg) (M B P G W : Nat) : Inv streamed msgs M B P G W 0 St.init := by
  have hnil : ∀ {α : Type} {p : α → Prop}, ∀ x ∈ ([] : List α), p x := fun _ hx => nomatch hx
  exact ⟨fun _ => ⟨⟨.nil, hnil, Nat.zero_le _, hnil⟩, fun _ => Nat.zero_le _⟩, fun _ hj => absurd hj (Nat.not_lt_zero _), .nil,
    hnil, hnil, Nat.zero_le _, ⟨.nil, hnil, Nat.zero_le _⟩⟩

theorem bounded_of_isLoop {drop : Nat → St → St} {L : Nat → Nat → St → St}
    (hL : IsLoop streamed msgs drop L) (hG : Geometry M B P msgs) (hWB : B ≤ W) (hWG : 0 < msgs.length → G ≤ W)
    (hdrop : ∀ k st, k + 1 < msgs.length → InvAt streamed msgs M B P G W (k + 1) (k - 2) st →
      Inv streamed msgs M B P G W (k + 1) (drop k st)) :
    Bounded streamed msgs M B P W (L (msgs.length + 1) 0 St.init) :=
  hL.run (I := Inv streamed msgs M B P G W) (F := fun k => InvAt streamed msgs M B P G W (k + 1) (k - 2))
    (fun _ _ hk => findMsg_inv hG hWB (hWG (Nat.zero_lt_of_lt hk)) hk) hdrop (Inv.init streamed msgs M B P G W)
    (fun _ _ h => ⟨fun hs => (h.b hs).1.high, h.l.high, h.shigh⟩)
    fun _ => ⟨fun _ => Nat.zero_le _, Nat.zero_le _, Nat.zero_le _⟩

/-- `S4V.Model.Mem`: no drop runs while `bo_first ≤ 1`; window width `B` -/
theorem runG_bounded (hG : Geometry M B P msgs) :
    Bounded streamed msgs M B P B (runG true streamed prompt msgs) :=
  bounded_of_isLoop (G := 1) (loopG_isLoop true streamed msgs prompt) hG (Nat.le_refl _) hG.bpos
    fun _ _ hk h => dropStep_inv hG hk h fun _ => dropTryG_inv (Nat.le_refl _) h

/-- `S4V.Model.MemSkip`: no drop runs while `bo_first ≤ 2` (the first target, 0, is skipped); window
width `max B 2` -/
theorem runSG_bounded (hG : Geometry M B P msgs) :
    Bounded streamed msgs M B P (max B 2) (runSG true streamed prompt msgs) :=
  bounded_of_isLoop (G := 2) (loopS_isLoop true streamed msgs prompt) hG (Nat.le_max_left _ _) (fun _ => Nat.le_max_right _ _)
    fun _ _ hk h => dropStep_inv hG hk h fun _ => dropTryS_inv (Nat.le_refl _) h

end inv

section straddling
variable {M : Nat} {msgs : List Msg} {j : Nat}

theorem Straddling.fb_eq (h : Straddling M msgs) (hj : j < msgs.length) : fb msgs j = j := (h j hj).2.1

theorem Straddling.lb_eq (h : Straddling M msgs) (hj : j < msgs.length) : lb msgs j = j + 1 := (h j hj).2.2.1

theorem Straddling.crossing (h : Straddling M msgs) (hj : j < msgs.length) : (⟨j, j + 1⟩ : Ln) ∈ msgs.getD j [] :=
  (h j hj).2.2.2.2

end straddling

theorem Straddling.geometry {M : Nat} {msgs : List Msg} (h : Straddling M msgs) :
    Geometry M 2 1 msgs ∧ Crossed msgs := by
  refine ⟨⟨Nat.one_pos, fun j hj => ⟨List.length_pos_of_mem (Straddling.crossing h hj), (h j hj).1⟩,
    fun j hj ln hln => ?_, fun j hj => ?_, fun j hj => ?_, fun j hj => ?_⟩, fun c hc => ?_⟩
  · rw [Straddling.fb_eq h hj, Straddling.lb_eq h hj]
    exact (h j hj).2.2.2.1 ln hln
  · rw [Straddling.fb_eq h hj, Straddling.lb_eq h hj]
    exact Nat.lt_succ_self _
  · have hj := Nat.add_lt_of_lt_sub hj
    rw [Straddling.lb_eq h (Nat.lt_of_succ_lt hj), Straddling.fb_eq h hj]
    exact Nat.le_refl _
  · have hj := Nat.add_lt_of_lt_sub hj
    rw [Straddling.fb_eq h (Nat.lt_of_succ_lt hj), Straddling.fb_eq h hj]
    exact Nat.lt_succ_self j
  · -- block boundary `c` is crossed by the line `⟨c, c + 1⟩` of message `c`
    have hc' : c < msgs.length := by
      by_cases hn : 0 < msgs.length
      · rwa [Straddling.lb_eq h (Nat.sub_lt hn Nat.one_pos), Nat.sub_add_cancel hn] at hc
      · rw [lb_nil (by omega)] at hc
        exact absurd hc (Nat.not_lt_zero c)
    exact ⟨c, hc', ⟨c, c + 1⟩, Straddling.crossing h hc', Nat.le_refl _, Nat.lt_succ_self _⟩

/-- `n` groups of `p` one-line messages inside block `i` followed by one line crossing into block
`i + 1` (its own message): `p + 1` messages start in every block -/
def packed (p n : Nat) : List Msg :=
  (List.range n).flatMap fun i => (List.replicate p [⟨i, i⟩]) ++ [[⟨i, i + 1⟩]]

theorem cross3_geometry (n : Nat) : Geometry 3 2 1 (cross3 n) ∧ Crossed (cross3 n) :=
  Straddling.geometry (cross3_Straddling n)

/-! ### `Crossed` is needed on a plain file: a block whose end no line crosses is kept for good -/

structure KInv (st : St) : Prop where
  hi : st.blocks.length ≤ st.bHigh
  all : ∀ c, c < st.nread → c ∈ st.blocks

theorem KInv.bound {st : St} (h : KInv st) : st.nread ≤ st.bHigh :=
  Nat.le_trans (le_length_of_range h.all) h.hi

theorem readUpTo_KInv (b : Nat) : ∀ (fuel : Nat) (st : St), KInv st → KInv (readUpTo false fuel st b) := by
  refine readUpTo_induct fun st _ h => ?_
  rw [readOne_plain]
  refine ⟨Nat.le_max_right _ _, fun c hc => ?_⟩
  by_cases hcn : c = st.nread
  · exact hcn ▸ List.mem_cons_self
  · exact List.mem_cons_of_mem _ (h.all c (by simp only at hc; omega))

theorem KInv.congr {s s' : St} (h : KInv s) (e : SameB s s') : KInv s' :=
  ⟨by rw [e.blocks, e.bHigh]; exact h.hi, by rw [e.blocks, e.nread]; exact h.all⟩

/-- when no line of the file leaves its block, `drop_line` never has a block to drop -/
theorem dropTryG_KInv (v : Bool) (msgs : List Msg) (held : Nat → Bool) (st : St) (prev : Nat)
    (hflat : ∀ j, ∀ ln ∈ msgs.getD j [], ln.l ≤ ln.f) (h : KInv st) : KInv (dropTryG v msgs held st prev) := by
  have d := dropTryG_frame v msgs held st prev
  refine ⟨by rw [d.bHigh]; exact Nat.le_trans d.blocks.length_le h.hi, fun c hc => ?_⟩
  rw [d.nread] at hc
  refine mem_dropTryG_blocks.2 ⟨h.all c hc, fun ⟨j, _, ln, hln, hf, hl⟩ => ?_⟩
  have := hflat j ln (List.mem_of_mem_take hln)
  omega

theorem runG_keeps_all (v : Bool) (lag : Nat → Nat) (msgs : List Msg)
    (hflat : ∀ j, ∀ ln ∈ msgs.getD j [], ln.l ≤ ln.f) :
    ∀ ln ∈ msgs.getD (msgs.length - 1) [], ln.l + 1 ≤ (runG v false lag msgs).bHigh := by
  intro ln hln
  exact (loopG_isLoop v false msgs lag).run (I := fun _ => KInv)
    (F := fun k st => KInv st ∧ ∀ ln ∈ msgs.getD k [], ln.l + 1 ≤ st.nread) (C := fun st => ln.l + 1 ≤ st.bHigh)
    (fun k st _ h => ⟨findMsg_blocksInv KInv.congr (fun s _ _ => readUpTo_KInv _ _ s) h,
      fun _ hln => findMsg_nread_ge false st hln⟩)
    (fun k st _ h => dropStep_keeps (fun held st prev => dropTryG_KInv v msgs held st prev hflat) lag k st h.1)
    ⟨Nat.le_refl _, fun _ hc => absurd hc (Nat.not_lt_zero _)⟩
    (fun st _ h => Nat.le_trans (h.2 ln hln) h.1.bound)
    fun h0 => by rw [getD_of_le msgs _ [] (h0 ▸ Nat.zero_le _)] at hln; nomatch hln

theorem aligned_getD (n j : Nat) (hj : j < n) : (aligned n).getD j [] = [⟨j / 2, j / 2⟩] := by
  unfold aligned
  rw [getD_map_range n j _ hj]

theorem aligned_length (n : Nat) : (aligned n).length = n := by simp [aligned]

theorem mem_aligned {n j : Nat} {ln : Ln} (h : ln ∈ (aligned n).getD j []) : ln = ⟨j / 2, j / 2⟩ := by
  by_cases hj : j < n
  · rw [aligned_getD n j hj] at h
    exact List.mem_singleton.1 h
  · rw [getD_of_le _ _ [] (by rw [aligned_length]; omega)] at h
    nomatch h

theorem aligned_fb (n j : Nat) (hj : j < n) : fb (aligned n) j = j / 2 ∧ lb (aligned n) j = j / 2 := by
  unfold fb lb
  rw [aligned_getD n j hj]
  exact ⟨rfl, rfl⟩

theorem aligned_geometry (n : Nat) : Geometry 1 1 2 (aligned n) := by
  refine ⟨by decide, ?_, ?_, ?_, ?_, ?_⟩ <;> rw [aligned_length] <;> intro j hj
  · rw [aligned_getD n j hj]
    exact ⟨Nat.one_pos, Nat.le_refl _⟩
  · intro ln hln
    rw [mem_aligned hln, (aligned_fb n j hj).1, (aligned_fb n j hj).2]
    exact ⟨Nat.le_refl _, Nat.le_refl _, Nat.le_refl _⟩
  · rw [(aligned_fb n j hj).1, (aligned_fb n j hj).2]
    exact Nat.lt_succ_self _
  · have hj := Nat.add_lt_of_lt_sub hj
    rw [(aligned_fb n j (Nat.lt_of_succ_lt hj)).2, (aligned_fb n (j + 1) hj).1]
    exact Nat.div_le_div_right (Nat.le_succ j)
  · have hj := Nat.add_lt_of_lt_sub hj
    rw [(aligned_fb n j (Nat.lt_of_add_right_lt hj)).1, (aligned_fb n (j + 2) hj).1, Nat.add_div_right j Nat.two_pos]
    exact Nat.lt_succ_self _

theorem aligned_keeps_all (v : Bool) (lag : Nat → Nat) (n : Nat) (hn : 0 < n) :
    (n - 1) / 2 + 1 ≤ (runG v false lag (aligned n)).bHigh := by
  refine runG_keeps_all v lag (aligned n) (fun j ln hln => by rw [mem_aligned hln]; exact Nat.le_refl _)
    ⟨(n - 1) / 2, (n - 1) / 2⟩ ?_
  rw [aligned_length, aligned_getD n (n - 1) (Nat.sub_lt hn Nat.one_pos)]
  exact List.mem_singleton_self _

/-- a prompt consumer is needed: with one as far behind as the channel allows, what `drop_data_try` selects is among the
last five messages sent, all still held, so the first line of every message stays -/
theorem runG_lagging_grows {M : Nat} {msgs : List Msg} (hS : Straddling M msgs) (v streamed : Bool) :
    msgs.length ≤ (runG v streamed lagging msgs).lHigh := by
  refine (loopG_isLoop v streamed msgs lagging).run (C := fun st => msgs.length ≤ st.lHigh)
      (I := fun k st => Kept 0 k st ∧ ∀ j ∈ st.syslines, j < k ∧ k ≤ j + 4)
      (F := fun k st => Kept 0 (k + 1) st ∧ ∀ j ∈ st.syslines, j ≤ k ∧ k ≤ j + 4)
      (fun k st hk h => by
        refine ⟨findMsg_Kept streamed (List.length_pos_of_mem (Straddling.crossing hS hk)) h.1, fun j hj => ?_⟩
        rw [(findMsg_syslines streamed msgs st k).1] at hj
        rcases List.mem_cons.1 hj with rfl | hj
        · exact ⟨Nat.le_refl _, Nat.le_add_right _ _⟩
        · exact ⟨Nat.le_of_lt (h.2 j hj).1, (h.2 j hj).2⟩)
      (fun k st hk h => by
        unfold dropStep
        split
        · refine ⟨dropTryG_Kept (fun j hv hh => ?_) h.1, fun j hj => ?_⟩
          · -- the consumer holds the `CHANNEL_CAPACITY + 2 = 7` messages sent last, and what is stored is among the last five
            have := h.2 j hv.2.1
            simp only [lagging, CHANNEL_CAPACITY, Nat.min_self, decide_eq_false_iff_not] at hh
            omega
          · obtain ⟨h1, h2⟩ := mem_dropTryG_syslines.1 hj
            have hjk := (h.2 j h1).1
            have hk' := Nat.lt_of_succ_lt hk
            -- the message four behind `k` ends in block `j + 1 = k - 3`, the target
            have hf := Straddling.fb_eq hS (Nat.lt_of_le_of_lt (Nat.sub_le k 1) hk')
            have hl := Straddling.lb_eq hS (Nat.lt_of_le_of_lt hjk hk')
            refine ⟨Nat.lt_succ_of_le hjk, Nat.le_of_not_lt fun hlt => h2 (victim_iff.2 ?_)⟩
            have : 1 < fb msgs (k - 1) ∧ lb msgs j ≤ fb msgs (k - 1) - 2 := by omega
            exact ⟨this.1, h1, this.2⟩
        · exact ⟨h.1, fun j hj => by have := h.2 j hj; omega⟩)
      ⟨Kept.init 0, fun _ hj => nomatch hj⟩ (fun st hn h => by have := h.1.bound; omega) fun h0 => h0 ▸ Nat.zero_le _

theorem runSG_streamed_bHigh (v : Bool) (lag : Nat → Nat) (msgs : List Msg) : (runSG v true lag msgs).bHigh ≤ 2 :=
  (loopS_isLoop v true msgs lag).bHigh_streamed (dropStep_keeps (fun held st prev h => by
    unfold dropTryS
    simp only []
    split
    · exact h
    · exact dropTryG_BStr v msgs held st prev h) lag)

end S4V.Lemmas.MemGeneral
