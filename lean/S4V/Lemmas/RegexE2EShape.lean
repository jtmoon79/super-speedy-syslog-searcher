/-
C04, regex slice — the word-shape hypotheses of the generic end-to-end statement DISCHARGED FROM THE CATALOGUES.

`e2e_of_result` / `e2e_end` (`S4V.Lemmas.RegexE2ERow`) assume `shapeOK` (digit counts, known month names, zone notation) and
`rangeOK` (calendar values) of the captured words. The words a named group can capture are slices of the symbolic words of
the row's derived catalogue (`S4V.Lemmas.RegexAuto.rowBodyE/P`; `conc_slice`), so most of both hypotheses is a property of the
catalogue: a symbolic test per field kind (`yearOKs` … `tzOKs`, each `OptSound` for `yearOK` … `tzOK`) is run over every entry that
records the field's group (`fieldPass`, `fieldPass_sound`). `shapeFromCatalogue` discharges `shapeOK` (up to a four-digit fill
year where the text has no year). `rangeFromCatalogue` discharges month 1–12, day 1–31, minute ≤ 59, second ≤ 60 and leaves
`calendarOK`: hour ≤ 23 (the rows accept `24`), numeric zone hours ≤ 23 / minutes ≤ 59 (the rows accept `+29:99`), and that the day
exists in that month of that year (Feb 30, Feb 29). `catOK` is both checks in ONE traversal of the catalogue: what the row
certificates state (`S4V.Lemmas.RegexTable`).
-/
import S4V.Lemmas.RegexE2ERow

namespace S4V.Lemmas.RegexE2E
open S4V.Model.Regex S4V.Lemmas.RegexStep S4V.Lemmas.RegexSym S4V.Lemmas.RegexRows S4V.Lemmas.RegexAuto
open S4V.Gen.TimeTables S4V.Model.Time S4V.Model.DtParse S4V.Lemmas.DtParse S4V.Props.TimeSpec S4V.Lemmas.RegexZones

def symSlice (ss : List Sym) (ab : Nat × Nat) : List Sym := (ss.drop ab.1).take (ab.2 - ab.1)

/-- `Conc` unfolded along the symbolic word: `simp only` with these two turns `Conc [s₁, …, sₙ] w` into the bytes of `w` -/
theorem conc_cons_iff {s : Sym} {ss : List Sym} {w : List UInt8} :
    Conc (s :: ss) w ↔ ∃ b w', w = b :: w' ∧ symHas s b = true ∧ Conc ss w' :=
  ⟨conc_cons, fun ⟨_, _, e, hb, hc⟩ => e ▸ ⟨hb, hc⟩⟩

theorem conc_nil_iff {w : List UInt8} : Conc [] w ↔ w = [] := ⟨conc_nil, fun e => e ▸ trivial⟩

theorem conc_drop : ∀ {ss : List Sym} {w : List UInt8} (n : Nat), Conc ss w → Conc (ss.drop n) (w.drop n) := by
  intro ss
  induction ss with
  | nil => intro w n h; rw [conc_nil h]; simp [Conc]
  | cons s ss ih =>
    intro w n h
    obtain ⟨b, w', rfl, hb, hc⟩ := conc_cons h
    cases n with
    | zero => exact h
    | succ n => simpa using ih n hc

theorem conc_take : ∀ {ss : List Sym} {w : List UInt8} (n : Nat), Conc ss w → Conc (ss.take n) (w.take n) := by
  intro ss
  induction ss with
  | nil => intro w n h; rw [conc_nil h]; simp [Conc]
  | cons s ss ih =>
    intro w n h
    obtain ⟨b, w', rfl, hb, hc⟩ := conc_cons h
    cases n with
    | zero => simp [Conc]
    | succ n => simpa [Conc, hb] using ih n hc

theorem conc_slice {ss : List Sym} {w : List UInt8} (ab : Nat × Nat) (h : Conc ss w) : Conc (symSlice ss ab) (sliceOf w ab) :=
  conc_take _ (conc_drop _ h)

def slotsPass (g : Nat) (P : List Sym → Bool) (body : List Piece) : Bool :=
  body.all (fun q => q.dom.all (fun e =>
    match capGet e.2 g with
    | some ab => P (symSlice e.1 ab)
    | none => true))

/-- some selection leaves group `g` unrecorded -/
def mayNone (g : Nat) (body : List Piece) : Bool :=
  body.all (fun q => q.dom.any (fun e => (capGet e.2 g).isNone))

theorem selText_valid {g : Nat} : ∀ {body : List Piece} {sel : Sel}, Valid body sel →
    match selText g sel with
    | some t => ∃ q ∈ body, ∃ e ∈ q.dom, ∃ ab w, capGet e.2 g = some ab ∧ Conc e.1 w ∧ t = sliceOf w ab
    | none => ∀ q ∈ body, ∃ e ∈ q.dom, capGet e.2 g = none
  | [], [], _ => nofun
  | q :: qs, ew :: sel, ⟨hm, hc, hv⟩ => by
    have ih := selText_valid (g := g) hv
    simp only [selText]
    cases hs : selText g sel with
    | some t =>
      rw [hs] at ih
      obtain ⟨q', hq', rest⟩ := ih
      exact ⟨q', List.mem_cons_of_mem _ hq', rest⟩
    | none =>
      rw [hs] at ih
      cases hg : capGet ew.1.2 g with
      | none =>
        intro q' hq'
        rcases List.mem_cons.mp hq' with rfl | hq'
        · exact ⟨ew.1, hm, hg⟩
        · exact ih q' hq'
      | some ab => exact ⟨q, List.mem_cons_self, ew.1, hm, ab, ew.2, hg, hc, rfl⟩

def OptSound (PS : Option (List Sym) → Bool) (PC : Option Bytes → Bool) : Prop :=
  (PS none = true → PC none = true) ∧ ∀ ss w, PS (some ss) = true → Conc ss w → PC (some w) = true

def fieldPass (row : RRow) (body : List Piece) (name : String) (PS : Option (List Sym) → Bool) : Bool :=
  match row.names.lookup name with
  | none => PS none
  | some g => slotsPass g (fun ss => PS (some ss)) body && (!mayNone g body || PS none)

/-- whatever the selection, the captured field satisfies the concrete predicate the symbolic test is sound for -/
theorem fieldPass_sound {row : RRow} {body : List Piece} {name : String} {PS : Option (List Sym) → Bool}
    {PC : Option Bytes → Bool} (h : fieldPass row body name PS = true) (hs : OptSound PS PC)
    {sel : Sel} (hv : Valid body sel) : PC (selField row sel name) = true := by
  unfold fieldPass at h
  unfold selField
  cases hl : row.names.lookup name with
  | none => rw [hl] at h; exact hs.1 h
  | some g =>
    rw [hl] at h
    simp only [Bool.and_eq_true, Bool.or_eq_true, Bool.not_eq_true', Option.bind_some] at h ⊢
    have hsel := selText_valid (g := g) hv
    cases ht : selText g sel with
    | some t =>
      rw [ht] at hsel
      obtain ⟨q, hq, e, he, ab, w, hg, hc, rfl⟩ := hsel
      have := List.all_eq_true.mp (List.all_eq_true.mp h.1 q hq) e he
      rw [hg] at this
      exact hs.2 _ _ this (conc_slice ab hc)
    | none =>
      rw [ht] at hsel
      refine h.2.elim (fun h2 => ?_) hs.1
      have : mayNone g body = true := List.all_eq_true.mpr fun q hq =>
        let ⟨e, he, hg⟩ := hsel q hq
        List.any_eq_true.mpr ⟨e, he, by rw [hg]; rfl⟩
      rw [this] at h2
      cases h2

def allIn (s : Sym) (p : UInt8 → Bool) : Bool :=
  s.all (fun r => (List.range' r.1 (r.2 + 1 - r.1)).all (fun n => p (UInt8.ofNat n)))

theorem allIn_sound {s : Sym} {p : UInt8 → Bool} {b : UInt8} (h : allIn s p = true) (hb : symHas s b = true) : p b = true := by
  simp only [symHas, inRanges, List.any_eq_true, Bool.and_eq_true, decide_eq_true_eq] at hb
  obtain ⟨r, hr, h1, h2⟩ := hb
  have := List.all_eq_true.mp (List.all_eq_true.mp h r hr) b.toNat (List.mem_range'_1.mpr ⟨h1, by omega⟩)
  simpa using this

theorem conc_all {p : UInt8 → Bool} : ∀ {ss : List Sym} {w : List UInt8},
    ss.all (fun s => allIn s p) = true → Conc ss w → w.all p = true := by
  intro ss
  induction ss with
  | nil => intro w _ hc; rw [conc_nil hc]; rfl
  | cons s ss ih =>
    intro w h hc
    obtain ⟨b, w', rfl, hb, hc'⟩ := conc_cons hc
    simp only [List.all_cons, Bool.and_eq_true] at h ⊢
    exact ⟨allIn_sound h.1 hb, ih h.2 hc'⟩

def digsS (n : Nat) (ss : List Sym) : Bool := ss.length == n && ss.all (fun s => allIn s isDigit)

theorem digsS_sound {n : Nat} {ss : List Sym} {w : List UInt8} (h : digsS n ss = true) (hc : Conc ss w) : digs n w = true := by
  simp only [digsS, digs, Bool.and_eq_true, beq_iff_eq] at h ⊢
  exact ⟨by rw [← conc_length hc]; exact h.1, conc_all h.2 hc⟩

theorem digsS12_sound {ss : List Sym} {w : List UInt8} (h : (digsS 1 ss || digsS 2 ss) = true) (hc : Conc ss w) :
    (digs 1 w || digs 2 w) = true := by
  rw [Bool.or_eq_true] at h ⊢
  exact h.imp (digsS_sound · hc) (digsS_sound · hc)

def enumAll : List Sym → (Bytes → Bool) → Bool
  | [], P => P []
  | s :: ss, P => allIn s (fun b => enumAll ss (fun w => P (b :: w)))

theorem enumAll_sound : ∀ {ss : List Sym} {P : Bytes → Bool} {w : List UInt8}, enumAll ss P = true → Conc ss w → P w = true := by
  intro ss
  induction ss with
  | nil => intro P w h hc; rw [conc_nil hc]; exact h
  | cons s ss ih =>
    intro P w h hc
    obtain ⟨b, w', rfl, hb, hc'⟩ := conc_cons hc
    simp only [enumAll] at h
    exact ih (P := fun w => P (b :: w)) (allIn_sound h hb) hc'

def symSize (s : Sym) : Nat := s.foldl (fun a r => a + (r.2 + 1 - r.1)) 0
def wordCount (ss : List Sym) : Nat := ss.foldl (fun a s => a * symSize s) 1

/-- Enumeration is meant for words whose symbols are single bytes or nearly so: it is refused (false) when the symbolic word has more
than `bound` concrete words. In the rows' catalogues a month or day word is a literal (one concrete word) and a minute or second
word is `[0-5][0-9]` (60 words) or the literal `60`; the bounds 16 and 128 in `catChecks` are caps above these. -/
def enumOK (bound : Nat) (ss : List Sym) (P : Bytes → Bool) : Bool := decide (wordCount ss ≤ bound) && enumAll ss P

theorem enumOK_sound {bound : Nat} {ss : List Sym} {P : Bytes → Bool} {w : List UInt8} (h : enumOK bound ss P = true)
    (hc : Conc ss w) : P w = true := by
  simp only [enumOK, Bool.and_eq_true] at h
  exact enumAll_sound h.2 hc

def fillOK (yk : DTFS_Year) (fill : Option Int) : Bool :=
  match yk with
  | .fill =>
    match fill with
    | some y => decide (1000 ≤ y ∧ y ≤ 9999)
    | none => true
  | _ => true

theorem fillOK_of (yk : DTFS_Year) (fill : Option Int) (h : ∀ y, fill = some y → 1000 ≤ y ∧ y ≤ 9999) :
    fillOK yk fill = true := by
  cases yk <;> simp only [fillOK]
  cases fill with
  | none => rfl
  | some y => simpa using h y rfl

def yearOKs (yk : DTFS_Year) (o : Option (List Sym)) : Bool :=
  match yk, o with
  | .Y, some ss => digsS 4 ss
  | .fill, some ss => digsS 4 ss
  | .y, some ss => digsS 2 ss
  | .fill, none => true
  | _, _ => false

theorem yearOKs_sound (yk : DTFS_Year) (fill : Option Int) (hf : fillOK yk fill = true) :
    OptSound (yearOKs yk) (fun o => yearOK yk o fill) :=
  match yk, hf with
  | .Y, _ | .y, _ => ⟨nofun, fun _ _ h hc => digsS_sound h hc⟩
  | .fill, hf => ⟨fun _ => by cases fill <;> exact hf, fun _ _ h hc => digsS_sound h hc⟩
  | .none_, _ => ⟨nofun, nofun⟩

def isMonthName (t : Bytes) : Bool := (lookup monthNamesB t).isSome

def monthOKs (mk : DTFS_Month) (o : Option (List Sym)) : Bool :=
  match mk, o with
  | .m, some ss => digsS 2 ss
  | .ms, some ss => digsS 1 ss || digsS 2 ss
  | .b, some ss => enumOK 16 ss isMonthName
  | .B, some ss => enumOK 16 ss isMonthName
  | _, _ => false

theorem monthOKs_sound : ∀ mk : DTFS_Month, OptSound (monthOKs mk) (monthOK mk)
  | .m => ⟨nofun, fun _ _ h hc => digsS_sound h hc⟩
  | .ms => ⟨nofun, fun _ _ h hc => digsS12_sound h hc⟩
  | .b | .B => ⟨nofun, fun _ _ h hc => enumOK_sound (P := isMonthName) h hc⟩
  | .none_ => ⟨nofun, nofun⟩

def dayOKs (o : Option (List Sym)) : Bool :=
  match o with
  | some [x] => allIn x isDigit
  | some [a, b] => allIn a (fun c => c == 32 || isDigit c) && allIn b isDigit
  | _ => false

theorem dayOKs_sound : OptSound dayOKs dayOK := by
  refine ⟨nofun, fun ss w h hc => ?_⟩
  match ss, h with
  | [x], h =>
    simp only [conc_cons_iff, conc_nil_iff] at hc
    obtain ⟨b, _, rfl, hb, rfl⟩ := hc
    exact allIn_sound h hb
  | [a, b], h =>
    simp only [conc_cons_iff, conc_nil_iff] at hc
    obtain ⟨x, _, rfl, hx, y, _, rfl, hy, rfl⟩ := hc
    simp only [dayOKs, dayOK, Bool.and_eq_true] at h ⊢
    exact ⟨allIn_sound (p := fun c => c == 32 || isDigit c) h.1 hx, allIn_sound h.2 hy⟩

def hourOKs (hk : DTFS_Hour) (o : Option (List Sym)) : Bool :=
  match hk, o with
  | .H, some ss => digsS 2 ss
  | .k, some ss => digsS 1 ss || digsS 2 ss
  | _, _ => false

theorem hourOKs_sound : ∀ hk : DTFS_Hour, OptSound (hourOKs hk) (hourOK hk)
  | .H => ⟨nofun, fun _ _ h hc => digsS_sound h hc⟩
  | .k => ⟨nofun, fun _ _ h hc => digsS12_sound h hc⟩
  | .I | .l | .none_ => ⟨nofun, nofun⟩

def minuteOKs (o : Option (List Sym)) : Bool :=
  match o with
  | some ss => digsS 2 ss
  | none => false

theorem minuteOKs_sound : OptSound minuteOKs minuteOK := ⟨nofun, fun _ _ h hc => digsS_sound h hc⟩

def secOKs (sk : DTFS_Second) (o : Option (List Sym)) : Bool :=
  match sk, o with
  | .S, some ss => digsS 2 ss
  | .S, none => false
  | _, _ => true

theorem secOKs_sound : ∀ sk : DTFS_Second, OptSound (secOKs sk) (secOK sk)
  | .S => ⟨nofun, fun _ _ h hc => digsS_sound h hc⟩
  | .fill | .none_ => ⟨fun _ => rfl, fun _ _ _ _ => rfl⟩

def fracOKs (fk : DTFS_Fractional) (o : Option (List Sym)) : Bool :=
  match fk, o with
  | .f, some ss => ss.all (fun s => allIn s isDigit) && decide (1 ≤ ss.length) && decide (ss.length ≤ 12)
  | .f, none => false
  | .none_, _ => true

theorem fracOKs_sound : ∀ fk : DTFS_Fractional, OptSound (fracOKs fk) (fracOK fk)
  | .f => ⟨nofun, fun ss w h hc => by
      simp only [fracOKs, fracOK, Bool.and_eq_true, decide_eq_true_eq, ← conc_length hc] at h ⊢
      exact ⟨⟨conc_all h.1.1 hc, h.1.2⟩, h.2⟩⟩
  | .none_ => ⟨fun _ => rfl, fun _ _ _ _ => rfl⟩

/-- ASCII signs only: the catalogues hold the ASCII part of `[\+\-−]` -/
def tzNumOKs (short : Bool) (ss : List Sym) : Bool :=
  match ss with
  | [s, h1, h2] => short && allIn s isSign && allIn h1 isDigit && allIn h2 isDigit
  | [s, h1, h2, m1, m2] => allIn s isSign && allIn h1 isDigit && allIn h2 isDigit && allIn m1 isDigit && allIn m2 isDigit
  | [s, h1, h2, c, m1, m2] =>
    allIn s isSign && allIn h1 isDigit && allIn h2 isDigit && allIn c (fun b => b == 58) && allIn m1 isDigit && allIn m2 isDigit
  | _ => false

theorem stripMinus_sign {s : UInt8} (r : Bytes) (h : isSign s = true) : stripMinus (s :: r) = s :: r := by
  have : s = 43 ∨ s = 45 := by simpa [isSign] using h
  rcases this with rfl | rfl <;> rfl

theorem tzNumOKs_sound {short : Bool} {ss : List Sym} {w : List UInt8} (h : tzNumOKs short ss = true) (hc : Conc ss w) :
    tzNumOK short (stripMinus w) = true := by
  unfold tzNumOKs at h
  split at h
  · simp only [conc_cons_iff, conc_nil_iff] at hc
    obtain ⟨a, _, rfl, ha, b, _, rfl, hb, c, _, rfl, hcc, rfl⟩ := hc
    simp only [Bool.and_eq_true] at h
    obtain ⟨⟨⟨hs, x1⟩, x2⟩, x3⟩ := h
    have y1 := allIn_sound x1 ha
    rw [stripMinus_sign _ y1]
    simp [tzNumOK, hs, y1, allIn_sound x2 hb, allIn_sound x3 hcc]
  · simp only [conc_cons_iff, conc_nil_iff] at hc
    obtain ⟨a, _, rfl, ha, b, _, rfl, hb, c, _, rfl, hcc, d, _, rfl, hd, e, _, rfl, he, rfl⟩ := hc
    simp only [Bool.and_eq_true] at h
    obtain ⟨⟨⟨⟨x1, x2⟩, x3⟩, x4⟩, x5⟩ := h
    have y1 := allIn_sound x1 ha
    rw [stripMinus_sign _ y1]
    simp [tzNumOK, y1, allIn_sound x2 hb, allIn_sound x3 hcc, allIn_sound x4 hd, allIn_sound x5 he]
  · simp only [conc_cons_iff, conc_nil_iff] at hc
    obtain ⟨a, _, rfl, ha, b, _, rfl, hb, c, _, rfl, hcc, d, _, rfl, hd, e, _, rfl, he, f, _, rfl, hf, rfl⟩ := hc
    simp only [Bool.and_eq_true] at h
    obtain ⟨⟨⟨⟨⟨x1, x2⟩, x3⟩, x4⟩, x5⟩, x6⟩ := h
    have y1 := allIn_sound x1 ha
    have y4 : (d == 58) = true := allIn_sound (p := fun b => b == 58) x4 hd
    rw [stripMinus_sign _ y1]
    simp [tzNumOK, y1, allIn_sound x2 hb, allIn_sound x3 hcc, y4, allIn_sound x5 he, allIn_sound x6 hf]
  · cases h

def tzOKs (zk : DTFS_Tz) (o : Option (List Sym)) : Bool :=
  match zk, o with
  | .z, some ss => tzNumOKs false ss
  | .zc, some ss => tzNumOKs false ss
  | .zp, some ss => tzNumOKs true ss
  | .Z, some _ => true
  | .fill, _ => true
  | .none_, _ => true
  | _, none => false

theorem tzOKs_sound : ∀ zk : DTFS_Tz, OptSound (tzOKs zk) (tzOK zk)
  | .z | .zc | .zp => ⟨nofun, fun _ _ h hc => tzNumOKs_sound h hc⟩
  | .Z => ⟨nofun, fun _ _ _ _ => rfl⟩
  | .fill | .none_ => ⟨fun _ => rfl, fun _ _ _ _ => rfl⟩

def shapeFromCatalogue (row : RRow) (body : List Piece) : Bool :=
  fieldPass row body "year" (yearOKs row.dtfs.year) && fieldPass row body "month" (monthOKs row.dtfs.month) &&
  fieldPass row body "day" dayOKs && fieldPass row body "hour" (hourOKs row.dtfs.hour) &&
  fieldPass row body "minute" minuteOKs && fieldPass row body "second" (secOKs row.dtfs.second) &&
  fieldPass row body "fractional" (fracOKs row.dtfs.fractional) && fieldPass row body "tz" (tzOKs row.dtfs.tz)

theorem shapeFromCatalogue_sound {row : RRow} {body : List Piece} (h : shapeFromCatalogue row body = true)
    (sel : Sel) (hv : Valid body sel) (fill : Option Int) (hf : fillOK row.dtfs.year fill = true) :
    shapeOK row.dtfs (selFields row sel) fill = true := by
  simp only [shapeFromCatalogue, Bool.and_eq_true] at h
  obtain ⟨⟨⟨⟨⟨⟨⟨hy, hm⟩, hd⟩, hh⟩, hn⟩, hs⟩, hfr⟩, hz⟩ := h
  simp only [shapeOK, Bool.and_eq_true, selFields]
  exact ⟨⟨⟨⟨⟨⟨⟨fieldPass_sound (PC := fun o => yearOK row.dtfs.year o fill) hy (yearOKs_sound _ fill hf) hv,
    fieldPass_sound hm (monthOKs_sound _) hv⟩, fieldPass_sound hd dayOKs_sound hv⟩,
    fieldPass_sound hh (hourOKs_sound _) hv⟩, fieldPass_sound hn minuteOKs_sound hv⟩,
    fieldPass_sound hs (secOKs_sound _) hv⟩, fieldPass_sound hfr (fracOKs_sound _) hv⟩, fieldPass_sound hz (tzOKs_sound _) hv⟩

/-- a concrete predicate on the field, tested on every concrete word of the symbolic words (`pn` = its value on an absent field) -/
def valS (bound : Nat) (PC : Option Bytes → Bool) (o : Option (List Sym)) : Bool :=
  match o with
  | some ss => enumOK bound ss (fun t => PC (some t))
  | none => PC none

theorem valS_sound (bound : Nat) (PC : Option Bytes → Bool) : OptSound (valS bound PC) PC :=
  ⟨fun h => h, fun _ _ h hc => enumOK_sound (P := fun t => PC (some t)) h hc⟩

def monthIn (mk : DTFS_Month) (o : Option Bytes) : Bool := decide (1 ≤ monthVal mk o ∧ monthVal mk o ≤ 12)
def dayIn (o : Option Bytes) : Bool := decide (1 ≤ dayVal o ∧ dayVal o ≤ 31)
def minuteIn (o : Option Bytes) : Bool := decide (numOptVal o ≤ 59)
def secIn (sk : DTFS_Second) (o : Option Bytes) : Bool := decide (secVal sk o ≤ 60)

def rangeFromCatalogue (row : RRow) (body : List Piece) : Bool :=
  fieldPass row body "month" (valS 16 (monthIn row.dtfs.month)) && fieldPass row body "day" (valS 16 dayIn) &&
  fieldPass row body "minute" (valS 128 minuteIn) && fieldPass row body "second" (valS 128 (secIn row.dtfs.second))

/-- what the catalogue does NOT guarantee: hour ≤ 23 (the rows accept `24`), numeric zone hours ≤ 23 and minutes ≤ 59
(`[012][[:digit:]]`, `[[:digit:]]{2}`), and the day exists in that month of that year -/
def calendarOK (set : DTFSSet) (c : Captures) (fill : Option Int) : Bool :=
  decide (numOptVal c.hour ≤ 23) && tzRange set.tz c.tz &&
  validDate (yearVal set.year c.year fill) (monthVal set.month c.month) (dayVal c.day)

theorem rangeFromCatalogue_sound {row : RRow} {body : List Piece} (h : rangeFromCatalogue row body = true)
    (sel : Sel) (hv : Valid body sel) (fill : Option Int) (hc : calendarOK row.dtfs (selFields row sel) fill = true) :
    rangeOK row.dtfs (selFields row sel) fill = true := by
  simp only [rangeFromCatalogue, Bool.and_eq_true] at h
  obtain ⟨⟨⟨hm, hd⟩, hn⟩, hs⟩ := h
  have h1 := fieldPass_sound hm (valS_sound _ _) hv
  have h2 := fieldPass_sound hd (valS_sound _ _) hv
  have h3 := fieldPass_sound hn (valS_sound _ _) hv
  have h4 := fieldPass_sound hs (valS_sound _ _) hv
  simp only [calendarOK, Bool.and_eq_true] at hc
  simp only [monthIn, dayIn, minuteIn, secIn] at h1 h2 h3 h4
  simp only [rangeOK, Bool.and_eq_true, selFields] at hc ⊢
  exact ⟨⟨⟨⟨⟨⟨h1, h2⟩, hc.1.1⟩, h3⟩, h4⟩, hc.1.2⟩, hc.2⟩

/-- `rangeOK` is `calendarOK` plus the four catalogue-guaranteed ranges (nothing is lost by the split) -/
theorem rangeOK_iff (set : DTFSSet) (c : Captures) (fill : Option Int) :
    rangeOK set c fill = (monthIn set.month c.month && dayIn c.day && minuteIn c.minute && secIn set.second c.second &&
      calendarOK set c fill) := by
  simp only [rangeOK, calendarOK, monthIn, dayIn, minuteIn, secIn]
  ac_rfl

theorem calendarOK_of_rangeOK {set : DTFSSet} {c : Captures} {fill : Option Int} (h : rangeOK set c fill = true) :
    calendarOK set c fill = true := by
  rw [rangeOK_iff, Bool.and_eq_true] at h
  exact h.2

def slotsPassAll (checks : List (Nat × (List Sym → Bool))) (body : List Piece) : Bool :=
  body.all (fun q => q.dom.all (fun e => checks.all (fun c =>
    match capGet e.2 c.1 with
    | some ab => c.2 (symSlice e.1 ab)
    | none => true)))

theorem slotsPass_of_all {checks : List (Nat × (List Sym → Bool))} {body : List Piece} (h : slotsPassAll checks body = true)
    {g : Nat} {P : List Sym → Bool} (hm : (g, P) ∈ checks) : slotsPass g P body = true := by
  simp only [slotsPassAll, slotsPass, List.all_eq_true] at h ⊢
  intro q hq e he
  exact h q hq e he (g, P) hm

theorem slotsPass_mono {g : Nat} {P P' : List Sym → Bool} (hP : ∀ ss, P ss = true → P' ss = true) {body : List Piece}
    (h : slotsPass g P body = true) : slotsPass g P' body = true := by
  simp only [slotsPass, List.all_eq_true] at h ⊢
  intro q hq e he
  have h1 := h q hq e he
  cases hc : capGet e.2 g with
  | none => rfl
  | some ab => rw [hc] at h1; exact hP _ h1

theorem fieldPass_mono {row : RRow} {body : List Piece} {name : String} {PS PS' : Option (List Sym) → Bool}
    (hP : ∀ o, PS o = true → PS' o = true) (h : fieldPass row body name PS = true) : fieldPass row body name PS' = true := by
  unfold fieldPass at h ⊢
  cases hl : row.names.lookup name with
  | none => rw [hl] at h; exact hP _ h
  | some g =>
    rw [hl] at h
    simp only [Bool.and_eq_true, Bool.or_eq_true] at h ⊢
    exact ⟨slotsPass_mono (fun ss => hP (some ss)) h.1, h.2.imp id (hP none)⟩

def both (A B : Option (List Sym) → Bool) : Option (List Sym) → Bool := fun o => A o && B o

theorem both_l {A B : Option (List Sym) → Bool} (o : Option (List Sym)) (h : both A B o = true) : A o = true := by
  simp only [both, Bool.and_eq_true] at h; exact h.1

theorem both_r {A B : Option (List Sym) → Bool} (o : Option (List Sym)) (h : both A B o = true) : B o = true := by
  simp only [both, Bool.and_eq_true] at h; exact h.2

def catChecks (row : RRow) : List (String × (Option (List Sym) → Bool)) :=
  [("year", yearOKs row.dtfs.year),
   ("month", both (monthOKs row.dtfs.month) (valS 16 (monthIn row.dtfs.month))),
   ("day", both dayOKs (valS 16 dayIn)),
   ("hour", hourOKs row.dtfs.hour),
   ("minute", both minuteOKs (valS 128 minuteIn)),
   ("second", both (secOKs row.dtfs.second) (valS 128 (secIn row.dtfs.second))),
   ("fractional", fracOKs row.dtfs.fractional),
   ("tz", tzOKs row.dtfs.tz)]

/-- `catOK row` below is `catOKWith (catChecks row) row` written out -/
def catOKWith (checks : List (String × (Option (List Sym) → Bool))) (row : RRow) (body : List Piece) : Bool :=
  slotsPassAll (checks.filterMap (fun c => (row.names.lookup c.1).map (fun g => (g, fun ss => c.2 (some ss))))) body &&
  checks.all (fun c =>
    match row.names.lookup c.1 with
    | none => c.2 none
    | some g => !mayNone g body || c.2 none)

/-- `shapeFromCatalogue` and `rangeFromCatalogue` in one traversal of the catalogue -/
def catOK (row : RRow) (body : List Piece) : Bool :=
  slotsPassAll ((catChecks row).filterMap (fun c => (row.names.lookup c.1).map (fun g => (g, fun ss => c.2 (some ss))))) body &&
  (catChecks row).all (fun c =>
    match row.names.lookup c.1 with
    | none => c.2 none
    | some g => !mayNone g body || c.2 none)

theorem fieldPass_of_catOKWith {checks : List (String × (Option (List Sym) → Bool))} {row : RRow} {body : List Piece}
    (h : catOKWith checks row body = true) : ∀ c ∈ checks, fieldPass row body c.1 c.2 = true := by
  intro c hm
  simp only [catOKWith, Bool.and_eq_true] at h
  have h2 := List.all_eq_true.mp h.2 c hm
  unfold fieldPass
  cases hl : row.names.lookup c.1 with
  | none => simpa [hl] using h2
  | some g =>
    simp only [hl] at h2
    simp only [Bool.and_eq_true]
    exact ⟨slotsPass_of_all h.1 (List.mem_filterMap.mpr ⟨c, hm, by simp [hl]⟩), h2⟩

theorem shape_range_of_catOK {row : RRow} {body : List Piece} (h : catOK row body = true) :
    shapeFromCatalogue row body = true ∧ rangeFromCatalogue row body = true := by
  obtain ⟨hy, hm, hd, hh, hn, hs, hf, hz⟩ :
      fieldPass row body "year" (yearOKs row.dtfs.year) = true ∧
      fieldPass row body "month" (both (monthOKs row.dtfs.month) (valS 16 (monthIn row.dtfs.month))) = true ∧
      fieldPass row body "day" (both dayOKs (valS 16 dayIn)) = true ∧
      fieldPass row body "hour" (hourOKs row.dtfs.hour) = true ∧
      fieldPass row body "minute" (both minuteOKs (valS 128 minuteIn)) = true ∧
      fieldPass row body "second" (both (secOKs row.dtfs.second) (valS 128 (secIn row.dtfs.second))) = true ∧
      fieldPass row body "fractional" (fracOKs row.dtfs.fractional) = true ∧
      fieldPass row body "tz" (tzOKs row.dtfs.tz) = true := by
    simpa [catChecks] using fieldPass_of_catOKWith (checks := catChecks row) h
  simp only [shapeFromCatalogue, rangeFromCatalogue, Bool.and_eq_true]
  exact ⟨⟨⟨⟨⟨⟨⟨⟨hy, fieldPass_mono both_l hm⟩, fieldPass_mono both_l hd⟩, hh⟩, fieldPass_mono both_l hn⟩,
    fieldPass_mono both_l hs⟩, hf⟩, hz⟩,
    ⟨⟨⟨fieldPass_mono both_r hm, fieldPass_mono both_r hd⟩, fieldPass_mono both_r hn⟩, fieldPass_mono both_r hs⟩⟩

theorem shape_of_catOK {row : RRow} {body : List Piece} (h : catOK row body = true) : shapeFromCatalogue row body = true :=
  (shape_range_of_catOK h).1

theorem range_of_catOK {row : RRow} {body : List Piece} (h : catOK row body = true) : rangeFromCatalogue row body = true :=
  (shape_range_of_catOK h).2

theorem catOK_sound {row : RRow} {body : List Piece} (h : catOK row body = true) (sel : Sel) (hv : Valid body sel)
    (fill : Option Int) (hf : fillOK row.dtfs.year fill = true) :
    shapeOK row.dtfs (selFields row sel) fill = true ∧
    (calendarOK row.dtfs (selFields row sel) fill = true → rangeOK row.dtfs (selFields row sel) fill = true) :=
  ⟨shapeFromCatalogue_sound (shape_of_catOK h) sel hv fill hf, rangeFromCatalogue_sound (range_of_catOK h) sel hv fill⟩

/-- the entries that fail a field check, as (piece index, symbolic word of the slot): `tools/mk_regexrows.py` evaluates them for a row
that fails `catOK`, the counter-models of `S4V.Props.RegexE2EShapeSpec` state them -/
def offenders (row : RRow) (body : List Piece) (name : String) (PS : Option (List Sym) → Bool) : List (Nat × List Sym) :=
  match row.names.lookup name with
  | none => []
  | some g =>
    (body.zipIdx.flatMap (fun qi => qi.1.dom.filterMap (fun e =>
      match capGet e.2 g with
      | some ab => if PS (some (symSlice e.1 ab)) then none else some (qi.2, symSlice e.1 ab)
      | none => none)))

end S4V.Lemmas.RegexE2E
