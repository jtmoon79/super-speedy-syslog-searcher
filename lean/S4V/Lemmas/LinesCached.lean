/-
Lemmas for the cached `find_line` model (`S4V.Model.LinesCached`): the caches are transparent
(`findLineCached_spec`), by the invariant `Inv`: what the store holds are true lines (`IsLine`), what
the LRU holds are cache-free answers. The statements meant for reading are in `S4V.Props.CacheSpec`.
-/
import S4V.Model.LinesCached
import S4V.Lemmas.Lines
import S4V.Lemmas.Lists
import S4V.Lemmas.KeysDistinct

namespace S4V.Lemmas.LinesCached
open S4V.Model.Lines S4V.Model.LinesCached S4V.Lemmas.Lines

/-- `(b, e)` are the bounds of a line of `d` -/
def IsLine (d : Bytes) (b e : Nat) : Prop :=
  e < d.length ∧ lineStart d e = b ∧ lineEnd d b = e

theorem IsLine.start_eq {d : Bytes} {b e : Nat} (h : IsLine d b e) : lineStart d e = b := h.2.1
theorem IsLine.end_eq {d : Bytes} {b e : Nat} (h : IsLine d b e) : lineEnd d b = e := h.2.2

theorem IsLine.le {d : Bytes} {b e : Nat} (h : IsLine d b e) : b ≤ e := by
  have := (isLineStart_lineStart d e).le
  have := h.start_eq
  omega

theorem IsLine.of_mem {d : Bytes} {b e fo : Nat} (h : IsLine d b e) (h1 : b ≤ fo) (h2 : fo ≤ e) :
    lineStart d fo = b ∧ lineEnd d fo = e := by
  obtain ⟨a1, a2, a3⟩ := h
  have hb : b < d.length := Nat.lt_of_le_of_lt (Nat.le_trans h1 h2) a1
  have hsb : lineStart d b ≤ b := (isLineStart_lineStart d b).le
  -- `e` and `fo` both lie on the line of `b`
  have he := same_line d b e hb (Nat.le_trans hsb (Nat.le_trans h1 h2)) (Nat.le_of_eq a3.symm)
  have hfo := same_line d b fo hb (Nat.le_trans hsb h1) (a3 ▸ h2)
  exact ⟨hfo.1.trans (he.1.symm.trans a2), hfo.2.trans a3⟩

theorem IsLine.start_self {d : Bytes} {b e : Nat} (h : IsLine d b e) : lineStart d b = b :=
  (h.of_mem (Nat.le_refl _) h.le).1

theorem isLine_of (d : Bytes) (fo : Nat) (hfo : fo < d.length) :
    IsLine d (lineStart d fo) (lineEnd d fo) := by
  have h1 := (isLineStart_lineStart d fo).le
  obtain ⟨h2, h3, _⟩ := isLineEnd_lineEnd d fo hfo
  have hs := same_line d fo (lineStart d fo) hfo (Nat.le_refl _) (by omega)
  have he := same_line d fo (lineEnd d fo) hfo (by omega) (Nat.le_refl _)
  exact ⟨h3, he.1, hs.2⟩

theorem IsLine.eq_of_overlap {d : Bytes} {b e b' e' fo : Nat} (h : IsLine d b e)
    (h' : IsLine d b' e') (h1 : b ≤ fo) (h2 : fo ≤ e) (h1' : b' ≤ fo) (h2' : fo ≤ e') :
    b = b' ∧ e = e' := by
  have := h.of_mem h1 h2
  have := h'.of_mem h1' h2'
  omega

theorem IsLine.beg_eq_of_end {d : Bytes} {b b' e : Nat} (h : IsLine d b e) (h' : IsLine d b' e) :
    b = b' := by
  have := h.start_eq; have := h'.start_eq; omega

theorem IsLine.end_eq_of_beg {d : Bytes} {b e e' : Nat} (h : IsLine d b e) (h' : IsLine d b e') :
    e = e' := by
  have := h.end_eq; have := h'.end_eq; omega

theorem lineStart_after_line {d : Bytes} {b fo : Nat} (h0 : fo ≠ 0) (hfo : fo < d.length)
    (h : IsLine d b (fo - 1)) : lineStart d fo = fo := by
  have hb := h.le
  have := isStart_next (d := d) (fo := b) (by omega) (by rw [h.end_eq]; omega)
  rw [h.end_eq, Nat.sub_add_cancel (Nat.pos_of_ne_zero h0)] at this
  exact lineStart_of_isStart this

theorem linesGet_some {ls : List (Nat × Nat)} {beg b e : Nat} (h : linesGet ls beg = some (b, e)) :
    (b, e) ∈ ls ∧ b = beg :=
  (Lists.find?_fst h).symm

theorem linesGet_none {ls : List (Nat × Nat)} {beg : Nat} (h : linesGet ls beg = none) :
    ∀ x ∈ ls, x.1 ≠ beg := by
  unfold linesGet at h
  intro x hx
  have := List.find?_eq_none.mp h x hx
  simpa using this

theorem linesGet_isSome_of_mem {ls : List (Nat × Nat)} {b e : Nat} (h : (b, e) ∈ ls) :
    linesGet ls b ≠ none := by
  intro hn
  exact linesGet_none hn (b, e) h rfl

theorem leastEndGE_snoc (m : List (Nat × Nat)) (e : Nat × Nat) (fo : Nat) :
    leastEndGE (m ++ [e]) fo =
      if fo ≤ e.1 then
        match leastEndGE m fo with
        | some b => if e.1 < b.1 then some e else some b
        | none => some e
      else leastEndGE m fo := by
  unfold leastEndGE
  rw [List.foldl_append]
  rfl

theorem leastEndGE_spec (m : List (Nat × Nat)) (fo : Nat) :
    (∀ x, leastEndGE m fo = some x → x ∈ m ∧ fo ≤ x.1 ∧ ∀ y ∈ m, fo ≤ y.1 → x.1 ≤ y.1) ∧
      (leastEndGE m fo = none → ∀ y ∈ m, y.1 < fo) := by
  induction m using Lists.snoc_ind with
  | nil => exact ⟨nofun, fun _ => nofun⟩
  | snoc l e ih =>
    obtain ⟨ih1, ih2⟩ := ih
    have hmem : ∀ {P : Nat × Nat → Prop}, (∀ y ∈ l, P y) → P e → ∀ y ∈ l ++ [e], P y := fun h1 h2 y hy =>
      (List.mem_append.mp hy).elim (h1 y) fun h => List.mem_singleton.mp h ▸ h2
    rw [leastEndGE_snoc]
    by_cases hge : fo ≤ e.1
    · rw [if_pos hge]
      cases hb : leastEndGE l fo with
      | none =>
        refine ⟨fun x hx => ?_, nofun⟩
        cases hx
        exact ⟨by simp, hge, hmem (fun y hy h => absurd h (Nat.not_le.mpr (ih2 hb y hy))) fun _ => Nat.le_refl _⟩
      | some b =>
        obtain ⟨b1, b2, b3⟩ := ih1 b hb
        by_cases hlt : e.1 < b.1
        · refine ⟨fun x hx => ?_, fun h => by simp [hlt] at h⟩
          obtain rfl : e = x := by simpa [hlt] using hx
          exact ⟨by simp, hge, hmem (fun y hy h => Nat.le_trans (Nat.le_of_lt hlt) (b3 y hy h)) fun _ => Nat.le_refl _⟩
        · refine ⟨fun x hx => ?_, fun h => by simp [hlt] at h⟩
          obtain rfl : b = x := by simpa [hlt] using hx
          exact ⟨List.mem_append_left _ b1, b2, hmem b3 fun _ => Nat.le_of_not_lt hlt⟩
    · rw [if_neg hge]
      refine ⟨fun x hx => ?_, fun hn => hmem (ih2 hn) (Nat.lt_of_not_le hge)⟩
      obtain ⟨c1, c2, c3⟩ := ih1 x hx
      exact ⟨List.mem_append_left _ c1, c2, hmem c3 fun h => absurd h hge⟩

theorem leastEndGE_some {m : List (Nat × Nat)} {fo : Nat} {x : Nat × Nat}
    (h : leastEndGE m fo = some x) :
    x ∈ m ∧ fo ≤ x.1 ∧ ∀ y ∈ m, fo ≤ y.1 → x.1 ≤ y.1 :=
  (leastEndGE_spec m fo).1 x h

theorem leastEndGE_none {m : List (Nat × Nat)} {fo : Nat} (h : leastEndGE m fo = none) :
    ∀ y ∈ m, y.1 < fo :=
  (leastEndGE_spec m fo).2 h

theorem leastEndGE_true_line {d : Bytes} {m : List (Nat × Nat)} {fo e b : Nat}
    (hm : ∀ p ∈ m, IsLine d p.2 p.1) (h : leastEndGE m fo = some (e, b)) :
    (b ≤ fo ∧ fo ≤ e ∧ lineStart d fo = b ∧ lineEnd d fo = e) ∨ fo < b := by
  obtain ⟨c1, c2, _⟩ := leastEndGE_some h
  rcases Nat.lt_or_ge fo b with hlt | hge
  · exact Or.inr hlt
  · have := (hm _ c1).of_mem hge c2
    exact Or.inl ⟨hge, c2, this.1, this.2⟩

theorem leastEndGE_finds {d : Bytes} {m : List (Nat × Nat)} {fo b e : Nat}
    (hm : ∀ p ∈ m, IsLine d p.2 p.1) (hmem : (e, b) ∈ m) (h1 : b ≤ fo) (h2 : fo ≤ e) :
    leastEndGE m fo = some (e, b) := by
  cases hl : leastEndGE m fo with
  | none => have := leastEndGE_none hl (e, b) hmem; simp only at this; omega
  | some x =>
    obtain ⟨x1, x2⟩ := x
    obtain ⟨c1, c2, c3⟩ := leastEndGE_some hl
    have hle : x1 ≤ e := c3 (e, b) hmem h2
    simp only at c2
    -- `x1` lies inside the line `(b, e)`, so the true line ending at `x1` is `(b, e)`
    have hx : IsLine d x2 x1 := hm _ c1
    have hbe : IsLine d b e := hm _ hmem
    have := hbe.eq_of_overlap hx (fo := x1) (by omega) hle hx.le (Nat.le_refl _)
    rw [this.1, this.2]

structure Inv (d : Bytes) (s : Store) : Prop where
  /-- every stored line is a true line of the file -/
  lines_true : ∀ p ∈ s.lines, IsLine d p.1 p.2
  lines_keys : KeysDistinct s.lines
  /-- every (end, begin) ever recorded is a true line -/
  ends_true : ∀ p ∈ s.endToBeg, IsLine d p.2 p.1
  /-- a stored line has its end recorded -/
  lines_ends : ∀ p ∈ s.lines, (p.2, p.1) ∈ s.endToBeg
  /-- every LRU entry is the cache-free answer -/
  lru_true : ∀ p ∈ s.lru, p.2 = findLinePlain d p.1
  lru_len : s.lru.length ≤ lruCap
  lru_keys : KeysDistinct s.lru

theorem inv_empty (d : Bytes) : Inv d empty where
  lines_true := fun _ h => by cases h
  lines_keys := List.Pairwise.nil
  ends_true := fun _ h => by cases h
  lines_ends := fun _ h => by cases h
  lru_true := fun _ h => by cases h
  lru_len := Nat.zero_le _
  lru_keys := List.Pairwise.nil

theorem lruGet_some {l : List (Nat × R)} {fo : Nat} {r : R} (h : lruGet l fo = some r) :
    (fo, r) ∈ l :=
  (Lists.find?_fst_map h).2

theorem mem_lruPut {l : List (Nat × R)} {fo : Nat} {r : R} {p : Nat × R}
    (h : p ∈ lruPut l fo r) : p = (fo, r) ∨ p ∈ l :=
  Lists.mem_lruPut h

theorem lruPut_len (l : List (Nat × R)) (fo : Nat) (r : R) : (lruPut l fo r).length ≤ lruCap :=
  Lists.lruPut_length _ _ _ _

theorem lruPut_keys {l : List (Nat × R)} (fo : Nat) (r : R) (h : KeysDistinct l) :
    KeysDistinct (lruPut l fo r) :=
  (h.cons_filter fo r).take _

theorem Inv.lruPut {d : Bytes} {s : Store} (h : Inv d s) (fo : Nat) (r : R)
    (hr : r = findLinePlain d fo) : Inv d { s with lru := lruPut s.lru fo r } :=
  { h with
    lru_true := by
      intro p hp
      rcases mem_lruPut hp with rfl | hp
      · exact hr
      · exact h.lru_true p hp
    lru_len := lruPut_len _ _ _
    lru_keys := lruPut_keys _ _ h.lru_keys }

theorem Inv.lruPromote {d : Bytes} {s : Store} (h : Inv d s) (fo : Nat) :
    Inv d { s with lru := lruPromote s.lru fo } := by
  unfold S4V.Model.LinesCached.lruPromote
  cases hf : s.lru.find? (·.1 == fo) with
  | none => exact h
  | some e =>
    -- promoting a stored entry is a `put` of the value it has
    show Inv d { s with lru := e :: s.lru.filter (·.1 != fo) }
    rw [Lists.promote_eq_lruPut hf h.lru_len]
    exact h.lruPut fo e.2 ((Lists.find?_fst hf).1 ▸ h.lru_true e (Lists.find?_fst hf).2)

theorem Inv.insertLine {d : Bytes} {s : Store} (h : Inv d s) {b e : Nat} (hl : IsLine d b e) :
    Inv d (insertLine s b e) :=
  { h with
    lines_true := List.forall_mem_cons.mpr
      ⟨hl, fun p hp => h.lines_true p (List.mem_filter.mp hp).1⟩
    lines_keys := h.lines_keys.cons_filter b e
    ends_true := List.forall_mem_cons.mpr
      ⟨hl, fun p hp => h.ends_true p (List.mem_filter.mp hp).1⟩
    lines_ends := by
      refine List.forall_mem_cons.mpr ⟨List.mem_cons_self, fun p hp => ?_⟩
      obtain ⟨hp1, hp2⟩ := List.mem_filter.mp hp
      refine List.mem_cons_of_mem _ (List.mem_filter.mpr ⟨h.lines_ends p hp1, ?_⟩)
      simp only [bne_iff_ne, ne_eq] at hp2 ⊢
      intro heq
      -- two true lines with the same end have the same begin
      have hp' : IsLine d p.1 e := heq ▸ h.lines_true p hp1
      exact hp2 (hp'.beg_eq_of_end hl) }

theorem Inv.dropLine {d : Bytes} {s : Store} (h : Inv d s) (b : Nat) : Inv d (dropLine s b) where
  lines_true := fun p hp => h.lines_true p (List.mem_filter.mp hp).1
  lines_keys := h.lines_keys.filter _
  ends_true := h.ends_true
  lines_ends := fun p hp => h.lines_ends p (List.mem_filter.mp hp).1
  lru_true := fun p hp => h.lru_true p (List.mem_filter.mp hp).1
  lru_len := Nat.le_trans (List.length_filter_le _ _) h.lru_len
  lru_keys := h.lru_keys.filter _

theorem getLinep_some {s : Store} {fo b e : Nat} (h : getLinep s fo = some (b, e)) :
    ∃ e', leastEndGE s.endToBeg fo = some (e', b) ∧ b ≤ fo ∧ (b, e) ∈ s.lines := by
  unfold getLinep at h
  split at h
  · rename_i e' beg hl
    split at h
    · cases h
    · rename_i hnlt
      obtain ⟨h1, h2⟩ := linesGet_some h
      subst h2
      exact ⟨e', hl, by omega, h1⟩
  · cases h

theorem getLinep_hit {d : Bytes} {s : Store} (hs : Inv d s) {fo b e : Nat}
    (h : getLinep s fo = some (b, e)) : (b, e) ∈ s.lines ∧ b ≤ fo ∧ fo ≤ e := by
  obtain ⟨e', hl, hb, hmem⟩ := getLinep_some h
  obtain ⟨c1, c2, _⟩ := leastEndGE_some hl
  have := (hs.ends_true _ c1).end_eq_of_beg (hs.lines_true _ hmem)
  simp only at this c2
  exact ⟨hmem, hb, by omega⟩

theorem getLinep_miss {d : Bytes} {s : Store} (hs : Inv d s) {fo : Nat}
    (h : getLinep s fo = none) : ∀ p ∈ s.lines, p.1 ≤ fo → p.2 < fo := by
  intro p hp hle
  rcases Nat.lt_or_ge p.2 fo with hlt | hge
  · exact hlt
  · exfalso
    have hfind := leastEndGE_finds (d := d) hs.ends_true (hs.lines_ends p hp) hle hge
    unfold getLinep at h
    rw [hfind] at h
    simp only at h
    rw [if_neg (by omega)] at h
    exact linesGet_isSome_of_mem hp h

/-- shortcuts A1a / A1b are sound: after a `check_store` miss for `fo`, a stored
line containing `fo - 1` ends at `fo - 1`, so `fo` begins a line -/
theorem prev_line_ends {d : Bytes} {s : Store} (hs : Inv d s) {fo b e : Nat} (h0 : fo ≠ 0)
    (hfo : fo < d.length) (hmiss : getLinep s fo = none) (hmem : (b, e) ∈ s.lines)
    (h1 : b ≤ fo - 1) (h2 : fo - 1 ≤ e) : lineStart d fo = fo := by
  have := getLinep_miss hs hmiss (b, e) hmem (by simp only; omega)
  simp only at this
  have he : e = fo - 1 := by omega
  have hl := hs.lines_true _ hmem
  simp only at hl
  rw [he] at hl
  exact lineStart_after_line h0 hfo hl

theorem findLinePlain_done {d : Bytes} {fo : Nat} (h : d.length = 0 ∨ fo ≥ d.length) :
    findLinePlain d fo = .done := by
  unfold findLinePlain; rw [if_pos h]

theorem findLinePlain_found {d : Bytes} {fo : Nat} (h : ¬(d.length = 0 ∨ fo ≥ d.length)) :
    findLinePlain d fo = .found (lineEnd d fo + 1) (lineStart d fo) (lineEnd d fo) := by
  unfold findLinePlain; rw [if_neg h]

theorem findLinePlain_eq (d : Bytes) (fo : Nat) :
    findLinePlain d fo =
      if fo < d.length then .found (lineEnd d fo + 1) (lineStart d fo) (lineEnd d fo)
      else .done := by
  unfold findLinePlain
  by_cases hfo : fo < d.length
  · rw [if_neg (by omega), if_pos hfo]
  · rw [if_pos (by omega), if_neg hfo]

/-- the begin offset of the line `find_line(fo)` builds when neither cache knows `fo`: A0, the quick checks
A1a / A1b that trust a stored previous line, else the walk A2.. -/
def begChoice (d : Bytes) (s : Store) (fo : Nat) : Nat :=
  if fo = 0 then 0
  else if (linesGet s.lines (fo - 1)).isSome then fo
  else if (getLinep s (fo - 1)).isSome then fo
  else lineStart d fo

theorem begChoice_le (d : Bytes) (s : Store) (fo : Nat) : begChoice d s fo ≤ fo := by
  unfold begChoice
  repeat' split
  all_goals first | omega | exact (isLineStart_lineStart d fo).le

theorem begChoice_of_prev (d : Bytes) {s : Store} {fo : Nat}
    (hprev : (linesGet s.lines (fo - 1)).isSome = true ∨ (getLinep s (fo - 1)).isSome = true) :
    begChoice d s fo = fo := by
  unfold begChoice
  by_cases h0 : fo = 0
  · simp [h0]
  · rcases hprev with h | h <;> simp [h0, h]

theorem begChoice_eq {d : Bytes} {s : Store} (hs : Inv d s) {fo : Nat} (hfo : fo < d.length)
    (hmiss : getLinep s fo = none) : begChoice d s fo = lineStart d fo := by
  unfold begChoice
  split
  · rename_i h0
    subst h0
    exact (Nat.le_zero.mp (isLineStart_lineStart d 0).le).symm
  · rename_i h0
    split
    · rename_i ha
      obtain ⟨⟨b, e⟩, hg⟩ := Option.isSome_iff_exists.mp ha
      obtain ⟨hmem, rfl⟩ := linesGet_some hg
      exact (prev_line_ends hs h0 hfo hmiss hmem (Nat.le_refl _)
        (hs.lines_true _ hmem).le).symm
    · split
      · rename_i hb
        obtain ⟨⟨b, e⟩, hg⟩ := Option.isSome_iff_exists.mp hb
        obtain ⟨hmem, h1, h2⟩ := getLinep_hit hs hg
        exact (prev_line_ends hs h0 hfo hmiss hmem h1 h2).symm
      · rfl

theorem findLineCached_miss {d : Bytes} {s : Store} {fo : Nat} (hfo : fo < d.length)
    (hlru : lruGet s.lru fo = none) (hl : linesGet s.lines fo = none) (hg : getLinep s fo = none) :
    findLineCached d s fo = (.found (lineEnd d fo + 1) (begChoice d s fo) (lineEnd d fo),
      { insertLine s (begChoice d s fo) (lineEnd d fo) with
        lru := lruPut (insertLine s (begChoice d s fo) (lineEnd d fo)).lru fo
          (.found (lineEnd d fo + 1) (begChoice d s fo) (lineEnd d fo)) }) := by
  unfold findLineCached begChoice
  simp only [hlru, hl, hg]
  rw [if_neg (by omega)]

theorem stored_answer {d : Bytes} {s : Store} (hs : Inv d s) {fo b e : Nat}
    (hmem : (b, e) ∈ s.lines) (h1 : b ≤ fo) (h2 : fo ≤ e) :
    R.found (e + 1) b e = findLinePlain d fo := by
  have hl : IsLine d b e := hs.lines_true _ hmem
  obtain ⟨g1, g2⟩ := hl.of_mem h1 h2
  rw [findLinePlain_found (by have := hl.1; omega), g1, g2]

theorem findLineCached_spec {d : Bytes} {s : Store} (hs : Inv d s) (fo : Nat) :
    (findLineCached d s fo).1 = findLinePlain d fo ∧ Inv d (findLineCached d s fo).2 := by
  unfold findLineCached
  split
  · -- LRU hit
    rename_i r hr
    exact ⟨hs.lru_true _ (lruGet_some hr), hs.lruPromote fo⟩
  · split
    · rename_i hdone
      exact ⟨(findLinePlain_done hdone).symm, hs⟩
    · rename_i hin
      split
      · -- `check_store`: a stored line begins at `fo`
        rename_i b e hg
        obtain ⟨hmem, rfl⟩ := linesGet_some hg
        have hr := stored_answer hs hmem (Nat.le_refl _) (hs.lines_true _ hmem).le
        exact ⟨hr, hs.lruPut _ _ hr⟩
      · split
        · -- `check_store`: `get_linep` hit
          rename_i b e hg
          obtain ⟨hmem, h1, h2⟩ := getLinep_hit hs hg
          have hr := stored_answer hs hmem h1 h2
          exact ⟨hr, hs.lruPut fo _ hr⟩
        · -- the walk, with shortcuts A1a / A1b
          rename_i hmiss
          have hfo : fo < d.length := by omega
          have hr := (findLinePlain_found hin).symm
          have hb := begChoice_eq hs hfo hmiss
          unfold begChoice at hb
          dsimp only
          rw [hb]
          exact ⟨hr, (hs.insertLine (isLine_of d fo hfo)).lruPut fo _ hr⟩

def expected (d : Bytes) (ops : List Op) : List (Option R) :=
  ops.map fun op => match op with
    | .find fo => some (findLinePlain d fo)
    | .drop _ => none

theorem applyOp_spec {d : Bytes} {s : Store} (hs : Inv d s) (op : Op) :
    (applyOp d s op).1 = (match op with
      | .find fo => some (findLinePlain d fo)
      | .drop _ => none) ∧ Inv d (applyOp d s op).2 := by
  cases op with
  | find fo =>
    have := findLineCached_spec hs fo
    simp only [applyOp]
    exact ⟨by rw [this.1], this.2⟩
  | drop fo =>
    simp only [applyOp]
    split
    · exact ⟨rfl, hs.dropLine _⟩
    · exact ⟨rfl, hs⟩

theorem runOps_spec {d : Bytes} : ∀ (ops : List Op) {s : Store}, Inv d s →
    (runOps d s ops).1 = expected d ops ∧ Inv d (runOps d s ops).2
  | [], _, hs => ⟨rfl, hs⟩
  | op :: ops, s, hs => by
    obtain ⟨h1, h2⟩ := applyOp_spec hs op
    obtain ⟨h3, h4⟩ := runOps_spec ops h2
    simp only [runOps]
    refine ⟨?_, h4⟩
    rw [h1, h3]
    rfl

end S4V.Lemmas.LinesCached
