/-
Lemmas about the pattern rows of `process_dt` (`S4V.Model.Cli.firstRow`): which strings no row can parse
(a decided fact about the generated table lifted by a lemma about the interpreter); the rows' attempts and
the first no-steal test computed from the cached item lists (`firstRow_cached`, `noStealRow_cached`), for the
decided instances of `S4V.Props.CliSpec`; the first-match theorem for every value of every row (`processDtL_render`).
-/
import S4V.Lemmas.CliNoStealTable

namespace S4V.Lemmas.CliRows
open S4V.Model.Cli S4V.Gen.CliTables S4V.Lemmas.CliNoSteal

def headOk : List Item → Bool
  | .year :: _ => true
  | .lit c :: _ => c == '+'
  | _ => false

/-- table fact: every row's (rewritten) pattern begins with `%Y` or with the literal `+`; read off the item
lists that `infos_eq` has checked against the patterns -/
theorem rows_headOk : cliFilterPatterns.all (fun r => headOk (parsePattern (rowPattern r))) = true := by
  have h : (cliFilterPatterns.map rowInfo).all (fun i => headOk i.J) = true := by rw [infos_eq]; decide +kernel
  rwa [List.all_map] at h

theorem parseItems_at_none (items : List Item) (h : headOk items = true) (r : List Char) (p : Parsed) :
    parseItems items ('@' :: r) p = none := by
  match items, h with
  | .year :: its, _ =>
    simp [parseItems, parseItem, trimStart, isWs, scanNumber, takeDigits, isDig]
  | .lit c :: its, h =>
    simp [headOk] at h
    subst h
    simp [parseItems, parseItem]

theorem strptime_at_none (pat : List Char) (h : headOk (parsePattern pat) = true) (r : List Char) :
    strptimeCliL pat ('@' :: r) = none := by
  simp [strptimeCliL, parseItems_at_none _ h]

theorem rowValue_at (row : Row) (r : List Char) :
    rowValue row ('@' :: r) = none ∨ ∃ r', rowValue row ('@' :: r) = some ('@' :: r') := by
  unfold rowValue
  by_cases hz : row.hasTzZ = true
  · simp only [hz, if_true]
    cases lookupTz (splitAlphaTail ('@' :: r)).2 with
    | none => left; rfl
    | some z =>
      obtain ⟨T, hT⟩ : ∃ T, (splitAlphaTail ('@' :: r)).1 = '@' :: T := splitAlphaTail_pre [] '@' r (by decide)
      exact .inr ⟨T ++ (z.toList ++ if row.hasTime = true then [] else appendTimeValue.toList), by simp [hT]⟩
  · simp only [hz]
    right
    exact ⟨r ++ (if row.hasTime = true then [] else appendTimeValue.toList), by simp⟩

theorem attemptRow_at_none (row : Row) (hrow : headOk (parsePattern (rowPattern row)) = true) (r : List Char) (tz : Int) :
    attemptRow row ('@' :: r) tz = none := by
  unfold attemptRow
  rcases rowValue_at row r with h | ⟨r', h⟩
  · rw [h]
  · rw [h]
    simp [datetimeParseFromStr, strptime_at_none _ hrow]

theorem firstRow_eq_findSome (rows : List Row) (v : List Char) (tz : Int) :
    firstRow rows v tz = rows.findSome? (attemptRow · v tz) := by
  induction rows with
  | nil => rfl
  | cons r rs ih => rw [firstRow, List.findSome?_cons, ih]; cases attemptRow r v tz <;> rfl

theorem firstRow_at_none (r : List Char) (tz : Int) : firstRow cliFilterPatterns ('@' :: r) tz = none := by
  rw [firstRow_eq_findSome, List.findSome?_eq_none_iff]
  exact fun row hrow => attemptRow_at_none row (List.all_eq_true.mp rows_headOk row hrow) r tz

/-! ### the pattern rows on their cached item lists

The decided instances of `S4V.Props.CliSpec` run on `infosGen` (through `firstRow_cached`, `noStealRow_cached`): the
rows' flags and the item lists of the generated cache, checked against the rows once (`infos_eq`), so that no pattern
string is unfolded again (why that matters: head of `S4V.Lemmas.CliNoStealTable`). -/

section Cached
open S4V.Lemmas.CliAbs

/-- `attemptRow` from the flags and the items of the handed-on pattern (`rowValue` reads the flags only).
A value that ends in no letter names no zone (`lookupTz_nil`): the look-up, which unfolds every name
of the zone table, is skipped for it. -/
def attemptInfo (a : RowInfo) (v : List Char) (tz : Int) : Option DT :=
  if a.hasTzZ && (splitAlphaTail v).2.isEmpty then none else
  (rowValue ⟨"", false, a.hasTz, a.hasTzZ, a.hasTime⟩ v).bind fun d =>
    match parseItems a.J d {} with
    | some (p, []) => resolveP p a.hasTz tz (patEdgeOk d)
    | _ => none

theorem attemptRow_info (row : Row) (hok : RowOk row = true) (v : List Char) (tz : Int) :
    attemptRow row v tz = attemptInfo (rowInfo row) v tz := by
  have hp := rowOk_edge hok
  have hv : rowValue ⟨"", false, row.hasTz, row.hasTzZ, row.hasTime⟩ v = rowValue row v := rfl
  simp only [attemptRow, attemptInfo, rowInfo, hv]
  by_cases h : (row.hasTzZ && (splitAlphaTail v).2.isEmpty) = true
  · rw [if_pos h]
    simp only [Bool.and_eq_true, List.isEmpty_iff] at h
    exact attemptRow_noName row h.1 v tz h.2
  · rw [if_neg h]
    cases rowValue row v with
    | none => rfl
    | some d =>
      simp only [Option.bind_some, dtParse_factor, issue660_of_patEdgeOk d _ hp, strptimeCliL]
      generalize parseItems (parsePattern (rowPattern row)) d {} = r
      rcases r with _ | ⟨p, _ | _⟩ <;> rfl

theorem firstRow_info (rows : List Row) (hok : ∀ r ∈ rows, RowOk r = true) (v : List Char) (tz : Int) :
    firstRow rows v tz = (rows.map rowInfo).findSome? (attemptInfo · v tz) := by
  induction rows with
  | nil => rfl
  | cons r rs ih =>
    rw [firstRow, List.map_cons, List.findSome?_cons, ← attemptRow_info r (hok r (by simp)),
      ih fun x hx => hok x (by simp [hx])]
    cases attemptRow r v tz <;> rfl

theorem firstRow_cached (v : List Char) (tz : Int) :
    firstRow cliFilterPatterns v tz = infosGen.findSome? (attemptInfo · v tz) := by
  rw [← infos_eq]
  exact firstRow_info _ rows_ok v tz

/-- `noStealPair` from the flags and the item lists -/
def noStealInfo (a b : RowInfo) : Bool :=
  if a.hasTzZ then b.I.getLast?.any nonAlphaItem
  else if a.hasTime then failsPair a.I b.I && distinctSlots a.I
  else !b.hasTime && !b.hasTzZ && failsPair a.J b.E && distinctSlots a.J

theorem noStealPair_info (rj ri : Row) (hok : RowOk ri = true) :
    noStealPair rj ri = noStealInfo (rowInfo rj) (rowInfo ri) := by
  have hciv : ri.hasTime = false → RowCivil ri = true := by
    intro ht
    simpa [RowOk, RowTs, ht] using hok
  simp only [noStealPair, noStealInfo, rowInfo, itemsOf, lookupTz_nil, Option.isNone_none, Bool.and_true]
  cases ht : ri.hasTime
  · rw [hciv ht, Bool.and_true]; rfl
  · rfl

theorem noStealRow_cached (i : Nat) :
    noStealRow i = match infosGen[i]? with
      | some b => (infosGen.take i).all fun a => noStealInfo a b
      | none => false := by
  rw [← infos_eq, noStealRow, List.getElem?_map, ← List.map_take]
  cases h : cliFilterPatterns[i]? with
  | none => rfl
  | some ri =>
    simp only [Option.map_some, List.all_map]
    exact List.all_congr rfl fun rj =>
      noStealPair_info rj ri (rows_ok ri (List.mem_of_getElem? h))

end Cached

section FirstMatch
open S4V.Lemmas.CliAbs

theorem firstRow_of_getElem (rows : List Row) (i : Nat) (row : Row) (hrow : rows[i]? = some row)
    (v : List Char) (tz : Int) (dt : DT) (hown : attemptRow row v tz = some dt)
    (hpre : ∀ r ∈ rows.take i, attemptRow r v tz = none ∨ attemptRow r v tz = some dt) :
    firstRow rows v tz = some dt := by
  induction rows generalizing i with
  | nil => simp at hrow
  | cons r rs ih =>
    cases i with
    | zero =>
      obtain rfl : r = row := by simpa using hrow
      simp [firstRow, hown]
    | succ n =>
      simp only [List.take_succ_cons, List.mem_cons, forall_eq_or_imp] at hpre
      simp only [firstRow]
      rcases hpre.1 with h | h <;> rw [h]
      exact ih n (by simpa using hrow) hpre.2

/-- for EVERY row of the generated table and EVERY value of the row's grammar, `process_dt` (all earlier
rows tried first) returns the documented instant: the row's own round trip (`attemptRow_render`, `rows_ok`)
and, for each earlier row, the decision of the pair (`pairOk_sound`, `pairOk_table`) -/
theorem processDtL_render (i : Nat) (row : Row) (hrow : cliFilterPatterns[i]? = some row)
    (f : Fields) (hf : f.Valid) (hst : styleOk f (parsePattern row.pattern.toList) = true)
    (tz : Int) (htz : -86400 < tz ∧ tz < 86400) (other : Option DT) (now : Int) :
    processDtL (render row f) tz other now = .some (denote row f tz) := by
  have hok : RowOk row = true := rows_ok row (List.mem_of_getElem? hrow)
  rw [processDtL, firstRow_of_getElem _ i row hrow _ tz _ (attemptRow_render row f hf tz htz hok hst)
    fun r hr => pairOk_sound r row f hf tz htz hst hok (pairOk_table i row hrow r hr)]

end FirstMatch

end S4V.Lemmas.CliRows
