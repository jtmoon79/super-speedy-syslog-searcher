/-
Lemmas about the hand model `S4V.Model.Path` for C16 (the file type decided from the name alone).
`cleanName` has a closed form: a name that is not UTF-8 is not cleaned (`cleanName_not_utf8`); a UTF-8 name is
cleaned to its `core`, the name with trailing junk and then leading junk and dots trimmed off, except that the
end-trimmed name is kept when the core is its extension (`cleanName_utf8`). What trailing junk, leading junk,
letter case and a last component `.k` do to the cleaned name is read off this form.
One round of `classifyAux` is `step n`, a function of the name alone (`classifyAux_succ`). A
recursing step shortens the name (`step_next_lt`), hence `classify` is total and does not depend on
the fuel; and a change of the name that `step` does not see and that survives `with_extension("")`
does not change the result (`classifyAux_congr`): this is how letter case, leading junk and the `.`
of a hidden file are shown not to matter. Trailing junk after a UTF-8 name is seen by no step and is gone
after the first `with_extension("")` (`classifyAux_append_junk`, no induction). `retag` gives the result under a
container from the result without one.
Table facts are proved by `decide` over the whole generated tables and lifted.
-/
import S4V.Model.Path

namespace S4V.Lemmas.Path
open S4V.Model.Path S4V.Model.PathTypes S4V.Gen.PathTables

def isCompress : Act → Bool
  | .compress _ => true
  | _ => false

theorem suffix_nil : lookup suffixTable [] = .nomatch := by decide

theorem nameTable_no_compress : ∀ r ∈ nameTable, isCompress r.2 = false := by decide

theorem suffixTable_compress_ne_normal : ∀ r ∈ suffixTable, r.2 ≠ .compress .normal := by decide

theorem suffixTable_keys : ∀ r ∈ suffixTable, ∀ b ∈ r.1, b ∉ junkCharsLead := by decide

theorem mem_junkLead {b : UInt8} : b ∈ junkCharsLead ↔ b ∈ junkChars ∨ b = DOT := by
  rw [show junkCharsLead = junkChars ++ [DOT] by decide]; simp

theorem dot_mem_junkLead : DOT ∈ junkCharsLead := mem_junkLead.mpr (.inr rfl)

theorem dot_not_mem_junk : DOT ∉ junkChars := by decide

theorem not_mem_junkLead {k : Bytes} (hdot : DOT ∉ k) (hjunk : ∀ b ∈ k, b ∉ junkChars) :
    ∀ b ∈ k, b ∉ junkCharsLead := fun b hb h =>
  (mem_junkLead.mp h).elim (hjunk b hb) fun h => hdot (h ▸ hb)

theorem not_lead {c : UInt8} (h : c ∉ junkCharsLead) : c ≠ DOT ∧ c ∉ junkChars :=
  ⟨fun hd => h (hd ▸ dot_mem_junkLead), fun hj => h (mem_junkLead.mpr (.inl hj))⟩

theorem lookup_mem {tbl : List (Bytes × Act)} {k : Bytes} {a : Act}
    (h : lookup tbl k = a) (ha : a ≠ .nomatch) : (k, a) ∈ tbl := by
  unfold lookup at h
  split at h
  · next r hr =>
    have h1 := List.find?_some hr
    simp only [beq_iff_eq] at h1
    subst h h1
    exact List.mem_of_find?_eq_some hr
  · exact absurd h.symm ha

theorem nameTable_lookup_not_compress (k : Bytes) (a : Arch) : lookup nameTable k ≠ .compress a :=
  fun h => Bool.noConfusion (nameTable_no_compress _ (lookup_mem h (by simp)))

theorem suffix_lookup_compress_ne_normal {k : Bytes} : lookup suffixTable k ≠ .compress .normal :=
  fun h => suffixTable_compress_ne_normal _ (lookup_mem h (by simp)) rfl

theorem suffix_lookup_key {k : Bytes} {a : Act} (h : lookup suffixTable k = a) (ha : a ≠ .nomatch) :
    k ≠ [] ∧ ∀ b ∈ k, b ∉ junkCharsLead :=
  ⟨fun hk => ha (h ▸ hk ▸ suffix_nil), suffixTable_keys _ (lookup_mem h ha)⟩

theorem lowerByte_toNat (b : UInt8) :
    (lowerByte b).toNat = if 65 ≤ b.toNat ∧ b.toNat ≤ 90 then b.toNat + 32 else b.toNat := by
  unfold lowerByte
  simp only [UInt8.le_iff_toNat_le, Bool.and_eq_true, decide_eq_true_eq, UInt8.toNat_ofNat]
  split
  · rw [UInt8.toNat_add]; show (b.toNat + 32) % 256 = _; omega
  · rfl

/-- `lowerByte` moves a byte only within the letters `A`–`z`. -/
theorem lowerByte_eq_iff {b x : UInt8} (hx : ¬ (65 ≤ x.toNat ∧ x.toNat ≤ 122)) :
    lowerByte b = x ↔ b = x := by
  rw [← UInt8.toNat_inj, ← UInt8.toNat_inj, lowerByte_toNat]
  split <;> omega

theorem lowerByte_idem (b : UInt8) : lowerByte (lowerByte b) = lowerByte b := by
  rw [← UInt8.toNat_inj, lowerByte_toNat (lowerByte b), if_neg]
  rw [lowerByte_toNat]
  split <;> omega

theorem lowerByte_lt (b : UInt8) : lowerByte b < 0x80 ↔ b < 0x80 := by
  rw [UInt8.lt_iff_toNat_lt, UInt8.lt_iff_toNat_lt, lowerByte_toNat]
  show _ < 128 ↔ _ < 128
  split <;> omega

theorem lowerByte_high (b : UInt8) (h : ¬ b < 0x80) : lowerByte b = b := by
  rw [UInt8.lt_iff_toNat_lt] at h
  rw [← UInt8.toNat_inj, lowerByte_toNat, if_neg (fun h' => h (Nat.lt_of_le_of_lt h'.2 (by decide)))]

/-- A range test that fails below `0x80` does not see `lowerByte`. -/
theorem lowerByte_range {lo : UInt8} (hi b : UInt8) (h : 0x80 ≤ lo) :
    (decide (lo ≤ lowerByte b) && decide (lowerByte b ≤ hi)) = (decide (lo ≤ b) && decide (b ≤ hi)) := by
  by_cases hb : b < 0x80
  · have h1 := UInt8.not_le.mpr (UInt8.lt_of_lt_of_le hb h)
    have h2 := UInt8.not_le.mpr (UInt8.lt_of_lt_of_le ((lowerByte_lt b).mpr hb) h)
    simp [h1, h2]
  · rw [lowerByte_high b hb]

theorem junkLead_not_letter : ∀ x ∈ junkCharsLead, ¬ (65 ≤ x.toNat ∧ x.toNat ≤ 122) := by decide

theorem lowerByte_junkLead (b : UInt8) (h : b ∈ junkCharsLead) : lowerByte b = b :=
  (lowerByte_eq_iff (junkLead_not_letter b h)).mpr rfl

theorem lowerByte_dot (b : UInt8) : lowerByte b = DOT ↔ b = DOT :=
  lowerByte_eq_iff (junkLead_not_letter _ dot_mem_junkLead)

theorem contains_lowerByte {junk : Bytes} (hj : ∀ x ∈ junk, x ∈ junkCharsLead) (b : UInt8) :
    junk.contains (lowerByte b) = junk.contains b := by
  rw [Bool.eq_iff_iff, List.contains_iff_mem, List.contains_iff_mem]
  constructor <;> intro h
  · rwa [(lowerByte_eq_iff (junkLead_not_letter _ (hj _ h))).mp rfl]
  · rwa [lowerByte_junkLead b (hj b h)]

theorem contains_lowerByte_junkLead : ∀ b, junkCharsLead.contains (lowerByte b) = junkCharsLead.contains b :=
  contains_lowerByte (junk := junkCharsLead) fun _ h => h

theorem contains_lowerByte_junk : ∀ b, junkChars.contains (lowerByte b) = junkChars.contains b :=
  contains_lowerByte (junk := junkChars) fun _ h => mem_junkLead.mpr (.inl h)

theorem lowerByte_isCont (b : UInt8) : isCont (lowerByte b) = isCont b :=
  lowerByte_range _ b (by decide)

theorem splitLastDot_eq_none {n : Bytes} : splitLastDot n = none ↔ DOT ∉ n := by
  induction n with
  | nil => simp [splitLastDot]
  | cons b t ih =>
    rw [splitLastDot]
    cases h : splitLastDot t with
    | some p => simp [Decidable.not_not.mp (mt ih.mpr (h ▸ nofun))]
    | none => by_cases hb : b = DOT <;> simp [hb, ih.mp h, Ne.symm]

theorem splitLastDot_append {a k : Bytes} (hk : DOT ∉ k) : splitLastDot (a ++ DOT :: k) = some (a, k) := by
  induction a with
  | nil => simp [splitLastDot, splitLastDot_eq_none.mpr hk]
  | cons b t ih => simp [splitLastDot, ih]

theorem splitLastDot_some {n bef aft : Bytes} (h : splitLastDot n = some (bef, aft)) :
    n = bef ++ DOT :: aft ∧ DOT ∉ aft := by
  induction n generalizing bef with
  | nil => cases h
  | cons b t ih =>
    rw [splitLastDot] at h
    cases h' : splitLastDot t with
    | some p =>
      obtain ⟨rfl, rfl⟩ : b :: p.1 = bef ∧ p.2 = aft := by simpa [h'] using h
      exact ⟨congrArg _ (ih h').1, (ih h').2⟩
    | none =>
      obtain ⟨rfl, rfl, rfl⟩ : b = DOT ∧ [] = bef ∧ t = aft := by
        by_cases hb : b = DOT <;> simp_all
      exact ⟨rfl, splitLastDot_eq_none.mp h'⟩

theorem fileName_eq_nil {n : Bytes} : fileName n = [] ↔ n = [] ∨ n = [DOT] ∨ n = [DOT, DOT] := by
  unfold fileName
  split
  · next h => simp [h]
  · next h => simp only [h, iff_false]; exact fun h2 => h (.inl h2)

theorem fileName_of_ne {n : Bytes} (h : fileName n ≠ []) : fileName n = n := by
  unfold fileName at *
  split at h <;> simp_all

theorem fileName_suffix (b : Bytes) : fileName b <:+ b := by
  unfold fileName; split
  · exact List.nil_suffix
  · exact List.suffix_refl _

theorem fileName_of_mem_ne {x : Bytes} {c : UInt8} (hc : c ∈ x) (hd : c ≠ DOT) : fileName x = x := by
  apply fileName_of_ne
  rw [Ne, fileName_eq_nil]
  rintro (h | h | h) <;> subst h <;> simp at hc <;> exact hd hc

theorem all_dot_of_mem_ne {x : Bytes} {c : UInt8} (hc : c ∈ x) (hd : c ≠ DOT) :
    x.all (· == DOT) = false :=
  Bool.eq_false_iff.mpr fun h => hd (by simpa using List.all_eq_true.mp h c hc)

theorem append_dot_ne {a k : Bytes} (ha : a ≠ []) :
    a ++ DOT :: k ≠ [] ∧ a ++ DOT :: k ≠ [DOT] := by
  cases a with
  | nil => exact absurd rfl ha
  | cons b t => cases t <;> simp

theorem fileName_append_dot {a k : Bytes} (ha : a ≠ []) (hne : a ++ DOT :: k ≠ [DOT, DOT]) :
    fileName (a ++ DOT :: k) = a ++ DOT :: k := by
  apply fileName_of_ne
  rw [Ne, fileName_eq_nil]
  have := append_dot_ne (k := k) ha
  simp [this.1, this.2, hne]

theorem rsplit_append_dot {a k : Bytes} (ha : a ≠ []) (hk : DOT ∉ k) (hne : a ++ DOT :: k ≠ [DOT, DOT]) :
    rsplitFileAtDot (a ++ DOT :: k) = (some a, some k) := by
  unfold rsplitFileAtDot
  simp [hne, splitLastDot_append hk, ha]

theorem extension_append_dot {a k : Bytes} (ha : a ≠ []) (hk : DOT ∉ k) (hne : a ++ DOT :: k ≠ [DOT, DOT]) :
    extension (a ++ DOT :: k) = some k := by
  unfold extension
  simp [fileName_append_dot ha hne, rsplit_append_dot ha hk hne, (append_dot_ne ha).1]

theorem withExtensionEmpty_append_dot {a k : Bytes} (ha : a ≠ []) (hk : DOT ∉ k)
    (hne : a ++ DOT :: k ≠ [DOT, DOT]) : withExtensionEmpty (a ++ DOT :: k) = a := by
  simp [withExtensionEmpty, fileStem, fileName_append_dot ha hne, rsplit_append_dot ha hk hne,
    (append_dot_ne ha).1]

theorem append_dot_ne_dotdot {a k : Bytes} (ha : a ≠ []) (hk : k ≠ []) : a ++ DOT :: k ≠ [DOT, DOT] := by
  intro h
  have := congrArg List.length h
  cases a <;> cases k <;> simp at * ; omega

theorem extension_some {x aft : Bytes} (h : extension x = some aft) :
    ∃ bef, bef ≠ [] ∧ x = bef ++ DOT :: aft ∧ DOT ∉ aft ∧ x ≠ [DOT, DOT] := by
  have hf : fileName x ≠ [] := fun hf => by simp [extension, hf] at h
  have hdd : x ≠ [DOT, DOT] := fun hdd => hf (by rw [hdd]; rfl)
  simp only [extension, if_false, fileName_of_ne hf, rsplitFileAtDot, hdd] at h
  cases hs : splitLastDot x with
  | none => simp [hs] at h
  | some p =>
    obtain ⟨bef, aft'⟩ := p
    by_cases hb : bef = [] <;> simp [hs, hb] at h
    obtain ⟨_, rfl⟩ := h
    exact ⟨bef, hb, (splitLastDot_some hs).1, (splitLastDot_some hs).2, hdd⟩

theorem extension_none_of_not_mem {n : Bytes} (h : DOT ∉ n) : extension n = none := by
  cases hx : extension n with
  | none => rfl
  | some aft =>
    obtain ⟨bef, _, rfl, _⟩ := extension_some hx
    simp at h

theorem ne_extension_self {x : Bytes} (hx : x ≠ []) : x ≠ (extension x).getD [] := by
  cases h : extension x with
  | none => simpa using hx
  | some aft =>
    obtain ⟨bef, _, hb, _, _⟩ := extension_some h
    intro h2
    have := congrArg List.length (hb.symm.trans h2)
    simp at this
    omega

theorem toStr_eq (b : Bytes) : toStr b = b ∨ toStr b = [] := by
  unfold toStr; split <;> simp

theorem toStr_of_ne {b : Bytes} (h : toStr b ≠ []) : toStr b = b :=
  (toStr_eq b).resolve_right h

theorem toStr_suffix (b : Bytes) : toStr b <:+ b := by
  rcases toStr_eq b with h | h <;> rw [h]
  · exact List.suffix_refl _
  · exact List.nil_suffix

theorem toStr_utf8 {b : Bytes} (h : isUtf8 b = true) : toStr b = b := by
  simp [toStr, h]

theorem toStr_nil : toStr [] = [] := rfl

theorem trimStartIn_eq (junk s : Bytes) : trimStartIn junk s = s.dropWhile junk.contains := by
  induction s with
  | nil => rfl
  | cons b t ih => rw [trimStartIn, List.dropWhile_cons, ih]

theorem trimStartIn_suffix (junk s : Bytes) : trimStartIn junk s <:+ s :=
  trimStartIn_eq junk s ▸ List.dropWhile_suffix _

theorem trimEndIn_prefix (junk s : Bytes) : trimEndIn junk s <+: s := by
  unfold trimEndIn
  have := trimStartIn_suffix junk s.reverse
  rw [← List.reverse_prefix] at this
  simpa using this

theorem trimStartIn_append (junk a b : Bytes) :
    trimStartIn junk (a ++ b) =
      if trimStartIn junk a = [] then trimStartIn junk b else trimStartIn junk a ++ b := by
  simp only [trimStartIn_eq, List.dropWhile_append, List.isEmpty_iff]

theorem trimStartIn_of_head {junk k : Bytes} (h : startsWithIn junk k = false) :
    trimStartIn junk k = k := by
  cases k with
  | nil => rfl
  | cons b t => simp [startsWithIn] at h; simp [trimStartIn, h]

theorem trimStartIn_all {junk j : Bytes} (h : ∀ b ∈ j, b ∈ junk) : trimStartIn junk j = [] := by
  have := List.dropWhile_append_of_pos (p := junk.contains) (l₂ := []) (by simpa using h)
  rwa [List.append_nil, ← trimStartIn_eq] at this

theorem startsWithIn_of_forall {junk k : Bytes} (h : ∀ b ∈ k, b ∉ junk) : startsWithIn junk k = false := by
  cases k with
  | nil => rfl
  | cons b t => simpa [startsWithIn] using h b (by simp)

theorem startsWithIn_cons {junk m : Bytes} {c : UInt8} (h : c ∉ junk) :
    startsWithIn junk (c :: m) = false := by
  simpa [startsWithIn] using h

theorem exists_head {n : Bytes} (hn : n ≠ []) (hs : startsWithIn junkCharsLead n = false) :
    ∃ c m, n = c :: m ∧ c ∉ junkCharsLead := by
  cases n with
  | nil => exact absurd rfl hn
  | cons c m => exact ⟨c, m, rfl, by simpa [startsWithIn] using hs⟩

theorem endsWithIn_append {junk a k : Bytes} (hk : k ≠ []) :
    endsWithIn junk (a ++ k) = endsWithIn junk k := by
  unfold endsWithIn
  rw [List.getLast?_append]
  cases h : k.getLast? with
  | none => simp at h; exact absurd h hk
  | some b => simp

theorem endsWithIn_of_forall {junk k : Bytes} (h : ∀ b ∈ k, b ∉ junk) : endsWithIn junk k = false := by
  unfold endsWithIn
  cases hl : k.getLast? with
  | none => rfl
  | some b => simpa using h b (List.mem_of_getLast? hl)

theorem trimEndIn_append_junk {junk n j : Bytes} (h : ∀ b ∈ j, b ∈ junk) :
    trimEndIn junk (n ++ j) = trimEndIn junk n := by
  unfold trimEndIn
  rw [List.reverse_append, trimStartIn_append,
    if_pos (trimStartIn_all (by simpa using h))]

theorem trimEndIn_of_not_ends {junk n : Bytes} (h : endsWithIn junk n = false) :
    trimEndIn junk n = n := by
  unfold trimEndIn
  rw [trimStartIn_of_head, List.reverse_reverse]
  unfold startsWithIn
  unfold endsWithIn at h
  rw [List.head?_reverse]
  exact h

theorem trimEndIn_cons_head {junk m : Bytes} {c : UInt8} (hc : c ∉ junk) :
    ∃ m', trimEndIn junk (c :: m) = c :: m' := by
  unfold trimEndIn
  rw [List.reverse_cons, trimStartIn_append]
  have h1 : trimStartIn junk [c] = [c] := trimStartIn_of_head (startsWithIn_cons hc)
  split
  · exact ⟨[], by rw [h1]; rfl⟩
  · exact ⟨(trimStartIn junk m.reverse).reverse, by simp⟩

theorem trimEndIn_prefix_append {junk p x : Bytes} (hx : trimEndIn junk x ≠ []) :
    trimEndIn junk (p ++ x) = p ++ trimEndIn junk x := by
  unfold trimEndIn at *
  rw [List.reverse_append, trimStartIn_append, if_neg (by simpa using hx)]
  simp

theorem startsWithIn_trimStartIn (junk s : Bytes) : startsWithIn junk (trimStartIn junk s) = false := by
  have := List.head?_dropWhile_not junk.contains s
  rw [← trimStartIn_eq] at this
  revert this
  unfold startsWithIn
  cases (trimStartIn junk s).head? <;> simp

theorem isUtf8_append {a b : Bytes} (ha : isUtf8 a = true) : isUtf8 (a ++ b) = isUtf8 b := by
  fun_induction isUtf8 a
  case case1 => rfl
  all_goals first
    | (exact absurd ha (by decide))
    | (try simp only [Bool.and_eq_true] at ha
       simp only [List.cons_append]
       conv => lhs; unfold isUtf8
       simp [*])

theorem junkLead_ascii : ∀ b ∈ junkCharsLead, b < 0x80 := by decide

theorem isUtf8_ascii {j : Bytes} (h : ∀ b ∈ j, b < 0x80) : isUtf8 j = true := by
  induction j with
  | nil => rfl
  | cons b t ih =>
    unfold isUtf8
    simp [h b (by simp), ih (fun x hx => h x (by simp [hx]))]

theorem isUtf8_junk {j : Bytes} (h : ∀ b ∈ j, b ∈ junkChars) : isUtf8 j = true :=
  isUtf8_ascii fun b hb => junkLead_ascii b (mem_junkLead.mpr (Or.inl (h b hb)))

theorem isUtf8_prefix {p : Bytes} (hp : ∀ b ∈ p, b ∈ junkCharsLead) (n : Bytes) :
    isUtf8 (p ++ n) = isUtf8 n :=
  isUtf8_append (isUtf8_ascii fun b hb => junkLead_ascii b (hp b hb))

/-! ### `cleanName` in two stages, and in closed form

`stage1`, `stage2` and `finish` only cut the definition of `cleanName` into pieces for the proof of the closed form
`cleanName_utf8`; nothing after this section mentions them. -/

/-- Trailing-junk stage of `cleanName`. -/
def stage1 (n : Bytes) : Option (Bytes × Bytes) :=
  let fn0 := fileName n
  let fname := toStr fn0
  if endsWithIn junkChars fname then
    let fname2 := trimEndIn junkChars fname
    if fname2 = [] ∨ fname2.all (· == DOT) then none
    else some (fname2, fileName fname2)
  else some (n, fn0)

/-- The last test of `cleanName`: there must be a `file_name` left. -/
def finish : Option (Bytes × Bytes) → Cleaned
  | none => .early
  | some (clean, fnm) => if fnm = [] then .early else .ok clean fnm

/-- Leading-junk stage of `cleanName`. -/
def stage2 (clean fnm : Bytes) : Cleaned :=
  let s := toStr fnm
  if s ≠ [] ∧ s.all (· == DOT) then .early
  else
    let r2 : Option (Bytes × Bytes) :=
      if startsWithIn junkCharsLead s then
        let fname2 := trimStartIn junkCharsLead s
        if fname2 = [] then none
        else if fname2 ≠ (extension clean).getD [] then some (fname2, fileName fname2)
        else some (clean, fnm)
      else some (clean, fnm)
    finish r2

theorem cleanName_eq (n : Bytes) :
    cleanName n = match stage1 n with
      | none => .early
      | some (c, f) => stage2 c f := rfl

theorem cleanName_of_fileName_nil {n : Bytes} (h : fileName n = []) : cleanName n = .early := by
  simp [cleanName_eq, stage1, stage2, finish, h, toStr_nil, endsWithIn, startsWithIn]

theorem stage1_utf8 {n : Bytes} {c : UInt8} (hu : isUtf8 n = true)
    (hc : c ∈ trimEndIn junkChars n) (hcd : c ≠ DOT) :
    stage1 n = some (trimEndIn junkChars n, trimEndIn junkChars n) := by
  have hfn := fileName_of_mem_ne ((trimEndIn_prefix _ n).subset hc) hcd
  cases he : endsWithIn junkChars n with
  | false => simp [stage1, hfn, toStr_utf8 hu, he, trimEndIn_of_not_ends he]
  | true =>
    simp [stage1, hfn, toStr_utf8 hu, he, fileName_of_mem_ne hc hcd, all_dot_of_mem_ne hc hcd,
      List.ne_nil_of_mem hc]

def core (n : Bytes) : Bytes := trimStartIn junkCharsLead (trimEndIn junkChars n)

/-- A name that is not UTF-8 is not cleaned at all (`to_str()` yields `""`, which has no junk). -/
theorem cleanName_not_utf8 {n : Bytes} (h : isUtf8 n = false) : cleanName n = .ok n n := by
  have hn : n ≠ [] := by rintro rfl; cases h
  have hfn : fileName n = n := by
    unfold fileName
    rw [if_neg]
    rintro (rfl | rfl | rfl) <;> cases h
  simp [cleanName, hfn, toStr, h, endsWithIn, startsWithIn, hn]

/-- A UTF-8 name is cleaned to its `core`; nothing is left: fallback. One corner: when the core is the extension
of the end-trimmed name `t` (`t = junk.core`), `t` is kept, with its extension. The code asks again whether `t` is
UTF-8 (it is, but nothing here needs that): if not, `t` is kept as it is. -/
theorem cleanName_utf8 {n : Bytes} (h : isUtf8 n = true) :
    cleanName n =
      if isUtf8 (trimEndIn junkChars n) then
        if core n = [] then .early
        else if core n = (extension (trimEndIn junkChars n)).getD [] then
          .ok (trimEndIn junkChars n) (trimEndIn junkChars n)
        else .ok (core n) (core n)
      else .ok (trimEndIn junkChars n) (trimEndIn junkChars n) := by
  rw [cleanName_eq]
  by_cases hs : ∃ c ∈ trimEndIn junkChars n, c ≠ DOT
  · -- a character other than `.` survives the end trim: stage 1 hands on the trimmed name, stage 2 decides by the core
    obtain ⟨c, hc, hcd⟩ := hs
    have hne := List.ne_nil_of_mem hc
    rw [stage1_utf8 h hc hcd]
    show stage2 _ _ = _
    unfold stage2
    cases hut : isUtf8 (trimEndIn junkChars n) with
    | false => simp [toStr, hut, startsWithIn, finish, hne]
    | true =>
      simp only [toStr_utf8 hut, all_dot_of_mem_ne hc hcd, Bool.false_eq_true, and_false, if_false, if_true,
        ← core.eq_def]
      cases hst : startsWithIn junkCharsLead (trimEndIn junkChars n) with
      | false =>
        have hcore : core n = trimEndIn junkChars n := trimStartIn_of_head hst
        simp [finish, hcore, hne, ne_extension_self hne]
      | true =>
        by_cases hc0 : core n = []
        · simp [finish, hc0]
        · obtain ⟨d, m, hd, hdl⟩ := exists_head hc0 (startsWithIn_trimStartIn _ _)
          have hfn : fileName (core n) = core n :=
            fileName_of_mem_ne (c := d) (by rw [hd]; exact List.mem_cons_self) (not_lead hdl).1
          by_cases hx : core n = (extension (trimEndIn junkChars n)).getD []
          · simp [finish, hx, hx ▸ hc0, hne]
          · simp [finish, hc0, hx, hfn]
  · -- what is left after trimming the end consists of dots: fallback, and the core is empty
    have hall : (trimEndIn junkChars n).all (· == DOT) = true := by simpa using hs
    have hdot : ∀ b ∈ trimEndIn junkChars n, b = DOT := fun b hb => beq_iff_eq.mp (List.all_eq_true.mp hall b hb)
    have hc0 : core n = [] := trimStartIn_all fun b hb => hdot b hb ▸ dot_mem_junkLead
    rw [isUtf8_ascii fun b hb => hdot b hb ▸ junkLead_ascii DOT dot_mem_junkLead, if_pos rfl, if_pos hc0]
    by_cases hf : fileName n = []
    · exact cleanName_eq n ▸ cleanName_of_fileName_nil hf
    · have hfn := fileName_of_ne hf
      have hnn : n ≠ [] := fun h => hf (by rw [h]; rfl)
      cases he : endsWithIn junkChars n with
      | true => simp [stage1, hfn, toStr_utf8 h, he, hall]
      | false =>
        rw [trimEndIn_of_not_ends he] at hall
        simp [stage1, stage2, hfn, toStr_utf8 h, he, hall, hnn]

theorem cleanName_ok {n c f : Bytes} (h : cleanName n = .ok c f) : f = c ∧ c.Sublist n := by
  cases hu : isUtf8 n with
  | false => cases (cleanName_not_utf8 hu).symm.trans h; exact ⟨rfl, .refl _⟩
  | true =>
    rw [cleanName_utf8 hu] at h
    have ht := (trimEndIn_prefix junkChars n).sublist
    split at h
    · split at h
      · cases h
      · split at h <;> cases h
        · exact ⟨rfl, ht⟩
        · exact ⟨rfl, (trimStartIn_suffix _ _).sublist.trans ht⟩
    · cases h; exact ⟨rfl, ht⟩

theorem cleanName_append_junk {n j : Bytes} (hutf : isUtf8 n = true)
    (hj : ∀ b ∈ j, b ∈ junkChars) : cleanName (n ++ j) = cleanName n := by
  rw [cleanName_utf8 hutf, cleanName_utf8 (by rw [isUtf8_append hutf]; exact isUtf8_junk hj), core, core,
    trimEndIn_append_junk hj]

theorem cleanName_component {n : Bytes} (hn : n ≠ []) (hutf : isUtf8 n = true)
    (hdot : DOT ∉ n) (hjunk : ∀ b ∈ n, b ∉ junkChars) : cleanName n = .ok n n := by
  have ht := trimEndIn_of_not_ends (endsWithIn_of_forall hjunk)
  rw [cleanName_utf8 hutf, core, ht, if_pos hutf,
    trimStartIn_of_head (startsWithIn_of_forall (not_mem_junkLead hdot hjunk)), if_neg hn,
    if_neg (ne_extension_self hn)]

theorem cleanName_append_dot {n k : Bytes} (hn : n ≠ []) (hk : k ≠ []) (hdot : DOT ∉ k)
    (hjunk : ∀ b ∈ k, b ∉ junkChars) :
    ∃ c f, cleanName (n ++ DOT :: k) = .ok c f ∧ extension c = some k := by
  have hext := extension_append_dot hn hdot (append_dot_ne_dotdot hn hk)
  cases hu : isUtf8 (n ++ DOT :: k) with
  | false => exact ⟨_, _, cleanName_not_utf8 hu, hext⟩
  | true =>
    have ht : trimEndIn junkChars (n ++ DOT :: k) = n ++ DOT :: k := trimEndIn_of_not_ends (by
      rw [show n ++ DOT :: k = (n ++ [DOT]) ++ k by simp, endsWithIn_append hk]
      exact endsWithIn_of_forall hjunk)
    have hk' : trimStartIn junkCharsLead (DOT :: k) = k := by
      have : junkCharsLead.contains DOT = true := by simpa using dot_mem_junkLead
      simp only [trimStartIn, this, if_true]
      exact trimStartIn_of_head (startsWithIn_of_forall (not_mem_junkLead hdot hjunk))
    rw [cleanName_utf8 hu, core, ht, if_pos hu, trimStartIn_append, hext, Option.getD_some]
    by_cases h0 : trimStartIn junkCharsLead n = []
    · -- the stem is junk: the core is the extension, the whole name is kept
      rw [if_pos h0, hk', if_neg hk, if_pos rfl]
      exact ⟨_, _, rfl, hext⟩
    · rw [if_neg h0, if_neg (append_dot_ne h0).1, if_neg fun h => by have := congrArg List.length h; simp at this; omega]
      exact ⟨_, _, rfl, extension_append_dot h0 hdot (append_dot_ne_dotdot h0 hk)⟩

/-! ### One step of `classifyAux`, independent of `ua` / `fta` / fuel -/

/-- What one call of `pathbuf_to_filetype_impl` decides from the name alone. -/
inductive Step where
  | fallback                 -- `RET_FALLBACK_*`
  | kind (k : Kind)          -- a recognised type, with the current container
  | next (a : Option Arch)   -- recurse on `with_extension("")`, under container `a` if there is one

def actStep : Act → Step
  | .compress a => .next (some a)
  | .evtx => .kind .evtx
  | .journal => .kind .journal
  | .tarArchive => .kind .archiveTar
  | .text => .kind .text
  | .fixed t => .kind (.fixed t)
  | .nonlog => .fallback
  | .nomatch => .next none

def nameStep (fnm : Bytes) : Step :=
  let nameS := asciiLower (toStr fnm)
  if nameS = [] then .fallback
  else match lookup nameTable nameS with
    | .nomatch => .kind .text
    | .compress _ => .fallback   -- unreachable (`nameTable_no_compress`)
    | act => actStep act

abbrev suffixOf (clean : Bytes) : Bytes := asciiLower (toStr ((extension clean).getD []))

def stepOf (clean fnm : Bytes) : Step :=
  match lookup suffixTable (suffixOf clean) with
  | .nomatch => if suffixOf clean ≠ [] then .next none else nameStep fnm
  | act => actStep act

def stepC : Cleaned → Step
  | .early => .fallback
  | .ok c f => stepOf c f

def step (n : Bytes) : Step := stepC (cleanName n)

theorem classifyAux_succ (fuel : Nat) (n : Bytes) (ua : Bool) (fta : Arch) :
    classifyAux (fuel + 1) n ua fta =
      match step n with
      | .fallback => some (fallback ua fta)
      | .kind k => some ⟨k, fta⟩
      | .next a => classifyAux fuel (withExtensionEmpty n) ua (a.getD fta) := by
  rw [classifyAux, step]
  cases cleanName n with
  | early => rfl
  | ok c f =>
    simp only [stepC, stepOf]
    generalize lookup suffixTable _ = act
    cases act <;> simp only [actStep, Option.getD_some]
    split
    · rfl
    · simp only [nameStep]
      split
      · rfl
      · generalize h : lookup nameTable _ = act2
        cases act2 <;> simp only [actStep]
        exact absurd h (nameTable_lookup_not_compress _ _)

theorem nameStep_cases (f : Bytes) :
    nameStep f = .fallback ∨ ∃ k, nameStep f = .kind k ∧ k ≠ .unparsable := by
  unfold nameStep
  simp only
  split
  · exact .inl rfl
  · generalize lookup nameTable _ = act
    cases act <;> simp [actStep]

theorem stepOf_kind {c f : Bytes} {k : Kind} (h : stepOf c f = .kind k) : k ≠ .unparsable := by
  cases hact : lookup suffixTable (suffixOf c) <;> simp only [stepOf, hact, actStep] at h
  case «nomatch» =>
    split at h
    · cases h
    · rcases nameStep_cases f with h' | ⟨k', h', hk⟩ <;> rw [h'] at h <;> cases h
      exact hk
  all_goals cases h <;> nofun

theorem stepOf_next {c f : Bytes} {a : Option Arch} (h : stepOf c f = .next a) :
    suffixOf c ≠ [] ∧ a ≠ some .normal := by
  cases hact : lookup suffixTable (suffixOf c) <;> simp only [stepOf, hact, actStep] at h
  case «nomatch» =>
    split at h
    · next hs => cases h; exact ⟨hs, nofun⟩
    · rcases nameStep_cases f with h' | ⟨k', h', _⟩ <;> rw [h'] at h <;> cases h
  case compress =>
    cases h
    exact ⟨(suffix_lookup_key hact nofun).1, fun ha => suffix_lookup_compress_ne_normal (Option.some.inj ha ▸ hact)⟩
  all_goals cases h

theorem suffixOf_ne {c : Bytes} (h : suffixOf c ≠ []) : ∃ aft, extension c = some aft ∧ aft ≠ [] := by
  cases hx : extension c with
  | none => exact absurd (by rw [suffixOf, hx]; rfl) h
  | some aft => exact ⟨aft, rfl, fun ha => h (by rw [suffixOf, hx, ha]; rfl)⟩

theorem mem_tail_of_extension {x aft : Bytes} (h : extension x = some aft) : DOT ∈ x.tail := by
  obtain ⟨_ | ⟨b, t⟩, hb, rfl, _⟩ := extension_some h
  · exact absurd rfl hb
  · simp

theorem split_of_mem_tail {n : Bytes} (h : DOT ∈ n.tail) :
    ∃ a k, a ≠ [] ∧ DOT ∉ k ∧ n = a ++ DOT :: k := by
  cases n with
  | nil => cases h
  | cons b t =>
    cases hs : splitLastDot t with
    | none => exact absurd h (splitLastDot_eq_none.mp hs)
    | some p => exact ⟨b :: p.1, p.2, nofun, (splitLastDot_some hs).2, congrArg _ (splitLastDot_some hs).1⟩

theorem withExt_lt {n : Bytes} (h : DOT ∈ n.tail) (hne : n ≠ [DOT, DOT]) :
    (withExtensionEmpty n).length < n.length := by
  obtain ⟨a, k, ha, hk, rfl⟩ := split_of_mem_tail h
  rw [withExtensionEmpty_append_dot ha hk hne]
  simp

theorem step_kind {n : Bytes} {k : Kind} (h : step n = .kind k) : k ≠ .unparsable := by
  unfold step stepC at h
  split at h
  · cases h
  · exact stepOf_kind h

theorem step_next {n : Bytes} {a : Option Arch} (h : step n = .next a) :
    DOT ∈ n.tail ∧ n ≠ [DOT, DOT] ∧ a ≠ some .normal := by
  unfold step stepC at h
  split at h
  · cases h
  · next c f hc =>
    obtain ⟨aft, hx, _⟩ := suffixOf_ne (stepOf_next h).1
    refine ⟨(cleanName_ok hc).2.tail.subset (mem_tail_of_extension hx), ?_, (stepOf_next h).2⟩
    rintro rfl
    cases cleanName_of_fileName_nil (n := [DOT, DOT]) rfl ▸ hc

theorem step_next_lt {n : Bytes} {a : Option Arch} (h : step n = .next a) :
    (withExtensionEmpty n).length < n.length :=
  withExt_lt (step_next h).1 (step_next h).2.1

theorem classifyAux_isSome : ∀ (fuel : Nat) (n : Bytes) (ua : Bool) (fta : Arch),
    n.length < fuel → (classifyAux fuel n ua fta).isSome := by
  intro fuel
  induction fuel with
  | zero => intro n ua fta h; cases h
  | succ fuel ih =>
    intro n ua fta h
    rw [classifyAux_succ]
    split
    · rfl
    · rfl
    · next hs => exact ih _ _ _ (Nat.lt_of_lt_of_le (step_next_lt hs) (Nat.le_of_lt_succ h))

theorem classify_isSome (n : Bytes) (ua : Bool) : (classify n ua).isSome :=
  classifyAux_isSome _ _ _ _ (Nat.lt_succ_self _)

theorem classifyAux_fuel_eq : ∀ (f1 f2 : Nat) (n : Bytes) (ua : Bool) (fta : Arch),
    n.length < f1 → n.length < f2 → classifyAux f1 n ua fta = classifyAux f2 n ua fta := by
  intro f1
  induction f1 with
  | zero => intro f2 n ua fta h; cases h
  | succ f1 ih =>
    intro f2 n ua fta h1 h2
    cases f2 with
    | zero => cases h2
    | succ f2 =>
      rw [classifyAux_succ, classifyAux_succ]
      split
      · rfl
      · rfl
      · next hs =>
        have := step_next_lt hs
        exact ih _ _ _ _ (by omega) (by omega)

/-- Names related by `R` are classified alike, if related names take the same step and `R`
survives the recursion on `with_extension("")`. -/
theorem classifyAux_congr {R : Bytes → Bytes → Prop} (ua : Bool)
    (hstep : ∀ {n m}, R n m → step n = step m)
    (hnext : ∀ {n m a}, R n m → step m = .next a →
      R (withExtensionEmpty n) (withExtensionEmpty m)) :
    ∀ (fuel : Nat) {n m : Bytes} (fta : Arch), R n m →
      classifyAux fuel n ua fta = classifyAux fuel m ua fta := by
  intro fuel
  induction fuel with
  | zero => intros; rfl
  | succ fuel ih =>
    intro n m fta h
    rw [classifyAux_succ, classifyAux_succ, hstep h]
    split
    · rfl
    · rfl
    · next hs => exact ih _ (hnext h hs)

/-! ### `unparseable_are_text` -/

theorem classifyAux_true_ne_unparsable : ∀ (fuel : Nat) (n : Bytes) (fta : Arch) (r : Result),
    classifyAux fuel n true fta = some r → r.kind ≠ .unparsable := by
  intro fuel
  induction fuel with
  | zero => intro n fta r h; cases h
  | succ fuel ih =>
    intro n fta r h
    rw [classifyAux_succ] at h
    split at h
    · cases h; nofun
    · next k hs => cases h; exact step_kind hs
    · exact ih _ _ _ h

theorem classifyAux_false_true : ∀ (fuel : Nat) (n : Bytes) (fta : Arch) (r : Result),
    classifyAux fuel n false fta = some r → r.kind ≠ .unparsable →
    classifyAux fuel n true fta = some r := by
  intro fuel
  induction fuel with
  | zero => intro n fta r h; cases h
  | succ fuel ih =>
    intro n fta r h hk
    rw [classifyAux_succ] at h ⊢
    split at h
    · cases h; exact absurd rfl hk
    · exact h
    · exact ih _ _ _ h hk

theorem classify_false_true (n : Bytes) (r : Result) (h : classify n false = some r)
    (hk : r.kind ≠ .unparsable) : classify n true = some r :=
  classifyAux_false_true _ _ _ _ h hk

theorem classifyAux_arch_ne : ∀ (fuel : Nat) (n : Bytes) (ua : Bool) (a : Arch) (r : Result),
    a ≠ .normal → classifyAux fuel n ua a = some r → r.kind = .unparsable ∨ r.arch ≠ .normal := by
  intro fuel
  induction fuel with
  | zero => intro n ua a r _ h; cases h
  | succ fuel ih =>
    intro n ua a r ha h
    rw [classifyAux_succ] at h
    split at h
    · cases ua <;> cases h
      · exact .inl rfl
      · exact .inr ha
    · cases h; exact .inr ha
    · next a' hs =>
      refine ih _ _ _ _ ?_ h
      cases a' with
      | none => exact ha
      | some a' => exact fun h' => (step_next hs).2.2 (congrArg some h')

/-- How the result under container `a` is obtained from the result without container. -/
def retag (a : Arch) (r : Result) : Result :=
  if r.kind = .unparsable ∨ r.arch ≠ .normal then r else ⟨r.kind, a⟩

theorem classifyAux_retag : ∀ (fuel : Nat) (n : Bytes) (ua : Bool) (a : Arch) (r : Result),
    classifyAux fuel n ua .normal = some r → classifyAux fuel n ua a = some (retag a r) := by
  intro fuel
  induction fuel with
  | zero => intro n ua a r h; cases h
  | succ fuel ih =>
    intro n ua a r h
    rw [classifyAux_succ] at h ⊢
    split at h
    · cases ua <;> cases h <;> rfl
    · next k hs => cases h; simp [retag, step_kind hs]
    · next a' hs =>
      cases a' with
      | none => exact ih _ _ _ _ h
      | some a' =>
        rw [Option.getD_some] at h ⊢
        rw [h, retag, if_pos (classifyAux_arch_ne _ _ _ _ _ (fun h' => (step_next hs).2.2 (congrArg some h')) h)]

theorem asciiLower_ne_nil {k : Bytes} (hk : k ≠ []) : asciiLower k ≠ [] := by
  simpa [asciiLower] using hk

theorem step_append_dot {n k : Bytes} (hn : n ≠ []) (hk : k ≠ []) (hdot : DOT ∉ k)
    (hjunk : ∀ b ∈ k, b ∉ junkChars) (hutf : isUtf8 k = true) :
    step (n ++ DOT :: k) = actStep (lookup suffixTable (asciiLower k)) := by
  obtain ⟨c, f, hc, hx⟩ := cleanName_append_dot hn hk hdot hjunk
  have hsuf : suffixOf c = asciiLower k := by simp [suffixOf, hx, toStr_utf8 hutf]
  simp only [step, hc, stepC, stepOf, hsuf]
  generalize lookup suffixTable _ = act
  cases act <;> simp [actStep, asciiLower_ne_nil hk]

theorem classify_append_dot {n k : Bytes} (ua : Bool) (hn : n ≠ []) (hk : k ≠ []) (hdot : DOT ∉ k)
    (hjunk : ∀ b ∈ k, b ∉ junkChars) (hutf : isUtf8 k = true) :
    classify (n ++ DOT :: k) ua =
      match actStep (lookup suffixTable (asciiLower k)) with
      | .fallback => some (fallback ua .normal)
      | .kind kd => some ⟨kd, .normal⟩
      | .next a => classifyAux (n.length + 1) n ua (a.getD .normal) := by
  unfold classify
  rw [classifyAux_succ, step_append_dot hn hk hdot hjunk hutf,
    withExtensionEmpty_append_dot hn hdot (append_dot_ne_dotdot hn hk)]
  split
  · rfl
  · rfl
  · exact classifyAux_fuel_eq _ _ _ _ _ (by simp) (Nat.lt_succ_self _)

theorem suffix_key_shape {k : Bytes} {a : Act} (h : lookup suffixTable (asciiLower k) = a)
    (ha : a ≠ .nomatch) : k ≠ [] ∧ DOT ∉ k ∧ ∀ b ∈ k, b ∉ junkChars := by
  obtain ⟨h1, h2⟩ := suffix_lookup_key h ha
  have h3 : ∀ b ∈ k, b ∉ junkCharsLead := by
    intro b hb hl
    apply h2 (lowerByte b)
    · simp only [asciiLower, List.mem_map]; exact ⟨b, hb, rfl⟩
    · rw [lowerByte_junkLead b hl]; exact hl
  refine ⟨?_, ?_, ?_⟩
  · rintro rfl; exact h1 rfl
  · exact fun hd => h3 _ hd dot_mem_junkLead
  · exact fun b hb hj => h3 b hb (mem_junkLead.mpr (Or.inl hj))

theorem classify_compress_retag (n k : Bytes) (ua : Bool) (a : Arch) (r : Result) (hn : n ≠ [])
    (hrow : lookup suffixTable (asciiLower k) = .compress a) (hutf : isUtf8 k = true)
    (h : classify n ua = some r) : classify (n ++ DOT :: k) ua = some (retag a r) := by
  obtain ⟨hk, hdot, hjunk⟩ := suffix_key_shape hrow (by simp)
  rw [classify_append_dot ua hn hk hdot hjunk hutf, hrow]
  exact classifyAux_retag _ _ _ _ _ h

theorem suffixOf_of_not_mem {n : Bytes} (hdot : DOT ∉ n) : suffixOf n = [] := by
  simp [suffixOf, extension_none_of_not_mem hdot, toStr_nil, asciiLower]

theorem withExtensionEmpty_append_junk {n j : Bytes} (hj : ∀ b ∈ j, b ∈ junkChars)
    (ht : DOT ∈ n.tail) (hne : n ≠ [DOT, DOT]) :
    withExtensionEmpty (n ++ j) = withExtensionEmpty n := by
  obtain ⟨a, k, ha, hk, rfl⟩ := split_of_mem_tail ht
  have hk' : DOT ∉ k ++ j := by
    simp only [List.mem_append, not_or]
    exact ⟨hk, fun h => dot_not_mem_junk (hj _ h)⟩
  rw [withExtensionEmpty_append_dot ha hk hne]
  by_cases hj0 : j = []
  · subst hj0; simp only [List.append_nil]; exact withExtensionEmpty_append_dot ha hk hne
  · rw [show (a ++ DOT :: k) ++ j = a ++ DOT :: (k ++ j) by simp]
    exact withExtensionEmpty_append_dot ha hk' (append_dot_ne_dotdot ha (by simp [hj0]))

theorem classifyAux_append_junk {n j : Bytes} (hutf : isUtf8 n = true)
    (hj : ∀ b ∈ j, b ∈ junkChars) (fuel : Nat) (ua : Bool) (fta : Arch) :
    classifyAux fuel (n ++ j) ua fta = classifyAux fuel n ua fta := by
  cases fuel with
  | zero => rfl
  | succ fuel =>
    have hstep : step (n ++ j) = step n := congrArg stepC (cleanName_append_junk hutf hj)
    rw [classifyAux_succ, classifyAux_succ, hstep]
    split
    · rfl
    · rfl
    · next hs => rw [withExtensionEmpty_append_junk hj (step_next hs).1 (step_next hs).2.1]

theorem classify_junk_trailing (n j : Bytes) (ua : Bool) (hutf : isUtf8 n = true)
    (hj : ∀ b ∈ j, b ∈ junkChars) : classify (n ++ j) ua = classify n ua := by
  unfold classify
  rw [classifyAux_append_junk hutf hj]
  exact classifyAux_fuel_eq _ _ _ _ _ (by simp; omega) (Nat.lt_succ_self _)

/-- The prefixes `classify_prefix` handles: leading junk without `.`, or the single `.` of a hidden file. -/
structure JunkPrefix (p : Bytes) : Prop where
  ne : p ≠ []
  lead : ∀ b ∈ p, b ∈ junkCharsLead
  dot : p = [DOT] ∨ DOT ∉ p

theorem split_prefix {p m : Bytes} {c : UInt8} (hp : p ≠ []) (hcd : c ≠ DOT) (hm : DOT ∈ m) :
    ∃ a k, extension (c :: m) = some k ∧ extension (p ++ c :: m) = some k ∧
      withExtensionEmpty (c :: m) = c :: a ∧ withExtensionEmpty (p ++ c :: m) = p ++ c :: a := by
  obtain ⟨_ | ⟨c', a⟩, k, ha, hk, hak⟩ := split_of_mem_tail (n := c :: m) hm
  · exact absurd rfl ha
  obtain ⟨rfl, rfl⟩ : c = c' ∧ m = a ++ DOT :: k := by simpa using hak
  have hne : (c :: a) ++ DOT :: k ≠ [DOT, DOT] := by simp [hcd]
  have hne' : (p ++ c :: a) ++ DOT :: k ≠ [DOT, DOT] := fun h => by
    have := congrArg List.length h
    have := List.length_pos_iff.mpr hp
    simp at *; omega
  rw [show p ++ c :: (a ++ DOT :: k) = (p ++ c :: a) ++ DOT :: k by simp]
  exact ⟨a, k, extension_append_dot ha hk hne, extension_append_dot (by simp) hk hne',
    withExtensionEmpty_append_dot ha hk hne, withExtensionEmpty_append_dot (by simp) hk hne'⟩

theorem extension_prefix {p m : Bytes} {c : UInt8} (hp : JunkPrefix p) (hc : c ∉ junkCharsLead) :
    extension (p ++ c :: m) = extension (c :: m) := by
  have hcd := (not_lead hc).1
  by_cases hm : DOT ∈ m
  · obtain ⟨a, k, h1, h2, _⟩ := split_prefix hp.ne hcd hm
    rw [h1, h2]
  · have hd : DOT ∉ c :: m := by simp [hm, Ne.symm hcd]
    rw [extension_none_of_not_mem hd]
    rcases hp.dot with rfl | hpd
    · -- `.name`: the only dot is the first byte, and `rsplit_file_at_dot` gives such a name no extension
      have hfn : fileName ([DOT] ++ c :: m) = [DOT] ++ c :: m :=
        fileName_of_mem_ne (c := c) (by simp) hcd
      unfold extension
      simp only [hfn]
      have : splitLastDot (DOT :: c :: m) = some ([], c :: m) := by
        simpa using splitLastDot_append (a := []) hd
      simp [rsplitFileAtDot, this, hcd]
    · exact extension_none_of_not_mem (by simp [hpd, hd])

theorem stepOf_prefix {p m : Bytes} {c : UInt8} (hp : JunkPrefix p) (hc : c ∉ junkCharsLead)
    (hu : isUtf8 (c :: m) = false) : stepOf (p ++ c :: m) (p ++ c :: m) = stepOf (c :: m) (c :: m) := by
  have hu' := isUtf8_prefix hp.lead (c :: m)
  rw [hu] at hu'
  -- same extension, and a name that is not UTF-8 gets no bare-name lookup
  simp only [stepOf, suffixOf, extension_prefix hp hc, nameStep, toStr, hu, hu']
  rfl

theorem step_prefix {p m : Bytes} {c : UInt8} (hp : JunkPrefix p) (hc : c ∉ junkCharsLead) :
    step (p ++ c :: m) = step (c :: m) := by
  have hu' := isUtf8_prefix hp.lead (c :: m)
  cases hu : isUtf8 (c :: m) with
  | false =>
    rw [hu] at hu'
    rw [step, step, cleanName_not_utf8 hu, cleanName_not_utf8 hu']
    exact stepOf_prefix hp hc hu
  | true =>
    rw [hu] at hu'
    obtain ⟨m', hm'⟩ := trimEndIn_cons_head (m := m) (not_lead hc).2
    have hm'' : trimEndIn junkChars (p ++ c :: m) = p ++ c :: m' := by
      rw [trimEndIn_prefix_append (by simp [hm']), hm']
    rw [step, step, cleanName_utf8 hu, cleanName_utf8 hu', core, core, hm', hm'', isUtf8_prefix hp.lead]
    cases ht : isUtf8 (c :: m') with
    | false => exact stepOf_prefix hp hc ht
    | true =>
      -- both names have the core `c :: m'`, and it is not the extension of either
      have hcore' : trimStartIn junkCharsLead (c :: m') = c :: m' := trimStartIn_of_head (startsWithIn_cons hc)
      have hcore : trimStartIn junkCharsLead (p ++ c :: m') = c :: m' := by
        rw [trimStartIn_append, if_pos (trimStartIn_all hp.lead), hcore']
      have hne := ne_extension_self (x := c :: m') (by simp)
      rw [hcore, hcore', extension_prefix hp hc]
      simp only [hne, if_false, if_true]

theorem classify_prefix {p n : Bytes} (hp : JunkPrefix p) (ua : Bool) (hn : n ≠ [])
    (hs : startsWithIn junkCharsLead n = false) : classify (p ++ n) ua = classify n ua := by
  obtain ⟨c, m, rfl, hc⟩ := exists_head hn hs
  refine (classifyAux_congr (R := fun x y => ∃ c m, c ∉ junkCharsLead ∧ x = p ++ c :: m ∧ y = c :: m)
    ua ?_ ?_ _ _ ⟨c, m, hc, rfl, rfl⟩).trans (classifyAux_fuel_eq _ _ _ _ _ (by simp; omega) (Nat.lt_succ_self _))
  · rintro _ _ ⟨c, m, hc, rfl, rfl⟩
    exact step_prefix hp hc
  · rintro _ _ a ⟨c, m, hc, rfl, rfl⟩ hs
    obtain ⟨m', _, _, _, h1, h2⟩ := split_prefix hp.ne (not_lead hc).1 (step_next hs).1
    exact ⟨c, m', hc, h2, h1⟩

/-- Leading junk characters other than `.` never matter (no UTF-8 assumption is needed). -/
theorem classify_junk_leading' (n j : Bytes) (ua : Bool)
    (hj : ∀ b ∈ j, b ∈ junkChars) (hn : startsWithIn junkCharsLead n = false) :
    classify (j ++ n) ua = classify n ua := by
  by_cases hj0 : j = []
  · simp [hj0]
  by_cases hn0 : n = []
  · subst hn0
    simpa using classify_junk_trailing [] j ua rfl hj
  · exact classify_prefix ⟨hj0, fun b hb => mem_junkLead.mpr (Or.inl (hj b hb)),
      Or.inr fun h => dot_not_mem_junk (hj _ h)⟩ ua hn0 hn

theorem classify_dot_nil (ua : Bool) : classify [DOT] ua = classify [] ua := by
  cases ua <;> decide

/-- One leading `.` (a hidden file) does not matter (no UTF-8 assumption is needed). -/
theorem classify_hidden' (n : Bytes) (ua : Bool) (hn : startsWithIn junkCharsLead n = false) :
    classify (DOT :: n) ua = classify n ua := by
  by_cases hn0 : n = []
  · subst hn0; exact classify_dot_nil ua
  · exact classify_prefix (p := [DOT]) ⟨by simp, by simp [dot_mem_junkLead], Or.inl rfl⟩ ua hn0 hn

theorem asciiLower_cons (b : UInt8) (r : Bytes) : asciiLower (b :: r) = lowerByte b :: asciiLower r := rfl

theorem asciiLower_nil : asciiLower [] = [] := rfl

/-- The `| _ => false` arms of `isUtf8` (a lead byte followed by too few bytes), where `x` says that `rest` is not of
the arm's form: a `rest` of length 0, 1, 2 or more either contradicts `x` or makes both sides `false`. -/
local macro "utf8_short" x:ident rest:ident : tactic => `(tactic|
  (rcases $rest:ident with _ | ⟨b1, _ | ⟨b2, _ | ⟨b3, r⟩⟩⟩
   all_goals first
     | (exact ($x _ _ rfl).elim)
     | (exact ($x _ _ _ rfl).elim)
     | (exact ($x _ _ _ _ rfl).elim)
     | (simp only [asciiLower_cons, asciiLower_nil]
        rw [lowerByte_high _ (by assumption)]
        conv => lhs; unfold isUtf8
        simp [*]
        done)))

theorem isUtf8_asciiLower (a : Bytes) : isUtf8 (asciiLower a) = isUtf8 a := by
  fun_induction isUtf8 a
  case case1 => rfl
  case case4 rest _ _ x => utf8_short x rest
  case case6 rest _ _ _ x => utf8_short x rest
  case case8 rest _ _ _ _ x => utf8_short x rest
  case case10 rest _ _ _ _ _ x => utf8_short x rest
  case case12 rest _ _ _ _ _ _ x => utf8_short x rest
  case case14 rest _ _ _ _ _ _ _ x => utf8_short x rest
  case case16 rest _ _ _ _ _ _ _ _ x => utf8_short x rest
  -- the other arms: `lowerByte` keeps a byte on its side of `0x80` and leaves one `≥ 0x80` alone, and the tests on
  -- the bytes after a lead byte fail below `0x80` (`lowerByte_range`)
  all_goals
    simp only [asciiLower_cons]
    try rw [lowerByte_high _ (by assumption)]
    conv => lhs; unfold isUtf8
    simp [*, lowerByte_isCont, lowerByte_lt, lowerByte_range (lo := 0xA0) _ _ (by decide),
      lowerByte_range (lo := 0x80) _ _ (by decide), lowerByte_range (lo := 0x90) _ _ (by decide)]

theorem asciiLower_eq_nil {s : Bytes} : asciiLower s = [] ↔ s = [] := by simp [asciiLower]

theorem asciiLower_idem (s : Bytes) : asciiLower (asciiLower s) = asciiLower s := by
  simp [asciiLower, lowerByte_idem]

theorem asciiLower_length (s : Bytes) : (asciiLower s).length = s.length := by simp [asciiLower]

theorem asciiLower_append (a b : Bytes) : asciiLower (a ++ b) = asciiLower a ++ asciiLower b := by
  simp [asciiLower]

theorem asciiLower_eq_dot {s : Bytes} : asciiLower s = [DOT] ↔ s = [DOT] := by
  rcases s with _ | ⟨b, _ | ⟨c, r⟩⟩ <;> simp [asciiLower, lowerByte_dot]

theorem asciiLower_eq_dotdot {s : Bytes} : asciiLower s = [DOT, DOT] ↔ s = [DOT, DOT] := by
  rcases s with _ | ⟨b, _ | ⟨c, _ | ⟨d, r⟩⟩⟩ <;> simp [asciiLower, lowerByte_dot]

theorem toStr_asciiLower (b : Bytes) : toStr (asciiLower b) = asciiLower (toStr b) := by
  unfold toStr; rw [isUtf8_asciiLower]; split <;> rfl

theorem fileName_asciiLower (n : Bytes) : fileName (asciiLower n) = asciiLower (fileName n) := by
  unfold fileName
  simp only [asciiLower_eq_nil, asciiLower_eq_dot, asciiLower_eq_dotdot]
  split <;> rfl

theorem trimStartIn_asciiLower {junk : Bytes}
    (hj : ∀ b, junk.contains (lowerByte b) = junk.contains b) (s : Bytes) :
    trimStartIn junk (asciiLower s) = asciiLower (trimStartIn junk s) := by
  rw [trimStartIn_eq, trimStartIn_eq, asciiLower, List.dropWhile_map, show junk.contains ∘ lowerByte = junk.contains from funext hj]
  rfl

theorem asciiLower_reverse (s : Bytes) : asciiLower s.reverse = (asciiLower s).reverse := by
  simp [asciiLower]

theorem trimEndIn_asciiLower {junk : Bytes}
    (hj : ∀ b, junk.contains (lowerByte b) = junk.contains b) (s : Bytes) :
    trimEndIn junk (asciiLower s) = asciiLower (trimEndIn junk s) := by
  unfold trimEndIn
  rw [← asciiLower_reverse, trimStartIn_asciiLower hj, asciiLower_reverse]

theorem splitLastDot_asciiLower (n : Bytes) :
    splitLastDot (asciiLower n) =
      (splitLastDot n).map (fun p => (asciiLower p.1, asciiLower p.2)) := by
  induction n with
  | nil => rfl
  | cons b t ih =>
    simp only [asciiLower_cons, splitLastDot, ih]
    cases splitLastDot t with
    | some p => rfl
    | none =>
      simp only [Option.map_none, lowerByte_dot]
      split <;> rfl

theorem rsplit_asciiLower (f : Bytes) :
    rsplitFileAtDot (asciiLower f) =
      ((rsplitFileAtDot f).1.map asciiLower, (rsplitFileAtDot f).2.map asciiLower) := by
  unfold rsplitFileAtDot
  simp only [asciiLower_eq_dotdot, splitLastDot_asciiLower]
  split
  · rfl
  · cases splitLastDot f with
    | none => rfl
    | some p =>
      simp only [Option.map_some, asciiLower_eq_nil]
      split <;> rfl

theorem extension_asciiLower (n : Bytes) :
    extension (asciiLower n) = (extension n).map asciiLower := by
  unfold extension
  simp only [fileName_asciiLower, asciiLower_eq_nil, rsplit_asciiLower]
  split
  · rfl
  · rcases rsplitFileAtDot (fileName n) with ⟨_ | a, _ | b⟩ <;> rfl

theorem withExtensionEmpty_asciiLower (n : Bytes) :
    withExtensionEmpty (asciiLower n) = asciiLower (withExtensionEmpty n) := by
  unfold withExtensionEmpty fileStem
  simp only [fileName_asciiLower, asciiLower_eq_nil, rsplit_asciiLower]
  by_cases hf : fileName n = []
  · simp only [hf, if_true]
  · simp only [hf, if_false]
    rcases rsplitFileAtDot (fileName n) with ⟨_ | a, _ | b⟩ <;> rfl

def lowerC : Cleaned → Cleaned
  | .early => .early
  | .ok c f => .ok (asciiLower c) (asciiLower f)

theorem asciiLower_inj_suffix {x y c : Bytes} (hx : x <:+ c) (hy : y <:+ c) :
    asciiLower x = asciiLower y ↔ x = y := by
  constructor
  · intro h
    have hl : x.length = y.length := by
      rw [← asciiLower_length x, ← asciiLower_length y, h]
    exact (List.suffix_of_suffix_length_le hx hy (by omega)).eq_of_length hl
  · rintro rfl; rfl

theorem extension_getD_suffix (c : Bytes) : (extension c).getD [] <:+ c := by
  cases h : extension c with
  | none => exact List.nil_suffix
  | some aft =>
    obtain ⟨bef, _, hb, _, _⟩ := extension_some h
    exact ⟨bef ++ [DOT], by simp [hb]⟩

theorem core_asciiLower (n : Bytes) : core (asciiLower n) = asciiLower (core n) := by
  rw [core, core, trimEndIn_asciiLower contains_lowerByte_junk, trimStartIn_asciiLower contains_lowerByte_junkLead]

theorem cleanName_asciiLower (n : Bytes) : cleanName (asciiLower n) = lowerC (cleanName n) := by
  have hu' := isUtf8_asciiLower n
  cases hu : isUtf8 n with
  | false => rw [hu] at hu'; rw [cleanName_not_utf8 hu, cleanName_not_utf8 hu']; rfl
  | true =>
    rw [hu] at hu'
    -- the one comparison of the closed form is between two suffixes of the same string
    have hcmp : asciiLower (core n) = asciiLower ((extension (trimEndIn junkChars n)).getD []) ↔ _ :=
      asciiLower_inj_suffix (trimStartIn_suffix junkCharsLead (trimEndIn junkChars n))
        (extension_getD_suffix (trimEndIn junkChars n))
    have hget : ((extension (trimEndIn junkChars n)).map asciiLower).getD []
        = asciiLower ((extension (trimEndIn junkChars n)).getD []) := by
      cases extension (trimEndIn junkChars n) <;> rfl
    simp only [cleanName_utf8 hu, cleanName_utf8 hu', core_asciiLower, trimEndIn_asciiLower contains_lowerByte_junk,
      isUtf8_asciiLower, extension_asciiLower, hget, asciiLower_eq_nil, hcmp]
    split
    · split
      · rfl
      · split <;> rfl
    · rfl

theorem suffixOf_asciiLower (c : Bytes) : suffixOf (asciiLower c) = suffixOf c := by
  unfold suffixOf
  rw [extension_asciiLower]
  cases extension c with
  | none => rfl
  | some e => simp only [Option.map_some, Option.getD_some, toStr_asciiLower, asciiLower_idem]

theorem nameStep_asciiLower (f : Bytes) : nameStep (asciiLower f) = nameStep f := by
  unfold nameStep
  simp only [toStr_asciiLower, asciiLower_idem]

theorem stepOf_asciiLower (c f : Bytes) : stepOf (asciiLower c) (asciiLower f) = stepOf c f := by
  unfold stepOf
  rw [suffixOf_asciiLower, nameStep_asciiLower]

theorem step_asciiLower (n : Bytes) : step (asciiLower n) = step n := by
  rw [step, cleanName_asciiLower, step]
  cases cleanName n with
  | early => rfl
  | ok c f => exact stepOf_asciiLower c f

theorem classifyAux_asciiLower (fuel : Nat) (n : Bytes) (ua : Bool) (fta : Arch) :
    classifyAux fuel (asciiLower n) ua fta = classifyAux fuel n ua fta :=
  classifyAux_congr (R := fun x y => x = asciiLower y) ua (fun h => h ▸ step_asciiLower _)
    (fun h _ => h ▸ withExtensionEmpty_asciiLower _) fuel fta rfl

end S4V.Lemmas.Path
