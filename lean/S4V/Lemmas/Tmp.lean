/-
Lemmas for C18 (temporary files): invariants of the protocol model
`S4V.Model.Tmp` under the repaired source order (`run true true`), the
formalisation of "no worker creates its file after the SIGINT handler ran",
and the step-preservation proofs the property file appeals to, with the
handler's closed flag (`NAMED_TEMP_FILES_CLOSED`, `stepC`) and without it.
-/
import S4V.Model.Tmp
import S4V.Lemmas.Lists

namespace S4V.Lemmas.Tmp
open S4V.Model.Tmp S4V.Gen.Tmp
open S4V.Lemmas.Lists (getD_set lt_of_getD_ne length_filter_eq_zero_iff)

/-- what the handler does to the disk: a file that is listed is removed -/
theorem getD_clear (a b : List Bool) (i : Nat) :
    (((a.zip b).map fun (d, l) => d && !l).getD i false) = (a.getD i false && (!b.getD i false && decide (i < b.length))) := by
  induction a generalizing b i with
  | nil => simp
  | cons x xs ih =>
    cases b with
    | nil => simp
    | cons y ys =>
      cases i with
      | zero => simp
      | succ k => simpa using ih ys k

/-- `noLate ul df s evs`: along the run of `evs` from `s` (as far as it is defined) no event is a
late creation. -/
def noLate (ul df : Bool) (s : St) : List Ev → Bool
  | [] => true
  | e :: es => !lateCreate s e && match step ul df s e with
    | some s' => noLate ul df s' es
    | none => true

/-- the variant of `run` that rejects late creations -/
def runNoLate (ul df : Bool) (s : St) : List Ev → Option St
  | [] => some s
  | e :: es => if lateCreate s e then none else match step ul df s e with
    | some s' => runNoLate ul df s' es
    | none => none

/-- both formalisations agree: `runNoLate` accepts exactly the accepted runs without late creation -/
theorem runNoLate_eq_some_iff (ul df : Bool) (s t : St) (evs : List Ev) :
    runNoLate ul df s evs = some t ↔ run ul df s evs = some t ∧ noLate ul df s evs = true := by
  induction evs generalizing s with
  | nil => simp [runNoLate, run, noLate]
  | cons e es ih =>
    unfold runNoLate run noLate
    cases hl : lateCreate s e with
    | true => simp
    | false =>
      cases hs : step ul df s e with
      | none => simp
      | some s' => simpa using ih s'

theorem step_some {ul df s e s'} (h : step ul df s e = some s') :
    (∃ i, e = .work i ∧ s.exited = false ∧ workerStep ul df s i = some s') ∨
    (e = .sigint ∧ s.exited = false ∧ s.handlerRan = false ∧
      s' = { s with handlerRan := true, onDisk := (s.onDisk.zip s.listed).map fun (d, l) => d && !l }) ∨
    (e = .exit ∧ ((s.phase.all fun p => p == .summarised || p == .done) = true ∨ s.handlerRan = true) ∧
      s' = { s with exited := true }) := by
  cases e <;> simp only [step] at h <;> split at h <;> try cases h
  · rename_i hc; exact .inl ⟨_, rfl, by simpa using hc, h⟩
  · rename_i hc; simp at hc; exact .inr (.inl ⟨rfl, hc.1, hc.2, rfl⟩)
  · split at h <;> cases h
    rename_i hc; exact .inr (.inr ⟨rfl, by simpa using hc, rfl⟩)

theorem workerStep_some {ul df s i s'} (h : workerStep ul df s i = some s') :
    s'.handlerRan = s.handlerRan ∧ s'.exited = s.exited ∧ s'.phase.length = s.phase.length ∧
      s'.onDisk.length = s.onDisk.length ∧ s'.listed.length = s.listed.length := by
  unfold workerStep at h
  split at h <;> (try split at h) <;> cases h <;> simp

theorem run_cons {ul df s e es t} :
    run ul df s (e :: es) = some t ↔ ∃ s1, step ul df s e = some s1 ∧ run ul df s1 es = some t := by
  rw [run]
  cases step ul df s e <;> simp

theorem run_induct {ul df} {P : St → Prop} (hstep : ∀ {s e s'}, step ul df s e = some s' → P s → P s')
    {s evs s'} (h : run ul df s evs = some s') (hp : P s) : P s' := by
  induction evs generalizing s with
  | nil => cases h; exact hp
  | cons e es ih =>
    obtain ⟨s1, hs, h⟩ := run_cons.1 h
    exact ih h (hstep hs hp)

theorem handlerRan_step {ul df s e s'} (h : step ul df s e = some s') :
    s'.handlerRan = true ↔ s.handlerRan = true ∨ e = .sigint := by
  rcases step_some h with ⟨i, rfl, -, hw⟩ | ⟨rfl, -, -, rfl⟩ | ⟨rfl, -, rfl⟩
  · simp [(workerStep_some hw).1]
  · simp
  · simp

theorem handlerRan_run {ul df s evs t} (h : run ul df s evs = some t) :
    t.handlerRan = true ↔ s.handlerRan = true ∨ Ev.sigint ∈ evs := by
  induction evs generalizing s with
  | nil => cases h; simp
  | cons e es ih =>
    obtain ⟨s1, hs, h⟩ := run_cons.1 h
    rw [ih h, handlerRan_step hs, List.mem_cons, or_assoc, @eq_comm _ Ev.sigint]

theorem noLate_iff (ul df : Bool) (s : St) (evs : List Ev) :
    noLate ul df s evs = true ↔
      ∀ pre e post t, evs = pre ++ e :: post → run ul df s pre = some t → lateCreate t e = false := by
  induction evs generalizing s with
  | nil => simp [noLate]
  | cons e es ih =>
    simp only [noLate, Bool.and_eq_true, Bool.not_eq_true', List.cons_eq_append_iff]
    constructor
    · rintro ⟨h0, h1⟩ pre e' post t (⟨rfl, he⟩ | ⟨pre', rfl, hes⟩) hrun
      · cases he; cases hrun; exact h0
      · obtain ⟨s1, hs, hrun⟩ := run_cons.1 hrun
        rw [hs] at h1
        exact (ih s1).1 h1 pre' e' post t hes hrun
    · intro H
      refine ⟨H [] e es s (.inl ⟨rfl, rfl⟩) rfl, ?_⟩
      cases hs : step ul df s e with
      | none => rfl
      | some s1 =>
        exact (ih s1).2 fun pre e' post t heq hrun =>
          H (e :: pre) e' post t (.inr ⟨pre, rfl, heq⟩) (run_cons.2 ⟨s1, hs, hrun⟩)

theorem noLate_of_no_sigint (ul df : Bool) (s : St) (evs : List Ev)
    (hr : s.handlerRan = false) (hno : Ev.sigint ∉ evs) : noLate ul df s evs = true := by
  rw [noLate_iff]
  rintro pre e post t rfl hrun
  have hp : Ev.sigint ∉ pre := fun h => hno (List.mem_append_left _ h)
  have ht : t.handlerRan = false := by simpa [hr, hp] using handlerRan_run hrun
  cases e <;> simp [lateCreate, ht]

def Lens (n : Nat) (s : St) : Prop := s.phase.length = n ∧ s.onDisk.length = n ∧ s.listed.length = n

theorem lens_init (n : Nat) : Lens n (init n) := by simp [Lens, init]

theorem lens_step {ul df n s e s'} (h : step ul df s e = some s') (hl : Lens n s) : Lens n s' := by
  obtain ⟨h1, h2, h3⟩ := hl
  rcases step_some h with ⟨i, -, -, hw⟩ | ⟨-, -, -, rfl⟩ | ⟨-, -, rfl⟩
  · obtain ⟨-, -, e1, e2, e3⟩ := workerStep_some hw
    exact ⟨e1.trans h1, e2.trans h2, e3.trans h3⟩
  · simp [Lens, h1, h2, h3]
  · exact ⟨h1, h2, h3⟩

theorem lens_run {ul df n s evs s'} (h : run ul df s evs = some s') (hl : Lens n s) : Lens n s' :=
  run_induct lens_step h hl

/-- under `run true true`: a file on disk belongs to a worker in phase `.listed` and is listed;
the phases `.created` and `.summarised` are never entered -/
structure Inv0 (s : St) : Prop where
  len1 : s.onDisk.length = s.phase.length
  len2 : s.listed.length = s.phase.length
  disk : ∀ i, s.onDisk.getD i false = true → s.phase.getD i .done = .listed ∧ s.listed.getD i false = true
  ph : ∀ i, s.phase.getD i .done ≠ .created ∧ s.phase.getD i .done ≠ .summarised

def AllOff (s : St) : Prop := ∀ i, s.onDisk.getD i false = false

/-- once the handler ran, or once the process exited, nothing is on disk -/
structure Inv1 (s : St) : Prop where
  hr : s.handlerRan = true → AllOff s
  ex : s.exited = true → AllOff s

theorem leftovers_eq_zero_iff (s : St) : leftovers s = 0 ↔ AllOff s :=
  length_filter_eq_zero_iff id false rfl s.onDisk

theorem inv0_init (n : Nat) : Inv0 (init n) := by
  refine ⟨by simp [init], by simp [init], fun i h => ?_, fun i => ?_⟩
  · simp [init, List.getD_eq_getElem?_getD, List.getElem?_replicate] at h
    split at h <;> simp at h
  · simp only [init, List.getD_eq_getElem?_getD, List.getElem?_replicate]
    split <;> simp

theorem inv1_init (n : Nat) : Inv1 (init n) := by
  constructor <;> intro h <;> simp [init] at h

theorem workerStep_tt {s i s'} (h : workerStep true true s i = some s') (hph : ∀ i, s.phase.getD i .done ≠ .created ∧ s.phase.getD i .done ≠ .summarised) :
    (s.phase.getD i .done = .start ∧
      s' = { s with phase := s.phase.set i .listed, onDisk := s.onDisk.set i true, listed := s.listed.set i true }) ∨
    (s.phase.getD i .done = .listed ∧
      s' = { s with phase := s.phase.set i .deleted, onDisk := s.onDisk.set i false }) ∨
    (s.phase.getD i .done = .deleted ∧ s' = { s with phase := s.phase.set i .done }) := by
  unfold workerStep at h
  split at h
  · rename_i hp; simp at h; exact .inl ⟨hp, h.symm⟩
  · rename_i hp; exact absurd hp (hph i).1
  · rename_i hp; simp at h; exact .inr (.inl ⟨hp, h.symm⟩)
  · rename_i hp; simp at h; exact .inr (.inr ⟨hp, h.symm⟩)
  · rename_i hp; exact absurd hp (hph i).2
  · cases h

theorem ph_set {s : St} (hp : ∀ j, s.phase.getD j .done ≠ .created ∧ s.phase.getD j .done ≠ .summarised)
    (i : Nat) (x : Phase) (hx : x ≠ .created ∧ x ≠ .summarised) (j : Nat) :
    (s.phase.set i x).getD j .done ≠ .created ∧ (s.phase.set i x).getD j .done ≠ .summarised := by
  rw [getD_set]
  split
  · exact hx
  · exact hp j

theorem inv0_step {s e s'} (h : step true true s e = some s') (hi : Inv0 s) : Inv0 s' := by
  obtain ⟨l1, l2, hd, hp⟩ := hi
  rcases step_some h with ⟨i, -, -, hw⟩ | ⟨-, -, -, rfl⟩ | ⟨-, -, rfl⟩
  · rcases workerStep_tt hw hp with ⟨hs, rfl⟩ | ⟨hs, rfl⟩ | ⟨hs, rfl⟩
    all_goals
      have hlt : i < s.phase.length := lt_of_getD_ne (by rw [hs]; decide)
      refine ⟨by simp [l1], by simp [l2], fun j hj => ?_, ph_set hp i _ (by decide)⟩
      have hc : ∀ j, (i = j ∧ j < s.phase.length) ↔ i = j := fun j => ⟨And.left, fun e => ⟨e, e ▸ hlt⟩⟩
      simp only [getD_set, l1, l2, hc] at hj ⊢
      by_cases hij : i = j
      case neg => simp only [hij, if_false] at hj ⊢; exact hd j hj
    -- left: the worker's own entry, which is created and listed together; deleted; already deleted
    · simp [hij]
    · simp [hij] at hj
    · subst hij; have := (hd i hj).1; rw [hs] at this; cases this
  · refine ⟨by simp [l1, l2], l2, fun i hi => ?_, hp⟩
    rw [getD_clear, Bool.and_eq_true] at hi
    exact hd i hi.1
  · exact ⟨l1, l2, hd, hp⟩

theorem inv0_run {s evs s'} (h : run true true s evs = some s') (hi : Inv0 s) : Inv0 s' :=
  run_induct inv0_step h hi

theorem inv1_step {s e s'} (h : step true true s e = some s') (h0 : Inv0 s) (h1 : Inv1 s)
    (hl : lateCreate s e = false) : Inv1 s' := by
  obtain ⟨l1, l2, hd, hp⟩ := h0
  obtain ⟨hr, hx⟩ := h1
  rcases step_some h with ⟨i, rfl, hne, hw⟩ | ⟨-, hex, -, rfl⟩ | ⟨-, hc, rfl⟩
  · rcases workerStep_tt hw hp with ⟨hs, rfl⟩ | ⟨hs, rfl⟩ | ⟨hs, rfl⟩
    · -- a creation: the handler has not run (no late creation), the process has not exited
      have hrf : s.handlerRan = false := by simpa only [lateCreate, hs, beq_self_eq_true, Bool.and_true] using hl
      exact ⟨fun h' => by simp [hrf] at h', fun h' => by simp [hne] at h'⟩
    · have key : AllOff s → AllOff { s with phase := s.phase.set i .deleted, onDisk := s.onDisk.set i false } := by
        intro ha j
        simp only [getD_set]
        split
        · rfl
        · exact ha j
      exact ⟨fun h' => key (hr h'), fun h' => key (hx h')⟩
    · exact ⟨hr, hx⟩
  · -- the handler removes every listed file, and every file on disk is listed
    refine ⟨fun _ i => ?_, fun he => by simp [hex] at he⟩
    rw [getD_clear]
    cases hon : s.onDisk.getD i false with
    | false => simp
    | true => rw [(hd i hon).2]; rfl
  · -- exit after the last summary: a file on disk would belong to a worker in phase `.listed`
    refine ⟨hr, fun _ => ?_⟩
    rcases hc with hc | hc
    · intro i
      cases hon : s.onDisk.getD i false with
      | false => rfl
      | true =>
        have hpl := (hd i hon).1
        have hlt : i < s.phase.length := lt_of_getD_ne (by rw [hpl]; decide)
        have := List.all_eq_true.1 hc _ (List.getElem_mem hlt)
        simp_all [List.getD_eq_getElem?_getD]
    · exact hr hc

theorem stepC_of_not_late {ul df s e} (hl : lateCreate s e = false) : stepC ul df s e = step ul df s e := by
  cases e with
  | sigint => rfl
  | exit => rfl
  | work i =>
    simp only [lateCreate] at hl
    simp only [stepC, step, hl]
    split <;> simp

theorem stepC_some {ul df s e s'} (h : stepC ul df s e = some s') :
    (lateCreate s e = false ∧ step ul df s e = some s') ∨
    (∃ i, s.phase.getD i .done = .start ∧ s' = { s with phase := s.phase.set i .done }) := by
  cases hl : lateCreate s e with
  | false => exact .inl ⟨rfl, stepC_of_not_late hl ▸ h⟩
  | true =>
    cases e <;> simp only [lateCreate, Bool.false_eq_true] at hl
    simp only [stepC, hl, if_true] at h
    split at h <;> cases h
    rw [Bool.and_eq_true, beq_iff_eq] at hl
    exact .inr ⟨_, hl.2, rfl⟩

theorem inv_stepC {s e s'} (h : stepC true true s e = some s') (h0 : Inv0 s) (h1 : Inv1 s) : Inv0 s' ∧ Inv1 s' := by
  rcases stepC_some h with ⟨hl, h⟩ | ⟨i, hs, rfl⟩
  · exact ⟨inv0_step h h0, inv1_step h h0 h1 hl⟩
  · -- a refused creation: worker `i` had no file (`Inv0.disk`: a file on disk means phase `.listed`)
    obtain ⟨l1, l2, hd, hp⟩ := h0
    refine ⟨⟨by simp [l1], by simp [l2], fun j hj => ?_, ph_set hp i _ (by decide)⟩, ⟨h1.hr, h1.ex⟩⟩
    have := hd j hj
    simp only [getD_set]
    split
    · rename_i hc
      obtain ⟨rfl, _⟩ := hc
      rw [hs] at this
      exact absurd this.1 (by decide)
    · exact this

theorem inv_runC {s evs s'} (h : runC true true s evs = some s') (h0 : Inv0 s) (h1 : Inv1 s) : Inv0 s' ∧ Inv1 s' := by
  induction evs generalizing s with
  | nil => cases h; exact ⟨h0, h1⟩
  | cons e es ih =>
    rw [runC] at h
    cases hs : stepC true true s e with
    | none => simp [hs] at h
    | some s1 =>
      obtain ⟨h0', h1'⟩ := inv_stepC hs h0 h1
      exact ih (by simpa [hs] using h) h0' h1'

/-- the core of C18 with the closed flag: an exited run leaves nothing, whatever the schedule -/
theorem leftovers_zero_closed {n evs s} (h : runC true true (init n) evs = some s)
    (hex : s.exited = true) : leftovers s = 0 :=
  (leftovers_eq_zero_iff s).2 ((inv_runC h (inv0_init n) (inv1_init n)).2.ex hex)

theorem runC_eq_run_of_noLate {ul df s evs} (h : noLate ul df s evs = true) : runC ul df s evs = run ul df s evs := by
  induction evs generalizing s with
  | nil => rfl
  | cons e es ih =>
    simp only [noLate, Bool.and_eq_true, Bool.not_eq_true'] at h
    rw [runC, run, stepC_of_not_late h.1]
    cases hs : step ul df s e with
    | none => rfl
    | some s' => exact ih (by simpa [hs] using h.2)

/-- the core of C18 without the closed flag: an exited run without late creation leaves nothing -/
theorem leftovers_zero_of_noLate {n evs s} (h : run true true (init n) evs = some s)
    (hex : s.exited = true) (hl : noLate true true (init n) evs = true) : leftovers s = 0 :=
  leftovers_zero_closed (runC_eq_run_of_noLate hl ▸ h) hex

end S4V.Lemmas.Tmp
