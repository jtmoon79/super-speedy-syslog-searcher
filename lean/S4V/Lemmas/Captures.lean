/-
C04 — the regenerated `captures_to_buffer_bytes` (`S4V.Gen.Captures.body`, interpreted by
`S4V.Model.Captures`) writes, statement by statement, the pieces of the hand model
`S4V.Model.DtParse.capturesToBuffer`. Every lemma unfolds the generated statement it is about, so
a source edit that regenerates different data breaks the proof of that field.
-/
import S4V.Model.Captures
import S4V.Lemmas.DtParse

namespace S4V.Lemmas.Captures
open S4V.Gen.TimeTables S4V.Gen.Captures S4V.Model.DtParse S4V.Model.Captures
open S4V.Lemmas.DtParse (lookup_mem)

attribute [local simp] emit emits emitFieldArms emitLenArms emitByteArms fieldVal getGrp Slice.eval Byte.eval Konst.val

theorem month_values_two : monthNamesB.all (fun kv => kv.2.length == 2) = true := by decide +kernel

theorem month_value_len {k v : Bytes} (h : lookup monthNamesB k = some v) : v.length = 2 := by
  have := List.all_eq_true.mp month_values_two _ (lookup_mem h)
  simpa using this

theorem tz_keys_ascii : tzTableB.all (fun kv => kv.1.all (fun x => x < 128)) = true := by decide +kernel

theorem tz_key_ascii {k v : Bytes} (h : lookup tzTableB k = some v) : k.all (fun x => x < 128) = true :=
  List.all_eq_true.mp tz_keys_ascii _ (lookup_mem h)

theorem tz_no_empty_key : lookup tzTableB [] = none := by decide +kernel

theorem emit_epoch (x : Ctx) : emit x s_epoch = epochPiece x.set.epoch x.caps := by
  cases he : x.set.epoch <;> simp [s_epoch, epochPiece, he]

theorem emit_year (x : Ctx) : emit x s_year = yearPiece x.set.year x.caps x.fillYear := by
  cases hy : x.set.year <;> cases hc : x.caps.year <;> cases hf : x.fillYear <;> simp [s_year, yearPiece, hy, hc, hf]

theorem emit_month (x : Ctx) : emit x s_month = monthPiece x.set.month x.caps := by
  cases hk : x.set.month <;> cases hc : x.caps.month <;> simp [s_month, monthPiece, hk, hc]
  · split <;> rfl
  all_goals
    rename_i v
    cases hl : lookup monthNamesB v with
    | none => rfl
    | some w => simp [month_value_len hl]

theorem emit_day (x : Ctx) : emit x s_day = dayPiece x.set.day x.caps := by
  cases hk : x.set.day <;> simp [s_day, dayPiece, hk]
  rcases hc : x.caps.day with _ | (_ | ⟨a, _ | ⟨b, _ | ⟨b', r⟩⟩⟩) <;> simp

theorem emit_sep (x : Ctx) : emit x s_sep = some [84] := by simp [s_sep]   -- `T`

theorem emit_hour (x : Ctx) : emit x s_hour = hourPiece x.set.hour x.caps := by
  cases hk : x.set.hour <;> cases hc : x.caps.hour <;> simp [s_hour, hourPiece, hk, hc]
  split <;> rfl

theorem emit_minute (x : Ctx) : emit x s_minute = minutePiece x.set.minute x.caps := by
  cases hk : x.set.minute <;> simp [s_minute, minutePiece, hk]

theorem emit_second (x : Ctx) : emit x s_second = secondPiece x.set.second x.caps := by
  cases hk : x.set.second <;> simp [s_second, secondPiece, hk]

/-- the 13-arm padding table: the arm of each length appends exactly the zeros that fill nine digits,
lengths 10–12 copy the first nine, longer ones nothing -/
theorem emit_fractional (x : Ctx) : emit x s_fractional = fracPiece x.set.fractional x.caps := by
  cases hk : x.set.fractional <;> cases hc : x.caps.fractional <;> simp [s_fractional, fracPiece, hk, hc]
  rename_i v
  rcases Nat.lt_or_ge v.length 13 with hlt | hge
  · have : v.length = 0 ∨ v.length = 1 ∨ v.length = 2 ∨ v.length = 3 ∨ v.length = 4 ∨ v.length = 5 ∨ v.length = 6 ∨
        v.length = 7 ∨ v.length = 8 ∨ v.length = 9 ∨ v.length = 10 ∨ v.length = 11 ∨ v.length = 12 := by omega
    rcases this with h | h | h | h | h | h | h | h | h | h | h | h | h
    · have := List.eq_nil_of_length_eq_zero h; subst this; simp [fracNorm, List.replicate]
    all_goals
      have hne : v ≠ [] := by intro e; simp [e] at h
      simp [h, hne, fracNorm, List.replicate]
  · have hk : ∀ k, k ≤ 12 → (v.length = k) = False := fun k hk => by simp; omega
    have hne : v ≠ [] := by intro e; simp [e] at hge
    simp [fracNorm, hne, hk, show ¬ v.length ≤ 9 by omega, show ¬ v.length ≤ 12 by omega]

theorem startsWith_minus {b : Bytes} (h : startsWith b MINUS_SIGN = true) : ∃ r, b = 0xE2 :: 0x88 :: 0x92 :: r := by
  rcases b with _ | ⟨a, _ | ⟨b, _ | ⟨c, r⟩⟩⟩ <;> simp [startsWith, MINUS_SIGN] at h
  obtain ⟨rfl, rfl, rfl⟩ := h
  exact ⟨r, rfl⟩

theorem stripMinus_eq (b : Bytes) : stripMinus b = if startsWith b MINUS_SIGN then 45 :: b.drop 3 else b := by
  unfold stripMinus
  split
  next => simp [startsWith, MINUS_SIGN]
  next hno => exact (if_neg fun h => have ⟨r, e⟩ := startsWith_minus h; hno r e).symm

/-- the capture of a numeric zone is text: whatever follows a U+2212 sign is valid UTF-8 (the zone
regexes capture ASCII digits and `:` there). Without it the code drops the rest of the capture
(`Err(_) => {}`) while the hand model keeps it; both then fail to parse. -/
def TzSignOK (c : S4V.Model.DtParse.Captures) : Prop :=
  ∀ b, c.tz = some b → startsWith b MINUS_SIGN = true → utf8Valid b = true

theorem decode_minus (r : Bytes) : S4V.Model.Regex.decode (0xE2 :: 0x88 :: 0x92 :: r) = some (8722, 3) := by
  simp [S4V.Model.Regex.decode, S4V.Model.Regex.isCont]

/-- The left side is what `simp` makes of the numeric arm of `s_tz` on a capture `v` (stated in that form because its one
user, `emit_tz`, meets it so): `if v.starts_with("−") { "-"; match from_utf8(v) { Ok => match char_indices().nth(1)
{ Some(off) => v[off..], None => {} }, Err => {} } } else { v }`. With valid text after the sign that is `stripMinus v`. -/
theorem tz_numeric (v : Bytes) (hv : startsWith v MINUS_SIGN = true → utf8Valid v = true) :
    (if startsWith v MINUS_SIGN = true then
      Option.map (fun b => HYPHEN_MINUS ++ b)
        (if utf8Valid v = true then
          if (secondCharOffset v).isSome = true then Option.map (fun n => List.drop n v) (secondCharOffset v)
          else some []
        else some [])
    else some v) = some (stripMinus v) := by
  rw [stripMinus_eq]
  by_cases hsw : startsWith v MINUS_SIGN = true
  · have hv' := hv hsw
    obtain ⟨r, rfl⟩ := startsWith_minus hsw
    cases r <;> simp [hsw, hv', secondCharOffset, decode_minus, HYPHEN_MINUS]
  · simp [hsw]

/-- The same for the `Z` arm: `name = u8_to_str(v) or ""`; empty, not in `MAP_TZZ_TO_TZz`, or there with an empty value: the
fallback string `tzs`; else the table value. The right side is the hand model's arm. A name that is not `u8_to_str`-able
is not ASCII, so it is no key of the table either (`tz_key_ascii`). -/
theorem tz_named (v tzs : Bytes) :
    (if u8ToStrOk v = true → v = [] then some tzs
    else
      if (lookup tzTableB (if u8ToStrOk v = true then v else [])).isSome = true then
        match lookup tzTableB (if u8ToStrOk v = true then v else []) with
        | some b => if b = [] then some tzs else lookup tzTableB (if u8ToStrOk v = true then v else [])
        | none => none
      else some tzs) =
    some
      (match lookup tzTableB v with
      | some w => if w = [] then tzs else w
      | none => tzs) := by
  by_cases hu : u8ToStrOk v = true
  · by_cases hv : v = []
    · subst hv; simp [tz_no_empty_key]
    · cases hl : lookup tzTableB v with
      | none => simp [hu, hv, hl]
      | some w => by_cases hw : w = [] <;> simp [hu, hv, hl, hw]
  · have : lookup tzTableB v = none := by
      cases hl : lookup tzTableB v with
      | none => rfl
      | some w =>
        have := tz_key_ascii hl
        exact absurd (by simp [u8ToStrOk, this]) hu
    simp [hu, this]

theorem emit_tz (x : Ctx) (hs : x.set.tz = .z ∨ x.set.tz = .zc ∨ x.set.tz = .zp → TzSignOK x.caps) :
    emit x s_tz = tzPiece x.set.tz x.caps x.tzs := by
  cases hk : x.set.tz <;> cases hc : x.caps.tz <;> simp [s_tz, tzPiece, hk, hc]
  · exact tz_numeric _ (hs (.inl hk) _ hc)
  · exact tz_numeric _ (hs (.inr (.inl hk)) _ hc)
  · exact tz_numeric _ (hs (.inr (.inr hk)) _ hc)
  · exact tz_named _ _

theorem body_is_model (set : DTFSSet) (c : S4V.Model.DtParse.Captures) (tzs : Bytes) (fy : Option Int)
    (hs : set.tz = .z ∨ set.tz = .zc ∨ set.tz = .zp → TzSignOK c) :
    capturesToBufferG body set c tzs fy = capturesToBuffer set c tzs fy := by
  unfold capturesToBufferG capturesToBuffer body
  simp only [emits, emit_epoch, emit_year, emit_month, emit_day, emit_sep, emit_hour, emit_minute, emit_second,
    emit_fractional, emit_tz ⟨set, c, tzs, fy⟩ hs]
  -- piece by piece: at the first `none` both sides are `none` whatever the later pieces are
  obtain _ | e := epochPiece set.epoch c
  · rfl
  obtain _ | y := yearPiece set.year c fy
  · rfl
  obtain _ | mo := monthPiece set.month c
  · rfl
  obtain _ | d := dayPiece set.day c
  · rfl
  obtain _ | h := hourPiece set.hour c
  · rfl
  obtain _ | mi := minutePiece set.minute c
  · rfl
  obtain _ | s := secondPiece set.second c
  · rfl
  obtain _ | f := fracPiece set.fractional c
  · rfl
  obtain _ | z := tzPiece set.tz c tzs
  · rfl
  simp

end S4V.Lemmas.Captures
