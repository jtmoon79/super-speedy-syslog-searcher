/-
The absolute notations of `-a` / `-b` for ALL values (C14_abs): a value is
rendered from numeric fields through a row's own pattern items, and the
interpreter of `S4V.Model.Cli` (`parseItems`, `rowValue`, `datetimeParseFromStr`)
is shown to give back the instant the fields denote (`attemptRow_render`), for
every row that passes the decidable condition `RowOk`. The round trip goes item
by item (`parseItem_render`), under a decidable shape condition on the item list
(`scannable`, `distinctSlots`); beside it stands what an item reads of ANOTHER item's text
(`parseItem_year_plus_ts` …), on which the first-match analyses of `S4V.Lemmas.CliNoSteal` rest.
The definitions of the first no-steal test come last.
-/
import S4V.Lemmas.CliTime
import S4V.Lemmas.Time

namespace S4V.Lemmas.CliAbs
open S4V.Model.Cli S4V.Model.Time S4V.Gen.CliTables S4V.Lemmas.CliTime

def digitOf : Nat → Char
  | 0 => '0' | 1 => '1' | 2 => '2' | 3 => '3' | 4 => '4'
  | 5 => '5' | 6 => '6' | 7 => '7' | 8 => '8' | _ => '9'

def digitChar (n : Nat) : Char := digitOf (n % 10)

/-- the `k` low decimal digits of `n`, most significant first (zero padded) -/
def pad : Nat → Nat → List Char
  | 0, _ => []
  | k + 1, n => pad k (n / 10) ++ [digitChar n]

theorem digitOf_spec : ∀ m, m < 10 → isDig (digitOf m) = true ∧ digVal (digitOf m) = m := by decide

theorem isDig_digitChar (n : Nat) : isDig (digitChar n) = true :=
  (digitOf_spec (n % 10) (Nat.mod_lt _ (by decide))).1

theorem digVal_digitChar (n : Nat) : digVal (digitChar n) = n % 10 :=
  (digitOf_spec (n % 10) (Nat.mod_lt _ (by decide))).2

theorem length_pad (k n : Nat) : (pad k n).length = k := by
  induction k generalizing n with
  | zero => rfl
  | succ k ih => simp [pad, ih]

theorem pad_digits (k n : Nat) : ∀ c ∈ pad k n, isDig c = true := by
  induction k generalizing n with
  | zero => simp [pad]
  | succ k ih =>
    intro c hc
    simp only [pad, List.mem_append, List.mem_singleton] at hc
    rcases hc with hc | hc
    · exact ih _ c hc
    · subst hc; exact isDig_digitChar n

theorem numVal_snoc (l : List Char) (c : Char) : numVal (l ++ [c]) = numVal l * 10 + digVal c := by
  simp [numVal, List.foldl_append]

theorem numVal_pad (k n : Nat) : numVal (pad k n) = n % 10 ^ k := by
  induction k generalizing n with
  | zero => simp [pad, numVal, Nat.mod_one]
  | succ k ih =>
    rw [pad, numVal_snoc, ih, digVal_digitChar, Nat.pow_succ, Nat.mul_comm (10 ^ k) 10, Nat.mod_mul]
    omega

theorem numVal_pad_lt (k n : Nat) (h : n < 10 ^ k) : numVal (pad k n) = n := by
  rw [numVal_pad, Nat.mod_eq_of_lt h]

theorem pad_ne_nil (k n : Nat) (hk : 1 ≤ k) : pad k n ≠ [] := by
  intro e
  have := length_pad k n
  rw [e] at this
  simp at this
  omega

theorem pad_head (k n : Nat) (hk : 1 ≤ k) : ∃ c t, pad k n = c :: t ∧ isDig c = true := by
  obtain ⟨c, t, e⟩ := List.exists_cons_of_ne_nil (pad_ne_nil k n hk)
  exact ⟨c, t, e, pad_digits k n c (by simp [e])⟩

theorem pad2 (n : Nat) : pad 2 n = [digitChar (n / 10), digitChar n] := rfl

theorem pad6_split (n : Nat) : pad 6 n = pad 3 (n / 1000) ++ pad 3 n := by
  simp [pad, Nat.div_div_eq_div_mul]

/-- how a numeric zone is spelled -/
inductive ZStyle
  | compact   -- `±HHMM`
  | colon     -- `±HH:MM`
  | hours     -- `±HH`     (`%#z` only)
  | zuluU     -- `Z`       (`%#z` only)
  | zuluL     -- `z`       (`%#z` only)
  deriving DecidableEq, Repr

/-- everything a value of any row's grammar can say. A row uses the fields its pattern names. -/
structure Fields where
  year : Nat
  month : Nat
  day : Nat
  hour : Nat
  minute : Nat
  second : Nat
  /-- `%3f` -/
  milli : Nat
  /-- `%6f` -/
  micro : Nat
  /-- `%z` `%:z` `%#z`: sign character, hours, minutes, spelling -/
  zsign : Char
  zh : Nat
  zm : Nat
  zstyle : ZStyle
  /-- `%Z`: a zone name -/
  zname : List Char
  /-- `%s`: the decimal digits as written (leading zeros allowed) -/
  ts : List Char

/-- U+2212 MINUS SIGN, which chrono also reads as a minus -/
def uminus : Char := Char.ofNat 0x2212

/-- the offset, in seconds east, a numeric zone spelling denotes -/
def Fields.zoneOff (f : Fields) : Int :=
  let sg : Int := if f.zsign = '+' then 1 else -1
  match f.zstyle with
  | .compact | .colon => sg * ((f.zh : Int) * 3600 + (f.zm : Int) * 60)
  | .hours => sg * ((f.zh : Int) * 3600)
  | .zuluU | .zuluL => 0

def renderZone (f : Fields) : List Char :=
  match f.zstyle with
  | .compact => f.zsign :: (pad 2 f.zh ++ pad 2 f.zm)
  | .colon => f.zsign :: (pad 2 f.zh ++ ':' :: pad 2 f.zm)
  | .hours => f.zsign :: pad 2 f.zh
  | .zuluU => ['Z']
  | .zuluL => ['z']

def Fields.fracVal (f : Fields) (k : Nat) : Nat := if k = 3 then f.milli else f.micro

/-- the text of one pattern item: `%Y` four digits, `%m %d %H %M %S` two, `%3f`/`%6f` exactly 3/6 -/
def renderItem (f : Fields) : Item → List Char
  | .lit c => [c]
  | .space => [' ']
  | .year => pad 4 f.year
  | .month => pad 2 f.month
  | .day => pad 2 f.day
  | .hour => pad 2 f.hour
  | .minute => pad 2 f.minute
  | .second => pad 2 f.second
  | .timestamp => f.ts
  | .nano k => pad k (f.fracVal k)
  | .tz _ => renderZone f
  | .tzName => f.zname
  | .bad => []

def renderItems (f : Fields) : List Item → List Char
  | [] => []
  | it :: its => renderItem f it ++ renderItems f its

theorem renderItems_append (f : Fields) (a b : List Item) :
    renderItems f (a ++ b) = renderItems f a ++ renderItems f b := by
  induction a with
  | nil => rfl
  | cons x xs ih => simp [renderItems, ih]

/-- the largest `%s` the property speaks of: chrono's last second (262142-12-31T23:59:59) minus a day -/
def tsMax : Nat := 8210266790399

/-- the numeric offset text of a zone name (`+HH:MM`), read independently of the interpreter -/
def zoneText (z : List Char) : Option (Char × Nat × Nat) :=
  match z with
  | [sg, a, b, ':', c, d] =>
    if (sg = '+' ∨ sg = '-') ∧ isDig a ∧ isDig b ∧ isDig c ∧ isDig d then
      some (sg, digVal a * 10 + digVal b, digVal c * 10 + digVal d)
    else none
  | _ => none

/-- the offset a zone name stands for in the generated table (0 when absent / ambiguous) -/
def nameOff (name : List Char) : Int :=
  match (lookupTz name).bind fun z => zoneText z.toList with
  | some (sg, hh, mm) => (if sg = '+' then 1 else -1) * ((hh : Int) * 3600 + (mm : Int) * 60)
  | none => 0

/-- the ranges the interpreter accepts -/
structure Fields.Valid (f : Fields) : Prop where
  year : f.year ≤ 9999
  date : validDate f.year f.month f.day = true
  hour : f.hour ≤ 23
  minute : f.minute ≤ 59
  /-- 60 = a leap second reading -/
  second : f.second ≤ 60
  milli : f.milli < 1000
  micro : f.micro < 1000000
  zsign : f.zsign = '+' ∨ f.zsign = '-' ∨ f.zsign = uminus
  zh : f.zh ≤ 23
  zm : f.zm ≤ 59
  /-- an unambiguous name of the generated table -/
  zname : ∃ z, lookupTz f.zname = some z ∧ z ≠ ""
  ts_ne : f.ts ≠ []
  ts_dig : ∀ c ∈ f.ts, isDig c = true
  ts_le : numVal f.ts ≤ tsMax

/-- `%z` and `%:z` want the minutes; `%#z` takes every spelling -/
def styleOk (f : Fields) (its : List Item) : Bool :=
  its.all fun it => it != .tz false || f.zstyle == .compact || f.zstyle == .colon

theorem styleOk_cons {f : Fields} {it : Item} {its : List Item} (h : styleOk f (it :: its) = true) :
    (it = .tz false → f.zstyle = .compact ∨ f.zstyle = .colon) ∧ styleOk f its = true := by
  simp only [styleOk, List.all_cons, Bool.and_eq_true] at h
  exact ⟨fun e => by simpa [e] using h.1, h.2⟩

/-- the items whose text is written out whatever the fields: it is non-empty and, the digits apart,
consists of the item's own character -/
def textFree (bad : Char → Bool) : Item → Bool
  | .lit c => !bad c
  | .space => !bad ' '
  | .year | .month | .day | .hour | .minute | .second => true
  | .nano k => k == 3 || k == 6
  | _ => false

theorem renderItem_free (bad : Char → Bool) (hd : ∀ c, isDig c = true → bad c = false) (f : Fields) (it : Item)
    (h : textFree bad it = true) : renderItem f it ≠ [] ∧ ∀ c ∈ renderItem f it, bad c = false := by
  have dig : ∀ k n, 1 ≤ k → pad k n ≠ [] ∧ ∀ c ∈ pad k n, bad c = false :=
    fun k n hk => ⟨pad_ne_nil k n hk, fun c hc => hd c (pad_digits k n c hc)⟩
  cases it with
  | lit c | space => simpa [renderItem, textFree] using h
  | year => exact dig 4 _ (by decide)
  | month | day | hour | minute | second => exact dig 2 _ (by decide)
  | nano k =>
    simp only [textFree, Bool.or_eq_true, beq_iff_eq] at h
    exact dig k _ (by omega)
  | timestamp | tz _ | tzName | bad => cases h

theorem renderItem_free_valid (bad : Char → Bool) (hd : ∀ c, isDig c = true → bad c = false)
    (hz : ∀ c ∈ ['+', '-', uminus, ':', 'Z', 'z'], bad c = false) (f : Fields) (hf : f.Valid) (it : Item)
    (h : textFree bad it = true ∨ it = .timestamp ∨ ∃ perm, it = .tz perm) :
    renderItem f it ≠ [] ∧ ∀ c ∈ renderItem f it, bad c = false := by
  rcases h with h | rfl | ⟨perm, rfl⟩
  · exact renderItem_free bad hd f it h
  · exact ⟨hf.ts_ne, fun c hc => hd c (hf.ts_dig c hc)⟩
  · have hsg : bad f.zsign = false := by
      rcases hf.zsign with e | e | e <;> rw [e] <;> exact hz _ (by simp)
    have d : ∀ n, bad (digitChar n) = false := fun n => hd _ (isDig_digitChar n)
    cases hs : f.zstyle <;>
      simp [renderItem, renderZone, hs, pad2, hsg, d, hz ':' (by simp), hz 'Z' (by simp), hz 'z' (by simp)]

theorem renderItems_first (bad : Char → Bool) (f : Fields) (a : Item) (r : List Item)
    (h : renderItem f a ≠ [] ∧ ∀ c ∈ renderItem f a, bad c = false) :
    ∃ c t, renderItems f (a :: r) = c :: t ∧ bad c = false := by
  obtain ⟨c, t, e⟩ := List.exists_cons_of_ne_nil h.1
  exact ⟨c, t ++ renderItems f r, by simp [renderItems, e], h.2 c (by simp [e])⟩

theorem renderItems_last (bad : Char → Bool) (f : Fields) (its : List Item) (b : Item) (hb : its.getLast? = some b)
    (h : renderItem f b ≠ [] ∧ ∀ c ∈ renderItem f b, bad c = false) :
    ∃ A l, renderItems f its = A ++ [l] ∧ bad l = false := by
  obtain ⟨pre, rfl⟩ := List.getLast?_eq_some_iff.mp hb
  refine ⟨renderItems f pre ++ (renderItem f b).dropLast, (renderItem f b).getLast h.1, ?_,
    h.2 _ (List.getLast_mem h.1)⟩
  rw [renderItems_append, List.append_assoc, List.dropLast_concat_getLast h.1]
  simp [renderItems]

/-! ## what an item stores -/

def isField : Item → Bool
  | .year | .month | .day | .hour | .minute | .second | .timestamp | .nano _ | .tz _ => true
  | _ => false

def getField : Item → Parsed → Option Int
  | .year, p => p.year
  | .month, p => p.month
  | .day, p => p.day
  | .hour, p => p.hour
  | .minute, p => p.minute
  | .second, p => p.second
  | .timestamp, p => p.timestamp
  | .nano _, p => p.nano
  | .tz _, p => p.offset
  | _, _ => none

def valueOf (f : Fields) : Item → Int
  | .year => f.year
  | .month => f.month
  | .day => f.day
  | .hour => f.hour
  | .minute => f.minute
  | .second => f.second
  | .timestamp => numVal f.ts
  | .nano k => ((f.fracVal k * 10 ^ (9 - k) : Nat) : Int)
  | .tz _ => f.zoneOff
  | _ => 0

def applyItem (f : Fields) (it : Item) (p : Parsed) : Parsed :=
  match it with
  | .year => { p with year := some (valueOf f it) }
  | .month => { p with month := some (valueOf f it) }
  | .day => { p with day := some (valueOf f it) }
  | .hour => { p with hour := some (valueOf f it) }
  | .minute => { p with minute := some (valueOf f it) }
  | .second => { p with second := some (valueOf f it) }
  | .timestamp => { p with timestamp := some (valueOf f it) }
  | .nano _ => { p with nano := some (valueOf f it) }
  | .tz _ => { p with offset := some (valueOf f it) }
  | _ => p

def applyItems (f : Fields) : List Item → Parsed → Parsed
  | [], p => p
  | it :: its, p => applyItems f its (applyItem f it p)

def sameSlot : Item → Item → Bool
  | .year, .year | .month, .month | .day, .day | .hour, .hour | .minute, .minute | .second, .second
  | .timestamp, .timestamp | .nano _, .nano _ | .tz _, .tz _ => true
  | _, _ => false

def distinctSlots : List Item → Bool
  | [] => true
  | it :: its => its.all (fun j => !sameSlot it j) && distinctSlots its

theorem getField_applyItem_other (f : Fields) (i j : Item) (p : Parsed) (h : sameSlot i j = false) :
    getField i (applyItem f j p) = getField i p := by
  cases j <;> first | rfl | (cases i <;> first | rfl | cases h)

theorem getField_applyItem_self (f : Fields) (i : Item) (p : Parsed) (h : isField i = true) :
    getField i (applyItem f i p) = some (valueOf f i) := by
  cases i <;> first | rfl | simp [isField] at h

theorem getField_applyItems_absent (f : Fields) (i : Item) (its : List Item) (p : Parsed)
    (h : ∀ j ∈ its, sameSlot i j = false) : getField i (applyItems f its p) = getField i p := by
  induction its generalizing p with
  | nil => rfl
  | cons j r ih =>
    rw [applyItems, ih _ (fun x hx => h x (by simp [hx])), getField_applyItem_other f i j p (h j (by simp))]

theorem getField_applyItems_mem (f : Fields) (i : Item) (its : List Item) (p : Parsed) (hf : isField i = true)
    (hm : i ∈ its) (hd : distinctSlots its = true) : getField i (applyItems f its p) = some (valueOf f i) := by
  induction its generalizing p with
  | nil => simp at hm
  | cons j r ih =>
    simp only [distinctSlots, Bool.and_eq_true, List.all_eq_true, Bool.not_eq_true'] at hd
    rw [applyItems]
    rcases List.mem_cons.mp hm with e | hm'
    · subst e
      rw [getField_applyItems_absent f i r _ hd.1, getField_applyItem_self f i p hf]
    · exact ih _ hm' hd.2

theorem trimStart_of_head (c : Char) (r : List Char) (h : isWs c = false) : trimStart (c :: r) = c :: r := by
  simp [trimStart, List.dropWhile, h]

theorem trimStart_space (t : List Char) : trimStart (' ' :: t) = trimStart t := by
  simp [trimStart, List.dropWhile, show isWs ' ' = true by decide]

theorem validDate_bounds (y m d : Int) (h : validDate y m d = true) : 1 ≤ m ∧ m ≤ 12 ∧ 1 ≤ d ∧ d ≤ 31 := by
  have hdim : daysInMonth y m ≤ 31 := by unfold daysInMonth; split <;> split <;> decide
  simp only [validDate, Bool.and_eq_true, decide_eq_true_eq] at h
  omega

theorem trimStart_pad (k n : Nat) (hk : 1 ≤ k) (rest : List Char) : trimStart (pad k n ++ rest) = pad k n ++ rest := by
  obtain ⟨c, t, e, hc⟩ := pad_head k n hk
  rw [e]
  exact trimStart_digit c _ hc

theorem scanNumber_pad (k n lo : Nat) (hlo : lo ≤ k) (hk : 1 ≤ k) (hn : n < 10 ^ k) (hi : 10 ^ k ≤ i64Max)
    (rest : List Char) : scanNumber (pad k n ++ rest) lo k = some (n, rest) := by
  have hs := scanNumber_exact (pad k n) rest lo (pad_ne_nil k n hk) (by rw [length_pad]; exact hlo) (pad_digits k n)
  rw [length_pad, numVal_pad_lt k n hn] at hs
  exact hs (Nat.le_trans (Nat.le_of_lt hn) hi)

theorem scan2 (n : Nat) (rest : List Char) (h : n < 100) :
    scanNumber (trimStart (pad 2 n ++ rest)) 1 2 = some (n, rest) := by
  rw [trimStart_pad 2 n (by decide)]
  exact scanNumber_pad 2 n 1 (by decide) (by decide) h (by decide) rest

theorem digit_not_sign (c : Char) (h : isDig c = true) : c ≠ '-' ∧ c ≠ '+' := by
  constructor <;> (intro e; subst e; revert h; decide)

theorem parse_year (f : Fields) (hy : f.year ≤ 9999) (rest : List Char) (p : Parsed) (hn : p.year = none) :
    parseItem .year (pad 4 f.year ++ rest) p = some ({ p with year := some (f.year : Int) }, rest) := by
  have hs := scanNumber_pad 4 f.year 1 (by decide) (by decide) (by omega) (by decide) rest
  obtain ⟨c, t, e, hc⟩ := pad_head 4 f.year (by decide)
  have hsg := digit_not_sign c hc
  simp only [parseItem]
  rw [trimStart_pad 4 f.year (by decide)]
  rw [e, List.cons_append] at hs ⊢
  split
  · rename_i r e; injection e with e1 _; exact absurd e1 hsg.1
  · rename_i r e; injection e with e1 _; exact absurd e1 hsg.2
  · simp [hs, hn, setF]

theorem parse_nano (k n : Nat) (hk : k = 3 ∨ k = 6) (hn : n < 10 ^ k) (rest : List Char) (p : Parsed)
    (hp : p.nano = none) :
    parseItem (.nano k) (pad k n ++ rest) p = some ({ p with nano := some ((n * 10 ^ (9 - k) : Nat) : Int) }, rest) := by
  have hs := scanNumber_pad k n k (Nat.le_refl k) (by omega) hn (by rcases hk with rfl | rfl <;> decide) rest
  simp [parseItem, hs, hp, setF]

/-- what the text after an item's own must be for the item to read exactly its own: a space reads all white
space, `%s` and `%#z` read on (every digit; the bare `±HH`), fractions are three or six digits wide -/
def RestOk : Item → List Char → Prop
  | .space, rest => trimStart rest = rest
  | .timestamp, rest | .tz true, rest => rest = []
  | .nano k, _ => k = 3 ∨ k = 6
  | .tzName, _ | .bad, _ => False
  | _, _ => True

theorem isWs_sign (c : Char) (h : c = '+' ∨ c = '-' ∨ c = uminus) : isWs c = false := by
  rcases h with h | h | h <;> subst h <;> decide

theorem scanTz_sign (perm : Bool) (sg : Char) (hs : sg = '+' ∨ sg = '-' ∨ sg = uminus) (r : List Char) :
    scanTz perm (sg :: r) =
      match r with
      | h1 :: h2 :: r2 =>
        if isDig h1 && isDig h2 then
          let hours : Int := (digVal h1 * 10 + digVal h2 : Nat)
          let r3 := r2.dropWhile fun x => x == ':' || isWs x
          match r3 with
          | m1 :: m2 :: r4 =>
            if isDig m1 && isDig m2 && digVal m1 ≤ 5 then
              let secs : Int := hours * 3600 + ((digVal m1 * 10 + digVal m2 : Nat) : Int) * 60
              some (if sg = '+' then secs else -secs, r4)
            else none
          | [_] => none
          | [] => if perm then some (if sg = '+' then hours * 3600 else -(hours * 3600), []) else none
        else none
      | _ => none := by
  rcases hs with rfl | rfl | rfl <;> cases perm <;> rfl

theorem scanTz_render (f : Fields) (hf : f.Valid) (perm : Bool) (rest : List Char)
    (hst : perm = true ∨ f.zstyle = .compact ∨ f.zstyle = .colon)
    (hrest : perm = false ∨ rest = []) :
    scanTz perm (trimStart (renderZone f ++ rest)) = some (f.zoneOff, rest) := by
  have h5 : digVal (digitChar (f.zm / 10)) ≤ 5 := by
    rw [digVal_digitChar]; have := hf.zm; omega
  have vh := numVal_pad_lt 2 f.zh (Nat.lt_of_le_of_lt hf.zh (by decide))
  have vm := numVal_pad_lt 2 f.zm (Nat.lt_of_le_of_lt hf.zm (by decide))
  rw [pad2, numVal_two] at vh vm
  have d1 := isDig_digitChar (f.zh / 10)
  have d2 := isDig_digitChar f.zh
  have d3 := isDig_digitChar (f.zm / 10)
  have d4 := isDig_digitChar f.zm
  have hdw := digit_not_colon_ws _ d3
  have hcol : (fun x : Char => x == ':' || isWs x) ':' = true := by decide
  cases hsty : f.zstyle with
  | compact | colon =>
    simp only [renderZone, hsty, pad2, List.cons_append, List.nil_append]
    rw [trimStart_of_head _ _ (isWs_sign _ hf.zsign), scanTz_sign perm _ hf.zsign]
    simp only [d1, d2, d3, d4, Bool.and_self, if_true, List.dropWhile, hcol, hdw, h5, decide_true, vh, vm,
      Fields.zoneOff, hsty]
    by_cases hp : f.zsign = '+' <;> simp [hp] <;> omega
  | hours =>
    obtain rfl : perm = true := by simpa [hsty] using hst
    obtain rfl : rest = [] := by simpa using hrest
    simp only [renderZone, hsty, pad2, List.append_nil]
    rw [trimStart_of_head _ _ (isWs_sign _ hf.zsign), scanTz_sign true _ hf.zsign]
    simp only [d1, d2, Bool.and_self, if_true, List.dropWhile, vh, Fields.zoneOff, hsty]
    by_cases hp : f.zsign = '+' <;> simp [hp]
  | zuluU | zuluL =>
    obtain rfl : perm = true := by simpa [hsty] using hst
    simp [renderZone, hsty, trimStart, isWs, scanTz, Fields.zoneOff]

theorem parseItem_render (f : Fields) (hf : f.Valid) (it : Item) (rest : List Char) (p : Parsed)
    (hst : it = .tz false → f.zstyle = .compact ∨ f.zstyle = .colon)
    (hr : RestOk it rest) (hn : getField it p = none) :
    parseItem it (renderItem f it ++ rest) p = some (applyItem f it p, rest) := by
  have h2 : f.month < 100 ∧ f.day < 100 ∧ f.hour < 100 ∧ f.minute < 100 ∧ f.second < 100 := by
    have := validDate_bounds _ _ _ hf.date
    have := hf.hour
    have := hf.minute
    have := hf.second
    omega
  cases it with
  | space => simp [parseItem, renderItem, applyItem, trimStart_space, show trimStart rest = rest from hr]
  | lit c => simp [parseItem, renderItem, applyItem]
  | year => exact parse_year f hf.year rest p hn
  | month | day | hour | minute | second =>
    simp only [getField] at hn
    simp [parseItem, renderItem, applyItem, valueOf, setF, scan2, h2, hn]
  | timestamp =>
    obtain rfl : rest = [] := hr
    simp only [getField] at hn
    obtain ⟨c, r, e⟩ := List.exists_cons_of_ne_nil hf.ts_ne
    have hs := scanNumber_exact f.ts [] 1 hf.ts_ne (by rw [e]; simp) hf.ts_dig (Nat.le_trans hf.ts_le (by decide))
    rw [List.append_nil] at hs
    have ht : trimStart f.ts = f.ts := by rw [e]; exact trimStart_digit c r (hf.ts_dig c (by simp [e]))
    simp [parseItem, renderItem, applyItem, valueOf, ht, hs, hn, setF]
  | nano k =>
    rcases (show k = 3 ∨ k = 6 from hr) with rfl | rfl
    · exact parse_nano 3 f.milli (.inl rfl) hf.milli rest p hn
    · exact parse_nano 6 f.micro (.inr rfl) hf.micro rest p hn
  | tz perm =>
    simp only [getField] at hn
    cases perm with
    | true =>
      obtain rfl : rest = [] := hr
      have hz := scanTz_render f hf true [] (.inl rfl) (.inr rfl)
      rw [List.append_nil] at hz
      simp [parseItem, renderItem, applyItem, valueOf, hz, hn, setF]
    | false =>
      simp [parseItem, renderItem, applyItem, valueOf, scanTz_render f hf false rest (.inr (hst rfl)) (.inl rfl), hn, setF]
  | tzName | bad => exact hr.elim

/-! ## an item reading what another item wrote -/

theorem parseItem_year_plus_ts (f : Fields) (hf : f.Valid) (rest : List Char) (p : Parsed)
    (hr : ∀ c r, rest = c :: r → isDig c = false) (hn : p.year = none) :
    parseItem .year (renderItem f (.lit '+') ++ (renderItem f .timestamp ++ rest)) p =
      some ({ p with year := some (numVal f.ts : Int) }, rest) := by
  have hstop : takeDigits (f.ts ++ rest).length (f.ts ++ rest) = (f.ts, rest) :=
    takeDigits_stop _ _ _ hf.ts_dig (by simp) hr
  have hv : ¬ numVal f.ts > i64Max := by
    have := hf.ts_le
    have : tsMax ≤ i64Max := by decide
    omega
  have hl : ¬ (f.ts.length < 1 ∨ f.ts.length = 0) := by
    have : f.ts.length ≠ 0 := by simpa using hf.ts_ne
    omega
  simp only [renderItem, List.cons_append, List.nil_append, parseItem]
  rw [trimStart_of_head '+' _ (by decide)]
  simp only [scanNumber, hstop, hl, hv, if_false, hn, setF, Option.bind_some, Option.map_some]

theorem parseItem_nano3_of_nano6 (f : Fields) (hf : f.Valid) (rest : List Char) (p : Parsed) (hn : p.nano = none) :
    parseItem (.nano 3) (renderItem f (.nano 6) ++ rest) p =
      some ({ p with nano := some ((f.micro / 1000 * 10 ^ (9 - 3) : Nat) : Int) }, pad 3 f.micro ++ rest) := by
  have := parse_nano 3 (f.micro / 1000) (.inl rfl) (by have := hf.micro; omega) (pad 3 f.micro ++ rest) p hn
  rwa [← List.append_assoc, ← pad6_split] at this

theorem parseItem_nano6_of_nano3 (f : Fields) (rest : List Char) (p : Parsed)
    (hr : ∀ c r, rest = c :: r → isDig c = false) :
    parseItem (.nano 6) (renderItem f (.nano 3) ++ rest) p = none := by
  have hstop : takeDigits 6 (pad 3 f.milli ++ rest) = (pad 3 f.milli, rest) :=
    takeDigits_stop _ _ _ (pad_digits 3 _) (by rw [length_pad]; decide) hr
  simp only [renderItem, Fields.fracVal, parseItem, if_true, scanNumber, hstop, length_pad]
  simp

/-- `%z` / `%:z` want the minutes: `±HH`, `Z`, `z` are refused -/
theorem parseItem_tz_of_hours (f : Fields) (hf : f.Valid) (p : Parsed)
    (hs : ¬ (f.zstyle = .compact ∨ f.zstyle = .colon)) :
    parseItem (.tz false) (renderItem f (.tz true)) p = none := by
  have hsg := isWs_sign _ hf.zsign
  have d1 := isDig_digitChar (f.zh / 10)
  have d2 := isDig_digitChar f.zh
  cases hst : f.zstyle with
  | compact => exact absurd (Or.inl hst) hs
  | colon => exact absurd (Or.inr hst) hs
  | hours =>
    simp only [renderItem, renderZone, hst, pad2, parseItem]
    rw [trimStart_of_head _ _ hsg, scanTz_sign false _ hf.zsign]
    simp [d1, d2, List.dropWhile]
  | zuluU => simp [renderItem, renderZone, hst, parseItem, trimStart, isWs, scanTz]
  | zuluL => simp [renderItem, renderZone, hst, parseItem, trimStart, isWs, scanTz]

/-- items that read their own text whatever follows -/
def plain : Item → Bool
  | .lit _ | .year | .month | .day | .hour | .minute | .second => true
  | _ => false

theorem restOk_plain (a : Item) (h : plain a = true) (rest : List Char) : RestOk a rest := by
  cases a <;> first | trivial | cases h

/-- the rendering of the list is empty or begins with a character `trim_start` keeps -/
def startsSolid : List Item → Bool
  | [] => true
  | .lit c :: _ => !isWs c
  | .nano k :: _ => k == 3 || k == 6
  | .space :: _ | .tzName :: _ | .bad :: _ => false
  | _ :: _ => true

/-- the shape the round trip needs: a space is followed by something solid, `%s` and `%#z` come last
(they read to the end / accept the bare `±HH`), fractions are `%3f` / `%6f`, no `%Z`, nothing unknown -/
def scannable : List Item → Bool
  | [] => true
  | .space :: r => startsSolid r && scannable r
  | .timestamp :: r => r.isEmpty
  | .tz true :: r => r.isEmpty
  | .nano k :: r => (k == 3 || k == 6) && scannable r
  | .tzName :: _ | .bad :: _ => false
  | _ :: r => scannable r

theorem trimStart_renderItems (f : Fields) (hf : f.Valid) (its : List Item) (h : startsSolid its = true) :
    trimStart (renderItems f its) = renderItems f its := by
  cases its with
  | nil => rfl
  | cons it r =>
    obtain ⟨c, t, e, hc⟩ := renderItems_first isWs f it r
      (renderItem_free_valid isWs (fun _ => isWs_of_isDig) (by decide) f hf it
        (by cases it <;> first | exact .inl h | exact .inr (.inl rfl) | exact .inr (.inr ⟨_, rfl⟩)))
    rw [e]
    exact trimStart_of_head _ _ hc

theorem restOk_of_scannable (f : Fields) (hf : f.Valid) (it : Item) (r : List Item) (h : scannable (it :: r) = true) :
    RestOk it (renderItems f r) ∧ scannable r = true := by
  cases it with
  | lit c | year | month | day | hour | minute | second => exact ⟨trivial, h⟩
  | tz perm =>
    cases perm with
    | false => exact ⟨trivial, h⟩
    | true =>
      obtain rfl : r = [] := by simpa [scannable] using h
      exact ⟨rfl, rfl⟩
  | space =>
    simp only [scannable, Bool.and_eq_true] at h
    exact ⟨trimStart_renderItems f hf r h.1, h.2⟩
  | timestamp =>
    obtain rfl : r = [] := by simpa [scannable] using h
    exact ⟨rfl, rfl⟩
  | nano k => simpa [scannable, RestOk] using h
  | tzName | bad => simp [scannable] at h

theorem sameSlot_comm (i j : Item) : sameSlot i j = sameSlot j i := by
  cases i <;> cases j <;> rfl

/-- the items after `a` keep distinct slots and stay unset once `a`'s own slot is written -/
theorem rest_unset {a : Item} {rj : List Item} {p p' : Parsed} (hd : distinctSlots (a :: rj) = true)
    (hn : ∀ it ∈ a :: rj, getField it p = none) (hp : ∀ j, sameSlot a j = false → getField j p' = getField j p) :
    distinctSlots rj = true ∧ ∀ j ∈ rj, getField j p' = none := by
  simp only [distinctSlots, Bool.and_eq_true, List.all_eq_true, Bool.not_eq_true'] at hd
  exact ⟨hd.2, fun j hj => (hp j (hd.1 j hj)).trans (hn j (by simp [hj]))⟩

theorem parseItems_cons_render (f : Fields) (hf : f.Valid) (it : Item) (r : List Item) (rest : List Char) (p : Parsed)
    (hst : it = .tz false → f.zstyle = .compact ∨ f.zstyle = .colon) (hro : RestOk it rest)
    (hd : distinctSlots (it :: r) = true) (hn : ∀ j ∈ it :: r, getField j p = none) :
    parseItems (it :: r) (renderItem f it ++ rest) p = parseItems r rest (applyItem f it p) ∧
      distinctSlots r = true ∧ ∀ j ∈ r, getField j (applyItem f it p) = none := by
  refine ⟨?_, rest_unset hd hn fun j hs => getField_applyItem_other f j it p (sameSlot_comm it j ▸ hs)⟩
  simp only [parseItems, parseItem_render f hf it rest p hst hro (hn it (by simp)), Option.bind_some]

theorem parseItems_render (f : Fields) (hf : f.Valid) (its : List Item) (p : Parsed)
    (hsc : scannable its = true) (hst : styleOk f its = true) (hd : distinctSlots its = true)
    (hn : ∀ it ∈ its, getField it p = none) :
    parseItems its (renderItems f its) p = some (applyItems f its p, []) := by
  induction its generalizing p with
  | nil => rfl
  | cons it r ih =>
    obtain ⟨hro, hsr⟩ := restOk_of_scannable f hf it r hsc
    obtain ⟨hst1, hst2⟩ := styleOk_cons hst
    obtain ⟨h1, hd', hn'⟩ := parseItems_cons_render f hf it r _ p hst1 hro hd hn
    rw [renderItems, h1, applyItems]
    exact ih _ hsr hst2 hd' hn'

theorem getField_empty (it : Item) : getField it {} = none := by cases it <;> rfl

theorem strptime_render (f : Fields) (hf : f.Valid) (pat : List Char) {its : List Item} (hits : parsePattern pat = its)
    (hsc : scannable its = true) (hst : styleOk f its = true) (hd : distinctSlots its = true) :
    strptimeCliL pat (renderItems f its) = some (applyItems f its {}) := by
  simp [strptimeCliL, hits, parseItems_render f hf _ {} hsc hst hd (fun it _ => getField_empty it)]

/-- the documented reading of civil fields at offset `off`: the second `60` is the leap-second
reading, stored (as chrono stores it) as `:59` plus a fraction `≥ 10^9` -/
def civilDT (y m d h mi s nano : Nat) (off : Int) : DT :=
  ⟨epochSeconds y m d h mi ((if s = 60 then 59 else s : Nat) : Int) off, (if s = 60 then 1000000000 else 0) + nano, off⟩

theorem civilDT_ns (y m d h mi s nano : Nat) (off : Int) :
    (civilDT y m d h mi s nano off).ns = instantNs y m d h mi s nano off := by
  unfold civilDT DT.ns instantNs epochSeconds
  by_cases hs : s = 60
  · subst hs; simp only [if_true]; omega
  · simp only [hs, if_false]; omega

/-- civil fields in range resolve to the wall-clock second they spell (a second `60` as `:59` plus a
fraction `≥ 10^9`), and that second stays inside chrono's range at every real offset -/
theorem toNaive_civil (P : Parsed) (y m d h mi s : Nat) (nano : Option Nat)
    (hY : P.year = some (y : Int)) (hM : P.month = some (m : Int)) (hD : P.day = some (d : Int))
    (hH : P.hour = some (h : Int)) (hMi : P.minute = some (mi : Int)) (hS : P.second = some (s : Int))
    (hN : P.nano = nano.map fun n => (n : Int)) (hT : P.timestamp = none)
    (hy : y ≤ 9999) (hv : validDate y m d = true) (hh : h ≤ 23) (hmi : mi ≤ 59) (hs : s ≤ 60)
    (hn : ∀ n, nano = some n → n ≤ 999999999) :
    ∃ loc : Int, (∀ o, toNaive P o = some (loc, (if s = 60 then 1000000000 else 0) + nano.getD 0)) ∧
      (∀ off, loc - off = epochSeconds y m d h mi ((if s = 60 then 59 else s : Nat) : Int) off) ∧
      ∀ off : Int, -86400 < off → off < 86400 →
        inRange (epochSeconds y m d h mi ((if s = 60 then 59 else s : Nat) : Int) off) = true := by
  obtain ⟨hm0, hm1, hd0, hd1⟩ := validDate_bounds y m d hv
  have hdb : -719528 ≤ daysFromCivil y m d ∧ daysFromCivil y m d ≤ 2932927 := by
    have ho := S4V.Lemmas.Time.ordinal_bounds y m d hv
    have : (if S4V.Lemmas.Time.Leap y then 1 else 0 : Int) ≤ 1 := by split <;> decide
    rw [S4V.Lemmas.Time.daysFromCivil_closed y m d hm0 hm1]
    unfold S4V.Lemmas.Time.jan1
    omega
  have hdate : toNaiveDate P = some (daysFromCivil y m d) := by
    have a : minYear ≤ (y : Int) ∧ (y : Int) ≤ maxYear := by unfold minYear maxYear; omega
    simp [toNaiveDate, hY, hM, hD, a, hv, civilDays_eq]
  have e60 : (s : Int) = 60 ↔ s = 60 := by omega
  have htime : toNaiveTime P = some ((h : Int) * 3600 + (mi : Int) * 60 + ((if s = 60 then 59 else s : Nat) : Int),
      (if s = 60 then 1000000000 else 0) + nano.getD 0) := by
    have c : (0 : Int) ≤ h ∧ (h : Int) ≤ 23 ∧ (0 : Int) ≤ mi ∧ (mi : Int) ≤ 59 ∧ (0 : Int) ≤ s ∧ (s : Int) ≤ 60 := by omega
    cases nano with
    | none => by_cases e : s = 60 <;> simp [toNaiveTime, hH, hMi, hS, hN, c, e60, e]
    | some n =>
      have c' : (0 : Int) ≤ n ∧ (n : Int) ≤ 999999999 := by have := hn n rfl; omega
      by_cases e : s = 60 <;> simp [toNaiveTime, hH, hMi, hS, hN, c, c', e60, e]
  have hs' : (if s = 60 then 59 else s : Nat) ≤ 59 := by split <;> omega
  exact ⟨daysFromCivil y m d * 86400 + ((h : Int) * 3600 + (mi : Int) * 60 + ((if s = 60 then 59 else s : Nat) : Int)),
    fun o => by simp only [toNaive, hdate, htime, hT], fun off => by unfold epochSeconds; omega,
    fun off h0 h1 => inRange_of_bounds _ (by unfold epochSeconds; omega) (by unfold epochSeconds; omega)⟩

/-- the four characters `datetime_from_str_workaround_Issue660` counts -/
def ws4 (c : Char) : Bool := c == ' ' || c == '\t' || c == '\n' || c == '\r'

/-- a pattern with no leading / trailing run of the four characters -/
def patEdgeOk (pat : List Char) : Bool :=
  wsCounts pat == (0, 0, 0) && (if allWs3 pat then (0, 0, 0) else wsCounts pat.reverse) == (0, 0, 0)

theorem wsCounts_head (c : Char) (r : List Char) (h : ws4 c = false) : wsCounts (c :: r) = (0, 0, 0) := by
  have : (c == ' ' || c == '\t' || c == '\n' || c == '\r') = false := h
  simp [wsCounts, List.takeWhile, this]

theorem issue660_of_patEdgeOk (v pat : List Char) (h : patEdgeOk pat = true) : issue660 v pat = patEdgeOk v := by
  simp only [patEdgeOk, Bool.and_eq_true, beq_iff_eq] at h
  simp only [issue660, patEdgeOk, h.1, h.2]

theorem patEdgeOk_solid (c l : Char) (r A : List Char) (hc : ws4 c = false) (hl : ws4 l = false)
    (h : c :: r = A ++ [l]) : patEdgeOk (c :: r) = true := by
  have a2 : allWs3 (c :: r) = false := by
    have : (c == ' ' || c == '\t' || c == '\n' || c == '\r') = false := hc
    simp [allWs3, this]
  have a3 : wsCounts (c :: r).reverse = (0, 0, 0) := by
    rw [h, List.reverse_append]; exact wsCounts_head l _ hl
  simp only [patEdgeOk, wsCounts_head c r hc, a2, a3]
  rfl

/-- an item whose text is non-empty and free of the four characters -/
def solid4 : Item → Bool
  | .lit c => !ws4 c
  | .nano k => k == 3 || k == 6
  | .space | .tzName | .bad => false
  | _ => true

theorem ws4_of_isDig {c : Char} (h : isDig c = true) : ws4 c = false := by
  have h' := h
  simp only [isDig, Bool.and_eq_true, decide_eq_true_eq] at h'
  have e : ∀ x : Char, x.toNat < 48 → (c == x) = false := by
    intro x hx
    simp only [beq_eq_false_iff_ne, ne_eq]
    intro e; subst e; omega
  simp [ws4, e ' ' (by decide), e '\t' (by decide), e '\n' (by decide), e '\r' (by decide)]

theorem renderItem_solid (f : Fields) (hf : f.Valid) (it : Item) (h : solid4 it = true) :
    renderItem f it ≠ [] ∧ ∀ c ∈ renderItem f it, ws4 c = false :=
  renderItem_free_valid ws4 (fun _ => ws4_of_isDig) (by decide) f hf it
    (by cases it <;> first | exact .inl h | exact .inr (.inl rfl) | exact .inr (.inr ⟨_, rfl⟩))

def edgesSolid (its : List Item) : Bool := its.head?.any solid4 && its.getLast?.any solid4

theorem issue660_render (f : Fields) (hf : f.Valid) (its : List Item) (pat : List Char)
    (he : edgesSolid its = true) (hp : patEdgeOk pat = true) : issue660 (renderItems f its) pat = true := by
  simp only [edgesSolid, Bool.and_eq_true, Option.any_eq_true] at he
  obtain ⟨⟨a, ha, sa⟩, ⟨b, hb, sb⟩⟩ := he
  obtain ⟨A, l, e2, hl⟩ := renderItems_last ws4 f its b hb (renderItem_solid f hf b sb)
  cases its with
  | nil => simp at ha
  | cons x xs =>
    obtain rfl : x = a := by simpa using ha
    obtain ⟨c, r, e1, hc⟩ := renderItems_first ws4 f x xs (renderItem_solid f hf x sa)
    rw [issue660_of_patEdgeOk _ _ hp, e1]
    exact patEdgeOk_solid c l r A hc hl (e1 ▸ e2)

/-- `datetime_parse_from_str` after chrono's `parse`: it depends on the value only through the `Parsed` record
and the outcome `ok660` of the white-space check -/
def resolveP (p : Parsed) (hasTz : Bool) (tzOff : Int) (ok660 : Bool) : Option DT :=
  if hasTz then
    let offset? : Option Int := match p.offset, p.timestamp with
      | some o, _ => some o
      | none, some _ => some 0
      | none, none => none
    match offset? with
    | none => none
    | some o =>
      match toNaive p o with
      | none => none
      | some (loc, frac) =>
        if -86400 < o && o < 86400 && inRange (loc - o) && ok660 then some ⟨loc - o, frac, o⟩ else none
  else
    match toNaive p 0 with
    | none => none
    | some (loc, frac) =>
      if inRange (loc - tzOff) && ok660 then some ⟨loc - tzOff, frac, tzOff⟩ else none

theorem dtParse_factor (d pat : List Char) (hasTz : Bool) (tz : Int) :
    datetimeParseFromStr d pat hasTz tz =
      match strptimeCliL pat d with
      | none => none
      | some p => resolveP p hasTz tz (issue660 d pat) := by
  unfold datetimeParseFromStr resolveP
  cases strptimeCliL pat d <;> rfl

theorem resolveP_false (p : Parsed) (hasTz : Bool) (tz : Int) : resolveP p hasTz tz false = none := by
  unfold resolveP
  cases hasTz <;> simp only [Bool.and_false, Bool.false_eq_true, if_false, if_true] <;> (repeat' split) <;> rfl

/-- two parses that end with the same `Parsed` under the same `has_tz` flag: the first is refused (by the
white-space check) or gives what the second gives -/
theorem dtParse_same (d1 p1 d2 p2 : List Char) (hasTz : Bool) (tz : Int) (P : Parsed) (dt : DT)
    (h1 : strptimeCliL p1 d1 = some P) (h2 : strptimeCliL p2 d2 = some P)
    (hr : datetimeParseFromStr d2 p2 hasTz tz = some dt) :
    datetimeParseFromStr d1 p1 hasTz tz = none ∨ datetimeParseFromStr d1 p1 hasTz tz = some dt := by
  rw [dtParse_factor] at hr ⊢
  simp only [h1, h2] at hr ⊢
  cases o1 : issue660 d1 p1 with
  | false => left; exact resolveP_false P hasTz tz
  | true =>
    cases o2 : issue660 d2 p2 with
    | false => rw [o2, resolveP_false] at hr; cases hr
    | true => right; rw [o2] at hr; exact hr

def hasZone (its : List Item) : Bool := its.contains (.tz false) || its.contains (.tz true)

def nanoOpt (f : Fields) (its : List Item) : Option Nat :=
  if its.contains (.nano 3) then some (f.milli * 1000000)
  else if its.contains (.nano 6) then some (f.micro * 1000) else none

/-- what a value rendered through `its` denotes: the civil fields, the fraction the pattern carries,
at the written zone if the pattern has one, else at `tz` -/
def denoteItems (its : List Item) (f : Fields) (tz : Int) : DT :=
  civilDT f.year f.month f.day f.hour f.minute f.second ((nanoOpt f its).getD 0)
    (if hasZone its then f.zoneOff else tz)

/-- decidable shape of a full date-time pattern -/
def civilOk (its : List Item) (hasTz : Bool) : Bool :=
  scannable its && distinctSlots its && edgesSolid its &&
  its.contains .year && its.contains .month && its.contains .day &&
  its.contains .hour && its.contains .minute && its.contains .second &&
  !its.contains .timestamp && (hasTz == hasZone its)

theorem nano_of_scannable (f : Fields) (hf : f.Valid) (its : List Item) (h : scannable its = true) (k : Nat)
    (hk : Item.nano k ∈ its) : k = 3 ∨ k = 6 := by
  induction its with
  | nil => simp at hk
  | cons it r ih =>
    rcases List.mem_cons.mp hk with e | hk'
    · subst e
      simp only [scannable, Bool.and_eq_true, Bool.or_eq_true, beq_iff_eq] at h
      exact h.1
    · exact ih (restOk_of_scannable f hf it r h).2 hk'

theorem nanoOpt_le (f : Fields) (hf : f.Valid) (its : List Item) (n : Nat) (hn : nanoOpt f its = some n) :
    n ≤ 999999999 := by
  have := hf.milli
  have := hf.micro
  unfold nanoOpt at hn
  split at hn
  · injection hn with hn; omega
  · split at hn
    · injection hn with hn; omega
    · cases hn

/-- the fraction the items leave in the parsed record is the one `nanoOpt` names: that of `%3f`, else of `%6f`,
else none (a scannable list has no other `%Nf`) -/
theorem nano_applyItems (f : Fields) (hf : f.Valid) (its : List Item) (hsc : scannable its = true)
    (hd : distinctSlots its = true) :
    (applyItems f its {}).nano = (nanoOpt f its).map fun n => (n : Int) := by
  simp only [nanoOpt, List.contains_iff_mem]
  split
  · exact getField_applyItems_mem f (.nano 3) its {} rfl ‹_› hd
  · split
    · exact getField_applyItems_mem f (.nano 6) its {} rfl ‹_› hd
    · refine getField_applyItems_absent f (.nano 3) its {} fun j hj => ?_
      cases j <;> first | rfl | skip
      rename_i k
      rcases nano_of_scannable f hf its hsc k hj with rfl | rfl <;> contradiction

theorem zoneOff_bounds (f : Fields) (hf : f.Valid) : -86400 < f.zoneOff ∧ f.zoneOff < 86400 := by
  have := hf.zh
  have := hf.zm
  unfold Fields.zoneOff
  by_cases hp : f.zsign = '+' <;> cases f.zstyle <;> simp only [hp, if_true, if_false] <;> omega

theorem dtParse_civil (f : Fields) (hf : f.Valid) (pat : List Char) {its : List Item} (hits : parsePattern pat = its)
    (hasTz : Bool) (tz : Int) (htz : -86400 < tz ∧ tz < 86400)
    (hok : civilOk its hasTz = true) (hst : styleOk f its = true) (hp : patEdgeOk pat = true) :
    datetimeParseFromStr (renderItems f its) pat hasTz tz = some (denoteItems its f tz) := by
  simp only [civilOk, Bool.and_eq_true, Bool.not_eq_true', beq_iff_eq, List.contains_iff_mem, and_assoc] at hok
  obtain ⟨hsc, hd, hedge, mY, mM, mD, mH, mMi, mS, mT, hz⟩ := hok
  have hstr := strptime_render f hf pat hits hsc hst hd
  have h660 := issue660_render f hf _ pat hedge hp
  generalize hP : applyItems f its {} = P at hstr
  have fld : ∀ i, isField i = true → i ∈ its → getField i P = some (valueOf f i) :=
    fun i hi hm => hP ▸ getField_applyItems_mem f i its {} hi hm hd
  have hT : P.timestamp = none := by
    rw [← hP]
    refine getField_applyItems_absent f .timestamp its {} ?_
    intro j hj
    cases j <;> first | rfl | (exfalso; simp at mT; exact mT hj)
  have hN : P.nano = (nanoOpt f its).map fun n => (n : Int) := hP ▸ nano_applyItems f hf its hsc hd
  obtain ⟨loc, hnaive, hloc, hin⟩ := toNaive_civil P f.year f.month f.day f.hour f.minute f.second (nanoOpt f its)
    (fld .year rfl mY) (fld .month rfl mM) (fld .day rfl mD) (fld .hour rfl mH) (fld .minute rfl mMi)
    (fld .second rfl mS) hN hT hf.year hf.date hf.hour hf.minute hf.second (nanoOpt_le f hf its)
  unfold datetimeParseFromStr
  rw [hstr]
  simp only []
  cases hasTz with
  | true =>
    have hz' : hasZone its = true := hz.symm
    have hO : P.offset = some f.zoneOff := by
      simp only [hasZone, Bool.or_eq_true, List.contains_iff_mem] at hz'
      rcases hz' with h | h
      · exact fld (.tz false) rfl h
      · exact fld (.tz true) rfl h
    obtain ⟨zb0, zb1⟩ := zoneOff_bounds f hf
    simp [hO, hnaive, zb0, zb1, hin, h660, denoteItems, civilDT, hz', hloc]
  | false =>
    have hz' : hasZone its = false := hz.symm
    simp [hnaive, hin, htz.1, htz.2, h660, denoteItems, civilDT, hz', hloc]

theorem dtParse_ts (f : Fields) (hf : f.Valid) (pat : List Char) (tz : Int) (htz : -86400 < tz ∧ tz < 86400)
    (hits : parsePattern pat = [.lit '+', .timestamp]) (hp : patEdgeOk pat = true) :
    datetimeParseFromStr (renderItems f [.lit '+', .timestamp]) pat false tz =
      some ⟨(numVal f.ts : Int) - tz, 0, tz⟩ := by
  have hstr := strptime_render f hf pat hits rfl rfl rfl
  have h660 := issue660_render f hf [.lit '+', .timestamp] pat (by decide) hp
  have hle := hf.ts_le
  unfold tsMax at hle
  have hin1 := inRange_of_bounds ((numVal f.ts : Int) + 0) (by omega) (by omega)
  have hin2 := inRange_of_bounds ((numVal f.ts : Int) + 0 - tz) (by omega) (by omega)
  unfold datetimeParseFromStr
  rw [hstr]
  simp only [Bool.false_eq_true, if_false, toNaive, toNaiveDate, toNaiveTime, applyItems, applyItem, valueOf,
    Parsed.noCivil, Option.isNone_none, Bool.and_self, hin1, hin2, h660, if_true]
  simp

def isZoneItem : Item → Bool
  | .tz _ | .tzName => true
  | _ => false

def isClockItem : Item → Bool
  | .hour | .minute | .second => true
  | _ => false

/-- an item whose text is non-empty and has no letter -/
def nonAlphaItem : Item → Bool
  | .space => true
  | .lit c => !isAlpha c
  | .year | .month | .day | .hour | .minute | .second => true
  | .nano k => k == 3 || k == 6
  | _ => false

/-- the items of `appendTimePattern` -/
def timeTail : List Item := [.space, .lit 'T', .hour, .minute, .second]

/-- the items of the pattern `process_dt` hands on: `%Z` becomes `%z`, a date-only row gets the time -/
def effItems (row : Row) : List Item :=
  (if row.hasTzZ then (parsePattern row.pattern.toList).dropLast ++ [.tz false] else parsePattern row.pattern.toList) ++
    (if row.hasTime then [] else timeTail)

/-- the zone a name stands for, as fields -/
def namedZone (row : Row) (f : Fields) : Option (Char × Nat × Nat) :=
  if row.hasTzZ then (lookupTz f.zname).bind fun z => zoneText z.toList else none

/-- the fields of the value `process_dt` hands on: the name's zone written `±HH:MM`, midnight for a bare date -/
def effFields (row : Row) (f : Fields) : Fields :=
  { f with
    hour := if row.hasTime then f.hour else 0
    minute := if row.hasTime then f.minute else 0
    second := if row.hasTime then f.second else 0
    zsign := match namedZone row f with | some (sg, _, _) => sg | none => f.zsign
    zh := match namedZone row f with | some (_, hh, _) => hh | none => f.zh
    zm := match namedZone row f with | some (_, _, mm) => mm | none => f.zm
    zstyle := match namedZone row f with | some _ => .colon | none => f.zstyle }

/-- one entry of the generated zone-name table: the name is letters, the offset text is empty
(ambiguous) or `±HH:MM` with `HH ≤ 23`, `MM ≤ 59` -/
def tzEntryOk (kv : String × String) : Bool :=
  kv.1.toList.all isAlpha &&
  (kv.2 == "" ||
    match zoneText kv.2.toList with
    | some (sg, hh, mm) =>
      (sg == '+' || sg == '-') && hh ≤ 23 && mm ≤ 59 && kv.2.toList == sg :: (pad 2 hh ++ ':' :: pad 2 mm)
    | none => false)

/-- table facts (generated `MAP_TZZ_TO_TZz` unfolded), decided in ONE pass: the kernel pays for the
`String.toList` of every name and offset text once per evaluation (≈ 30M heartbeats), so facts decided
together share it -/
theorem tz_facts :
    (tzTable.all tzEntryOk && (lookupTz []).isNone && nameOff ['Z'] == 0 && nameOff ['z'] == 0) = true := by
  decide +kernel

theorem tz_facts_split :
    tzTable.all tzEntryOk = true ∧ lookupTz [] = none ∧ nameOff ['Z'] = 0 ∧ nameOff ['z'] = 0 := by
  simpa only [Bool.and_eq_true, beq_iff_eq, Option.isNone_iff_eq_none, and_assoc] using tz_facts

theorem tzTable_ok : tzTable.all tzEntryOk = true := tz_facts_split.1

theorem lookupTz_nil : lookupTz [] = none := tz_facts_split.2.1

theorem attemptRow_noName (row : Row) (hz : row.hasTzZ = true) (v : List Char) (tz : Int)
    (h : (splitAlphaTail v).2 = []) : attemptRow row v tz = none := by
  simp [attemptRow, rowValue, hz, h, lookupTz_nil]

theorem zulu_names : nameOff ['Z'] = 0 ∧ nameOff ['z'] = 0 := tz_facts_split.2.2

theorem lookupTz_spec (name : List Char) (z : String) (h : lookupTz name = some z) (hz : z ≠ "") :
    (∀ c ∈ name, isAlpha c = true) ∧
    ∃ sg hh mm, zoneText z.toList = some (sg, hh, mm) ∧ (sg = '+' ∨ sg = '-') ∧ hh ≤ 23 ∧ mm ≤ 59 ∧
      z.toList = sg :: (pad 2 hh ++ ':' :: pad 2 mm) := by
  obtain ⟨kv, hfind, rfl⟩ := Option.map_eq_some_iff.mp h
  have hkey : kv.1.toList = name := by simpa using List.find?_some hfind
  have hok := List.all_eq_true.mp tzTable_ok kv (List.mem_of_find?_eq_some hfind)
  simp only [tzEntryOk, Bool.and_eq_true, List.all_eq_true, Bool.or_eq_true, beq_iff_eq] at hok
  refine ⟨fun c hc => hok.1 c (hkey ▸ hc), ?_⟩
  rcases hok.2 with hv | hv
  · exact absurd hv hz
  · cases hzt : zoneText kv.2.toList with
    | none => simp [hzt] at hv
    | some t =>
      obtain ⟨sg, hh, mm⟩ := t
      simp only [hzt, Bool.and_eq_true, Bool.or_eq_true, decide_eq_true_eq, beq_iff_eq, and_assoc] at hv
      exact ⟨sg, hh, mm, rfl, hv⟩

theorem splitAlphaTail_append (A0 name : List Char) (l : Char) (hl : isAlpha l = false)
    (hn : ∀ c ∈ name, isAlpha c = true) :
    splitAlphaTail ((A0 ++ [l]) ++ name) = (A0 ++ [l], name) := by
  have hrev : ∀ c ∈ name.reverse, isAlpha c = true := fun c hc => hn c (List.mem_reverse.mp hc)
  have e : ((A0 ++ [l]) ++ name).reverse = name.reverse ++ (l :: A0.reverse) := by simp
  simp only [splitAlphaTail, e, List.dropWhile_append_of_pos hrev, List.takeWhile_append_of_pos hrev]
  simp [List.dropWhile, List.takeWhile, hl]

theorem isAlpha_of_isDig {c : Char} (h : isDig c = true) : isAlpha c = false := by
  simp only [isDig, Bool.and_eq_true, decide_eq_true_eq] at h
  simp [isAlpha]; omega

theorem renderItem_nonAlpha (f : Fields) (it : Item) (h : nonAlphaItem it = true) :
    renderItem f it ≠ [] ∧ ∀ c ∈ renderItem f it, isAlpha c = false :=
  renderItem_free isAlpha (fun _ => isAlpha_of_isDig) f it (by cases it <;> exact h)

theorem renderItems_endsNonAlpha (f : Fields) (its : List Item) (h : its.getLast?.any nonAlphaItem = true) :
    ∃ A0 l, renderItems f its = A0 ++ [l] ∧ isAlpha l = false := by
  simp only [Option.any_eq_true] at h
  obtain ⟨b, hb, sb⟩ := h
  exact renderItems_last isAlpha f its b hb (renderItem_nonAlpha f b sb)

/-- the fields handed on differ from `f` in the numeric zone of a `%Z` row and the clock of a date-only row -/
theorem renderItem_eff (row : Row) (f : Fields) (it : Item)
    (hz : row.hasTzZ = false ∨ ∀ perm, it ≠ .tz perm) (hc : row.hasTime = true ∨ isClockItem it = false) :
    renderItem (effFields row f) it = renderItem f it := by
  cases it with
  | tz perm =>
    have h : row.hasTzZ = false := hz.resolve_right fun h => h perm rfl
    simp [renderItem, renderZone, effFields, namedZone, h]
  | hour | minute | second =>
    have h : row.hasTime = true := hc.resolve_right (by simp [isClockItem])
    simp [renderItem, effFields, h]
  | _ => rfl

theorem renderItems_eff (row : Row) (f : Fields) (its : List Item)
    (hz : row.hasTzZ = false ∨ ∀ perm, Item.tz perm ∉ its)
    (hc : row.hasTime = true ∨ its.all (fun it => !isClockItem it) = true) :
    renderItems (effFields row f) its = renderItems f its := by
  induction its with
  | nil => rfl
  | cons it r ih =>
    simp only [List.all_cons, Bool.and_eq_true, Bool.not_eq_true', List.mem_cons, not_or] at hz hc
    rw [renderItems, renderItems,
      renderItem_eff row f it (hz.imp_right fun h perm e => (h perm).1 e.symm) (hc.imp_right And.left),
      ih (hz.imp_right fun h perm => (h perm).2) (hc.imp_right And.right)]

/-- the midnight `process_dt` appends to the value of a date-only row, as a rendering -/
theorem render_timeTail (row : Row) (f : Fields) (ht : row.hasTime = false) :
    renderItems (effFields row f) timeTail = [' ', 'T', '0', '0', '0', '0', '0', '0'] := by
  simp [renderItems, renderItem, timeTail, effFields, ht, pad2, digitChar, digitOf]

/-- the text of the fields `f` in the notation of `row` (generic over the row's pattern items) -/
def render (row : Row) (f : Fields) : List Char := renderItems f (parsePattern row.pattern.toList)

/-- the instant the documentation gives `render row f`, from the calendar arithmetic of
`S4V.Model.Time` (not from the interpreter): an explicit zone (numeric or named) wins, a zone-less
value is read at `tz`, a bare date means 00:00:00, `+N` is N seconds read at `tz` -/
def denote (row : Row) (f : Fields) (tz : Int) : DT :=
  let its := parsePattern row.pattern.toList
  if its.contains .timestamp then ⟨(numVal f.ts : Int) - tz, 0, tz⟩
  else
    let off : Int := if hasZone its then f.zoneOff else if its.contains .tzName then nameOff f.zname else tz
    let nano : Nat := (nanoOpt f its).getD 0
    if its.contains .hour then civilDT f.year f.month f.day f.hour f.minute f.second nano off
    else civilDT f.year f.month f.day 0 0 0 nano off

/-- decidable per-row condition, civil rows: the pattern handed on is the expected item list, a `%Z`
is the last item and follows a non-letter, a date-only row names no clock field, the item list has
the shape the round trip needs, and the row's flags say what the items say -/
def RowCivil (row : Row) : Bool :=
  let its := parsePattern row.pattern.toList
  parsePattern (rowPattern row) == effItems row &&
  (if row.hasTzZ then
      its == its.dropLast ++ [.tzName] && its.dropLast.all (fun it => !isZoneItem it) &&
        its.dropLast.getLast?.any nonAlphaItem
    else !its.contains .tzName) &&
  (row.hasTime || (its.all (fun it => !isClockItem it) &&
    appendTimeValue.toList == [' ', 'T', '0', '0', '0', '0', '0', '0'])) &&
  civilOk (effItems row) row.hasTz && patEdgeOk (rowPattern row) &&
  (row.hasTime == its.contains .hour) && !its.contains .timestamp &&
  (its.contains (.nano 3) == (effItems row).contains (.nano 3)) &&
  (its.contains (.nano 6) == (effItems row).contains (.nano 6)) &&
  (hasZone (effItems row) == (hasZone its || row.hasTzZ)) && (its.contains .tzName == row.hasTzZ) &&
  !(row.hasTzZ && hasZone its)

/-- the `+%s` row -/
def RowTs (row : Row) : Bool :=
  parsePattern row.pattern.toList == [.lit '+', .timestamp] &&
  parsePattern (rowPattern row) == [.lit '+', .timestamp] &&
  !row.hasTz && !row.hasTzZ && row.hasTime && patEdgeOk (rowPattern row)

def RowOk (row : Row) : Bool := RowCivil row || RowTs row

/-- what the proofs beyond a row's own round trip use of `RowCivil` -/
theorem rowCivil_facts {row : Row} (h : RowCivil row = true) :
    parsePattern (rowPattern row) = effItems row ∧ scannable (effItems row) = true ∧
      distinctSlots (effItems row) = true ∧ (parsePattern row.pattern.toList).contains .tzName = row.hasTzZ := by
  simp only [RowCivil, civilOk, Bool.and_eq_true, beq_iff_eq] at h
  simp only [h, and_self]

theorem rowOk_edge {row : Row} (h : RowOk row = true) : patEdgeOk (rowPattern row) = true := by
  simp only [RowOk, RowCivil, RowTs, Bool.or_eq_true, Bool.and_eq_true] at h
  rcases h with h | h <;> simp [h]

theorem effFields_valid (row : Row) (f : Fields) (hf : f.Valid) : (effFields row f).Valid := by
  have hnz : namedZone row f = none ∨
      ∃ sg hh mm, namedZone row f = some (sg, hh, mm) ∧ (sg = '+' ∨ sg = '-') ∧ hh ≤ 23 ∧ mm ≤ 59 := by
    unfold namedZone
    cases row.hasTzZ with
    | false => left; rfl
    | true =>
      obtain ⟨z, hl, hz⟩ := hf.zname
      obtain ⟨_, sg, hh, mm, hzt, hsg, h1, h2, _⟩ := lookupTz_spec f.zname z hl hz
      right
      exact ⟨sg, hh, mm, by simp [hl, hzt], hsg, h1, h2⟩
  have hz : ((effFields row f).zsign = '+' ∨ (effFields row f).zsign = '-' ∨ (effFields row f).zsign = uminus) ∧
      (effFields row f).zh ≤ 23 ∧ (effFields row f).zm ≤ 59 := by
    rcases hnz with h | ⟨sg, hh, mm, h, hsg, h1, h2⟩ <;> simp only [effFields, h]
    · exact ⟨hf.zsign, hf.zh, hf.zm⟩
    · exact ⟨hsg.elim .inl fun e => .inr (.inl e), h1, h2⟩
  obtain ⟨hsign, hzh, hzm⟩ := hz
  have clock : ∀ {n b : Nat}, n ≤ b → (if row.hasTime = true then n else 0) ≤ b := fun h => by split <;> omega
  exact { hf with
    hour := clock hf.hour, minute := clock hf.minute, second := clock hf.second, zsign := hsign, zh := hzh, zm := hzm }

/-- `process_dt`'s preparation of the value, on a rendered value: the zone name is replaced by the
table's offset text and the midnight is appended — which is the rendering of the handed-on items -/
theorem rowValue_render (row : Row) (f : Fields) (hf : f.Valid) (hrow : RowCivil row = true) :
    rowValue row (render row f) = some (renderItems (effFields row f) (effItems row)) := by
  simp only [RowCivil, Bool.and_eq_true, and_assoc] at hrow
  obtain ⟨_, hZ, hT, _⟩ := hrow
  simp only [Bool.or_eq_true, Bool.and_eq_true, beq_iff_eq] at hT
  have hclock := hT.imp_right And.left
  have htail : (if row.hasTime = true then [] else appendTimeValue.toList) =
      renderItems (effFields row f) (if row.hasTime = true then [] else timeTail) := by
    cases ht : row.hasTime with
    | true => rfl
    | false =>
      obtain ⟨_, hv⟩ := hT.resolve_left (by simp [ht])
      simp [hv, render_timeTail row f ht]
  unfold rowValue render effItems
  cases hz : row.hasTzZ with
  | false =>
    simp only [Bool.false_eq_true, if_false, Option.map_some, htail, renderItems_append]
    rw [renderItems_eff row f _ (Or.inl hz) hclock]
  | true =>
    simp only [hz, if_true, Bool.and_eq_true, beq_iff_eq] at hZ
    obtain ⟨⟨hshape, hnozone⟩, hlast⟩ := hZ
    obtain ⟨z, hl, hzne⟩ := hf.zname
    obtain ⟨hal, sg, hh, mm, hzt, _, _, _, htext⟩ := lookupTz_spec f.zname z hl hzne
    obtain ⟨A0, l, hA, hlna⟩ := renderItems_endsNonAlpha f _ hlast
    have hclock' := hclock.imp_right fun h => List.all_eq_true.mpr fun x hx =>
      List.all_eq_true.mp h x (List.dropLast_subset _ hx)
    have hv : renderItems f (parsePattern row.pattern.toList) = (A0 ++ [l]) ++ f.zname := by
      rw [hshape, renderItems_append, hA]
      simp [renderItems, renderItem]
    have hzone : renderZone (effFields row f) = z.toList := by
      have hnz : namedZone row f = some (sg, hh, mm) := by simp [namedZone, hz, hl, hzt]
      simp only [renderZone, effFields, hnz]
      exact htext.symm
    rw [hv, splitAlphaTail_append A0 f.zname l hlna hal]
    simp only [hl, if_true, Option.map_some, htail, renderItems_append]
    rw [renderItems_eff row f _ (Or.inr fun perm hm => by simpa [isZoneItem] using List.all_eq_true.mp hnozone _ hm)
      hclock', hA]
    simp [renderItems, renderItem, hzone]

theorem namedZone_of_name (row : Row) (f : Fields) (hf : f.Valid) (hz : row.hasTzZ = true) :
    ∃ sg hh mm, namedZone row f = some (sg, hh, mm) ∧
      nameOff f.zname = (if sg = '+' then 1 else -1) * ((hh : Int) * 3600 + (mm : Int) * 60) := by
  obtain ⟨z, hl, hzne⟩ := hf.zname
  obtain ⟨_, sg, hh, mm, hzt, _, _, _, _⟩ := lookupTz_spec f.zname z hl hzne
  exact ⟨sg, hh, mm, by simp [namedZone, hz, hl, hzt], by simp [nameOff, hl, hzt]⟩

theorem zoneOff_effFields (row : Row) (f : Fields) (hf : f.Valid) :
    (effFields row f).zoneOff = if row.hasTzZ = true then nameOff f.zname else f.zoneOff := by
  cases hz : row.hasTzZ with
  | true =>
    obtain ⟨sg, hh, mm, hnzo, hoff⟩ := namedZone_of_name row f hf hz
    simp only [hoff, Fields.zoneOff, effFields, hnzo, if_true]
  | false => simp [Fields.zoneOff, effFields, namedZone, hz]

theorem zoneOff_effFields_zulu (row : Row) (f : Fields) (hf : f.Valid) (hz : row.hasTzZ = true)
    (h : f.zname = ['Z'] ∨ f.zname = ['z']) : (effFields row f).zoneOff = 0 := by
  rw [zoneOff_effFields row f hf, if_pos hz]
  rcases h with e | e <;> rw [e]
  · exact zulu_names.1
  · exact zulu_names.2

/-- the value handed on is written in a style every `%z` reads: the name's zone is written `±HH:MM`,
any other zone as `f` writes it -/
theorem styleOk_effFields (row : Row) (f : Fields) (hf : f.Valid) (its : List Item)
    (hst : row.hasTzZ = true ∨ styleOk f its = true) : styleOk (effFields row f) its = true := by
  cases hz : row.hasTzZ with
  | true =>
    obtain ⟨sg, hh, mm, hnz, _⟩ := namedZone_of_name row f hf hz
    have : (effFields row f).zstyle = .colon := by simp only [effFields, hnz]
    simp [styleOk, this]
  | false =>
    have : (effFields row f).zstyle = f.zstyle := by simp [effFields, namedZone, hz]
    simpa only [styleOk, this] using hst.resolve_left (by simp [hz])

theorem styleOk_eff (row : Row) (f : Fields) (hf : f.Valid)
    (hst : styleOk f (parsePattern row.pattern.toList) = true) : styleOk (effFields row f) (effItems row) = true := by
  refine styleOk_effFields row f hf _ ?_
  cases hz : row.hasTzZ with
  | true => exact .inl rfl
  | false =>
    right
    simp only [effItems, hz, Bool.false_eq_true, if_false]
    unfold styleOk at hst ⊢
    rw [List.all_append, hst]
    cases row.hasTime <;> simp [timeTail]

theorem attemptRow_civil (row : Row) (f : Fields) (hf : f.Valid) (tz : Int) (htz : -86400 < tz ∧ tz < 86400)
    (hrow : RowCivil row = true) (hst : styleOk f (parsePattern row.pattern.toList) = true) :
    attemptRow row (render row f) tz = some (denote row f tz) := by
  have hval := rowValue_render row f hf hrow
  have hsty := styleOk_eff row f hf hst
  simp only [RowCivil, Bool.and_eq_true, beq_iff_eq, Bool.not_eq_true', Bool.and_eq_false_iff, and_assoc] at hrow
  obtain ⟨hpat, _, _, hcivil, hedge, hH, hTs, hn3, hn6, hzz, hname, hnz⟩ := hrow
  have hparse := dtParse_civil (effFields row f) (effFields_valid row f hf) (rowPattern row) hpat row.hasTz tz htz
    hcivil hsty hedge
  unfold attemptRow
  rw [hval]
  simp only [hparse, Option.some.injEq]
  have e1 : nanoOpt (effFields row f) (effItems row) = nanoOpt f (parsePattern row.pattern.toList) := by
    simp only [nanoOpt, ← hn3, ← hn6]; rfl
  unfold denoteItems denote
  simp only [e1, hTs, Bool.false_eq_true, if_false, hzz, hname, ← hH]
  rw [zoneOff_effFields row f hf]
  rcases hnz with h | h <;> simp only [h, effFields] <;> cases row.hasTime <;> cases row.hasTzZ <;> simp

theorem attemptRow_ts (row : Row) (f : Fields) (hf : f.Valid) (tz : Int) (htz : -86400 < tz ∧ tz < 86400)
    (hrow : RowTs row = true) : attemptRow row (render row f) tz = some (denote row f tz) := by
  simp only [RowTs, Bool.and_eq_true, beq_iff_eq, Bool.not_eq_true', and_assoc] at hrow
  obtain ⟨hits, hpat, htzf, hzf, htime, hedge⟩ := hrow
  have hparse := dtParse_ts f hf (rowPattern row) tz htz hpat hedge
  unfold attemptRow rowValue render denote
  simp only [hits, hzf, htime, Bool.false_eq_true, if_false, if_true, Option.map_some, List.append_nil, htzf] at hparse ⊢
  rw [hparse]
  simp

theorem attemptRow_render (row : Row) (f : Fields) (hf : f.Valid) (tz : Int) (htz : -86400 < tz ∧ tz < 86400)
    (hrow : RowOk row = true) (hst : styleOk f (parsePattern row.pattern.toList) = true) :
    attemptRow row (render row f) tz = some (denote row f tz) := by
  simp only [RowOk, Bool.or_eq_true] at hrow
  rcases hrow with h | h
  · exact attemptRow_civil row f hf tz htz h hst
  · exact attemptRow_ts row f hf tz htz h

/-! ## no steal: an earlier row that cannot read a later row's values

Definitions only; `S4V.Props.CliSpec.C14_no_steal_rows` evaluates them. That `noStealPair rj ri` makes `rj` refuse every
value of `ri` is `S4V.Lemmas.CliNoSteal.attemptRow_none_of_pair`, proved there because `failsPair` is a special case
of that file's `refuses` (`refuses_of_failsPair`). -/

/-- how a rendered remainder begins -/
inductive Hd
  | empty
  | digit
  | lit (c : Char)
  deriving DecidableEq, Repr

def hdOf : List Item → Option Hd
  | [] => some .empty
  | .lit c :: _ => some (.lit c)
  | .year :: _ | .month :: _ | .day :: _ | .hour :: _ | .minute :: _ | .second :: _ => some .digit
  | _ => none

def isTwo : Item → Bool
  | .month | .day | .hour | .minute | .second => true
  | _ => false

/-- `trim_start` leaves such a text alone -/
def hdNoWs : Hd → Bool
  | .empty => true
  | .digit => true
  | .lit c => !isWs c

/-- such a text does not begin (after `trim_start`) with a digit -/
def hdNoNum : Hd → Bool
  | .empty => true
  | .digit => false
  | .lit c => !isDig c && !isWs c

/-- such a text does not begin with `c` -/
def hdNot (c : Char) : Hd → Bool
  | .empty => true
  | .digit => !isDig c
  | .lit c' => c' != c

/-- `its` cannot consume exactly a text that begins as `h` says -/
def failsOn : List Item → Hd → Bool
  | [], h => h != .empty
  | .space :: r, h => hdNoWs h && failsOn r h
  | .lit c :: _, h => hdNot c h
  | it :: _, h => isTwo it && hdNoNum h

/-- the items `ij` cannot consume exactly any value rendered through `ii`: after a common prefix of
plain items, `ij` fails on (or leaves over) how the rest of `ii` begins -/
def failsPair : List Item → List Item → Bool
  | a :: rj, b :: ri =>
    if a == b && (plain a || (a == .space && startsSolid ri)) then failsPair rj ri
    else match hdOf (b :: ri) with
      | some h => failsOn (a :: rj) h
      | none => false
  | [], ri => match hdOf ri with
    | some h => failsOn [] h
    | none => false
  | a :: rj, [] => failsOn (a :: rj) .empty

/-- decidable: row `rj` reads no value of row `ri` -/
def noStealPair (rj ri : Row) : Bool :=
  if rj.hasTzZ then (parsePattern ri.pattern.toList).getLast?.any nonAlphaItem && (lookupTz []).isNone
  else if rj.hasTime then
    failsPair (parsePattern rj.pattern.toList) (parsePattern ri.pattern.toList) &&
      distinctSlots (parsePattern rj.pattern.toList)
  else
    -- two date-only rows: both get the midnight appended
    !ri.hasTime && !ri.hasTzZ && RowCivil ri &&
      failsPair (parsePattern (rowPattern rj)) (effItems ri) && distinctSlots (parsePattern (rowPattern rj))

/-- no row before position `i` reads a value of row `i` -/
def noStealRow (i : Nat) : Bool :=
  match cliFilterPatterns[i]? with
  | some ri => (cliFilterPatterns.take i).all fun rj => noStealPair rj ri
  | none => false

end S4V.Lemmas.CliAbs
