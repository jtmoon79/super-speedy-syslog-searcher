/-
Facts about the hand model `S4V.Model.LayoutDetect` that hold whatever the generated tables contain; `S4V.Props.LayoutDetectSpec`
instantiates them at the tables. `cands` is rewritten as a fold of `addRow` over the rows, which gives where a candidate comes
from (`cands_origin`), that names are not repeated, and that the set listed in declaration order is a sublist of that order.
`chooseGo_spec` characterises the candidate loop of `score_file` under the strict comparison `>`: the result is the FIRST
maximum of the iteration order. `scanGo_sampled` / `sampled_eq`: the record loop sees only the first `n` non-null records.
`cstrOverreads_false_of_last_nul`: a record ending in NUL stops every `CStr` walk inside it.
-/
import S4V.Model.LayoutDetect
import S4V.Lemmas.Lists

namespace S4V.Lemmas.LayoutDetect
open S4V.Gen.LayoutDetect S4V.Model.LayoutDetect
open S4V.Model.Fixed (Bytes)

/-! ### the "try all types anyway" fold of `filesz_to_types` -/

abbrev Row := String × Nat × Int

def addRow (filesz : Nat) (s : List (String × Int)) (r : Row) : List (String × Int) :=
  if filesz % r.2.1 = 0 ∧ ¬ s.any (·.1 == r.1) then s ++ [(r.1, r.2.2)] else s

theorem candsWith_eq (bR : Kind → List (String × Nat)) (aR : List Row) (k : Kind) (filesz : Nat) :
    candsWith bR aR k filesz = aR.foldl (addRow filesz)
      ((bR k).filterMap (fun r => if filesz % r.2 = 0 then some (r.1, BONUS) else none)) := rfl

theorem cands_eq (k : Kind) (filesz : Nat) :
    cands k filesz = allRows.foldl (addRow filesz)
      ((bonusRows k).filterMap (fun r => if filesz % r.2 = 0 then some (r.1, BONUS) else none)) := rfl

theorem mem_addRow {filesz : Nat} {s : List (String × Int)} {r : Row} {x : String × Int} :
    x ∈ addRow filesz s r ↔ x ∈ s ∨ ((filesz % r.2.1 = 0 ∧ ¬ s.any (·.1 == r.1)) ∧ x = (r.1, r.2.2)) := by
  by_cases h : filesz % r.2.1 = 0 ∧ ¬ s.any (·.1 == r.1)
  · rw [addRow, if_pos h, List.mem_append, List.mem_singleton, and_iff_right h]
  · rw [addRow, if_neg h, or_iff_left fun hh => h hh.1]

theorem foldl_addRow_keeps (filesz : Nat) (rows : List Row) (s : List (String × Int)) (x : String × Int) (hx : x ∈ s) :
    x ∈ rows.foldl (addRow filesz) s := by
  induction rows generalizing s with
  | nil => exact hx
  | cons r rs ih => exact ih _ (mem_addRow.mpr (Or.inl hx))

theorem foldl_addRow_has (filesz : Nat) (rows : List Row) (s : List (String × Int)) (r : Row) (hr : r ∈ rows)
    (hd : filesz % r.2.1 = 0) : ∃ b, (r.1, b) ∈ rows.foldl (addRow filesz) s := by
  induction rows generalizing s with
  | nil => cases hr
  | cons q qs ih =>
    rcases List.mem_cons.mp hr with rfl | h
    · by_cases hany : s.any (·.1 == r.1) = true
      · -- the name is there already: it stays, with the bonus it has
        obtain ⟨y, hy, hyn⟩ := List.any_eq_true.mp hany
        exact ⟨y.2, foldl_addRow_keeps filesz qs _ _ (mem_addRow.mpr (Or.inl (by rw [← beq_iff_eq.mp hyn]; exact hy)))⟩
      · exact ⟨r.2.2, foldl_addRow_keeps filesz qs _ _ (mem_addRow.mpr (Or.inr ⟨⟨hd, hany⟩, rfl⟩))⟩
    · exact ih _ h

theorem foldl_addRow_origin {filesz : Nat} {rows : List Row} {s : List (String × Int)} {x : String × Int}
    (hx : x ∈ rows.foldl (addRow filesz) s) :
    x ∈ s ∨ ∃ r ∈ rows, r.1 = x.1 ∧ r.2.2 = x.2 ∧ filesz % r.2.1 = 0 := by
  induction rows generalizing s with
  | nil => exact Or.inl hx
  | cons q qs ih =>
    rcases ih hx with h | ⟨r, hr, h⟩
    · rcases mem_addRow.mp h with h | ⟨hc, rfl⟩
      · exact Or.inl h
      · exact Or.inr ⟨q, List.mem_cons_self, rfl, rfl, hc.1⟩
    · exact Or.inr ⟨r, List.mem_cons_of_mem _ hr, h⟩

theorem cands_origin {k : Kind} {filesz : Nat} {c : String × Int} (hc : c ∈ cands k filesz) :
    (∃ r ∈ bonusRows k, r.1 = c.1 ∧ filesz % r.2 = 0) ∨ (∃ r ∈ allRows, r.1 = c.1 ∧ filesz % r.2.1 = 0) := by
  rw [cands_eq] at hc
  rcases foldl_addRow_origin hc with h | ⟨r, hr, hn, _, hd⟩
  · obtain ⟨r, hr, hsome⟩ := List.mem_filterMap.mp h
    split at hsome
    · next hd => cases hsome; exact Or.inl ⟨r, hr, rfl, hd⟩
    · cases hsome
  · exact Or.inr ⟨r, hr, hn, hd⟩

theorem filterMap_names_sublist (filesz : Nat) (l : List (String × Nat)) :
    ((l.filterMap (fun r => if filesz % r.2 = 0 then some (r.1, BONUS) else none)).map (·.1)).Sublist (l.map (·.1)) := by
  induction l with
  | nil => simp
  | cons r rs ih =>
    by_cases h : filesz % r.2 = 0
    · simp only [List.filterMap_cons, h, if_true, List.map_cons]
      exact List.Sublist.cons_cons _ ih
    · simp only [List.filterMap_cons, h, if_false, List.map_cons]
      exact List.Sublist.cons _ ih

theorem foldl_addRow_names_nodup (filesz : Nat) (rows : List Row) (s : List (String × Int)) (hs : (s.map (·.1)).Nodup) :
    ((rows.foldl (addRow filesz) s).map (·.1)).Nodup := by
  induction rows generalizing s with
  | nil => simpa using hs
  | cons r rs ih =>
    simp only [List.foldl_cons]
    apply ih
    unfold addRow
    split
    · rename_i hc
      rw [List.map_append, List.nodup_append]
      refine ⟨hs, by simp, ?_⟩
      intro a ha b hb
      simp only [List.map_cons, List.map_nil, List.mem_singleton] at hb
      subst hb
      intro hab
      apply hc.2
      rcases List.mem_map.mp ha with ⟨x, hx, hxa⟩
      exact List.any_eq_true.mpr ⟨x, hx, by simp [hxa, hab]⟩
    · exact hs

theorem nodup_of_map_nodup {α β : Type} (f : α → β) (l : List α) (h : (l.map f).Nodup) : l.Nodup :=
  List.Pairwise.of_map f (fun _ _ hne e => hne (congrArg f e)) h

theorem mem_filterMap_find (D : List String) (C : List (String × Int)) (hC : (C.map (·.1)).Nodup) (c : String × Int) :
    c ∈ D.filterMap (fun n => C.find? (·.1 == n)) ↔ c ∈ C ∧ c.1 ∈ D := by
  rw [List.mem_filterMap]
  constructor
  · rintro ⟨n, hn, hf⟩
    have h1 := List.mem_of_find?_eq_some hf
    have h2 := List.find?_some hf
    have : c.1 = n := by simpa using h2
    exact ⟨h1, this ▸ hn⟩
  · rintro ⟨hc, hd⟩
    exact ⟨c.1, hd, Lists.find?_key Prod.fst C c hC hc⟩

theorem filterMap_find_names_sublist (C : List (String × Int)) : ∀ (D : List String),
    ((D.filterMap (fun n => C.find? (·.1 == n))).map (·.1)).Sublist D := by
  intro D
  induction D with
  | nil => simp
  | cons n ns ih =>
    cases hf : C.find? (·.1 == n) with
    | none => simp only [List.filterMap_cons, hf]; exact List.Sublist.cons _ ih
    | some c =>
      have : c.1 = n := by simpa using List.find?_some hf
      simp only [List.filterMap_cons, hf, List.map_cons, this]
      exact List.Sublist.cons_cons _ ih

theorem chooseGo_spec (hstrict : replaceStrict = true) (score : String × Int → Int) :
    ∀ {ord : List (String × Int)} {best : Int} {who : Option String} {s : Int} {w : Option String},
      chooseGo score ord (best, who) = (s, w) →
      (w = who ∧ s = best ∧ ∀ c ∈ ord, score c ≤ best) ∨
      (∃ pre c post, ord = pre ++ c :: post ∧ w = some c.1 ∧ s = score c ∧ score c > best ∧
        (∀ d ∈ pre, score d < score c) ∧ (∀ d ∈ post, score d ≤ score c)) := by
  intro ord
  induction ord with
  | nil =>
    intro best who s w h
    cases h
    exact Or.inl ⟨rfl, rfl, fun c hc => (nomatch hc)⟩
  | cons c cs ih =>
    intro best who s w h
    simp only [chooseGo, hstrict, if_true] at h
    by_cases hgt : score c > best
    · -- `c` replaces the best so far; a later candidate may replace it in turn
      rw [if_pos (by simpa using hgt)] at h
      rcases ih h with ⟨hw, hs, hall⟩ | ⟨pre, c', post, hsplit, hw, hs, hgt', hpre, hpost⟩
      · exact Or.inr ⟨[], c, cs, rfl, hw, hs, hgt, fun d hd => (nomatch hd), hall⟩
      · exact Or.inr ⟨c :: pre, c', post, by rw [hsplit]; rfl, hw, hs, by omega,
          List.forall_mem_cons.mpr ⟨hgt', hpre⟩, hpost⟩
    · rw [if_neg (by simpa using hgt)] at h
      rcases ih h with ⟨hw, hs, hall⟩ | ⟨pre, c', post, hsplit, hw, hs, hgt', hpre, hpost⟩
      · exact Or.inl ⟨hw, hs, List.forall_mem_cons.mpr ⟨by omega, hall⟩⟩
      · exact Or.inr ⟨c :: pre, c', post, by rw [hsplit]; rfl, hw, hs, hgt',
          List.forall_mem_cons.mpr ⟨by omega, hpre⟩, hpost⟩

theorem scanGo_sampled (score : Bytes → Int) :
    ∀ (rs : List Bytes) (n : Nat) (hs : Int), scanGo score rs n hs = scanGo score (sampled rs n) n hs
  | [], n, hs => by simp [sampled]
  | r :: rs, 0, hs => by simp [scanGo, sampled]
  | r :: rs, n + 1, hs => by
    cases hnull : isNullRec r <;> simp [scanGo, sampled, hnull, scanGo_sampled score rs]

theorem sampled_eq : ∀ (rs : List Bytes) (n : Nat), sampled rs n = (rs.filter fun r => !isNullRec r).take n
  | [], n => by simp [sampled]
  | r :: rs, 0 => by simp [sampled]
  | r :: rs, n + 1 => by
    cases hnull : isNullRec r <;> simp [sampled, hnull, sampled_eq rs]

theorem sampled_length_le (rs : List Bytes) (n : Nat) : (sampled rs n).length ≤ n := by
  rw [sampled_eq]; exact List.length_take_le _ _

theorem sampled_all_nonnull (rs : List Bytes) (n : Nat) : ∀ r ∈ sampled rs n, isNullRec r = false ∧ r ∈ rs := by
  intro r hr
  rw [sampled_eq] at hr
  have := List.mem_filter.mp (List.mem_of_mem_take hr)
  exact ⟨by simpa using this.2, this.1⟩

theorem chunksN_getElem? {sz : Nat} : ∀ {k : Nat} {f : Bytes} {i : Nat}, i < k →
    (chunksN sz k f)[i]? = some ((f.drop (i * sz)).take sz) := by
  intro k
  induction k with
  | zero => intro f i hi; omega
  | succ k ih =>
    intro f i hi
    cases i with
    | zero => simp [chunksN]
    | succ i =>
      simp only [chunksN, List.getElem?_cons_succ]
      rw [ih (by omega), List.drop_drop]
      rw [Nat.succ_mul, Nat.add_comm sz (i * sz)]

theorem chunksN_length (sz : Nat) : ∀ (k : Nat) (f : Bytes), (chunksN sz k f).length = k := by
  intro k
  induction k with
  | zero => intro f; rfl
  | succ k ih => intro f; simp [chunksN, ih]

theorem cstrOverreads_false_of_last_nul (rec : Bytes) (off : Nat) (hoff : off < rec.length)
    (hlast : rec.getLast? = some 0) : cstrOverreads rec off = false := by
  unfold cstrOverreads
  rw [Bool.eq_false_iff]
  intro hall
  have hne : rec.drop off ≠ [] := by
    intro h
    have := List.drop_eq_nil_iff.mp h
    omega
  have hl : (rec.drop off).getLast? = some 0 := by
    rw [List.getLast?_drop]
    rw [if_neg (by omega)]
    exact hlast
  have hmem : (0 : UInt8) ∈ rec.drop off := List.mem_of_getLast? hl
  have := List.all_eq_true.mp hall 0 hmem
  simp at this

end S4V.Lemmas.LayoutDetect
