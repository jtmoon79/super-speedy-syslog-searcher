/-
First-match agreement for the `-a` / `-b` pattern rows (C14): what an EARLIER row of
`CLI_FILTER_PATTERNS` does with a value written in the grammar of a LATER row.

`process_dt` tries the rows in table order and takes the first that parses. For a pair
(earlier `rj`, later `ri`) one of two things is decided on the pattern items, by computable
analyses lifted by soundness lemmas:

* `refuses`  — `rj`'s items cannot consume (exactly) any value rendered through `ri`'s items
  (generalises `S4V.Lemmas.CliAbs.failsPair`: fractions `%3f` against `%6f`, zone items, `%Z`
  names, a signed `%Y` swallowing `+%s`, an unknown or known text after the items);
* `agreesF`  — `rj` refuses the value, or consumes it and ends with the SAME chrono `Parsed`
  record as `ri` itself (`%z` reading what `%:z` / `%#z` wrote, a pattern space more or less,
  `%#z` reading the zone NAME `Z` …); the same `Parsed` resolves to the same instant.

Both rest on how a text begins (`Hd2`, `Sat`) and on `fails2`, one item list against such a head. `Hd2`, `fails2`,
`refuses` extend `Hd`, `failsOn`, `failsPair` of `S4V.Lemmas.CliAbs` (three of the five heads, three of the four
tests: `up`, `tests_up`); `C14_no_steal` is stated with the latter, which is sound as a special case
(`refuses_of_failsPair`).
-/
import S4V.Lemmas.CliAbs

namespace S4V.Lemmas.CliNoSteal
open S4V.Model.Cli S4V.Model.Time S4V.Gen.CliTables S4V.Lemmas.CliTime S4V.Lemmas.CliAbs

/-! ## how a text begins -/

inductive Hd2
  | empty
  | digit
  | lit (c : Char)
  /-- a numeric zone: `+`, `-`, U+2212, `Z` or `z` -/
  | zone
  /-- a zone name: an ASCII letter -/
  | alpha
  deriving DecidableEq, Repr

def isZoneHd (c : Char) : Bool := c == '+' || c == '-' || c == uminus || c == 'Z' || c == 'z'

/-- the characters a head stands for -/
def cls : Hd2 → Char → Bool
  | .empty, _ => false
  | .digit, c => isDig c
  | .lit c0, c => c == c0
  | .zone, c => isZoneHd c
  | .alpha, c => isAlpha c

def Sat (h : Hd2) : List Char → Prop
  | [] => h = .empty
  | c :: _ => cls h c = true

/-- no white space at the head (`trim_start` leaves the text alone) -/
def noWs : Hd2 → Bool
  | .lit c => !isWs c
  | _ => true

def noDig : Hd2 → Bool
  | .digit => false
  | .lit c => !isDig c
  | _ => true

def notC (c0 : Char) : Hd2 → Bool
  | .empty => true
  | .digit => !isDig c0
  | .lit c => c != c0
  | .zone => !isZoneHd c0
  | .alpha => !isAlpha c0

/-- `scan::timezone_offset` fails at the head -/
def noTz (perm : Bool) : Hd2 → Bool
  | .empty => true
  | .digit => true
  | .lit c => !isWs c && !isZoneHd c
  | .zone => false
  | .alpha => !perm

theorem isWs_of_isAlpha {c : Char} (h : isAlpha c = true) : isWs c = false := by
  simp [isAlpha] at h
  simp [isWs]
  omega

theorem isZoneHd_cases {c : Char} (h : isZoneHd c = true) :
    c = '+' ∨ c = '-' ∨ c = uminus ∨ c = 'Z' ∨ c = 'z' := by
  simpa [isZoneHd, or_assoc] using h

theorem noWs_sound (h : Hd2) (hh : noWs h = true) (c : Char) (hc : cls h c = true) : isWs c = false := by
  cases h with
  | empty => simp [cls] at hc
  | digit => exact isWs_of_isDig hc
  | lit c0 =>
    simp only [cls, beq_iff_eq] at hc
    subst hc
    simpa [noWs] using hh
  | zone => rcases isZoneHd_cases hc with e | e | e | e | e <;> subst e <;> decide
  | alpha => exact isWs_of_isAlpha hc

theorem noDig_sound (h : Hd2) (hh : noDig h = true) (c : Char) (hc : cls h c = true) : isDig c = false := by
  cases h with
  | empty => simp [cls] at hc
  | digit => simp [noDig] at hh
  | lit c0 =>
    simp only [cls, beq_iff_eq] at hc
    subst hc
    simpa [noDig] using hh
  | zone => rcases isZoneHd_cases hc with e | e | e | e | e <;> subst e <;> decide
  | alpha =>
    cases hd : isDig c with
    | false => rfl
    | true =>
      have ha : isAlpha c = true := hc
      rw [isAlpha_of_isDig hd] at ha; cases ha

theorem noDig_sat {h : Hd2} {t : List Char} (hh : noDig h = true) (hs : Sat h t) :
    ∀ c r, t = c :: r → isDig c = false := by
  rintro c r rfl
  exact noDig_sound h hh c hs

theorem notC_sound (c0 : Char) (h : Hd2) (hh : notC c0 h = true) (c : Char) (hc : cls h c = true) : c ≠ c0 := by
  intro e
  subst e
  cases h with
  | empty => simp [cls] at hc
  | digit => simp [notC] at hh; simp [cls, hh] at hc
  | lit c1 => simp [notC] at hh; simp [cls] at hc; exact hh hc.symm
  | zone => simp [notC] at hh; simp [cls, hh] at hc
  | alpha => simp [notC] at hh; simp [cls, hh] at hc

def isSign (c : Char) : Bool := c == '+' || c == '-' || c.toNat == 0x2212

theorem scanTz_none (perm : Bool) (c : Char) (r : List Char)
    (h1 : (perm && (c == 'Z' || c == 'z')) = false) (h2 : isSign c = false) : scanTz perm (c :: r) = none := by
  simp only [isSign] at h2
  simp only [scanTz, h1, h2]
  simp

theorem isZoneHd_eq (c : Char) : isZoneHd c = (isSign c || c == 'Z' || c == 'z') := by
  have : (c == uminus) = (c.toNat == 0x2212) := by
    rw [Bool.eq_iff_iff, beq_iff_eq, beq_iff_eq]
    exact ⟨fun e => e ▸ rfl, fun e => Char.ext (UInt32.toNat_inj.mp e)⟩
  simp only [isZoneHd, isSign, this]

theorem isZoneHd_of_isDig {c : Char} (h : isDig c = true) : isZoneHd c = false := by
  cases hz : isZoneHd c with
  | false => rfl
  | true => rcases isZoneHd_cases hz with e | e | e | e | e <;> subst e <;> exact absurd h (by decide)

theorem isSign_of_isAlpha {c : Char} (h : isAlpha c = true) : isSign c = false := by
  simp only [isAlpha, Bool.or_eq_true, Bool.and_eq_true, decide_eq_true_eq] at h
  have : c ≠ '+' ∧ c ≠ '-' := ⟨by rintro rfl; simp at h, by rintro rfl; simp at h⟩
  have : c.toNat ≠ 0x2212 := by omega
  simp [isSign, *]

theorem noTz_sound (perm : Bool) (h : Hd2) (hh : noTz perm h = true) (c : Char) (hc : cls h c = true) (r : List Char) :
    isWs c = false ∧ scanTz perm (c :: r) = none := by
  -- neither a sign nor `Z` / `z`: nothing for `scanTz` to start on
  have zone : isZoneHd c = false → scanTz perm (c :: r) = none := fun hz => by
    simp only [isZoneHd_eq, Bool.or_eq_false_iff, and_assoc] at hz
    obtain ⟨hsign, hZ, hz'⟩ := hz
    exact scanTz_none perm c r (by simp [hZ, hz']) hsign
  cases h with
  | empty => simp [cls] at hc
  | digit => exact ⟨isWs_of_isDig hc, zone (isZoneHd_of_isDig hc)⟩
  | lit c0 =>
    obtain rfl : c = c0 := by simpa [cls] using hc
    simp only [noTz, Bool.and_eq_true, Bool.not_eq_true'] at hh
    exact ⟨hh.1, zone hh.2⟩
  | zone => simp [noTz] at hh
  | alpha =>
    obtain rfl : perm = false := by simpa [noTz] using hh
    exact ⟨isWs_of_isAlpha hc, scanTz_none false c r rfl (isSign_of_isAlpha hc)⟩

/-- `%#z` on a zone name (a text that begins with a letter): only `Z` / `z` is read, as UTC -/
theorem parseItem_tzHash_of_name {c : Char} (hc : isAlpha c = true) (t : List Char) (p : Parsed)
    (hn : p.offset = none) :
    parseItem (.tz true) (c :: t) p =
      if c = 'Z' ∨ c = 'z' then some ({ p with offset := some 0 }, t) else none := by
  simp only [parseItem, trimStart_of_head c t (isWs_of_isAlpha hc)]
  by_cases hzu : c = 'Z' ∨ c = 'z'
  · have : (c == 'Z' || c == 'z') = true := by simpa using hzu
    simp [scanTz, this, hzu, hn, setF]
  · rw [scanTz_none true c t (by simpa using hzu) (isSign_of_isAlpha hc), if_neg hzu]
    rfl

/-- `its` cannot consume exactly a text that begins as `h` says -/
def fails2 : List Item → Hd2 → Bool
  | [], h => h != .empty
  | .space :: r, h => noWs h && fails2 r h
  | .lit c :: _, h => notC c h
  | .nano _ :: _, h => noDig h
  | .tz perm :: _, h => noTz perm h
  | .month :: _, h | .day :: _, h | .hour :: _, h | .minute :: _, h | .second :: _, h => noWs h && noDig h
  | _, _ => false

theorem trimStart_sat (h : Hd2) (t : List Char) (hs : Sat h t) (hw : noWs h = true) : trimStart t = t := by
  cases t with
  | nil => rfl
  | cons c r => exact trimStart_of_head c r (noWs_sound h hw c hs)

theorem scanNumber_nodigit (t : List Char) (mn mx : Nat) (h : ∀ c r, t = c :: r → isDig c = false) :
    scanNumber t mn mx = none := by
  have : (takeDigits mx t).1 = [] := by
    cases mx with
    | zero => rfl
    | succ n =>
      cases t with
      | nil => rfl
      | cons c r => simp [takeDigits, h c r rfl]
  simp [scanNumber, this]

theorem parseItem_two_none (it : Item) (hi : isTwo it = true) (t : List Char) (p : Parsed)
    (h : ∀ c r, trimStart t = c :: r → isDig c = false) : parseItem it t p = none := by
  have := scanNumber_nodigit (trimStart t) 1 2 h
  cases it <;> simp [isTwo] at hi <;> simp [parseItem, this]

theorem fails2_sound (its : List Item) (h : Hd2) (t : List Char) (hs : Sat h t) (p : Parsed)
    (hf : fails2 its h = true) : ∀ P, parseItems its t p ≠ some (P, []) := by
  induction its generalizing p with
  | nil =>
    intro P e
    simp only [parseItems, Option.some.injEq, Prod.mk.injEq] at e
    rw [e.2] at hs
    simp only [Sat] at hs
    subst hs
    simp [fails2] at hf
  | cons a r ih =>
    have two : ∀ it, isTwo it = true → (noWs h && noDig h) = true → ∀ P, parseItems (it :: r) t p ≠ some (P, []) := by
      intro it hi hc P
      simp only [Bool.and_eq_true] at hc
      simp [parseItems, parseItem_two_none it hi t p (by rw [trimStart_sat h t hs hc.1]; exact noDig_sat hc.2 hs)]
    cases a with
    | space =>
      simp only [fails2, Bool.and_eq_true] at hf
      intro P
      simp only [parseItems, parseItem, Option.bind_some, trimStart_sat h t hs hf.1]
      exact ih p hf.2 P
    | lit c =>
      intro P
      have : parseItem (.lit c) t p = none := by
        cases t with
        | nil => rfl
        | cons c' r' =>
          have := notC_sound c h (by simpa [fails2] using hf) c' hs
          simp [parseItem, this]
      simp [parseItems, this]
    | nano k =>
      intro P
      have : parseItem (.nano k) t p = none := by
        simp [parseItem, scanNumber_nodigit t k k (noDig_sat (by simpa [fails2] using hf) hs)]
      simp [parseItems, this]
    | tz perm =>
      intro P
      have hf' : noTz perm h = true := by simpa [fails2] using hf
      have : parseItem (.tz perm) t p = none := by
        cases t with
        | nil => simp [parseItem, trimStart, scanTz]
        | cons c r' =>
          obtain ⟨hw, hn⟩ := noTz_sound perm h hf' c hs r'
          simp [parseItem, trimStart_of_head c r' hw, hn]
      simp [parseItems, this]
    | month | day | hour | minute | second => exact two _ rfl (by simpa [fails2] using hf)
    | year | timestamp | tzName | bad => simp [fails2] at hf

/-- how `renderItems g ii ++ tail` begins; `th` says how `tail` begins (`none` = unknown) -/
def hdOf2 (th : Option Hd2) : List Item → Option Hd2
  | [] => th
  | .lit c :: _ => some (.lit c)
  | .space :: _ => some (.lit ' ')
  | .year :: _ | .month :: _ | .day :: _ | .hour :: _ | .minute :: _ | .second :: _ | .timestamp :: _ => some .digit
  | .nano k :: _ => if k == 3 || k == 6 then some .digit else none
  | .tz _ :: _ => some .zone
  | .tzName :: _ => some .alpha
  | .bad :: _ => none

/-- `tail` begins as `th` says; `none` says nothing -/
def SatOpt (th : Option Hd2) (tail : List Char) : Prop := ∀ h, th = some h → Sat h tail

theorem zname_ok (g : Fields) (hg : g.Valid) : g.zname ≠ [] ∧ ∀ c ∈ g.zname, isAlpha c = true := by
  obtain ⟨z, hl, hz⟩ := hg.zname
  refine ⟨?_, (lookupTz_spec g.zname z hl hz).1⟩
  intro e
  rw [e, lookupTz_nil] at hl
  cases hl

theorem sat_cons_append (h : Hd2) (c : Char) (t rest : List Char) (hc : cls h c = true) :
    Sat h ((c :: t) ++ rest) := hc

theorem sat_digit_pad (k n : Nat) (rest : List Char) (hk : 1 ≤ k) : Sat .digit (pad k n ++ rest) := by
  obtain ⟨c, t, e, hc⟩ := pad_head k n hk
  rw [e]; exact hc

theorem hdOf2_sat (g : Fields) (hg : g.Valid) (th : Option Hd2) (tail : List Char)
    (hth : SatOpt th tail) (ii : List Item) (h : Hd2) (e : hdOf2 th ii = some h) :
    Sat h (renderItems g ii ++ tail) := by
  cases ii with
  | nil => exact hth h e
  | cons b r =>
    simp only [renderItems, List.append_assoc]
    -- `e` names the head `hdOf2` announces for `b`; each item's text begins so
    cases b <;> simp only [hdOf2, Option.some.injEq, reduceCtorEq] at e <;> try subst e
    case lit c => simp [renderItem, Sat, cls]
    case space => simp [renderItem, Sat, cls]
    case year => exact sat_digit_pad 4 _ _ (by decide)
    case month | day | hour | minute | second => exact sat_digit_pad 2 _ _ (by decide)
    case timestamp =>
      obtain ⟨c, t, e⟩ := List.exists_cons_of_ne_nil hg.ts_ne
      simp only [renderItem, e]
      exact hg.ts_dig c (by simp [e])
    case nano k =>
      split at e
      · rename_i hk
        simp only [Option.some.injEq] at e; subst e
        simp only [Bool.or_eq_true, beq_iff_eq] at hk
        exact sat_digit_pad k _ _ (by omega)
      · cases e
    case tz perm =>
      have hsg : isZoneHd g.zsign = true := by
        rcases hg.zsign with h | h | h <;> rw [h] <;> decide
      cases hst : g.zstyle <;> simp only [renderItem, renderZone, hst, List.cons_append] <;>
        first | exact hsg | exact (by decide : isZoneHd 'Z' = true) | exact (by decide : isZoneHd 'z' = true)
    case tzName =>
      obtain ⟨hne, hal⟩ := zname_ok g hg
      obtain ⟨c, t, e⟩ := List.exists_cons_of_ne_nil hne
      simp only [renderItem, e]
      exact hal c (by simp [e])

/-- a test on the head of `renderItems g ii ++ tail` that passed: the head it was made on begins that text -/
theorem hd_of_match (g : Fields) (hg : g.Valid) {th : Option Hd2} {tail : List Char}
    (hth : SatOpt th tail) {ii : List Item} {q : Hd2 → Bool}
    (h : (match hdOf2 th ii with | some h => q h | none => false) = true) :
    ∃ hd, q hd = true ∧ Sat hd (renderItems g ii ++ tail) := by
  cases hq : hdOf2 th ii with
  | none => simp [hq] at h
  | some hd => exact ⟨hd, by simpa [hq] using h, hdOf2_sat g hg th tail hth ii hd hq⟩

theorem fails2_hd (g : Fields) (hg : g.Valid) {th : Option Hd2} {tail : List Char}
    (hth : SatOpt th tail) (ij ii : List Item) (p : Parsed)
    (h : (match hdOf2 th ii with | some h => fails2 ij h | none => false) = true) :
    ∀ P, parseItems ij (renderItems g ii ++ tail) p ≠ some (P, []) := by
  obtain ⟨hd, hq, hs⟩ := hd_of_match g hg hth h
  exact fails2_sound ij hd _ hs p hq

theorem noDig_hd (g : Fields) (hg : g.Valid) {th : Option Hd2} {tail : List Char}
    (hth : SatOpt th tail) (ii : List Item)
    (h : (match hdOf2 th ii with | some h => noDig h | none => false) = true) :
    ∀ c r, renderItems g ii ++ tail = c :: r → isDig c = false := by
  obtain ⟨hd, hq, hs⟩ := hd_of_match g hg hth h
  exact noDig_sat hq hs

/-- items that `trim_start` before reading -/
def trims : Item → Bool
  | .year | .month | .day | .hour | .minute | .second | .timestamp | .tz _ => true
  | _ => false

theorem parseItem_skip_space (a : Item) (ha : trims a = true) (t : List Char) (p : Parsed) :
    parseItem a (' ' :: t) p = parseItem a t p := by
  cases a <;> simp [trims] at ha <;> simp only [parseItem, trimStart_space]

/-- an item equal on both sides reads its own text whatever follows -/
def lock (th : Option Hd2) (a : Item) (ri : List Item) : Bool :=
  plain a || a == .nano 3 || a == .nano 6 ||
  (a == .space && match hdOf2 th ri with | some h => noWs h | none => false)

/-- the items `ij` cannot consume exactly any text `renderItems g ii ++ tail` (`th`: how `tail` begins) -/
def refuses (th : Option Hd2) : List Item → List Item → Bool
  | [], ri => match hdOf2 th ri with | some h => h != .empty | none => false
  | a :: rj, [] => match th with | some h => fails2 (a :: rj) h | none => false
  | a :: rj, b :: ri =>
    if a == b && lock th a ri then refuses th rj ri
    else if a == .year && b == .lit '+' then
      -- a signed `%Y` reads every digit of `+%s`
      match ri with
      | .timestamp :: ri' => (match hdOf2 th ri' with | some h => noDig h | none => false) && refuses th rj ri'
      | _ => false
    -- a written space in front of an item that trims: what follows the space decides
    else if b == .space && trims a then (match hdOf2 th ri with | some h => fails2 (a :: rj) h | none => false)
    else if a == .nano 3 && b == .nano 6 then fails2 rj .digit
    else if a == .nano 6 && b == .nano 3 then (match hdOf2 th ri with | some h => noDig h | none => false)
    else match hdOf2 th (b :: ri) with | some h => fails2 (a :: rj) h | none => false

theorem restOk_lock (g : Fields) (hg : g.Valid) (th : Option Hd2) (tail : List Char)
    (hth : SatOpt th tail) (a : Item) (ri : List Item) (h : lock th a ri = true) :
    RestOk a (renderItems g ri ++ tail) := by
  simp only [lock, Bool.or_eq_true, Bool.and_eq_true, beq_iff_eq] at h
  rcases h with ((h | h) | h) | h
  · exact restOk_plain a h _
  · subst h; exact .inl rfl
  · subst h; exact .inr rfl
  · obtain ⟨rfl, hh⟩ := h
    obtain ⟨hd', hq, hs⟩ := hd_of_match g hg hth hh
    exact trimStart_sat hd' _ hs hq

theorem refuses_sound (g : Fields) (hg : g.Valid) (th : Option Hd2) (tail : List Char)
    (hth : SatOpt th tail) (ij ii : List Item) (p : Parsed)
    (h : refuses th ij ii = true) (hd : distinctSlots ij = true) (hn : ∀ it ∈ ij, getField it p = none) :
    ∀ P, parseItems ij (renderItems g ii ++ tail) p ≠ some (P, []) := by
  induction ij generalizing ii p with
  | nil => simp only [refuses] at h; exact fails2_hd g hg hth [] ii p h
  | cons a rj ih =>
    cases ii with
    | nil => simp only [refuses] at h; exact fails2_hd g hg hth (a :: rj) [] p h
    | cons b ri =>
      simp only [refuses] at h
      split at h
      · -- the same item on both sides, reading its own text
        rename_i hc
        simp only [Bool.and_eq_true, beq_iff_eq] at hc
        obtain ⟨rfl, hl⟩ := hc
        obtain ⟨h1, hd2, hn2⟩ := parseItems_cons_render g hg a rj _ p (by rintro rfl; simp [lock, plain] at hl)
          (restOk_lock g hg th tail hth a ri hl) hd hn
        rw [renderItems, List.append_assoc, h1]
        exact ih ri _ h hd2 hn2
      split at h
      · -- a signed `%Y` reads the sign and every digit of `+%s`
        rename_i hy
        simp only [Bool.and_eq_true, beq_iff_eq] at hy
        obtain ⟨rfl, rfl⟩ := hy
        split at h
        · simp only [Bool.and_eq_true] at h
          have h1 := parseItem_year_plus_ts g hg _ p (noDig_hd g hg hth _ h.1)
            (by simpa [getField] using hn .year (by simp))
          obtain ⟨hd2, hn2⟩ := rest_unset (p' := { p with year := some (numVal g.ts : Int) }) hd hn
            fun j hs => by cases j <;> first | rfl | simp [sameSlot] at hs
          intro P
          simp only [renderItems, List.append_assoc, parseItems, h1, Option.bind_some]
          exact ih _ _ h.2 hd2 hn2 P
        · cases h
      split at h
      · -- a written space in front of an item that trims: what follows the space decides
        rename_i hsp
        simp only [Bool.and_eq_true, beq_iff_eq] at hsp
        obtain ⟨rfl, ht⟩ := hsp
        intro P
        simpa [parseItems, renderItems, renderItem, parseItem_skip_space a ht]
          using fails2_hd g hg hth (a :: rj) ri p h P
      split at h
      · -- `%3f` reads the first three of the six digits; `rj` meets the fourth
        rename_i h36
        simp only [Bool.and_eq_true, beq_iff_eq] at h36
        obtain ⟨rfl, rfl⟩ := h36
        have h1 := parseItem_nano3_of_nano6 g hg (renderItems g ri ++ tail) p
          (by simpa [getField] using hn (.nano 3) (by simp))
        intro P
        simp only [renderItems, List.append_assoc, parseItems, h1, Option.bind_some]
        exact fails2_sound rj .digit _ (sat_digit_pad 3 _ _ (by decide)) _ h P
      split at h
      · -- `%6f` finds three digits only
        rename_i h63
        simp only [Bool.and_eq_true, beq_iff_eq] at h63
        obtain ⟨rfl, rfl⟩ := h63
        simp [renderItems, parseItems, parseItem_nano6_of_nano3 g _ p (noDig_hd g hg hth ri h)]
      · exact fails2_hd g hg hth (a :: rj) (b :: ri) p h

theorem sat_empty_nil : SatOpt (some .empty) [] := by
  rintro _ ⟨⟩; rfl

theorem refuses_sound_nil (g : Fields) (hg : g.Valid) (ij ii : List Item) (p : Parsed)
    (h : refuses (some .empty) ij ii = true) (hd : distinctSlots ij = true) (hn : ∀ it ∈ ij, getField it p = none) :
    ∀ P, parseItems ij (renderItems g ii) p ≠ some (P, []) := by
  simpa using refuses_sound g hg (some .empty) [] sat_empty_nil ij ii p h hd hn

/-- the heads of the first analysis among those of the second -/
def up : Hd → Hd2
  | .empty => .empty
  | .digit => .digit
  | .lit c => .lit c

theorem hdOf2_up {ri : List Item} {h : Hd} (e : hdOf ri = some h) : hdOf2 (some .empty) ri = some (up h) := by
  cases ri with
  | nil => cases e; rfl
  | cons b r => cases b <;> simp only [hdOf, Option.some.injEq, reduceCtorEq] at e <;> subst e <;> rfl

theorem tests_up (h : Hd) : noWs (up h) = hdNoWs h ∧ (hdNoWs h && noDig (up h)) = hdNoNum h ∧
    ∀ c, notC c (up h) = hdNot c h := by
  cases h <;> simp [up, noWs, noDig, notC, hdNoWs, hdNoNum, hdNot, Bool.and_comm]

theorem fails2_up (its : List Item) (h : Hd) (hf : failsOn its h = true) : fails2 its (up h) = true := by
  obtain ⟨e1, e2, e3⟩ := tests_up h
  induction its with
  | nil => cases h <;> first | exact hf | rfl
  | cons a r ih =>
    cases a <;> simp only [failsOn, fails2, isTwo, Bool.false_and, Bool.true_and, Bool.false_eq_true, e1, e2, e3] at hf ⊢ <;>
      first | exact hf | (rw [Bool.and_eq_true] at hf ⊢; exact ⟨hf.1, ih hf.2⟩)

theorem noWs_of_startsSolid {ri : List Item} (h : startsSolid ri = true) :
    ∃ hd, hdOf2 (some .empty) ri = some hd ∧ noWs hd = true := by
  cases ri with
  | nil => exact ⟨_, rfl, rfl⟩
  | cons b r => cases b <;> simp_all [startsSolid, hdOf2, noWs]

theorem refuses_of_failsPair (ij ii : List Item) (h : failsPair ij ii = true) :
    refuses (some .empty) ij ii = true := by
  induction ij generalizing ii with
  | nil =>
    simp only [failsPair] at h
    cases e : hdOf ii with
    | none => simp [e] at h
    | some hd =>
      simp only [e] at h
      simp only [refuses, hdOf2_up e]
      exact fails2_up [] hd h
  | cons a rj ih =>
    cases ii with
    | nil => exact fails2_up (a :: rj) .empty h
    | cons b ri =>
      simp only [failsPair] at h
      split at h
      · -- the same item, reading its own text: `lock`
        rename_i hc
        simp only [Bool.and_eq_true, beq_iff_eq, Bool.or_eq_true] at hc
        obtain ⟨rfl, hpl⟩ := hc
        have hl : lock (some .empty) a ri = true := by
          rcases hpl with hp | ⟨rfl, hs⟩
          · simp [lock, hp]
          · obtain ⟨hd, e, hw⟩ := noWs_of_startsSolid hs
            simp [lock, e, hw]
        simp only [refuses, beq_self_eq_true, hl, Bool.and_self, if_true]
        exact ih ri h
      · rename_i hc
        cases e : hdOf (b :: ri) with
        | none => simp [e] at h
        | some hd =>
          simp only [e] at h
          have e2 := hdOf2_up e
          have f2 := fails2_up _ _ h
          -- `hdOf` knows the head of a literal or a number only: `b` is plain, so `a` is another item
          have hb : plain b = true := by cases b <;> first | rfl | cases e
          have hab : (a == b) = false := by
            cases hab : a == b with
            | false => rfl
            | true => obtain rfl := beq_iff_eq.mp hab; simp [hb] at hc
          have hbs : (b == .space) = false := by cases b <;> first | rfl | cases hb
          -- `failsOn` passes a space, a literal or a two-digit field only
          cases a <;> simp only [failsOn, isTwo, Bool.false_and, Bool.false_eq_true] at h <;>
            simp [refuses, hab, hbs, trims, e2, f2]

theorem failsPair_sound (f : Fields) (hf : f.Valid) (ij ii : List Item) (p : Parsed)
    (h : failsPair ij ii = true) (hd : distinctSlots ij = true) (hn : ∀ it ∈ ij, getField it p = none) :
    ∀ P, parseItems ij (renderItems f ii) p ≠ some (P, []) :=
  refuses_sound_nil f hf ij ii p (refuses_of_failsPair ij ii h) hd hn

theorem strptime_none_of (pat s : List Char) (h : ∀ P, parseItems (parsePattern pat) s {} ≠ some (P, [])) :
    strptimeCliL pat s = none := by
  unfold strptimeCliL
  split
  · rename_i P hp; exact absurd hp (h P)
  · rfl

theorem strptime_fails (f : Fields) (hf : f.Valid) (pat : List Char) (ii : List Item)
    (h : failsPair (parsePattern pat) ii = true) (hd : distinctSlots (parsePattern pat) = true) :
    strptimeCliL pat (renderItems f ii) = none :=
  strptime_none_of _ _ (failsPair_sound f hf _ ii {} h hd fun it _ => getField_empty it)

theorem attemptRow_none_of_pair (rj ri : Row) (f : Fields) (hf : f.Valid) (tz : Int) (h : noStealPair rj ri = true) :
    attemptRow rj (render ri f) tz = none := by
  unfold noStealPair at h
  cases hz : rj.hasTzZ with
  | true =>
    simp only [hz, if_true, Bool.and_eq_true, Option.isNone_iff_eq_none] at h
    obtain ⟨A0, l, hA, hl⟩ := renderItems_endsNonAlpha f _ h.1
    exact attemptRow_noName rj hz _ tz (by simp [splitAlphaTail, render, hA, hl])
  | false =>
    cases ht : rj.hasTime with
    | true =>
      simp only [hz, ht, Bool.false_eq_true, if_false, if_true, Bool.and_eq_true] at h
      simp [attemptRow, rowValue, rowPattern, hz, ht, datetimeParseFromStr, render, strptime_fails f hf _ _ h.1 h.2]
    | false =>
      simp only [hz, ht, Bool.false_eq_true, if_false, Bool.and_eq_true, Bool.not_eq_true', and_assoc] at h
      obtain ⟨hti, hzi, hci, hfp, hd⟩ := h
      have hv := rowValue_render ri f hf hci
      simp only [rowValue, hzi, hti, Bool.false_eq_true, if_false, Option.map_some, Option.some.injEq] at hv
      simp [attemptRow, rowValue, hz, ht, datetimeParseFromStr, hv,
        strptime_fails (effFields ri f) (effFields_valid ri f hf) _ _ hfp hd]

/-- what a rendered item leaves in `Parsed` when its text is read by the row itself; a zone NAME
stands for the numeric zone `process_dt` substitutes for it -/
def applyItemZ (g : Fields) (it : Item) (p : Parsed) : Parsed :=
  if it = .tzName then { p with offset := some g.zoneOff } else applyItem g it p

def applyItemsZ (g : Fields) : List Item → Parsed → Parsed
  | [], p => p
  | it :: its, p => applyItemsZ g its (applyItemZ g it p)

/-- `%Z` rewritten to `%z` -/
def zFix (ii : List Item) : List Item := ii.map fun it => if it = .tzName then .tz false else it

theorem applyItemsZ_eq (g : Fields) (ii : List Item) (p : Parsed) : applyItemsZ g ii p = applyItems g (zFix ii) p := by
  induction ii generalizing p with
  | nil => rfl
  | cons a r ih =>
    simp only [applyItemsZ, zFix, List.map_cons, applyItems]
    rw [ih]
    by_cases e : a = .tzName
    · subst e; rfl
    · simp [applyItemZ, e, zFix]

/-- an item equal on both sides that reads its own text in front of `renderItems g ri` -/
def lockA (a : Item) (ri : List Item) : Bool :=
  lock (some .empty) a ri || a == .tz false || ((a == .tz true || a == .timestamp) && ri.isEmpty)

theorem restOk_lockA (g : Fields) (hg : g.Valid) (a : Item) (ri : List Item) (h : lockA a ri = true) :
    RestOk a (renderItems g ri) := by
  simp only [lockA, Bool.or_eq_true, Bool.and_eq_true, beq_iff_eq, List.isEmpty_iff] at h
  rcases h with (h | rfl) | ⟨ha, rfl⟩
  · simpa using restOk_lock g hg (some .empty) [] sat_empty_nil a ri h
  · trivial
  · rcases ha with rfl | rfl <;> rfl

/-- `ij` either cannot consume a value rendered through `ii`, or consumes it leaving what `ii` leaves. The first
argument is fuel, so that the kernel evaluates a structural recursion: every call drops an item of one of the lists,
and the table's lists have at most 15 items, so 64 is enough (`table_kinds` would show an open pair otherwise) -/
def agreesF : Nat → List Item → List Item → Bool
  | 0, _, _ => false
  | n + 1, ij, ii =>
    match ij, ii with
    | [], [] => true
    | [], b :: ri => refuses (some .empty) [] (b :: ri)
    | a :: rj, [] => if a == .space then agreesF n rj [] else refuses (some .empty) (a :: rj) []
    | a :: rj, b :: ri =>
      if a == b && lockA a ri then agreesF n rj ri
      -- `%z` / `%:z` reading what `%#z` wrote: the same offset, or (`±HH`, `Z`) refused
      else if a == .tz false && b == .tz true && ri.isEmpty then agreesF n rj []
      -- a pattern space in front of a solid text reads nothing
      else if a == .space && (match hdOf2 (some .empty) (b :: ri) with | some h => noWs h | none => false) then
        agreesF n rj (b :: ri)
      -- a written space in front of an item that trims
      else if b == .space && trims a then agreesF n (a :: rj) ri
      -- `%#z` reading a zone name: only `Z` / `z`, as UTC
      else if a == .tz true && rj.isEmpty && b == .tzName && ri.isEmpty then true
      else refuses (some .empty) (a :: rj) (b :: ri)

theorem agreesF_sound (g : Fields) (hg : g.Valid) (n : Nat) (ij ii : List Item) (p : Parsed)
    (h : agreesF n ij ii = true) (hst : styleOk g ii = true)
    (hz : Item.tzName ∈ ii → (g.zname = ['Z'] ∨ g.zname = ['z']) → g.zoneOff = 0)
    (hd : distinctSlots ij = true) (hn : ∀ it ∈ ij, getField it p = none) :
    (∀ P, parseItems ij (renderItems g ii) p ≠ some (P, [])) ∨
      parseItems ij (renderItems g ii) p = some (applyItemsZ g ii p, []) := by
  have refused := refuses_sound_nil g hg
  induction n generalizing ij ii p with
  | zero => simp [agreesF] at h
  | succ n ih =>
    cases ij with
    | nil =>
      cases ii with
      | nil => right; rfl
      | cons b ri => exact .inl (refused [] (b :: ri) p (by simpa [agreesF] using h) hd hn)
    | cons a rj =>
      obtain ⟨hd2, hn2⟩ := rest_unset (p' := p) hd hn fun _ _ => rfl
      cases ii with
      | nil =>
        simp only [agreesF] at h
        split at h
        · rename_i ha
          obtain rfl : a = .space := by simpa using ha
          simpa [parseItems, parseItem, renderItems, trimStart] using ih rj [] p h hst hz hd2 hn2
        · exact .inl (refused (a :: rj) [] p h hd hn)
      | cons b ri =>
        simp only [agreesF] at h
        obtain ⟨hst1, hst2⟩ := styleOk_cons hst
        have hz2 : Item.tzName ∈ ri → (g.zname = ['Z'] ∨ g.zname = ['z']) → g.zoneOff = 0 :=
          fun hm => hz (List.mem_cons_of_mem _ hm)
        split at h
        · -- the same item on both sides, reading its own text
          rename_i hc
          simp only [Bool.and_eq_true, beq_iff_eq] at hc
          obtain ⟨rfl, hl⟩ := hc
          have hro := restOk_lockA g hg a ri hl
          have hne : a ≠ .tzName := by rintro rfl; exact hro
          obtain ⟨h1, hd3, hn3⟩ := parseItems_cons_render g hg a rj _ p hst1 hro hd hn
          simpa [renderItems, h1, applyItemsZ, applyItemZ, hne] using ih rj ri (applyItem g a p) h hst2 hz2 hd3 hn3
        split at h
        · -- `%z` / `%:z` reading what `%#z` wrote
          rename_i hB
          simp only [Bool.and_eq_true, beq_iff_eq, List.isEmpty_iff, and_assoc] at hB
          obtain ⟨rfl, rfl, rfl⟩ := hB
          by_cases hsty : g.zstyle = .compact ∨ g.zstyle = .colon
          · obtain ⟨h1, hd3, hn3⟩ := parseItems_cons_render g hg (.tz false) rj [] p (fun _ => hsty) trivial hd hn
            have e : renderItems g [Item.tz true] = renderItem g (.tz false) ++ [] := by
              simp [renderItems, renderItem]
            rw [e, h1]
            simpa [applyItemsZ, applyItemZ, applyItem, valueOf, renderItems]
              using ih rj [] (applyItem g (.tz false) p) h (by rfl) (by simp) hd3 hn3
          · exact .inl fun P => by simp [parseItems, renderItems, parseItem_tz_of_hours g hg p hsty]
        by_cases hC : (a == Item.space && (match hdOf2 (some .empty) (b :: ri) with | some h => noWs h | none => false)) = true
        · -- a pattern space in front of a solid text reads nothing
          simp only [hC, if_true] at h
          simp only [Bool.and_eq_true, beq_iff_eq] at hC
          obtain ⟨rfl, hw⟩ := hC
          obtain ⟨hd', hq, hsat⟩ := hd_of_match g hg sat_empty_nil hw
          rw [List.append_nil] at hsat
          simpa [parseItems, parseItem, trimStart_sat hd' _ hsat hq] using ih rj (b :: ri) p h hst hz hd2 hn2
        simp only [hC, Bool.false_eq_true, if_false] at h
        split at h
        · -- a written space in front of an item that trims
          rename_i hD
          simp only [Bool.and_eq_true, beq_iff_eq] at hD
          obtain ⟨rfl, ht⟩ := hD
          simpa [parseItems, renderItems, renderItem, parseItem_skip_space a ht, applyItemsZ, applyItemZ, applyItem]
            using ih (a :: rj) ri p h hst2 hz2 hd hn
        split at h
        · -- `%#z` reading a zone name: `Z` / `z` as UTC, any other name refused
          rename_i hZ
          simp only [Bool.and_eq_true, beq_iff_eq, List.isEmpty_iff, and_assoc] at hZ
          obtain ⟨rfl, rfl, rfl, rfl⟩ := hZ
          obtain ⟨hne, hal⟩ := zname_ok g hg
          obtain ⟨c, t, e⟩ := List.exists_cons_of_ne_nil hne
          have h1 := parseItem_tzHash_of_name (hal c (by simp [e])) t p
            (by simpa [getField] using hn (.tz true) (by simp))
          simp only [parseItems, renderItems, renderItem, List.append_nil, e, h1]
          by_cases hzu : c = 'Z' ∨ c = 'z'
          · cases t with
            | nil =>
              have h0 := hz (by simp) (by simpa [e] using hzu)
              exact .inr (by simp [hzu, applyItemsZ, applyItemZ, h0])
            -- a longer name that begins with `Z` / `z`: the rest of it is left over
            | cons c2 t2 => exact .inl fun P => by simp [hzu]
          · exact .inl fun P => by simp [hzu]
        · exact .inl (refused (a :: rj) (b :: ri) p h hd hn)

theorem dtParse_none_of (pat s : List Char) (hasTz : Bool) (tz : Int)
    (h : ∀ P, parseItems (parsePattern pat) s {} ≠ some (P, [])) : datetimeParseFromStr s pat hasTz tz = none := by
  simp [datetimeParseFromStr, strptime_none_of pat s h]

theorem strptime_some_of (pat s : List Char) (X : Parsed) (h : parseItems (parsePattern pat) s {} = some (X, [])) :
    strptimeCliL pat s = some X := by
  simp [strptimeCliL, h]

def itemsOf (r : Row) : List Item := parsePattern r.pattern.toList

def isTzNum : Item → Bool
  | .tz _ => true
  | _ => false

theorem zFix_id (l : List Item) (h : Item.tzName ∉ l) : zFix l = l := by
  induction l with
  | nil => rfl
  | cons a r ih =>
    simp only [List.mem_cons, not_or] at h
    have : a ≠ .tzName := fun e => h.1 e.symm
    simp only [zFix, List.map_cons, this, if_false]
    exact congrArg _ (ih h.2)

/-- a row as the decision sees it: the flags and the three item lists (no strings) -/
structure RowInfo where
  hasTz : Bool
  hasTzZ : Bool
  hasTime : Bool
  /-- the items of the pattern `process_dt` hands on (`parsePattern (rowPattern row)`) -/
  J : List Item
  /-- the items of the row's own pattern -/
  I : List Item
  /-- `effItems row` -/
  E : List Item
  deriving DecidableEq, Repr

def rowInfo (r : Row) : RowInfo := ⟨r.hasTz, r.hasTzZ, r.hasTime, parsePattern (rowPattern r), itemsOf r, effItems r⟩

/-- `rj` refuses every value of `ri`, or reads it to the same `Parsed` under the same `has_tz` flag -/
def agreePairI (a b : RowInfo) : Bool :=
  a.hasTime && b.hasTime && !b.I.contains .timestamp && (a.hasTz == b.hasTz) &&
  distinctSlots a.J &&
  (!b.hasTzZ || b.I.all fun it => !isTzNum it) && !b.E.contains .tzName &&
  (if a.hasTzZ then b.hasTzZ && agreesF 64 a.J b.E
   else agreesF 64 a.J b.I && zFix b.I == b.E)

def agreePair (rj ri : Row) : Bool := agreePairI (rowInfo rj) (rowInfo ri)

theorem rowCivil_of_ok (ri : Row) (hok : RowOk ri = true) (hts : (itemsOf ri).contains .timestamp = false) :
    RowCivil ri = true := by
  simp only [RowOk, Bool.or_eq_true] at hok
  rcases hok with h | h
  · exact h
  · simp only [RowTs, Bool.and_eq_true, beq_iff_eq] at h
    simp [itemsOf, h] at hts

theorem agreePair_sound (rj ri : Row) (f : Fields) (hf : f.Valid) (tz : Int) (htz : -86400 < tz ∧ tz < 86400)
    (hst : styleOk f (itemsOf ri) = true) (hok : RowOk ri = true) (h : agreePair rj ri = true) :
    attemptRow rj (render ri f) tz = none ∨ attemptRow rj (render ri f) tz = some (denote ri f tz) := by
  -- `rj` is handed the text `ri` itself parses, or that text with the zone name still in it; if `rj`'s items consume it
  -- they end with the `Parsed` record `ri`'s items end with (`agreesF_sound`), and one `Parsed` under one `has_tz` flag
  -- resolves to one result, unless the white-space check refuses (`dtParse_same`)
  simp only [agreePair, agreePairI, rowInfo, Bool.and_eq_true, Bool.not_eq_true', beq_iff_eq, Bool.or_eq_true,
    and_assoc] at h
  obtain ⟨htj, hti, hts, htzeq, hdJ, hnum, hnoname, hmain⟩ := h
  have hciv := rowCivil_of_ok ri hok hts
  have hge := effFields_valid ri f hf
  have hval := rowValue_render ri f hf hciv
  have hsty := styleOk_eff ri f hf hst
  have hown := attemptRow_render ri f hf tz htz hok hst
  obtain ⟨hpat, hsc, hdI, hname⟩ := rowCivil_facts hciv
  have hstr : strptimeCliL (rowPattern ri) (renderItems (effFields ri f) (effItems ri)) =
      some (applyItems (effFields ri f) (effItems ri) {}) :=
    strptime_render (effFields ri f) hge (rowPattern ri) hpat hsc hsty hdI
  have hown' : datetimeParseFromStr (renderItems (effFields ri f) (effItems ri)) (rowPattern ri) ri.hasTz tz =
      some (denote ri f tz) := by
    simpa [attemptRow, hval] using hown
  have hnotmem : Item.tzName ∉ effItems ri := by
    intro hm
    have : (effItems ri).contains .tzName = true := List.contains_iff_mem.mpr hm
    rw [hnoname] at this; cases this
  -- the text `rj` is handed, and what its items do with it
  have finish : ∀ (data : List Char) (ii : List Item),
      rowValue rj (render ri f) = some data → data = renderItems (effFields ri f) ii → zFix ii = effItems ri →
      ((∀ P, parseItems (parsePattern (rowPattern rj)) (renderItems (effFields ri f) ii) {} ≠ some (P, [])) ∨
        parseItems (parsePattern (rowPattern rj)) (renderItems (effFields ri f) ii) {} =
          some (applyItemsZ (effFields ri f) ii {}, [])) →
      attemptRow rj (render ri f) tz = none ∨ attemptRow rj (render ri f) tz = some (denote ri f tz) := by
    intro data ii hrv hdata hfix hcase
    simp only [attemptRow, hrv]
    rcases hcase with hc | hc
    · left
      rw [hdata]
      exact dtParse_none_of _ _ _ _ hc
    · have hs := strptime_some_of _ _ _ hc
      rw [applyItemsZ_eq, hfix] at hs
      rw [hdata, htzeq]
      exact dtParse_same _ _ _ _ ri.hasTz tz _ _ hs hstr hown'
  cases hzj : rj.hasTzZ with
  | true =>
    simp only [hzj, if_true, Bool.and_eq_true] at hmain
    obtain ⟨hzi, hag⟩ := hmain
    have hrv : rowValue rj (render ri f) = some (renderItems (effFields ri f) (effItems ri)) := by
      rw [← hval]
      simp only [rowValue, hzj, hzi, htj, hti]
    refine finish _ (effItems ri) hrv rfl (zFix_id _ hnotmem) ?_
    exact agreesF_sound (effFields ri f) hge 64 _ _ {} hag hsty (fun hm => absurd hm hnotmem) hdJ
      (fun it _ => getField_empty it)
  | false =>
    simp only [hzj, Bool.false_eq_true, if_false, Bool.and_eq_true, beq_iff_eq] at hmain
    obtain ⟨hag, hfix⟩ := hmain
    have hrend : renderItems (effFields ri f) (itemsOf ri) = render ri f :=
      renderItems_eff ri f _
        (hnum.imp_right fun h perm hm => by simpa [isTzNum] using List.all_eq_true.mp h _ hm) (Or.inl hti)
    have hrv : rowValue rj (render ri f) = some (render ri f) := by
      simp [rowValue, hzj, htj]
    have hstI : styleOk (effFields ri f) (itemsOf ri) = true := styleOk_effFields ri f hf _ (.inr hst)
    have hzz : Item.tzName ∈ itemsOf ri → ((effFields ri f).zname = ['Z'] ∨ (effFields ri f).zname = ['z']) →
        (effFields ri f).zoneOff = 0 := fun hm =>
      zoneOff_effFields_zulu ri f hf (hname.symm.trans (List.contains_iff_mem.mpr hm))
    refine finish _ (itemsOf ri) hrv hrend.symm hfix ?_
    exact agreesF_sound (effFields ri f) hge 64 _ _ {} hag hstI hzz hdJ (fun it _ => getField_empty it)

/-- an item whose text is non-empty and has no letter (`%s` included) -/
def nonAlpha2 (it : Item) : Bool := nonAlphaItem it || it == .timestamp

theorem renderItems_endsNonAlpha2 (f : Fields) (hf : f.Valid) (its : List Item) (h : its.getLast?.any nonAlpha2 = true) :
    ∃ A0 l, renderItems f its = A0 ++ [l] ∧ isAlpha l = false := by
  simp only [Option.any_eq_true] at h
  obtain ⟨b, hb, sb⟩ := h
  refine renderItems_last isAlpha f its b hb ?_
  simp only [nonAlpha2, Bool.or_eq_true, beq_iff_eq] at sb
  rcases sb with sb | rfl
  · exact renderItem_nonAlpha f b sb
  · exact ⟨hf.ts_ne, fun c hc => isAlpha_of_isDig (hf.ts_dig c hc)⟩

theorem dropWhile_keeps (q : Char → Bool) (l : Char) (hl : q l = false) (X Y : List Char) :
    ∃ T, (X ++ l :: Y).dropWhile q = T ++ l :: Y := by
  induction X with
  | nil => exact ⟨[], by simp [hl]⟩
  | cons x X ih =>
    by_cases hx : q x = true
    · obtain ⟨T, hT⟩ := ih
      exact ⟨T, by simp [hx, hT]⟩
    · exact ⟨x :: X, by simp [hx]⟩

theorem splitAlphaTail_pre (A0 : List Char) (l : Char) (B : List Char) (hl : isAlpha l = false) :
    ∃ T, (splitAlphaTail ((A0 ++ [l]) ++ B)).1 = (A0 ++ [l]) ++ T := by
  have e : ((A0 ++ [l]) ++ B).reverse = B.reverse ++ l :: A0.reverse := by simp
  obtain ⟨T, hT⟩ := dropWhile_keeps isAlpha l hl B.reverse A0.reverse
  refine ⟨T.reverse, ?_⟩
  simp only [splitAlphaTail, e, hT]
  simp

theorem appendTime_eq : appendTimeValue.toList = [' ', 'T', '0', '0', '0', '0', '0', '0'] := by decide +kernel

/-- `rj` refuses every value of `ri` -/
def refusePairI (a b : RowInfo) : Bool :=
  distinctSlots a.J &&
  (if a.hasTzZ then
    -- the value ends with a non-letter: no zone name to look up (`lookupTz_nil`) …
    (b.I.getLast?.any nonAlpha2) ||
    -- … or whatever the look-up gives, the text before the zone is already refused
    ((b.I.takeWhile fun it => !isZoneItem it).getLast?.any nonAlpha2 &&
      refuses none a.J (b.I.takeWhile fun it => !isZoneItem it))
  else if a.hasTime then refuses (some .empty) a.J b.I
  else
    -- a date-only `rj`: the midnight is appended to the value it is handed (`appendTime_eq`)
    b.I.all (fun it => !isClockItem it) && refuses (some .empty) a.J (b.I ++ timeTail))

def refusePair (rj ri : Row) : Bool := refusePairI (rowInfo rj) (rowInfo ri)

theorem refusePair_sound (rj ri : Row) (f : Fields) (hf : f.Valid) (tz : Int) (h : refusePair rj ri = true) :
    attemptRow rj (render ri f) tz = none := by
  simp only [refusePair, refusePairI, rowInfo, Bool.and_eq_true] at h
  obtain ⟨hdJ, h⟩ := h
  have hempty : ∀ it ∈ parsePattern (rowPattern rj), getField it ({} : Parsed) = none := fun it _ => getField_empty it
  cases hzj : rj.hasTzZ with
  | true =>
    simp only [hzj, if_true, Bool.or_eq_true, Bool.and_eq_true] at h
    rcases h with h | h
    · obtain ⟨A0, l, hA, hl⟩ := renderItems_endsNonAlpha2 f hf _ h
      refine attemptRow_noName rj hzj _ tz ?_
      simp [splitAlphaTail, render, itemsOf] at hA ⊢
      simp [hA, hl]
    · obtain ⟨A0, l, hA, hl⟩ := renderItems_endsNonAlpha2 f hf _ h.1
      have hsplit : render ri f = renderItems f ((itemsOf ri).takeWhile fun it => !isZoneItem it) ++
          renderItems f ((itemsOf ri).dropWhile fun it => !isZoneItem it) := by
        rw [← renderItems_append, List.takeWhile_append_dropWhile]; rfl
      obtain ⟨T, hT⟩ := splitAlphaTail_pre A0 l (renderItems f ((itemsOf ri).dropWhile fun it => !isZoneItem it)) hl
      rw [← hA, ← hsplit] at hT
      simp only [attemptRow, rowValue, hzj, if_true]
      cases hlk : lookupTz (splitAlphaTail (render ri f)).2 with
      | none => rfl
      | some z =>
        simp only [Option.map_some, hT, List.append_assoc]
        exact dtParse_none_of _ _ _ _ (refuses_sound f hf none _ (fun _ e => by cases e) _ _ {} h.2 hdJ hempty)
  | false =>
    cases htj : rj.hasTime with
    | true =>
      simp only [hzj, htj, Bool.false_eq_true, if_false, if_true] at h
      have := refuses_sound_nil f hf _ _ {} h hdJ hempty
      simp only [attemptRow, rowValue, hzj, htj, Bool.false_eq_true, if_false, if_true, Option.map_some, List.append_nil]
      exact dtParse_none_of _ _ _ _ this
    | false =>
      simp only [hzj, htj, Bool.false_eq_true, if_false, Bool.and_eq_true] at h
      obtain ⟨hclock, href⟩ := h
      have happ := appendTime_eq
      have := refuses_sound_nil (effFields rj f) (effFields_valid rj f hf) _ _ {} href hdJ hempty
      rw [renderItems_append, renderItems_eff rj f _ (.inl hzj) (.inr hclock), render_timeTail rj f htj] at this
      simp only [attemptRow, rowValue, hzj, htj, Bool.false_eq_true, if_false, Option.map_some, happ]
      exact dtParse_none_of _ _ _ _ this

/-- the earlier row `rj` refuses every value of `ri` or reads it to the same instant -/
def pairOkI (a b : RowInfo) : Bool := refusePairI a b || agreePairI a b

def pairOk (rj ri : Row) : Bool := pairOkI (rowInfo rj) (rowInfo ri)

theorem pairOk_sound (rj ri : Row) (f : Fields) (hf : f.Valid) (tz : Int) (htz : -86400 < tz ∧ tz < 86400)
    (hst : styleOk f (itemsOf ri) = true) (hok : RowOk ri = true) (h : pairOk rj ri = true) :
    attemptRow rj (render ri f) tz = none ∨ attemptRow rj (render ri f) tz = some (denote ri f tz) := by
  simp only [pairOk, pairOkI, Bool.or_eq_true] at h
  rcases h with h | h
  · exact Or.inl (refusePair_sound rj ri f hf tz h)
  · exact agreePair_sound rj ri f hf tz htz hst hok h

/-- how a pair is settled: 0 = refused, 1 = refuses or same `Parsed`, 2 = open -/
def pairKindI (a b : RowInfo) : Nat := if refusePairI a b then 0 else if agreePairI a b then 1 else 2

/-- `p` holds for every (earlier, later) pair of the list -/
def allPairs (p : RowInfo → RowInfo → Bool) : List RowInfo → Bool
  | [] => true
  | a :: r => r.all (p a) && allPairs p r

theorem allPairs_sound (p : RowInfo → RowInfo → Bool) (l : List RowInfo) (h : allPairs p l = true)
    (i : Nat) (b : RowInfo) (hb : l[i]? = some b) : ∀ a ∈ l.take i, p a b = true := by
  induction l generalizing i with
  | nil => simp at hb
  | cons x r ih =>
    simp only [allPairs, Bool.and_eq_true, List.all_eq_true] at h
    cases i with
    | zero => simp
    | succ n =>
      simp only [List.getElem?_cons_succ] at hb
      intro a ha
      simp only [List.take_succ_cons, List.mem_cons] at ha
      rcases ha with e | ha
      · subst e; exact h.1 b (List.mem_of_getElem? hb)
      · exact ih h.2 n hb a ha

/-- a fold whose measure ends at zero started at zero, and no step added to it -/
theorem foldl_eq_zero {β ι : Type} {m : β → Nat} {f : β → ι → β} {Q : ι → Prop}
    (hf : ∀ acc x, m (f acc x) = 0 → m acc = 0 ∧ Q x) :
    ∀ (xs : List ι) (acc : β), m (xs.foldl f acc) = 0 → m acc = 0 ∧ ∀ x ∈ xs, Q x
  | [], _, h => ⟨h, by simp⟩
  | x :: xs, acc, h => by
    obtain ⟨h1, h2⟩ := foldl_eq_zero hf xs (f acc x) h
    obtain ⟨h3, h4⟩ := hf acc x h1
    exact ⟨h3, List.forall_mem_cons.2 ⟨h4, h2⟩⟩

/-- the tally of `pairKindI` over the (earlier, later) pairs of a list: refused / agreeing / open. ONE evaluation of
it on the table gives both the counts (`C14_pair_kinds`) and, read off its third component, the decision for every
pair (`pairOk_of_kinds`): evaluating `allPairs pairOkI` as well would run both analyses on all 2850 pairs again -/
def pairKinds (l : List RowInfo) : Nat × Nat × Nat :=
  (List.range l.length).foldl (fun acc i =>
    match l[i]? with
    | some b => (l.take i).foldl (fun acc a =>
        match pairKindI a b with
        | 0 => (acc.1 + 1, acc.2.1, acc.2.2)
        | 1 => (acc.1, acc.2.1 + 1, acc.2.2)
        | _ => (acc.1, acc.2.1, acc.2.2 + 1)) acc
    | none => acc) (0, 0, 0)

theorem pairOk_of_kinds {l : List RowInfo} (h : (pairKinds l).2.2 = 0) {i : Nat} {b : RowInfo} (hb : l[i]? = some b) :
    ∀ a ∈ l.take i, pairOkI a b = true := by
  refine (foldl_eq_zero (m := fun acc : Nat × Nat × Nat => acc.2.2)
    (Q := fun i => ∀ b, l[i]? = some b → ∀ a ∈ l.take i, pairOkI a b = true) ?_ _ _ h).2 i
    (List.mem_range.2 (List.getElem?_eq_some_iff.1 hb).1) b hb
  intro acc i h'
  cases hl : l[i]? with
  | none => exact ⟨by simpa [hl] using h', fun _ hb => nomatch hb⟩
  | some b =>
    simp only [hl] at h'
    obtain ⟨h1, h2⟩ := foldl_eq_zero (m := fun acc : Nat × Nat × Nat => acc.2.2) (Q := fun a => pairOkI a b = true) (fun acc a => by
      unfold pairKindI pairOkI
      cases refusePairI a b <;> cases agreePairI a b <;> simp) _ _ h'
    exact ⟨h1, fun _ hb => Option.some.inj hb ▸ h2⟩

theorem allPairs_of_forall (p : RowInfo → RowInfo → Bool) (l : List RowInfo)
    (h : ∀ i b, l[i]? = some b → ∀ a ∈ l.take i, p a b = true) : allPairs p l = true := by
  induction l with
  | nil => rfl
  | cons x r ih =>
    simp only [allPairs, Bool.and_eq_true, List.all_eq_true]
    refine ⟨fun b hb => ?_, ih fun i b hb a ha => h (i + 1) b hb a (by simp [ha])⟩
    obtain ⟨j, hj⟩ := List.getElem?_of_mem hb
    exact h (j + 1) b hj x (by simp)

theorem allPairs_of_kinds {l : List RowInfo} (h : (pairKinds l).2.2 = 0) : allPairs pairOkI l = true :=
  allPairs_of_forall _ _ fun _ _ hb => pairOk_of_kinds h hb

/-- the positions whose every earlier entry satisfies `p` against them -/
def rowsWhere (p : RowInfo → RowInfo → Bool) (l : List RowInfo) : List Nat :=
  (List.range l.length).filter fun i =>
    match l[i]? with
    | some b => (l.take i).all fun a => p a b
    | none => false

theorem rowsWhere_sound (p : RowInfo → RowInfo → Bool) (i : Nat)
    (h : i ∈ rowsWhere p (cliFilterPatterns.map rowInfo)) (ri : Row) (hrow : cliFilterPatterns[i]? = some ri) :
    ∀ rj ∈ cliFilterPatterns.take i, p (rowInfo rj) (rowInfo ri) = true := by
  simp only [rowsWhere, List.mem_filter, List.getElem?_map, hrow, Option.map_some, List.all_eq_true] at h
  intro rj hrj
  apply h.2
  rw [← List.map_take]
  exact List.mem_map_of_mem hrj

end S4V.Lemmas.CliNoSteal
