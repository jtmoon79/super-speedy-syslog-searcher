/-
The UTF-8 bytes of a string literal without running `ByteArray.toList` in the kernel: that function is defined by
well-founded recursion, and evaluating it on a literal costs the kernel time quadratic in its length. The kernel reads a
literal as `String.ofList [chars]`, whose bytes are `chars.flatMap String.utf8EncodeChar`.
-/
namespace S4V.Lemmas.Utf8

theorem toList_loop (bs : ByteArray) (i : Nat) (r : List UInt8) :
    ByteArray.toList.loop bs i r = r.reverse ++ bs.data.toList.drop i := by
  fun_induction ByteArray.toList.loop bs i r with
  | case1 i r h ih =>
    rw [ih]
    have hi : i < bs.data.toList.length := by simpa using h
    rw [List.drop_eq_getElem_cons hi]
    have : bs.get! i = bs.data.toList[i] := by
      simp only [ByteArray.get!, Array.getElem_toList]
      exact getElem!_pos bs.data i (by simpa using h)
    simp [this]
  | case2 i r h =>
    have : bs.data.toList.length ≤ i := by simpa using h
    simp [List.drop_eq_nil_of_le this]

theorem toUTF8_toList_ofList (cs : List Char) :
    (String.ofList cs).toUTF8.toList = cs.flatMap String.utf8EncodeChar := by
  rw [ByteArray.toList, toList_loop]
  simp [List.utf8Encode]

end S4V.Lemmas.Utf8
