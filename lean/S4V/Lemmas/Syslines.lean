/-
Message layer (`S4V.Model.Syslines`): the search and streaming results in the form `S4V.Props.SyslSpec`
restates them — from offset 0 or a message boundary, over `Sorted ls` / `TwoBytes ls`, against
`firstAtOrAfter` — each read off the any-offset statements of `SyslSearch` / `SyslStream`.
-/
import S4V.Lemmas.SyslStream

namespace S4V.Lemmas.Syslines
open S4V.Model.Lines S4V.Model.Syslines S4V.Gen.Filter

theorem mEnd_of_getLast {s : Nat} {M : List Sysl} {m : Sysl} (h : M.getLast? = some m) :
    mEnd s M = m.fin + 1 := by
  obtain ⟨ys, rfl⟩ := List.getLast?_eq_some_iff.1 h
  rw [mEnd_append]; rfl

theorem messages_getLast_fin {ls : List LineInfo} (hwf : WFLines ls) {m : Sysl}
    (hm : (messages ls).getLast? = some m) : m.fin + 1 = fileSz ls := by
  rw [← (messages_geom hwf).2, mEnd_of_getLast hm]

/-- **C02**: without filters every message is sent exactly once, in file order -/
theorem streamAll_unfiltered {ls : List LineInfo} (hwf : WFLines ls) (streamed : Bool) :
    streamAll ls streamed none none = messages ls := by
  rw [streamAll_after hwf streamed none none
      (fun F => by
        cases streamed with
        | true => exact searchStep_after hwf none (fun h => by cases h) F
        | false => exact bsearch_after_head hwf none F fun _ _ => geA_none _)
      (List.pairwise_of_forall fun _ _ h => absurd (leB_none _) h),
    List.filter_eq_self]
  exact fun m _ => (inWindow_iff none none m).2 ⟨geA_none _, leB_none _⟩

def Sorted (ls : List LineInfo) : Prop := SortedM (messages ls)
def TwoBytes (ls : List LineInfo) : Prop := TwoBytesM (messages ls)

instance (M : List Sysl) : Decidable (SortedM M) := by unfold SortedM; infer_instance
instance (M : List Sysl) : Decidable (TwoBytesM M) := by unfold TwoBytesM; infer_instance
instance (ls : List LineInfo) : Decidable (Sorted ls) := by unfold Sorted; infer_instance
instance (ls : List LineInfo) : Decidable (TwoBytes ls) := by unfold TwoBytes; infer_instance

theorem SortedM_iff_adjacent (M : List Sysl) :
    SortedM M ↔ ∀ k (h : k + 1 < M.length), M[k].dt ≤ M[k + 1].dt := by
  unfold SortedM
  rw [List.pairwise_iff_getElem]
  refine ⟨fun h k hk => h k (k + 1) (Nat.lt_of_succ_lt hk) hk (Nat.lt_succ_self k), fun h i j hi hj hij => ?_⟩
  -- from `i` up to `j` one neighbour at a time
  induction j with
  | zero => cases hij
  | succ j ih =>
    rcases Nat.lt_succ_iff_lt_or_eq.1 hij with h1 | rfl
    · exact Int.le_trans (ih (Nat.lt_of_succ_lt hj) h1) (h j hj)
    · exact h i hj

def firstAtOrAfter (A : Int) (M : List Sysl) : S4V.Model.Syslines.Res :=
  match M.find? (fun m => decide (A ≤ m.dt)) with
  | some m => .found (m.fin + 1) m
  | none => .done

theorem firstGE_some (A : Int) (M : List Sysl) : firstGE (some A) M = firstAtOrAfter A M := by
  have : (fun m : Sysl => decide (geA (some A) m.dt)) = (fun m => decide (A ≤ m.dt)) := by
    funext m; simp
  rw [firstGE, firstAtOrAfter, this, headRes_eq, List.head?_filter]
  rfl

theorem after_beg_of_split {ls : List LineInfo} (hwf : WFLines ls) {M1 M2 : List Sysl} {m : Sysl}
    (hM : messages ls = M1 ++ m :: M2) : after m.beg (messages ls) = m :: M2 := by
  have hc := (messages_geom hwf).1
  rw [hM] at hc ⊢
  rw [((MContig_append _ _ _).1 hc).2.1]
  exact hc.after_mEnd

theorem lsearch_spec_at {ls : List LineInfo} (hwf : WFLines ls) (A : Int) {M1 M2 : List Sysl}
    {m : Sysl} (hM : messages ls = M1 ++ m :: M2) :
    lsearch ls (some A) (ls.length + 2) m.beg = firstAtOrAfter A (m :: M2) := by
  rw [lsearch_from hwf, after_beg_of_split hwf hM, firstGE_some]

/-- **C03, linear search** from offset 0 -/
theorem lsearch_spec {ls : List LineInfo} (hwf : WFLines ls) (A : Int) :
    lsearch ls (some A) (ls.length + 2) 0 = firstAtOrAfter A (messages ls) := by
  rw [lsearch_from hwf, after_zero, firstGE_some]

/-- **C03, binary search** from offset 0 -/
theorem bsearch_spec {ls : List LineInfo} (hwf : WFLines ls) (hs : Sorted ls) (h2 : TwoBytes ls)
    (A : Int) : bsearch ls 0 (some A) = firstAtOrAfter A (messages ls) := by
  rw [bsearch_after hwf _ _ hs h2, after_zero, firstGE_some]

/-- binary search from a message boundary (how the streaming loop calls it) -/
theorem bsearch_spec_at {ls : List LineInfo} (hwf : WFLines ls) (hs : Sorted ls)
    (h2 : TwoBytes ls) (A : Int) {M1 M2 : List Sysl} {m : Sysl}
    (hM : messages ls = M1 ++ m :: M2) :
    bsearch ls m.beg (some A) = firstAtOrAfter A (m :: M2) := by
  rw [bsearch_after hwf _ _ hs h2, after_beg_of_split hwf hM, firstGE_some]

theorem bsearch_spec_end {ls : List LineInfo} (hwf : WFLines ls) (a : Option Int) :
    bsearch ls (fileSz ls) a = .done :=
  bsearch_all_done a (fun _ hx => findSysline_beyond hwf hx)

theorem firstAtOrAfter_cases (A : Int) (M : List Sysl) :
    firstAtOrAfter A M = .done ∨ ∃ m ∈ M, A ≤ m.dt ∧ firstAtOrAfter A M = .found (m.fin + 1) m := by
  unfold firstAtOrAfter
  cases h : M.find? (fun m => decide (A ≤ m.dt)) with
  | none => exact Or.inl rfl
  | some m =>
    exact Or.inr ⟨m, List.mem_of_find?_eq_some h, by simpa using List.find?_some h, rfl⟩

/-- the searches never hit the `assert` nor run out of fuel -/
theorem bsearch_no_err {ls : List LineInfo} (hwf : WFLines ls) (hs : Sorted ls) (h2 : TwoBytes ls)
    (A : Int) : bsearch ls 0 (some A) ≠ .err ∧ bsearch ls 0 (some A) ≠ .nofuel := by
  rw [bsearch_spec hwf hs h2]
  rcases firstAtOrAfter_cases A (messages ls) with h | ⟨m, _, _, h⟩ <;> rw [h] <;> simp

theorem lsearch_no_err {ls : List LineInfo} (hwf : WFLines ls) (A : Int) :
    lsearch ls (some A) (ls.length + 2) 0 ≠ .err ∧
      lsearch ls (some A) (ls.length + 2) 0 ≠ .nofuel := by
  rw [lsearch_spec hwf]
  rcases firstAtOrAfter_cases A (messages ls) with h | ⟨m, _, _, h⟩ <;> rw [h] <;> simp

/-- a sorted file with 1-byte messages on which the binary search returns a
message **before** the filter although a later message satisfies it -/
def oneByteFile : List LineInfo := [⟨0, 0, some 0⟩, ⟨1, 1, some 0⟩, ⟨2, 3, some 1⟩]

theorem bsearch_twobytes_needed :
    WFLines oneByteFile ∧ Sorted oneByteFile ∧
      bsearch oneByteFile 0 (some 1) = .found 2 ⟨1, 1, 0⟩ ∧
      firstAtOrAfter 1 (messages oneByteFile) = .found 4 ⟨2, 3, 1⟩ := by
  decide

/-- **C03**: exactly the messages with `a ≤ dt ≤ b`, in file order -/
theorem streamAll_window {ls : List LineInfo} (hwf : WFLines ls) (hs : Sorted ls)
    (h2 : TwoBytes ls) (streamed : Bool) (a b : Option Int) :
    streamAll ls streamed a b
      = (messages ls).filter (fun m => dtPassFilters m.dt a b = .InRange) :=
  streamAll_after hwf streamed a b
    (searchStep_after hwf a fun _ => ⟨hs, h2⟩) (SortedM.past_stays_past hs b)

/-- with the linear search (`streamed = true`) the window theorem does not need
`TwoBytes` -/
theorem streamAll_window_streamed {ls : List LineInfo} (hwf : WFLines ls) (hs : Sorted ls)
    (a b : Option Int) :
    streamAll ls true a b
      = (messages ls).filter (fun m => dtPassFilters m.dt a b = .InRange) :=
  streamAll_after hwf true a b
    (searchStep_after hwf a fun h => by cases h) (SortedM.past_stays_past hs b)

end S4V.Lemmas.Syslines
