/-
Soundness of the reachable-set computation `post` of `S4V.Model.WorkerProto` with respect to the big-step
relation `Exec`, for an arbitrary monitor; facts about the protocol automaton.
-/
import S4V.Model.WorkerProto

namespace S4V.Lemmas.WorkerProto
open S4V.Gen.Worker S4V.Model.WorkerProto

set_option linter.unusedSectionVars false

section
variable {M : Type} [DecidableEq M]

theorem mem_addNew (l : List (Cfg M)) : ∀ (acc : List (Cfg M)) (x : Cfg M), x ∈ addNew acc l ↔ x ∈ acc ∨ x ∈ l := by
  induction l with
  | nil => intro acc x; simp [addNew]
  | cons y r ih =>
    intro acc x
    have h : addNew acc (y :: r) = addNew (if y ∈ acc then acc else acc ++ [y]) r := by simp [addNew]
    rw [h, ih, List.mem_cons]
    by_cases hy : y ∈ acc
    · rw [if_pos hy]
      exact ⟨fun h => h.imp_right Or.inr, fun h => h.elim Or.inl fun h => h.elim (fun e => Or.inl (e ▸ hy)) Or.inr⟩
    · rw [if_neg hy, List.mem_append, List.mem_singleton, or_assoc]

theorem mem_dedup (l : List (Cfg M)) (x : Cfg M) : x ∈ dedup l ↔ x ∈ l := by
  simp [dedup, mem_addNew]

theorem subset_iff (a b : List (Cfg M)) : subset a b = true ↔ ∀ x ∈ a, x ∈ b := by
  simp [subset]

theorem run_append (mon : Mon M) (m : M) (t₁ t₂ : Trace) :
    mon.run m (t₁ ++ t₂) = mon.run (mon.run m t₁) t₂ := by
  simp [Mon.run, List.foldl_append]

theorem run_cons (mon : Mon M) (m : M) (e : Ev) (t : Trace) : mon.run m (e :: t) = mon.run (mon.step m e) t := rfl

theorem run_nil (mon : Mon M) (m : M) : mon.run m [] = m := rfl

/-! the three ways `post` puts the results of sub-blocks together, by outcome -/

theorem mem_addCut {S : List (Cfg M)} {r : Res5 M} {o : Out} {x : Cfg M} :
    x ∈ (r.addCut S).sel o ↔ (o = .cut ∧ x ∈ S) ∨ x ∈ r.sel o := by
  cases o <;> simp [Res5.sel, Res5.addCut]

theorem mem_joinIte {S : List (Cfg M)} {ra rb rk : Res5 M} {o : Out} {x : Cfg M} :
    x ∈ (Res5.joinIte S ra rb rk).sel o ↔
      (o = .cut ∧ x ∈ S) ∨ (o ≠ .normal ∧ (x ∈ ra.sel o ∨ x ∈ rb.sel o)) ∨ x ∈ rk.sel o := by
  cases o <;> simp [Res5.sel, Res5.joinIte, or_assoc]

theorem mem_joinLoop {S : List (Cfg M)} {rb rk : Res5 M} {o : Out} {x : Cfg M} :
    x ∈ (Res5.joinLoop S rb rk).sel o ↔
      (o = .cut ∧ x ∈ S) ∨ ((o = .ret ∨ o = .cut) ∧ x ∈ rb.sel o) ∨ x ∈ rk.sel o := by
  cases o <;> simp [Res5.sel, Res5.joinLoop]

/-- a loop whose head configurations stay inside `I` -/
theorem loop_sound {mon : Mon M} {env : Env} {body k : List Stmt} {S I : List (Cfg M)} {rb rk : Res5 M}
    (hb : ∀ {st t o st'} (m : M), Exec env body st t o st' → (m, st) ∈ I → (mon.run m t, st') ∈ rb.sel o)
    (hcl : ∀ x, x ∈ rb.normal ++ rb.cont → x ∈ I)
    (hk : ∀ {st t o st'} (m : M), Exec env k st t o st' → (m, st) ∈ rb.brk → (mon.run m t, st') ∈ rk.sel o)
    {st : Store} {t : Trace} {o : Out} {st' : Store} (hex : Exec env (.loop body :: k) st t o st') :
    ∀ m : M, (m, st) ∈ I → (mon.run m t, st') ∈ (Res5.joinLoop S rb rk).sel o := by
  generalize hp : Stmt.loop body :: k = p at hex
  induction hex with
  | nil | send | set | ret | brk | cont | iteNormal | iteAbrupt => cases hp
  | cut p st =>
    intro m hm
    have := hb m (Exec.cut body st) hm
    exact mem_joinLoop.2 (.inr (.inl ⟨.inr rfl, this⟩))
  | loopIter h1 ho _ _ ih2 =>
    cases hp
    intro m hm
    have h := hb m h1 hm
    have hI := hcl _ (by
      rcases ho with rfl | rfl
      · exact List.mem_append.2 (Or.inl h)
      · exact List.mem_append.2 (Or.inr h))
    have := ih2 rfl _ hI
    rw [run_append]
    exact this
  | loopBrk h1 h2 _ _ =>
    cases hp
    intro m hm
    have h := hb m h1 hm
    have := hk _ h2 h
    rw [run_append]
    exact mem_joinLoop.2 (.inr (.inr this))
  | loopAbrupt h1 ho _ =>
    cases hp
    intro m hm
    exact mem_joinLoop.2 (.inr (.inl ⟨ho, hb m h1 hm⟩))

theorem post_sound {mon : Mon M} {env : Env} : ∀ {f : Nat} {p : List Stmt} {S : List (Cfg M)} {R : Res5 M},
    post mon env f p S = some R →
    ∀ {st : Store} {t : Trace} {o : Out} {st' : Store} (m : M), Exec env p st t o st' → (m, st) ∈ S →
      (mon.run m t, st') ∈ R.sel o := by
  intro f
  induction f with
  | zero => intro p S R h; simp [post] at h
  | succ f ih =>
    intro p S R h st t o st' m hex hm
    match p, h, hex with
    | [], h, hex | .ret :: _, h, hex | .brk :: _, h, hex | .cont :: _, h, hex =>
      simp only [post] at h
      cases h
      cases hex <;> simpa [Res5.sel, Mon.run] using hm
    | .send s :: k, h, hex =>
      simp only [post] at h
      split at h
      · next r hr =>
        cases h
        cases hex with
        | cut => exact mem_addCut.2 (.inl ⟨rfl, hm⟩)
        | send ha hk =>
          rename_i e t'
          refine mem_addCut.2 (.inr ?_)
          rw [run_cons]
          apply ih hr _ hk
          rw [mem_dedup, List.mem_flatMap]
          refine ⟨(m, st), hm, ?_⟩
          simp only [sendStep, List.mem_map, List.mem_filter]
          refine ⟨e, ⟨?_, ha⟩, rfl⟩
          cases e with
          | fileInfo b => cases b <;> simp [allEvs]
          | msg b => cases b <;> simp [allEvs]
          | summary b => cases b <;> simp [allEvs]
      · cases h
    | .set i v :: k, h, hex =>
      simp only [post] at h
      split at h
      · next r hr =>
        cases h
        cases hex with
        | cut => exact mem_addCut.2 (.inl ⟨rfl, hm⟩)
        | set hb hk =>
          rename_i b
          refine mem_addCut.2 (.inr ?_)
          apply ih hr _ hk
          rw [mem_dedup, List.mem_flatMap]
          refine ⟨(m, st), hm, ?_⟩
          simp only [setStep, List.mem_map]
          exact ⟨b, hb, rfl⟩
      · cases h
    | .ite g a b :: k, h, hex =>
      simp only [post] at h
      split at h
      · next ra rb hra hrb =>
        split at h
        · next rk hrk =>
          cases h
          cases hex with
          | cut => exact mem_joinIte.2 (.inl ⟨rfl, hm⟩)
          | iteNormal hg h1 h2 =>
            rename_i c st₁ t₁ t₂
            rw [run_append]
            refine mem_joinIte.2 (.inr (.inr ?_))
            apply ih hrk _ h2
            rw [mem_dedup, List.mem_append]
            cases c with
            | true =>
              left
              exact ih hra m h1 (List.mem_filter.2 ⟨hm, hg⟩)
            | false =>
              right
              exact ih hrb m h1 (List.mem_filter.2 ⟨hm, hg⟩)
          | iteAbrupt hg h1 ho =>
            rename_i c
            cases c with
            | true => exact mem_joinIte.2 (.inr (.inl ⟨ho, .inl (ih hra m h1 (List.mem_filter.2 ⟨hm, hg⟩))⟩))
            | false => exact mem_joinIte.2 (.inr (.inl ⟨ho, .inr (ih hrb m h1 (List.mem_filter.2 ⟨hm, hg⟩))⟩))
        · cases h
      · cases h
    | .loop body :: k, h, hex =>
      simp only [post] at h
      split at h
      · next I hI =>
        split at h
        · next rb hrb =>
          split at h
          · next hc =>
            split at h
            · next rk hrk =>
              cases h
              rw [Bool.and_eq_true, subset_iff, subset_iff] at hc
              exact loop_sound (S := S) (fun m hx hmm => ih hrb m hx hmm) hc.2
                (fun m hx hmm => ih hrk m hx ((mem_dedup _ _).2 hmm)) hex m (hc.1 _ hm)
            · cases h
          · cases h
        · cases h
      · cases h

/-! the start data matter only through the guards that test them -/

def agreeOn (env env' : Env) : Guard → Bool
  | .ftIs k => decide (env.ft = k) == decide (env'.ft = k)
  | .lmsdJournal => env.lmsdJournal == env'.lmsdJournal
  | _ => true

mutual
def guardsAll (q : Guard → Bool) : List Stmt → Bool
  | [] => true
  | s :: k => guardsAllS q s && guardsAll q k
def guardsAllS (q : Guard → Bool) : Stmt → Bool
  | .loop body => guardsAll q body
  | .ite g a b => q g && guardsAll q a && guardsAll q b
  | _ => true
end

theorem guardMay_agree {env env' : Env} {g : Guard} (h : agreeOn env env' g = true) (st : Store) (c : Bool) :
    guardMay env st g c = guardMay env' st g c := by
  cases g <;> first | rfl | simp only [agreeOn, beq_iff_eq] at h; simp only [guardMay, h]

theorem post_congr_env (mon : Mon M) {env env' : Env} : ∀ f : Nat,
    (∀ p S, guardsAll (agreeOn env env') p = true → post mon env f p S = post mon env' f p S) ∧
    (∀ body n I, guardsAll (agreeOn env env') body = true → grow mon env f body n I = grow mon env' f body n I) := by
  intro f
  induction f with
  | zero => exact ⟨fun _ _ _ => rfl, fun _ _ _ _ => rfl⟩
  | succ f ih =>
    obtain ⟨ihp, ihg⟩ := ih
    refine ⟨fun p S h => ?_, fun body n I h => ?_⟩
    · match p, h with
      | [], _ | .ret :: _, _ | .brk :: _, _ | .cont :: _, _ => rfl
      | .send _ :: k, h | .set _ _ :: k, h =>
        simp only [guardsAll, guardsAllS, Bool.true_and] at h
        simp only [post, ihp k _ h]
      | .ite g a b :: k, h =>
        simp only [guardsAll, guardsAllS, Bool.and_eq_true] at h
        obtain ⟨⟨⟨hg, ha⟩, hb⟩, hk⟩ := h
        simp only [post, guardMay_agree hg, ihp a _ ha, ihp b _ hb, fun S => ihp k S hk]
      | .loop body :: k, h =>
        simp only [guardsAll, guardsAllS, Bool.and_eq_true] at h
        simp only [post, fun n I => ihg body n I h.1, fun S => ihp body S h.1, fun S => ihp k S h.2]
    · cases n with
      | zero => rfl
      | succ n => simp only [grow, ihp body _ h, fun I => ihg body n I h]

end

theorem run_bad (strict : Bool) (t : Trace) : (protoMon strict).run .bad t = .bad := by
  induction t with
  | nil => rfl
  | cons e r ih => rw [run_cons]; exact ih

/-- the traces that do not break the protocol from a phase on -/
def Lang (strict : Bool) : Phase → Trace → Prop
  | .start, t => t = [] ∨ (tidy t = true ∧ (strict = true → lastOk t = true))
  | .open, t => tidyTail t = true ∧ (strict = true → lastOk t = true)
  | .last, t => tidyTail t = true ∧ (strict = true → noMsg t = true)
  | .closed, t => t = []
  | .bad, _ => False

/-- one row per phase and event: a step into `bad` stays there; any other step leads to the row of the next phase -/
theorem lang_of_run (strict : Bool) : ∀ (t : Trace) (ph : Phase), (protoMon strict).run ph t ≠ .bad → Lang strict ph t := by
  intro t
  induction t with
  | nil =>
    intro ph h
    cases ph with
    | start => exact Or.inl rfl
    | «open» => exact ⟨rfl, fun _ => rfl⟩
    | last => exact ⟨rfl, fun _ => rfl⟩
    | closed => rfl
    | bad => exact h rfl
  | cons e r ih =>
    intro ph h
    rw [run_cons] at h
    have hr := ih _ h
    cases ph with
    | start =>
      cases e with
      | fileInfo b => exact Or.inr hr
      | _ => exact absurd (run_bad strict r) h
    | «open» =>
      cases e with
      | fileInfo b => exact absurd (run_bad strict r) h
      | msg b => cases b <;> exact hr
      | summary b => obtain rfl : r = [] := hr; exact ⟨rfl, fun _ => rfl⟩
    | last =>
      cases e with
      | fileInfo b => exact absurd (run_bad strict r) h
      | msg b =>
        cases strict with
        | true => exact absurd (run_bad true r) h
        | false => exact ⟨hr.1, fun hs => nomatch hs⟩
      | summary b => obtain rfl : r = [] := hr; exact ⟨rfl, fun _ => rfl⟩
    | closed => exact absurd (run_bad strict r) h
    | bad => exact absurd (run_bad strict r) h

theorem good_ne_bad {ph : Phase} (h : ph.good = true) : ph ≠ .bad := by
  intro hb; subst hb; simp [Phase.good] at h

theorem checkProto_congr_env {strict : Bool} {env env' : Env} {p : List Stmt}
    (h : guardsAll (agreeOn env env') p = true) : checkProto strict env p = checkProto strict env' p := by
  simp only [checkProto, (post_congr_env (protoMon strict) protoFuel).1 p _ h]

theorem checkProto_sound {strict : Bool} {env : Env} {p : List Stmt} (hc : checkProto strict env p = true) :
    (∀ t, Produces env p t → ((protoMon strict).run .start t).good = true) ∧
    (∀ t, ProducesCut env p t → (protoMon strict).run .start t ≠ .bad) := by
  unfold checkProto at hc
  split at hc
  · next r hr =>
    rw [Bool.and_eq_true, List.all_eq_true, List.all_eq_true] at hc
    constructor
    · rintro t ⟨o, st', hex, ho⟩
      have := post_sound hr Phase.start hex (List.mem_singleton.2 rfl)
      apply hc.1 ((protoMon strict).run .start t, st')
      rcases ho with rfl | rfl
      · exact List.mem_append.2 (Or.inl this)
      · exact List.mem_append.2 (Or.inr this)
    · rintro t ⟨st', hex⟩
      have := post_sound hr Phase.start hex (List.mem_singleton.2 rfl)
      have := hc.2 _ this
      simpa using this
  · cases hc

end S4V.Lemmas.WorkerProto
