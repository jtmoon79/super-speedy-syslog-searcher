/-
C04, regex slice: what the words that the named groups capture SPELL, read independently of the code (`fieldsOf`), and the
conditions under which the post-capture model computes the instant of those fields: the words have the lexical shape of the
notation (`shapeOK`) and the values are calendar values (`rangeOK`). `S4V.Props.TimeSpec.C04_normalise_parse` speaks about
canonical buffer pieces, the capture theorems (`C04_rowN_search`) about captured words; `C04_words_denote`
(`S4V.Lemmas.RegexE2EWords`) joins them, once for 35 of the 37 generated `DTFSS_*` (the two epoch sets are
`S4V.Props.RegexE2ESpec.C04_epoch_*`).
-/
import S4V.Props.TimeSpec
import S4V.Lemmas.RegexZones

namespace S4V.Lemmas.RegexE2E
open S4V.Gen.TimeTables S4V.Model.Time S4V.Model.DtParse S4V.Lemmas.DtParse S4V.Props.TimeSpec S4V.Lemmas.RegexZones

def digs (n : Nat) (t : Bytes) : Bool := t.length == n && t.all isDigit

def natVal (t : Bytes) : Nat := (numVal t).toNat

theorem digit_toNat (b : UInt8) (h : isDigit b = true) : 48 ≤ b.toNat ∧ b.toNat ≤ 57 := by
  simp only [isDigit, Bool.and_eq_true, decide_eq_true_eq, UInt8.le_iff_toNat_le] at h
  exact h

def dv (b : UInt8) : Nat := b.toNat - 48

theorem dv_lt {b : UInt8} (h : isDigit b = true) : dv b < 10 := by
  have := digit_toNat b h; unfold dv; omega

theorem dchar_eq {a : UInt8} (ha : isDigit a = true) {n : Nat} (q : Nat) (h : n = q * 10 + dv a) : dchar n = a := by
  have := digit_toNat a ha
  apply UInt8.toNat_inj.mp
  rw [dchar_toNat]
  unfold dv at h
  omega

theorem numVal_nonneg (t : Bytes) : 0 ≤ numVal t := by
  unfold numVal
  suffices ∀ a : Int, 0 ≤ a → 0 ≤ t.foldl (fun a b => a * 10 + Int.ofNat (b.toNat - 48)) a from this 0 (Int.le_refl 0)
  induction t with
  | nil => exact fun _ h => h
  | cons b r ih => exact fun a h => ih _ (by simp only [Int.ofNat_eq_natCast]; omega)

theorem natVal_cast {t : Bytes} (h : 0 ≤ numVal t) : ((natVal t : Nat) : Int) = numVal t := by
  unfold natVal; omega

theorem numVal_eq_natVal (t : Bytes) : numVal t = (natVal t : Int) := (natVal_cast (numVal_nonneg t)).symm

theorem natVal_snoc (t : Bytes) (b : UInt8) : natVal (t ++ [b]) = natVal t * 10 + dv b := by
  have := numVal_nonneg t
  simp only [natVal, numVal, List.foldl_append, List.foldl, dv, Int.ofNat_eq_natCast] at this ⊢
  omega

theorem natVal_one (a : UInt8) : natVal [a] = dv a := by
  simpa [natVal, numVal] using natVal_snoc [] a

theorem natVal_two (a b : UInt8) : natVal [a, b] = dv a * 10 + dv b := by
  rw [← natVal_one]; exact natVal_snoc [a] b

theorem natVal_four (a b c d : UInt8) : natVal [a, b, c, d] = dv a * 1000 + dv b * 100 + dv c * 10 + dv d := by
  have h4 : natVal [a, b, c, d] = _ := natVal_snoc [a, b, c] d
  have h3 : natVal [a, b, c] = _ := natVal_snoc [a, b] c
  rw [h4, h3, natVal_two]
  omega

theorem digs_one {t : Bytes} (h : digs 1 t = true) : ∃ a, t = [a] ∧ isDigit a = true := by
  unfold digs at h
  match t, h with
  | [a], h => simp at h; exact ⟨a, rfl, h⟩

theorem digs_two {t : Bytes} (h : digs 2 t = true) : ∃ a b, t = [a, b] ∧ isDigit a = true ∧ isDigit b = true := by
  unfold digs at h
  match t, h with
  | [a, b], h => simp at h; exact ⟨a, b, rfl, h⟩

theorem digs_four {t : Bytes} (h : digs 4 t = true) :
    ∃ a b c d, t = [a, b, c, d] ∧ isDigit a = true ∧ isDigit b = true ∧ isDigit c = true ∧ isDigit d = true := by
  unfold digs at h
  match t, h with
  | [a, b, c, d], h => simp at h; exact ⟨a, b, c, d, rfl, h⟩

theorem digs1_dec2 {t : Bytes} (h : digs 1 t = true) : 48 :: t = dec2 (natVal t) ∧ natVal t < 10 := by
  obtain ⟨a, rfl, ha⟩ := digs_one h
  have h1 := dv_lt ha
  rw [natVal_one]
  exact ⟨by rw [dec2_small _ h1, dchar_eq ha 0 (by omega)], h1⟩

theorem digs2_dec2 {t : Bytes} (h : digs 2 t = true) : t = dec2 (natVal t) ∧ natVal t < 100 := by
  obtain ⟨a, b, rfl, ha, hb⟩ := digs_two h
  have h1 := dv_lt ha
  have h2 := dv_lt hb
  rw [natVal_two]
  exact ⟨by rw [dec2, dchar_eq ha 0 (by omega), dchar_eq hb (dv a) rfl], by omega⟩

theorem digs4_dec4 {t : Bytes} (h : digs 4 t = true) : t = dec4 (natVal t) ∧ natVal t < 10000 := by
  obtain ⟨a, b, c, d, rfl, ha, hb, hc, hd⟩ := digs_four h
  have h1 := dv_lt ha
  have h2 := dv_lt hb
  have h3 := dv_lt hc
  have h4 := dv_lt hd
  rw [natVal_four]
  exact ⟨by rw [dec4, dchar_eq ha 0 (by omega), dchar_eq hb (dv a) (by omega), dchar_eq hc (dv a * 10 + dv b) (by omega),
    dchar_eq hd (dv a * 100 + dv b * 10 + dv c) (by omega)], by omega⟩

/-- year: four digits as written; two digits with chrono's pivot (`%y`: 00–69 → 20xx, 70–99 → 19xx); no year in the
text: the fill year (`process_missing_year`), else the dummy `YEAR_FALLBACKDUMMY` -/
def yearVal (yk : DTFS_Year) (w : Option Bytes) (fill : Option Int) : Int :=
  match yk, w with
  | .y, some t => numVal t + (if numVal t < 70 then 2000 else 1900)
  | _, some t => numVal t
  | _, none =>
    match fill with
    | some y => y
    | none => numVal YEAR_FALLBACKDUMMY

def yearOK (yk : DTFS_Year) (w : Option Bytes) (fill : Option Int) : Bool :=
  match yk, w with
  | .Y, some t => digs 4 t
  | .fill, some t => digs 4 t
  | .y, some t => digs 2 t
  | .fill, none =>
    match fill with
    | some y => decide (1000 ≤ y ∧ y ≤ 9999)
    | none => true
  | _, _ => false

/-- month: digits as written, or the month a name denotes (`TimeSpec.monthOfName`: its first three letters) -/
def monthVal (mk : DTFS_Month) (w : Option Bytes) : Nat :=
  match mk, w with
  | .b, some t => (monthOfName t).getD 0
  | .B, some t => (monthOfName t).getD 0
  | _, some t => natVal t
  | _, none => 0

def monthOK (mk : DTFS_Month) (w : Option Bytes) : Bool :=
  match mk, w with
  | .m, some t => digs 2 t
  | .ms, some t => digs 1 t || digs 2 t
  | .b, some t => (lookup monthNamesB t).isSome
  | .B, some t => (lookup monthNamesB t).isSome
  | _, _ => false

/-- day: `8`, ` 8`, `08`, `18` -/
def dayVal (w : Option Bytes) : Nat :=
  match w with
  | some [x] => natVal [x]
  | some [a, b] => if a = 32 then natVal [b] else natVal [a, b]
  | _ => 0

def dayOK (w : Option Bytes) : Bool :=
  match w with
  | some [x] => isDigit x
  | some [a, b] => (a == 32 || isDigit a) && isDigit b
  | _ => false

def numOptVal (w : Option Bytes) : Nat :=
  match w with
  | some t => natVal t
  | none => 0

def hourOK (hk : DTFS_Hour) (w : Option Bytes) : Bool :=
  match hk, w with
  | .H, some t => digs 2 t
  | .k, some t => digs 1 t || digs 2 t
  | _, _ => false

def minuteOK (w : Option Bytes) : Bool :=
  match w with
  | some t => digs 2 t
  | none => false

def secVal (sk : DTFS_Second) (w : Option Bytes) : Int :=
  match sk, w with
  | .S, some t => numVal t
  | _, _ => 0

def secOK (sk : DTFS_Second) (w : Option Bytes) : Bool :=
  match sk, w with
  | .S, some t => digs 2 t
  | .S, none => false
  | _, _ => true

/-- fraction of a second in nanoseconds: the digits as a decimal fraction, CUT (not rounded) after nine -/
def fracVal (fk : DTFS_Fractional) (w : Option Bytes) : Int :=
  match fk, w with
  | .f, some t => if t.length ≤ 9 then numVal t * 10 ^ (9 - t.length) else numVal (t.take 9)
  | _, _ => 0

def fracOK (fk : DTFS_Fractional) (w : Option Bytes) : Bool :=
  match fk, w with
  | .f, some t => t.all isDigit && decide (1 ≤ t.length) && decide (t.length ≤ 12)
  | .f, none => false
  | .none_, _ => true

def isSign (s : UInt8) : Bool := s == 43 || s == 45

/-- numeric zone after `stripMinus` (U+2212 → `-`): `±HH`, `±HHMM`, `±HH:MM` -/
def tzNumVal (t : Bytes) : Int :=
  match t with
  | s :: h1 :: h2 :: r =>
    let mm : Int := match r with
      | [m1, m2] => numVal [m1, m2]
      | [_, m1, m2] => numVal [m1, m2]
      | _ => 0
    let a := numVal [h1, h2] * 3600 + mm * 60
    if s = 45 then -a else a
  | _ => 0

/-- shape of a numeric zone; `short` = the `±HH` form is allowed (`%#z`) -/
def tzNumOK (short : Bool) (t : Bytes) : Bool :=
  match t with
  | [s, h1, h2] => short && isSign s && isDigit h1 && isDigit h2
  | [s, h1, h2, m1, m2] => isSign s && isDigit h1 && isDigit h2 && isDigit m1 && isDigit m2
  | [s, h1, h2, c, m1, m2] => isSign s && isDigit h1 && isDigit h2 && c == 58 && isDigit m1 && isDigit m2
  | _ => false

def tzNumRange (t : Bytes) : Bool :=
  match t with
  | _ :: h1 :: h2 :: r =>
    decide (numVal [h1, h2] ≤ 23) &&
    (match r with
      | [m1, m2] => decide (numVal [m1, m2] ≤ 59)
      | [_, m1, m2] => decide (numVal [m1, m2] ≤ 59)
      | _ => true)
  | _ => false

/-- zone: numeric as written; a name by the reference reading of its table value (`TimeSpec.tzValueOffset`), an
ambiguous (empty value) or unknown name and a text without zone in the fallback zone -/
def tzVal (zk : DTFS_Tz) (w : Option Bytes) (fbOff : Int) : Int :=
  match zk, w with
  | .z, some t => tzNumVal (stripMinus t)
  | .zc, some t => tzNumVal (stripMinus t)
  | .zp, some t => tzNumVal (stripMinus t)
  | .Z, some name =>
    match lookup tzTableB name with
    | some v => if v.isEmpty then fbOff else (tzValueOffset v).getD fbOff
    | none => fbOff
  | _, _ => fbOff

def tzOK (zk : DTFS_Tz) (w : Option Bytes) : Bool :=
  match zk, w with
  | .z, some t => tzNumOK false (stripMinus t)
  | .zc, some t => tzNumOK false (stripMinus t)
  | .zp, some t => tzNumOK true (stripMinus t)
  | .Z, some _ => true
  | .fill, _ => true
  | .none_, _ => true
  | _, none => false

def tzRange (zk : DTFS_Tz) (w : Option Bytes) : Bool :=
  match zk, w with
  | .z, some t => tzNumRange (stripMinus t)
  | .zc, some t => tzNumRange (stripMinus t)
  | .zp, some t => tzNumRange (stripMinus t)
  | _, _ => true

structure Fields where
  Y : Int
  M : Nat
  D : Nat
  H : Nat
  N : Nat
  S : Int
  NS : Int
  OFF : Int
deriving Repr, DecidableEq

def Fields.instant (f : Fields) : Int := instantNs f.Y f.M f.D f.H f.N f.S f.NS f.OFF

def fieldsOf (set : DTFSSet) (c : Captures) (fbOff : Int) (fill : Option Int) : Fields :=
  { Y := yearVal set.year c.year fill, M := monthVal set.month c.month, D := dayVal c.day, H := numOptVal c.hour,
    N := numOptVal c.minute, S := secVal set.second c.second, NS := fracVal set.fractional c.fractional,
    OFF := tzVal set.tz c.tz fbOff }

def shapeOK (set : DTFSSet) (c : Captures) (fill : Option Int) : Bool :=
  yearOK set.year c.year fill && monthOK set.month c.month && dayOK c.day && hourOK set.hour c.hour &&
  minuteOK c.minute && secOK set.second c.second && fracOK set.fractional c.fractional && tzOK set.tz c.tz

def rangeOK (set : DTFSSet) (c : Captures) (fill : Option Int) : Bool :=
  decide (1 ≤ monthVal set.month c.month ∧ monthVal set.month c.month ≤ 12) &&
  decide (1 ≤ dayVal c.day ∧ dayVal c.day ≤ 31) && decide (numOptVal c.hour ≤ 23) && decide (numOptVal c.minute ≤ 59) &&
  decide (secVal set.second c.second ≤ 60) && tzRange set.tz c.tz &&
  validDate (yearVal set.year c.year fill) (monthVal set.month c.month) (dayVal c.day)

def sgnOff (sign : UInt8) (a : Int) : Int := if sign = 45 then -a else a

theorem isSign_iff {s : UInt8} : isSign s = true ↔ s = 43 ∨ s = 45 := by simp [isSign]

/-- the hypothesis of `RegexZones.tzScan_hm` (`53` is `'5'`) -/
theorem tens_le_of_numVal {m1 m2 : UInt8} (d : isDigit m1 = true) (hm : numVal [m1, m2] ≤ 59) : m1 ≤ 53 := by
  have := digit_toNat m1 d
  rw [numVal_eq_natVal, natVal_two] at hm
  rw [UInt8.le_iff_toNat_le]
  unfold dv at hm
  show m1.toNat ≤ 53
  omega

theorem tzScan_h {s h1 h2 : UInt8} (hs : isSign s = true) (d1 : isDigit h1 = true) (d2 : isDigit h2 = true) :
    tzScan true [s, h1, h2] = some (sgnOff s (numVal [h1, h2] * 3600), []) := by
  rcases isSign_iff.mp hs with rfl | rfl <;> simp [tzScan, skipWs, isWs, skipColonWs, d1, d2, sgnOff]

def tzcText (sign : UInt8) (oh om : Nat) : Bytes := sign :: (dec2 oh ++ 58 :: dec2 om)
def tzzText (sign : UInt8) (oh om : Nat) : Bytes := sign :: (dec2 oh ++ dec2 om)

def tzChk (sign : UInt8) (oh om : Nat) : Bool :=
  let off := sgnOff sign ((oh : Int) * 3600 + (om : Int) * 60)
  tzScan false (tzcText sign oh om) == some (off, []) && tzScan true (tzcText sign oh om) == some (off, []) &&
  tzScan false (tzzText sign oh om) == some (off, []) && tzScan true (tzzText sign oh om) == some (off, []) &&
  notBlankB (tzcText sign oh om) && notBlankB (tzzText sign oh om)

/-- every `±HH:MM` and `±HHMM` with HH ≤ 23, MM ≤ 59 scans (under `%z`/`%:z` and under `%#z`) to sign·(HH·3600 + MM·60) -/
theorem tz_scan_all : ∀ sign ∈ [(43 : UInt8), 45], ∀ oh ∈ List.range 24, ∀ om ∈ List.range 60, tzChk sign oh om = true := by
  intro sign hs oh hoh om hom
  have hoh := List.mem_range.mp hoh
  have hom := List.mem_range.mp hom
  have hs : sign = 43 ∨ sign = 45 := by simpa using hs
  have e1 := numVal_dec2 oh (by omega)
  have e2 := numVal_dec2 om (by omega)
  simp only [dec2] at e1 e2
  have key := fun perm => tzScan_hm perm hs (isDigit_dchar (oh / 10)) (isDigit_dchar oh) (isDigit_dchar (om / 10))
    (isDigit_dchar om) (dchar_tens_le hom)
  have nb := fun n => notBlank_dchar n
  simp only [NotBlank] at nb
  simp [tzChk, tzcText, tzzText, dec2, key, e1, e2, notBlankB, nb, sgnOff]
  rcases hs with rfl | rfl <;> decide

/-- whole-minute fallback offsets STRICTLY within ±24 h: `RegexZones.FbOK` without its two ends, which an offset read as a
zone must exclude (`TzPieceOK`: |offset| < 86400) — an unknown or ambiguous zone name is read in the fallback zone (`fb_scan`) -/
def FbOK' (fbOff : Int) : Prop := ∃ k : Nat, 1 ≤ k ∧ k ≤ 2879 ∧ fbOff = ((k : Int) - 1440) * 60

theorem fbOK_of_fbOK' {fbOff : Int} (h : FbOK' fbOff) : FbOK fbOff := by
  obtain ⟨k, _, h2, e⟩ := h; exact ⟨k, by omega, e⟩

theorem offString_scan (perm : Bool) {off : Int} (h60 : off.natAbs % 60 = 0) (hlt : off.natAbs < 360000) :
    tzScan perm (offString off) = some (off, []) := by
  have e1 := numVal_dec2 (off.natAbs / 3600) (by omega)
  have e2 := numVal_dec2 (off.natAbs / 60 % 60) (by omega)
  simp only [dec2] at e1 e2
  simp only [offString, h60, if_true, List.append_nil]
  rw [(tzScan_hm perm (by split <;> simp) (isDigit_dchar _) (isDigit_dchar _) (isDigit_dchar _) (isDigit_dchar _)
    (dchar_tens_le (Nat.mod_lt _ (by decide)))).2, e1, e2]
  split <;> simp <;> omega

theorem fb_scan {fbOff : Int} (h : FbOK' fbOff) (perm : Bool) :
    tzScan perm (offString fbOff) = some (fbOff, []) ∧ -86400 < fbOff ∧ fbOff < 86400 := by
  obtain ⟨k, h1, h2, rfl⟩ := h
  exact ⟨offString_scan perm (by omega) (by omega), by omega, by omega⟩

end S4V.Lemmas.RegexE2E
