/-
A streamed reader (gz, bz2, lz4) after `disable_drop_data`: the look-back drop of
`read_block_File{Gz,Bz2,Lz4}` goes through `drop_block`, which returns at once, so every decoded
block stays in `blocks` and any later request — in ANY order — is answered from there.
-/
import S4V.Lemmas.Stream

namespace S4V.Lemmas.StreamKeep
open S4V.Gen.Blocks S4V.Gen.Stream S4V.Model.Lines S4V.Model.Stream S4V.Lemmas.Blocks
  S4V.Lemmas.Stream

/-- a streamed reader with `drop_data` off after the blocks `< n` were decoded -/
structure KInv (d : Bytes) (r : Rd) (n : Nat) : Prop where
  hbs : 1 ≤ r.bs
  hfsz : r.fsz = d.length
  hk : DecOk r.kind r.bs r.dec.cs
  good : Good d r.bs r.blocks
  goodL : Good d r.bs r.lru
  hread : ∀ j, j ∈ r.blocksRead ↔ j < n
  hpos : r.dec.rest = d.drop (n * r.bs)
  hall : ∀ j, j < n → mget r.blocks j = some (blockAt d r.bs j)
  hn : 0 < n → n - 1 ≤ blockOffsetLast d.length r.bs
  hdd : r.dropData = false

theorem KInv.core {d : Bytes} {r : Rd} {n : Nat} (h : KInv d r n) : Core d r n := { h with }

theorem afterDecode_keep (r : Rd) (n old : Nat) (b : Bytes) (dec' : Dec) (h : r.dropData = false) :
    afterDecode r n old b dec' = storeLru (storeBlock { r with dec := dec' } n b) n b := by
  unfold afterDecode
  split
  · exact dropBlock_off _ _ h
  · rfl

theorem kinv_streamed (d : Bytes) : Streamed d (KInv d) where
  core h := h.core
  step {r n} dec' h hd hk hrest hok := by
    have c := h.core.step hd hk (n - 1) dec' hrest hok
    refine { c with
      hall := fun j hj => ?_
      hn := fun _ => by rw [Nat.add_sub_cancel, afterDecode_bs]; exact hk
      hdd := ?_ }
    · rw [afterDecode_keep r n _ _ dec' h.hdd]
      show mget (mins r.blocks n (blockAt d r.bs n)) j = _
      rcases Nat.eq_or_lt_of_le (Nat.le_of_lt_succ hj) with rfl | hlt
      · exact mget_mins_self _ _ _
      · rw [mget_mins_ne _ _ _ _ (Nat.ne_of_lt hlt)]
        exact h.hall j hlt
    · rw [afterDecode_keep r n _ _ dec' h.hdd]
      exact h.hdd
  lru h hc := { h with goodL := hc.good }

theorem readBlock_keep (d : Bytes) (r : Rd) (n k : Nat) (h : KInv d r n) :
    Answers d (fun r => ∃ n, KInv d r n) readBlock r k := by
  obtain ⟨r', n', e, h', hb, _⟩ := (kinv_streamed d).readBlock_spec h k (h.hall k)
  exact ⟨r', e, ⟨n', h'⟩, hb⟩

theorem readSeq_keep (d : Bytes) (ks : List Nat) (r : Rd) (n : Nat) (h : KInv d r n) :
    (readSeq r ks).1 = ks.map (specRes d r.bs) :=
  readSeq_of_step (I := fun r => ∃ n, KInv d r n) (fun r k ⟨n, h⟩ => readBlock_keep d r n k h) ks r ⟨n, h⟩

theorem KInv.new (kind : Kind) (bs : Nat) (d : Bytes) (cs csPre : List Nat) (hbs : 1 ≤ bs)
    (hk : DecOk kind bs cs) :
    KInv d (Rd.new kind bs d cs csPre).disableDropData 0 ∧ (Rd.new kind bs d cs csPre).disableDropData.bs = bs := by
  obtain ⟨h, e⟩ := SInv.new kind bs d cs csPre hbs hk
  exact ⟨{ h.toCore with hall := fun _ => nofun, hn := nofun, hdd := rfl }, e⟩

end S4V.Lemmas.StreamKeep
