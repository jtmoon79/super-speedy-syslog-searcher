/-
Lemmas for C04 over `S4V.Model.DtParse`: decimal digits, the numeric scanners on
fixed-width digit groups, and one step lemma per group of pattern items.
-/
import S4V.Model.DtParse

namespace S4V.Lemmas.DtParse
open S4V.Gen.TimeTables S4V.Model.Time S4V.Model.DtParse

theorem digit_cases (k : Nat) (h : k < 10) :
    k = 0 ∨ k = 1 ∨ k = 2 ∨ k = 3 ∨ k = 4 ∨ k = 5 ∨ k = 6 ∨ k = 7 ∨ k = 8 ∨ k = 9 := by omega

theorem dchar_props (n : Nat) :
    isDigit (dchar n) = true ∧ isWs (dchar n) = false ∧ (dchar n).toNat - 48 = n % 10 ∧
      dchar n ≠ 32 ∧ dchar n ≠ 9 ∧ dchar n ≠ 10 ∧ dchar n ≠ 13 := by
  unfold dchar
  have h : n % 10 < 10 := Nat.mod_lt _ (by decide)
  generalize n % 10 = k at h
  rcases digit_cases k h with rfl | rfl | rfl | rfl | rfl | rfl | rfl | rfl | rfl | rfl <;> decide

theorem isDigit_dchar (n : Nat) : isDigit (dchar n) = true := (dchar_props n).1
theorem isWs_dchar (n : Nat) : isWs (dchar n) = false := (dchar_props n).2.1
theorem val_dchar (n : Nat) : (dchar n).toNat - 48 = n % 10 := (dchar_props n).2.2.1

theorem dchar_toNat (n : Nat) : (dchar n).toNat = 48 + n % 10 := by
  unfold dchar
  have : n % 10 < 10 := Nat.mod_lt _ (by decide)
  simp
  omega

/-- a byte that is not blank for `datetime_from_str_workaround_Issue660` -/
def NotBlank (b : UInt8) : Prop := b ≠ 32 ∧ b ≠ 9 ∧ b ≠ 10 ∧ b ≠ 13

theorem notBlank_dchar (n : Nat) : NotBlank (dchar n) := (dchar_props n).2.2.2

def dec2 (n : Nat) : Bytes := [dchar (n / 10), dchar n]
def dec4 (n : Nat) : Bytes := [dchar (n / 1000), dchar (n / 100), dchar (n / 10), dchar n]

def AllDigits (l : Bytes) : Prop := ∀ b ∈ l, isDigit b = true

theorem allDigits_dec2 (n : Nat) : AllDigits (dec2 n) := by simp [AllDigits, dec2, isDigit_dchar]

theorem allDigits_dec4 (n : Nat) : AllDigits (dec4 n) := by simp [AllDigits, dec4, isDigit_dchar]

theorem numVal_dec2 (n : Nat) (h : n < 100) : numVal (dec2 n) = n := by
  simp only [numVal, dec2, List.foldl]
  rw [val_dchar (n / 10), val_dchar n]
  simp only [Int.ofNat_eq_natCast]
  omega

theorem numVal_dec4 (n : Nat) (h : n < 10000) : numVal (dec4 n) = n := by
  simp only [numVal, dec4, List.foldl]
  rw [val_dchar (n / 1000), val_dchar (n / 100), val_dchar (n / 10), val_dchar n]
  simp only [Int.ofNat_eq_natCast]
  omega

theorem natDec_lt10 (n : Nat) (h : n < 10) : natDec n = [dchar n] := by simp [natDec, h]

theorem natDec_2 (n : Nat) (h1 : 10 ≤ n) (h2 : n < 100) : natDec n = dec2 n := by
  have : ¬ n < 10 := by omega
  simp [natDec, this, h2, dec2]

theorem natDec_4 (n : Nat) (h1 : 1000 ≤ n) (h2 : n < 10000) : natDec n = dec4 n := by
  have a : ¬ n < 10 := by omega
  have b : ¬ n < 100 := by omega
  have c : ¬ n < 1000 := by omega
  simp [natDec, a, b, c, h2, dec4]

theorem dec2_small (n : Nat) (h : n < 10) : dec2 n = [48, dchar n] := by
  have : n / 10 = 0 := by omega
  simp [dec2, this]; decide

theorem lookup_mem {t : List (Bytes × Bytes)} {k v : Bytes} (h : lookup t k = some v) : (k, v) ∈ t := by
  induction t with
  | nil => simp [lookup] at h
  | cons p r ih =>
    obtain ⟨a, b⟩ := p
    simp only [lookup] at h
    by_cases e : a = k
    · rw [if_pos e] at h; cases h; subst e; simp
    · rw [if_neg e] at h; exact List.mem_cons_of_mem _ (ih h)

theorem skipWs_digit (b : UInt8) (r : Bytes) (h : isWs b = false) : skipWs (b :: r) = b :: r := by
  simp [skipWs, h]

theorem spanDigits_append (w : Nat) (l rest : Bytes) (h : AllDigits l) (hw : l.length ≤ w)
    (hstop : l.length < w → ∀ x ∈ rest.head?, isDigit x = false) : spanDigits w (l ++ rest) = (l, rest) := by
  induction l generalizing w with
  | nil =>
    cases w with
    | zero => simp [spanDigits]
    | succ w =>
      cases rest with
      | nil => rfl
      | cons x r => simp [spanDigits, hstop (Nat.succ_pos w) x rfl]
  | cons b t ih =>
    cases w with
    | zero => simp at hw
    | succ w =>
      have hb : isDigit b = true := h b (by simp)
      have ht : AllDigits t := fun y hy => h y (by simp [hy])
      simp [spanDigits, hb, ih w ht (by simpa using hw) (fun hlt => hstop (by simpa using hlt))]

theorem spanDigits_exact (l rest : Bytes) (h : AllDigits l) : spanDigits l.length (l ++ rest) = (l, rest) :=
  spanDigits_append _ l rest h (Nat.le_refl _) (fun hlt => absurd hlt (Nat.lt_irrefl _))

theorem spanDigits_stop (w : Nat) (l : Bytes) (x : UInt8) (rest : Bytes) (h : AllDigits l) (hw : l.length ≤ w)
    (hx : isDigit x = false) : spanDigits w (l ++ x :: rest) = (l, x :: rest) :=
  spanDigits_append w l _ h hw (fun _ y hy => by cases hy; exact hx)

theorem spanDigits_all (w : Nat) (l : Bytes) (h : AllDigits l) (hw : l.length ≤ w) : spanDigits w l = (l, []) := by
  have := spanDigits_append w l [] h hw (fun _ y hy => by cases hy)
  rwa [List.append_nil] at this

theorem isWs_of_isDigit (b : UInt8) (h : isDigit b = true) : isWs b = false := by
  simp [isDigit, isWs, UInt8.le_iff_toNat_le, ← UInt8.toNat_inj] at h ⊢
  omega

theorem yearItem_digit (d : UInt8) (r : Bytes) (hws : isWs d = false) (h45 : d ≠ 45) (h43 : d ≠ 43) :
    yearItem (d :: r) = number 4 (d :: r) := by
  unfold yearItem
  rw [skipWs_digit d r hws]
  split <;> simp_all

theorem numItem_exact (l rest : Bytes) (h : AllDigits l) (hne : l ≠ []) :
    numItem l.length (l ++ rest) = some (numVal l, rest) := by
  cases l with
  | nil => exact absurd rfl hne
  | cons b t =>
    have hb : isDigit b = true := h b (by simp)
    have hws : isWs b = false := isWs_of_isDigit b hb
    unfold numItem number
    rw [List.cons_append, skipWs_digit b _ hws, ← List.cons_append, spanDigits_exact (b :: t) rest h]
    simp

theorem runItems_append (a b : List Item) (s : Bytes) (p : Parsed) :
    runItems (a ++ b) s p =
      match runItems a s p with
      | some (p', s') => runItems b s' p'
      | none => none := by
  induction a generalizing s p with
  | nil => simp [runItems]
  | cons it its ih =>
    simp only [List.cons_append, runItems]
    cases runItem it s p with
    | none => rfl
    | some r => obtain ⟨p', s'⟩ := r; exact ih s' p'

theorem run_lit (b : UInt8) (rest : Bytes) (p : Parsed) : runItem (.lit b) (b :: rest) p = some (p, rest) := by
  simp [runItem]

theorem numItem_dec2 (n : Nat) (h : n < 100) (rest : Bytes) : numItem 2 (dec2 n ++ rest) = some ((n : Int), rest) := by
  have := numItem_exact (dec2 n) rest (allDigits_dec2 n) (by simp [dec2])
  rwa [numVal_dec2 n h] at this

theorem run_year4 (Y : Nat) (h : Y < 10000) (rest : Bytes) (p : Parsed) :
    runItem .year (dec4 Y ++ rest) p = some ({ p with year := some (Y : Int) }, rest) := by
  have hn : numItem 4 (dec4 Y ++ rest) = some (numVal (dec4 Y), rest) :=
    numItem_exact (dec4 Y) rest (allDigits_dec4 Y) (by simp [dec4])
  have hd : dec4 Y ++ rest = dchar (Y / 1000) :: ([dchar (Y / 100), dchar (Y / 10), dchar Y] ++ rest) := rfl
  have hdig := isDigit_dchar (Y / 1000)
  have h45 : dchar (Y / 1000) ≠ 45 := by intro e; rw [e] at hdig; revert hdig; decide
  have h43 : dchar (Y / 1000) ≠ 43 := by intro e; rw [e] at hdig; revert hdig; decide
  have hy := yearItem_digit (dchar (Y / 1000)) ([dchar (Y / 100), dchar (Y / 10), dchar Y] ++ rest) (isWs_dchar _) h45 h43
  unfold numItem at hn
  rw [hd, skipWs_digit _ _ (isWs_dchar _)] at hn
  simp only [runItem]
  rw [hd, hy, hn, numVal_dec4 Y h]
  rfl

theorem run_nano (f rest : Bytes) (hf : AllDigits f) (hl : f.length = 9) (p : Parsed) :
    runItem .nano (f ++ rest) p = some ({ p with nano := some (numVal f) }, rest) := by
  have hne : f ≠ [] := by intro e; subst e; simp at hl
  have := numItem_exact f rest hf hne
  rw [hl] at this
  simp [runItem, this]

def yearItems : DTFS_Year → List Item
  | .Y | .fill => [.year]
  | .y => [.year2]
  | .none_ => []

def secondItems : DTFS_Second → List Item
  | .S | .fill => [.second]
  | .none_ => []

def fracItems : DTFS_Fractional → List Item
  | .f => [.lit 46, .nano]
  | .none_ => []

def tzItems (perm : Bool) : DTFS_Tz → List Item
  | .none_ => []
  | _ => [.tz perm]

/-- items of a date-time set: `[year] month day 'T' hour minute [second] ['.' nano] [zone]` -/
def dtItems (set : DTFSSet) (perm : Bool) : List Item :=
  yearItems set.year ++ ([.month, .day, .lit 84, .hour, .minute] ++
    (secondItems set.second ++ (fracItems set.fractional ++ tzItems perm set.tz)))

/-- items of an epoch set: `timestamp 'T' ['.' nano]` -/
def epochItems (set : DTFSSet) : List Item := [.timestamp, .lit 84] ++ fracItems set.fractional

/-- the enum fields and the strftime pattern of a set agree (decidable; proved for every
generated set in `S4V.Props.TimeSpec.C04_sets_consistent`) -/
def Consistent (set : DTFSSet) : Prop :=
  (set.epoch = .none_ ∧ set.year ≠ .none_ ∧ set.month ≠ .none_ ∧ set.day = .e_or_d ∧
      (set.hour = .H ∨ set.hour = .k) ∧ set.minute = .M ∧
      (parsePattern set.pattern = some (dtItems set true) ∨
        (set.tz ≠ .zp ∧ parsePattern set.pattern = some (dtItems set false))))
  ∨ (set.epoch = .s ∧ set.year = .none_ ∧ set.month = .none_ ∧ set.day = .none_ ∧ set.hour = .none_ ∧
      set.minute = .none_ ∧ set.second = .none_ ∧ set.tz = .none_ ∧
      parsePattern set.pattern = some (epochItems set))

instance (set : DTFSSet) : Decidable (Consistent set) := by unfold Consistent; exact inferInstance

def AllNotBlank (l : Bytes) : Prop := ∀ b ∈ l, NotBlank b

theorem notBlank_of_isDigit (b : UInt8) (h : isDigit b = true) : NotBlank b := by
  simp [isDigit, NotBlank, UInt8.le_iff_toNat_le, ← UInt8.toNat_inj] at h ⊢
  omega

theorem allNotBlank_of_allDigits (l : Bytes) (h : AllDigits l) : AllNotBlank l :=
  fun b hb => notBlank_of_isDigit b (h b hb)

theorem allNotBlank_append {a b : Bytes} (ha : AllNotBlank a) (hb : AllNotBlank b) : AllNotBlank (a ++ b) :=
  fun x hx => (List.mem_append.mp hx).elim (ha x) (hb x)

theorem allNotBlank_cons {a : UInt8} {b : Bytes} (ha : NotBlank a) (hb : AllNotBlank b) : AllNotBlank (a :: b) :=
  List.forall_mem_cons.mpr ⟨ha, hb⟩

theorem allNotBlank_nil : AllNotBlank [] := fun _ h => nomatch h

theorem issue660_of_allNotBlank (buf : Bytes) (h : AllNotBlank buf) : issue660 buf = true := by
  unfold issue660
  cases buf with
  | nil => rfl
  | cons b t =>
    cases hl : (b :: t).getLast? with
    | none => rfl
    | some e =>
      have hb := h b (by simp)
      have he := h e (List.mem_of_getLast? hl)
      unfold NotBlank at hb he
      simp [hb, he]

/-- year piece: 4 digits (captured, or the fill year), or 2 digits read with chrono's pivot -/
def YearPieceOK (yk : DTFS_Year) (yb : Bytes) (Y : Int) : Prop :=
  match yk with
  | .Y | .fill => ∃ n : Nat, n < 10000 ∧ yb = dec4 n ∧ Y = n
  | .y => ∃ n : Nat, n < 100 ∧ yb = dec2 n ∧ Y = n + (if n < 70 then 2000 else 1900)
  | .none_ => False

def SecPieceOK (sk : DTFS_Second) (sb : Bytes) (S : Int) : Prop :=
  match sk with
  | .S | .fill => ∃ n : Nat, n ≤ 60 ∧ sb = dec2 n ∧ S = n
  | .none_ => sb = [] ∧ S = 0

def FracPieceOK (fk : DTFS_Fractional) (fb : Bytes) (NS : Int) : Prop :=
  match fk with
  | .f => ∃ f9 : Bytes, AllDigits f9 ∧ f9.length = 9 ∧ fb = 46 :: f9 ∧ NS = numVal f9
  | .none_ => fb = [] ∧ NS = 0

/-- zone piece: for a set with a zone the piece scans to the denoted offset; for `_fill` the piece
(the fallback string) only has to scan — its value is not used, the naive date-time is placed in
the fallback zone; `_none`: no piece -/
def TzPieceOK (zk : DTFS_Tz) (perm : Bool) (zb : Bytes) (fbOff OFF : Int) : Prop :=
  match zk with
  | .none_ => zb = [] ∧ OFF = fbOff
  | .fill => (∃ o, tzScan perm zb = some (o, [])) ∧ AllNotBlank zb ∧ OFF = fbOff
  | _ => tzScan perm zb = some (OFF, []) ∧ -86400 < OFF ∧ OFF < 86400 ∧ AllNotBlank zb

/-! Each item group consumes its piece and sets at most its own field of the `Parsed` record, so the record after all
groups is explicit. -/

theorem run_year_group (yk : DTFS_Year) (yb : Bytes) (Y : Int) (rest : Bytes) (h : YearPieceOK yk yb Y) :
    ∃ p1 : Parsed, runItems (yearItems yk) (yb ++ rest) {} = some (p1, rest) ∧ AllNotBlank yb ∧
      (p1 = { year := some Y } ∨
        ∃ n : Int, p1 = { yearMod := some n } ∧ Y = n + (if n < 70 then 2000 else 1900)) := by
  cases yk with
  | none_ => exact h.elim
  | y =>
    obtain ⟨n, hn, rfl, rfl⟩ := h
    have hn' : (0 : Int) ≤ n ∧ (n : Int) ≤ 99 := by omega
    exact ⟨_, by simp [yearItems, runItems, runItem, numItem_dec2 n hn, hn'], allNotBlank_of_allDigits _ (allDigits_dec2 n),
      Or.inr ⟨n, rfl, by omega⟩⟩
  | _ =>
    obtain ⟨n, hn, rfl, rfl⟩ := h
    exact ⟨_, by simp [yearItems, runItems, run_year4 n hn], allNotBlank_of_allDigits _ (allDigits_dec4 n), Or.inl rfl⟩

theorem run_core_group (M D H N : Nat) (hM : 1 ≤ M ∧ M ≤ 12) (hD : 1 ≤ D ∧ D ≤ 31) (hH : H ≤ 23) (hN : N ≤ 59)
    (rest : Bytes) (p : Parsed) :
    runItems [.month, .day, .lit 84, .hour, .minute] (dec2 M ++ (dec2 D ++ (84 :: (dec2 H ++ (dec2 N ++ rest))))) p =
      some ({ p with month := some (M : Int), day := some (D : Int), hour := some (H : Int), minute := some (N : Int) }, rest) := by
  have hM' : (1 : Int) ≤ M ∧ (M : Int) ≤ 12 := by omega
  have hD' : (1 : Int) ≤ D ∧ (D : Int) ≤ 31 := by omega
  have hH' : (H : Int) ≤ 23 := by omega
  have hN' : (N : Int) ≤ 59 := by omega
  simp [runItems, runItem, numItem_dec2 M (by omega), numItem_dec2 D (by omega), numItem_dec2 H (by omega),
    numItem_dec2 N (by omega), hM', hD', hH', hN']

theorem sec_step (sk : DTFS_Second) (sb : Bytes) (S : Int) (rest : Bytes) (p : Parsed) (h : SecPieceOK sk sb S) :
    ∃ s, runItems (secondItems sk) (sb ++ rest) p = some ({ p with second := s }, rest) ∧ AllNotBlank sb ∧
      (p.second = none → s.getD 0 = S) := by
  cases sk with
  | none_ =>
    obtain ⟨rfl, rfl⟩ := h
    exact ⟨p.second, rfl, allNotBlank_nil, fun h0 => by rw [h0]; rfl⟩
  | _ =>
    obtain ⟨n, hn, rfl, rfl⟩ := h
    have hn' : (n : Int) ≤ 60 := by omega
    exact ⟨some n, by simp [secondItems, runItems, runItem, numItem_dec2 n (by omega), hn'],
      allNotBlank_of_allDigits _ (allDigits_dec2 n), fun _ => rfl⟩

theorem run_frac_group (fk : DTFS_Fractional) (fb : Bytes) (NS : Int) (rest : Bytes) (p : Parsed) (h : FracPieceOK fk fb NS) :
    AllNotBlank fb ∧
    (runItems (fracItems fk) (fb ++ rest) p = some ({ p with nano := some NS }, rest) ∨
      (runItems (fracItems fk) (fb ++ rest) p = some (p, rest) ∧ NS = 0)) := by
  cases fk with
  | f =>
    obtain ⟨f9, hd, hl, rfl, rfl⟩ := h
    exact ⟨allNotBlank_cons (by unfold NotBlank; decide) (allNotBlank_of_allDigits f9 hd),
      Or.inl (by simp [fracItems, runItems, run_lit, run_nano f9 rest hd hl])⟩
  | none_ =>
    obtain ⟨rfl, rfl⟩ := h
    exact ⟨allNotBlank_nil, Or.inr ⟨rfl, rfl⟩⟩

theorem frac_step (fk : DTFS_Fractional) (fb : Bytes) (NS : Int) (rest : Bytes) (p : Parsed) (h : FracPieceOK fk fb NS) :
    ∃ n, runItems (fracItems fk) (fb ++ rest) p = some ({ p with nano := n }, rest) ∧ AllNotBlank fb ∧
      (p.nano = none → n.getD 0 = NS) := by
  obtain ⟨hnb, hr | ⟨hr, rfl⟩⟩ := run_frac_group fk fb NS rest p h
  · exact ⟨_, hr, hnb, fun _ => rfl⟩
  · exact ⟨p.nano, hr, hnb, fun h0 => by rw [h0]; rfl⟩

theorem tz_step (set : DTFSSet) (perm : Bool) (zb : Bytes) (fbOff OFF : Int) (p : Parsed)
    (h : TzPieceOK set.tz perm zb fbOff OFF) :
    ∃ o, runItems (tzItems perm set.tz) zb p = some ({ p with off := o }, []) ∧ AllNotBlank zb ∧
      (hasTz set = true → o = some OFF ∧ -86400 < OFF ∧ OFF < 86400) ∧ (hasTz set = false → OFF = fbOff) := by
  unfold hasTz
  cases hz : set.tz <;> rw [hz] at h
  case none_ =>
    obtain ⟨rfl, rfl⟩ := h
    exact ⟨p.off, rfl, allNotBlank_nil, by simp, by simp⟩
  case fill =>
    obtain ⟨⟨o, ho⟩, hnb, rfl⟩ := h
    exact ⟨some o, by simp [tzItems, runItems, runItem, ho], hnb, by simp, by simp⟩
  all_goals
    obtain ⟨ho, h1, h2, hnb⟩ := h
    exact ⟨some OFF, by simp [tzItems, runItems, runItem, ho], hnb, by simp [h1, h2], by simp⟩

/-- the normalised buffer of a date-time set parses to the denoted instant -/
theorem parse_dt_buffer (set : DTFSSet) (perm : Bool)
    (hpat : parsePattern set.pattern = some (dtItems set perm))
    (yb sb fb zb : Bytes) (Y : Int) (M D H N : Nat) (S NS OFF fbOff : Int)
    (hy : YearPieceOK set.year yb Y) (hM : 1 ≤ M ∧ M ≤ 12) (hD : 1 ≤ D ∧ D ≤ 31) (hH : H ≤ 23) (hN : N ≤ 59)
    (hs : SecPieceOK set.second sb S) (hf : FracPieceOK set.fractional fb NS)
    (hz : TzPieceOK set.tz perm zb fbOff OFF) (hvalid : validDate Y M D = true) :
    parseBuf set.pattern (hasTz set) fbOff
        (yb ++ (dec2 M ++ (dec2 D ++ (84 :: (dec2 H ++ (dec2 N ++ (sb ++ (fb ++ zb)))))))) =
      some (instantNs Y M D H N S NS OFF) := by
  obtain ⟨p1, hr1, hnb1, hp1⟩ := run_year_group set.year yb Y
    (dec2 M ++ (dec2 D ++ (84 :: (dec2 H ++ (dec2 N ++ (sb ++ (fb ++ zb))))))) hy
  have hr2 := run_core_group M D H N hM hD hH hN (sb ++ (fb ++ zb)) p1
  generalize hp2 :
    ({ p1 with month := some (M : Int), day := some (D : Int), hour := some (H : Int), minute := some (N : Int) } : Parsed)
      = p2 at hr2
  obtain ⟨s, hr3, hnb3, hs3⟩ := sec_step set.second sb S (fb ++ zb) p2 hs
  obtain ⟨n, hr4, hnb4, hn4⟩ := frac_step set.fractional fb NS zb { p2 with second := s } hf
  obtain ⟨o, hr5, hnb5, ho5, hfb⟩ := tz_step set perm zb fbOff OFF { p2 with second := s, nano := n } hz
  have hall : AllNotBlank (yb ++ (dec2 M ++ (dec2 D ++ (84 :: (dec2 H ++ (dec2 N ++ (sb ++ (fb ++ zb)))))))) :=
    have d2 := fun k => allNotBlank_of_allDigits _ (allDigits_dec2 k)
    allNotBlank_append hnb1 (allNotBlank_append (d2 M) (allNotBlank_append (d2 D)
      (allNotBlank_cons (by unfold NotBlank; decide) (allNotBlank_append (d2 H) (allNotBlank_append (d2 N)
        (allNotBlank_append hnb3 (allNotBlank_append hnb4 hnb5)))))))
  unfold parseBuf
  simp only [hpat, dtItems, runItems_append, hr1, hr2, hr3, hr4, hr5, issue660_of_allNotBlank _ hall, if_true]
  -- the year, read from four digits or from two with chrono's pivot
  have hdate : resolveDate { p2 with second := s, nano := n, off := o } = some (daysFromCivil Y M D) := by
    subst hp2
    unfold resolveDate
    rcases hp1 with rfl | ⟨k, rfl, rfl⟩ <;> simp [hvalid]
  have hfresh : p2.second = none ∧ p2.nano = none := by
    subst hp2
    rcases hp1 with rfl | ⟨k, rfl, -⟩ <;> exact ⟨rfl, rfl⟩
  unfold resolve
  rw [hdate]
  subst hp2
  simp only [resolveTime, hs3 hfresh.1, hn4 hfresh.2, instantNs, epochSeconds]
  cases htz : hasTz set
  · rw [hfb htz]
    simp only [Bool.false_eq_true, if_false]
    congr 1; omega
  · obtain ⟨rfl, o2, o3⟩ := ho5 htz
    simp only [if_true, o2, o3, and_self]
    congr 1; omega

end S4V.Lemmas.DtParse
