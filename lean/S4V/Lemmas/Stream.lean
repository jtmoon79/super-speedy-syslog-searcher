/-
Every container kind answers `read_block` as the plain reader does (`Answers`). `readBlock_cases` takes one
call apart once: `Done` above the last block, a cache hit, or `dispatch`. Plain file and tar member follow by
`readBlock_of_dispatch`; a non-empty xz file never reaches `dispatch`; gz, bz2 and lz4 share one family of
invariants, `Streamed`, with the look-back drop on (`SInv`) or off (`S4V.Lemmas.StreamKeep.KInv`).
-/
import S4V.Model.Stream
import S4V.Lemmas.Blocks
import S4V.Lemmas.Lists

namespace S4V.Lemmas.Stream
open S4V.Gen.Blocks S4V.Gen.Stream S4V.Model.Lines S4V.Model.Stream S4V.Lemmas.Blocks
open S4V.Lemmas.Lists (foldl_max_ge foldl_maxBy_spec find?_filter_key_self find?_filter_key_ne)

/-- number of bytes a `read(buf[..k])` delivers when enough data is left -/
def Dec.n (s : Dec) (k : Nat) : Nat :=
  min (match s.cs with | [] => k | c :: _ => max 1 c) k

theorem read_fst (s : Dec) (k : Nat) : (s.read k).1 = s.rest.take (Dec.n s k) := rfl
theorem read_snd_rest (s : Dec) (k : Nat) : (s.read k).2.rest = s.rest.drop (Dec.n s k) := rfl
theorem read_snd_cs (s : Dec) (k : Nat) : (s.read k).2.cs = s.cs.tail := rfl

theorem n_le (s : Dec) (k : Nat) : Dec.n s k ≤ k := Nat.min_le_right _ _

theorem n_pos (s : Dec) (k : Nat) (hk : 1 ≤ k) : 1 ≤ Dec.n s k := by
  unfold Dec.n
  split <;> omega

theorem read_append (s : Dec) (k : Nat) : (s.read k).1 ++ (s.read k).2.rest = s.rest :=
  List.take_append_drop _ _

theorem read_length (s : Dec) (k : Nat) : (s.read k).1.length = min (Dec.n s k) s.rest.length :=
  List.length_take

theorem read_len_pos (s : Dec) (k : Nat) (hk : 1 ≤ k) (hr : s.rest ≠ []) : 1 ≤ (s.read k).1.length := by
  have := n_pos s k hk
  have := List.length_pos_iff.mpr hr
  rw [read_length]
  omega

theorem read_len_le (s : Dec) (k : Nat) : (s.read k).1.length ≤ k := by
  have := n_le s k
  rw [read_length]
  omega

theorem readsz_le (cap : Option Nat) (need : Nat) : readsz cap need ≤ need := by
  unfold readsz
  split
  · exact Nat.le_refl _
  · split <;> omega

theorem readsz_pos (cap : Option Nat) (need : Nat) (hcap : ∀ c, cap = some c → 1 ≤ c) (hn : 1 ≤ need) :
    1 ≤ readsz cap need := by
  unfold readsz
  split
  · exact hn
  · have := hcap _ rfl
    split <;> omega

/-- all that the loops below use of a `read` -/
theorem read_spec (s : Dec) (k : Nat) :
    ∃ m, s.read k = (s.rest.take m, ⟨s.rest.drop m, s.cs.tail⟩) ∧ m ≤ k ∧ m ≤ s.rest.length
      ∧ (m = 0 → k = 0 ∨ s.rest.length = 0) := by
  refine ⟨min (Dec.n s k) s.rest.length, ?_, Nat.le_trans (Nat.min_le_left _ _) (n_le s k),
    Nat.min_le_right _ _, fun hm => ?_⟩
  · rw [← List.take_eq_take_min, ← List.drop_eq_drop_min]
    rfl
  · rcases Nat.eq_zero_or_pos k with hk | hk
    · exact Or.inl hk
    · have := n_pos s k hk
      omega

theorem take_append_take_drop {α} (l : List α) {n m : Nat} (h : n ≤ m) :
    l.take n ++ (l.drop n).take (m - n) = l.take m := by
  rw [← List.take_add, Nat.add_sub_cancel' h]

theorem drop_drop_sub {α} (l : List α) {n m : Nat} (h : n ≤ m) : (l.drop n).drop (m - n) = l.drop m := by
  rw [List.drop_drop, Nat.add_sub_cancel' h]

theorem sub_le_fuel {a m fuel : Nat} (h : a ≤ fuel + 1) (hm : m ≠ 0) : a - m ≤ fuel :=
  Nat.sub_le_of_le_add (Nat.le_trans h (Nat.add_le_add_left (Nat.pos_of_ne_zero hm) fuel))

theorem sub_lt_fuel {a m fuel : Nat} (h : a < fuel + 1) (hm : m ≠ 0) (hml : m ≤ a) : a - m < fuel :=
  Nat.sub_lt_left_of_lt_add hml
    (Nat.lt_of_lt_of_le h (Nat.add_comm m fuel ▸ Nat.add_le_add_left (Nat.pos_of_ne_zero hm) fuel))

theorem fill_spec (cap : Option Nat) (hcap : ∀ c, cap = some c → 1 ≤ c) :
    ∀ (fuel : Nat) (s : Dec) (need : Nat) (acc : Bytes), need ≤ fuel → need ≤ s.rest.length →
      ∃ s', fill cap fuel s need acc = some (acc ++ s.rest.take need, s') ∧ s'.rest = s.rest.drop need := by
  intro fuel
  induction fuel with
  | zero =>
    intro s need acc hf _
    obtain rfl := Nat.le_zero.mp hf
    exact ⟨s, by simp [fill], rfl⟩
  | succ fuel ih =>
    intro s need acc hf hl
    rw [fill]
    by_cases h0 : need = 0
    · subst h0
      exact ⟨s, by simp, rfl⟩
    · have hrs := readsz_pos cap need hcap (Nat.pos_of_ne_zero h0)
      obtain ⟨m, e, hm, hml, hm0⟩ := read_spec s (readsz cap need)
      have hmn : m ≤ need := Nat.le_trans hm (readsz_le cap need)
      have hz : m ≠ 0 := fun hz =>
        (hm0 hz).elim (Nat.ne_of_gt hrs) fun hr => h0 (Nat.le_zero.mp (hr ▸ hl))
      obtain ⟨s', h1, h2⟩ := ih ⟨s.rest.drop m, s.cs.tail⟩ (need - m) (acc ++ s.rest.take m) (sub_le_fuel hf hz)
        (by rw [List.length_drop]; exact Nat.sub_le_sub_right hl m)
      refine ⟨s', ?_, by rw [h2, drop_drop_sub _ hmn]⟩
      simp only [e, List.length_take_of_le hml]
      rw [if_neg h0, if_neg hz, h1, List.append_assoc, take_append_take_drop _ hmn]

/-- a decoder that always fills the buffer when data is left (every scripted size ≥ `bs`) -/
def Fills (bs : Nat) (cs : List Nat) : Prop := ∀ c ∈ cs, bs ≤ c

theorem Fills.tail {bs : Nat} {cs : List Nat} (h : Fills bs cs) : Fills bs cs.tail :=
  fun c hc => h c (List.mem_of_mem_tail hc)

theorem n_of_fills (s : Dec) (bs k : Nat) (h : Fills bs s.cs) (hk : k ≤ bs) : Dec.n s k = k := by
  unfold Dec.n
  split
  · exact Nat.min_self k
  · rename_i c _ hcs
    have : bs ≤ c := h c (by rw [hcs]; exact List.mem_cons_self)
    omega

theorem readOnce_spec (s : Dec) (bs need : Nat) (h : Fills bs s.cs) (hk : need ≤ bs) (hl : need ≤ s.rest.length) :
    (readOnce s need).1 = s.rest.take need ∧ (readOnce s need).2.rest = s.rest.drop need
      ∧ Fills bs (readOnce s need).2.cs := by
  have hn := n_of_fills s bs need h hk
  refine ⟨?_, by rw [readOnce, read_snd_rest, hn], h.tail⟩
  rw [readOnce, read_length, hn, read_fst, hn, Nat.min_eq_left hl, Nat.sub_self]
  exact List.append_nil _

theorem fillBreak_eq :
    ∀ (fuel : Nat) (s : Dec) (need : Nat) (acc : Bytes), need ≤ fuel →
      (fillBreak fuel s need acc).1 = acc ++ s.rest.take need ++ List.replicate (need - s.rest.length) 0
        ∧ (fillBreak fuel s need acc).2.rest = s.rest.drop need := by
  intro fuel
  induction fuel with
  | zero =>
    intro s need acc hf
    obtain rfl := Nat.le_zero.mp hf
    simp [fillBreak]
  | succ fuel ih =>
    intro s need acc hf
    rw [fillBreak]
    by_cases h0 : need = 0
    · subst h0
      simp
    · obtain ⟨m, e, hm, hml, hm0⟩ := read_spec s need
      simp only [if_neg h0, e, List.length_take_of_le hml]
      by_cases hz : m = 0
      · have hr : s.rest = [] := List.eq_nil_of_length_eq_zero ((hm0 hz).resolve_left h0)
        simp [hz, hr]
      · obtain ⟨h1, h2⟩ := ih ⟨s.rest.drop m, s.cs.tail⟩ (need - m) (acc ++ s.rest.take m) (sub_le_fuel hf hz)
        rw [if_neg hz, h1, h2, List.length_drop, List.append_assoc acc, take_append_take_drop _ hm,
          drop_drop_sub _ hm, Nat.sub_sub_sub_cancel_right hml]
        exact ⟨rfl, rfl⟩

theorem fillBreak_spec (fuel : Nat) (s : Dec) (need : Nat) (acc : Bytes) (hf : need ≤ fuel) (hl : need ≤ s.rest.length) :
      (fillBreak fuel s need acc).1 = acc ++ s.rest.take need
        ∧ (fillBreak fuel s need acc).2.rest = s.rest.drop need := by
  obtain ⟨h1, h2⟩ := fillBreak_eq fuel s need acc hf
  rw [Nat.sub_eq_zero_of_le hl] at h1
  exact ⟨by rw [h1]; exact List.append_nil _, h2⟩

theorem fillBreak_short :
    ∀ (fuel : Nat) (s : Dec) (need : Nat) (acc : Bytes), need ≤ fuel → s.rest.length < need →
      (fillBreak fuel s need acc).1 = acc ++ s.rest ++ List.replicate (need - s.rest.length) 0 := by
  intro fuel s need acc hf hl
  rw [(fillBreak_eq fuel s need acc hf).1, List.take_of_length_le (Nat.le_of_lt hl)]

theorem countLoop_spec (bufsz : Nat) (hb : 1 ≤ bufsz) :
    ∀ (fuel : Nat) (s : Dec) (acc : Nat), s.rest.length < fuel →
      countLoop bufsz fuel s acc = acc + s.rest.length := by
  intro fuel
  induction fuel with
  | zero => intro s acc h; cases h
  | succ fuel ih =>
    intro s acc h
    obtain ⟨m, e, hm, hml, hm0⟩ := read_spec s bufsz
    rw [countLoop]
    simp only [e, List.length_take_of_le hml]
    by_cases hz : m = 0
    · rw [if_pos hz, (hm0 hz).resolve_left (Nat.ne_of_gt hb)]; rfl
    · rw [if_neg hz, ih _ _ (by rw [List.length_drop]; exact sub_lt_fuel h hz hml), List.length_drop, Nat.add_assoc,
        Nat.add_sub_cancel' hml]

theorem copyLoopG_spec (bufsz : Nat) (hb : 1 ≤ bufsz) :
    ∀ (fuel : Nat) (s : Dec) (acc : Bytes), s.rest.length < fuel →
      copyLoopG true bufsz fuel s acc = acc ++ s.rest := by
  intro fuel
  induction fuel with
  | zero => intro s acc h; cases h
  | succ fuel ih =>
    intro s acc h
    obtain ⟨m, e, hm, hml, hm0⟩ := read_spec s bufsz
    rw [copyLoopG]
    simp only [e, List.length_take_of_le hml]
    by_cases hz : m = 0
    · rw [if_pos hz, List.eq_nil_of_length_eq_zero ((hm0 hz).resolve_left (Nat.ne_of_gt hb)), List.append_nil]
    · rw [if_neg hz, if_neg (by simp), ih _ _ (by rw [List.length_drop]; exact sub_lt_fuel h hz hml), List.append_assoc,
        List.take_append_drop]

/-- unfolds the generated `NTF_COPY_STOPS_ONLY_AT_EOF`: with a further exit in the loop this is not provable -/
theorem copyLoop_spec (bufsz : Nat) (hb : 1 ≤ bufsz) :
    ∀ (fuel : Nat) (s : Dec) (acc : Bytes), s.rest.length < fuel →
      copyLoop bufsz fuel s acc = acc ++ s.rest :=
  copyLoopG_spec bufsz hb

theorem mget_some_mem {m : BMap} {k : Nat} {b : Bytes} (h : mget m k = some b) : (k, b) ∈ m := by
  obtain ⟨p, hf, rfl⟩ := Option.map_eq_some_iff.mp h
  have hk := List.find?_some hf
  simp only [beq_iff_eq] at hk
  subst hk
  exact List.mem_of_find?_eq_some hf

theorem mget_cons (m : BMap) (j k : Nat) (b : Bytes) :
    mget ((j, b) :: m) k = if j = k then some b else mget m k := by
  unfold mget
  rw [List.find?_cons]
  by_cases h : j = k
  · simp [h]
  · have : ((j, b).1 == k) = false := by simpa using h
    simp [this, h]

theorem mget_mdel_self (m : BMap) (k : Nat) : mget (mdel m k) k = none := by
  unfold mget mdel
  rw [find?_filter_key_self Prod.fst]; rfl

theorem mget_mdel_ne (m : BMap) (j k : Nat) (h : j ≠ k) : mget (mdel m k) j = mget m j := by
  unfold mget mdel
  rw [find?_filter_key_ne Prod.fst m h]

theorem mget_mins_self (m : BMap) (k : Nat) (b : Bytes) : mget (mins m k b) k = some b := by
  unfold mins; rw [mget_cons, if_pos rfl]

theorem mget_mins_ne (m : BMap) (j k : Nat) (b : Bytes) (h : j ≠ k) : mget (mins m k b) j = mget m j := by
  unfold mins; rw [mget_cons, if_neg (Ne.symm h), mget_mdel_ne m j k h]

theorem forall_mdel {P : Nat × Bytes → Prop} {m : BMap} (h : ∀ p ∈ m, P p) (k : Nat) : ∀ p ∈ mdel m k, P p :=
  fun p hp => h p (List.mem_filter.mp hp).1

theorem forall_mins {P : Nat × Bytes → Prop} {m : BMap} (h : ∀ p ∈ m, P p) (k : Nat) (b : Bytes)
    (hk : P (k, b)) : ∀ p ∈ mins m k b, P p :=
  fun p hp => (List.mem_cons.mp hp).elim (fun e => e ▸ hk) (forall_mdel h k p)

theorem forall_lruPut {P : Nat × Bytes → Prop} {m : BMap} (h : ∀ p ∈ m, P p) (k : Nat) (b : Bytes)
    (hk : P (k, b)) : ∀ p ∈ lruPut m k b, P p :=
  fun p hp => forall_mins h k b hk p (List.mem_of_mem_take hp)

/-- `≠ []`: a block found in a cache then shows `d ≠ []`, without which `specRes` is `done` -/
def Good (d : Bytes) (bs : Nat) (m : BMap) : Prop := ∀ p ∈ m, p.2 = blockAt d bs p.1 ∧ p.2 ≠ []

theorem Good.nil (d : Bytes) (bs : Nat) : Good d bs [] := fun _ hp => nomatch hp

theorem Good.mdel {d : Bytes} {bs : Nat} {m : BMap} (h : Good d bs m) (k : Nat) : Good d bs (mdel m k) :=
  forall_mdel h k

theorem Good.mins {d : Bytes} {bs : Nat} {m : BMap} (h : Good d bs m) (k : Nat) (b : Bytes)
    (hb : b = blockAt d bs k) (hne : b ≠ []) : Good d bs (mins m k b) :=
  forall_mins h k b ⟨hb, hne⟩

theorem Good.lruPut {d : Bytes} {bs : Nat} {m : BMap} (h : Good d bs m) (k : Nat) (b : Bytes)
    (hb : b = blockAt d bs k) (hne : b ≠ []) : Good d bs (lruPut m k b) :=
  forall_lruPut h k b ⟨hb, hne⟩

theorem Good.get {d : Bytes} {bs : Nat} {m : BMap} (h : Good d bs m) {k : Nat} {b : Bytes}
    (hg : mget m k = some b) : b = blockAt d bs k ∧ b ≠ [] := h (k, b) (mget_some_mem hg)

theorem maxRead_eq (r : Rd) (n : Nat) (h : ∀ j, j ∈ r.blocksRead ↔ j < n) : r.maxRead = n - 1 := by
  unfold Rd.maxRead
  have hmem : r.blocksRead.foldl max 0 = 0 ∨ r.blocksRead.foldl max 0 ∈ r.blocksRead :=
    (foldl_maxBy_spec id r.blocksRead 0).1.imp_right fun ⟨_, hx, e⟩ => e ▸ hx
  rcases n with _ | m
  · rcases hmem with hm | hm
    · exact hm
    · exact absurd ((h _).mp hm) (Nat.not_lt_zero _)
  · have h1 := (foldl_max_ge r.blocksRead 0).2 m ((h m).mpr (Nat.lt_succ_self m))
    rcases hmem with hm | hm
    · rw [hm] at h1 ⊢
      exact (Nat.le_zero.mp h1).symm
    · exact Nat.le_antisymm (Nat.le_of_lt_succ ((h _).mp hm)) h1

theorem blockAt_ne_nil (d : Bytes) (bs k : Nat) (hbs : 1 ≤ bs) (hd : d ≠ [])
    (hk : k ≤ blockOffsetLast d.length bs) : blockAt d bs k ≠ [] := by
  have hn : 0 < d.length := List.length_pos_iff.mpr hd
  have := (le_blockOffsetLast_iff d.length bs k hbs hn).mp hk
  rw [← List.length_pos_iff, blockAt_length]
  omega

theorem last_eq (d : Bytes) (r : Rd) (hf : r.fsz = d.length) : r.last = blockOffsetLast d.length r.bs := by
  unfold Rd.last; rw [hf]

theorem szAt_eq (d : Bytes) (r : Rd) (k : Nat) (hbs : 1 ≤ r.bs) (hf : r.fsz = d.length) (hd : d ≠ [])
    (hk : k ≤ blockOffsetLast d.length r.bs) : r.szAt k = (blockAt d r.bs k).length := by
  unfold Rd.szAt Rd.last
  rw [hf, blockAt_length_eq_blockSz d r.bs k hbs hd hk]

theorem szAt_nil (r : Rd) (k : Nat) (h : r.fsz = 0) : r.szAt k = 0 := by
  simp [Rd.szAt, blockSzAtBlockOffset, h]

theorem block_in_range (d : Bytes) (r : Rd) (k : Nat) (hbs : 1 ≤ r.bs) (hf : r.fsz = d.length) (hd : d ≠ [])
    (hk : k ≤ blockOffsetLast d.length r.bs) :
    r.szAt k ≠ 0 ∧ r.szAt k ≤ r.bs ∧ r.szAt k ≤ (d.drop (k * r.bs)).length
      ∧ (d.drop (k * r.bs)).take (r.szAt k) = blockAt d r.bs k
      ∧ (d.drop (k * r.bs)).drop (r.szAt k) = d.drop ((k + 1) * r.bs) := by
  have hne := blockAt_ne_nil d r.bs k hbs hd hk
  rw [szAt_eq d r k hbs hf hd hk]
  refine ⟨fun h => hne (List.eq_nil_of_length_eq_zero h), ?_, ?_, ?_, ?_⟩
  · exact blockAt_length d r.bs k ▸ Nat.min_le_left _ _
  · exact List.length_take_le' _ _
  · unfold blockAt
    rw [List.length_take, ← List.take_eq_take_min]
  · unfold blockAt
    rw [List.length_take, ← List.drop_eq_drop_min, List.drop_drop, Nat.add_mul, Nat.one_mul]

theorem specRes_found (d : Bytes) (bs k : Nat) (hk : k ≤ blockOffsetLast d.length bs) (hd : d ≠ []) :
    specRes d bs k = .found (blockAt d bs k) := by
  unfold specRes
  rw [if_neg (Nat.not_lt.mpr hk)]
  cases d with
  | nil => exact absurd rfl hd
  | cons _ _ => rfl

theorem specRes_nil (bs k : Nat) : specRes [] bs k = .done := by
  unfold specRes; split <;> rfl

theorem specRes_done (d : Bytes) (bs k : Nat) (hk : k > blockOffsetLast d.length bs) : specRes d bs k = .done :=
  if_pos hk

/-- `read_block(k)` was answered from a cache (the LRU cache, or `blocks`) and leaves the LRU cache `l'` -/
structure CacheHit (d : Bytes) (r : Rd) (k : Nat) (l' : BMap) : Prop where
  cached : mget r.lru k ≠ none ∨ k ∈ r.blocksRead
  good : Good d r.bs l'
  sub : ∀ p ∈ l', p ∈ mins r.lru k (blockAt d r.bs k)

/-- the four ways of `read_block`: `Done` above the last block; a cache hit (only the LRU cache changes);
`dispatch` after forgetting a block that was read and is gone; `dispatch` on a first request -/
theorem readBlock_cases (d : Bytes) (r : Rd) (k : Nat) (hf : r.fsz = d.length)
    (hg : k ≤ blockOffsetLast d.length r.bs → ∀ b, mget r.blocks k = some b → b = blockAt d r.bs k ∧ b ≠ [])
    (hgl : Good d r.bs r.lru) :
    (blockOffsetLast d.length r.bs < k ∧ readBlock r k = (specRes d r.bs k, r))
    ∨ k ≤ blockOffsetLast d.length r.bs ∧
      ((∃ l', CacheHit d r k l' ∧ readBlock r k = (specRes d r.bs k, { r with lru := l' }))
       ∨ (k ∈ r.blocksRead ∧ mget r.blocks k = none
          ∧ readBlock r k = dispatch { r with blocksRead := r.blocksRead.erase k } k)
       ∨ (k ∉ r.blocksRead ∧ readBlock r k = dispatch r k)) := by
  have hlast := last_eq d r hf
  unfold readBlock
  by_cases hk : k > r.last
  · rw [if_pos hk, specRes_done d r.bs k (hlast ▸ hk)]
    exact Or.inl ⟨hlast ▸ hk, rfl⟩
  · have hk' : k ≤ blockOffsetLast d.length r.bs := hlast ▸ Nat.le_of_not_gt hk
    have found : blockAt d r.bs k ≠ [] → specRes d r.bs k = .found (blockAt d r.bs k)
        ∧ Good d r.bs (mins r.lru k (blockAt d r.bs k)) := fun hne =>
      ⟨specRes_found d r.bs k hk' (by rintro rfl; exact hne (by simp [blockAt])), hgl.mins k _ rfl hne⟩
    rw [if_neg hk]
    refine Or.inr ⟨hk', ?_⟩
    cases hl : mget r.lru k with
    | some b =>
      obtain ⟨rfl, hne⟩ := hgl.get hl
      obtain ⟨e, g⟩ := found hne
      exact Or.inl ⟨_, ⟨Or.inl (hl ▸ nofun), g, fun _ hp => hp⟩, by rw [e]⟩
    | none =>
      by_cases hm : k ∈ r.blocksRead
      · rw [if_pos hm]
        cases hb : mget r.blocks k with
        | some b =>
          obtain ⟨rfl, hne⟩ := hg hk' b hb
          obtain ⟨e, g⟩ := found hne
          exact Or.inl ⟨_, ⟨Or.inr hm, fun p hp => g p (List.mem_of_mem_take hp),
            fun _ hp => List.mem_of_mem_take hp⟩, by rw [e]; rfl⟩
        | none => exact Or.inr (Or.inl ⟨hm, rfl, rfl⟩)
      · rw [if_neg hm]
        exact Or.inr (Or.inr ⟨hm, rfl⟩)

def Answers (d : Bytes) (I : Rd → Prop) (f : Rd → Nat → S4V.Model.Stream.Res × Rd) (r : Rd) (k : Nat) : Prop :=
  ∃ r', f r k = (specRes d r.bs k, r') ∧ I r' ∧ r'.bs = r.bs

theorem Answers.at_bs {bs : Nat} (h : Answers d I f r k) (hb : r.bs = bs) :
    ∃ r', f r k = (specRes d bs k, r') ∧ I r' ∧ r'.bs = bs :=
  let ⟨r', e, hi, hb'⟩ := h
  ⟨r', hb ▸ e, hi, hb'.trans hb⟩

theorem readSeq_of_step {I : Rd → Prop} {d : Bytes} (step : ∀ r k, I r → Answers d I readBlock r k) :
    ∀ (ks : List Nat) (r : Rd), I r → (readSeq r ks).1 = ks.map (specRes d r.bs) := by
  intro ks
  induction ks with
  | nil => intro r _; rfl
  | cons k ks ih =>
    intro r h
    obtain ⟨r', e1, e2, e3⟩ := step r k h
    simp only [readSeq, List.map_cons, e1]
    rw [ih r' e2, e3]

theorem readSeq_append (r : Rd) (ks : List Nat) (k : Nat) :
    readSeq r (ks ++ [k]) = ((readSeq r ks).1 ++ [(readBlock (readSeq r ks).2 k).1], (readBlock (readSeq r ks).2 k).2) := by
  induction ks generalizing r with
  | nil => simp [readSeq]
  | cons a ks ih => simp [readSeq, ih]

/-- for the readers whose `dispatch` serves every in-range block whatever is cached (plain file, tar member).
`upd`: the invariant does not look at `blocks_read` and asks of the LRU cache only that it is `Good` -/
theorem readBlock_of_dispatch {I : Rd → Prop} {d : Bytes}
    (base : ∀ r, I r → r.fsz = d.length ∧ Good d r.bs r.blocks ∧ Good d r.bs r.lru)
    (upd : ∀ r l' br, I r → Good d r.bs l' → I { r with lru := l', blocksRead := br })
    (disp : ∀ r k, I r → k ≤ blockOffsetLast d.length r.bs → Answers d I dispatch r k)
    (r : Rd) (k : Nat) (h : I r) : Answers d I readBlock r k := by
  unfold Answers
  obtain ⟨hf, hg, hgl⟩ := base r h
  rcases readBlock_cases d r k hf (fun _ _ hb => hg.get hb) hgl with
    ⟨_, e⟩ | ⟨hk, ⟨l', hc, e⟩ | ⟨_, _, e⟩ | ⟨_, e⟩⟩
  · exact ⟨r, e, h, rfl⟩
  · exact ⟨_, e, upd r l' r.blocksRead h hc.good, rfl⟩
  · rw [e]; exact disp _ k (upd r r.lru _ h hgl) hk
  · rw [e]; exact disp r k h hk

/-! ### the plain reader -/

structure PInv (d : Bytes) (r : Rd) : Prop where
  hbs : 1 ≤ r.bs
  hfsz : r.fsz = d.length
  hsrc : r.src = d
  hkind : r.kind = .plain
  good : Good d r.bs r.blocks
  goodL : Good d r.bs r.lru

theorem readFile_spec (d : Bytes) (r : Rd) (k : Nat) (h : PInv d r)
    (hk : k ≤ blockOffsetLast d.length r.bs) :
    Answers d (PInv d) readFile r k := by
  unfold Answers readFile
  by_cases hd : d = []
  · subst hd
    rw [szAt_nil r k h.hfsz, specRes_nil, if_neg (Nat.not_lt_zero _), if_pos rfl]
    exact ⟨r, rfl, h, rfl⟩
  · obtain ⟨h0, _, hle, eb, _⟩ := block_in_range d r k h.hbs h.hfsz hd hk
    have hne := blockAt_ne_nil d r.bs k h.hbs hd hk
    rw [h.hsrc, Nat.mul_comm, if_neg (Nat.not_lt.mpr hle), if_neg h0, eb, specRes_found d r.bs k hk hd]
    exact ⟨_, rfl, { h with good := h.good.mins k _ rfl hne, goodL := h.goodL.lruPut k _ rfl hne }, rfl⟩

theorem readBlock_plain (d : Bytes) (r : Rd) (k : Nat) (h : PInv d r) :
    Answers d (PInv d) readBlock r k :=
  readBlock_of_dispatch (I := PInv d) (fun _ h => ⟨h.hfsz, h.good, h.goodL⟩)
    (fun _ _ _ h hl => { h with goodL := hl })
    (fun r k h hk => by unfold Answers dispatch; rw [h.hkind]; exact readFile_spec d r k h hk) r k h

theorem PInv.new (bs : Nat) (d : Bytes) (cs csPre : List Nat) (hbs : 1 ≤ bs) :
    PInv d (Rd.new .plain bs d cs csPre) :=
  ⟨hbs, rfl, rfl, rfl, Good.nil _ _, Good.nil _ _⟩

/-! ### tar: the member is read whole on the first miss -/

structure TInv (d : Bytes) (r : Rd) : Prop where
  hbs : 1 ≤ r.bs
  hfsz : r.fsz = d.length
  hsrc : r.src = d
  hkind : r.kind = .tar
  good : Good d r.bs r.blocks
  goodL : Good d r.bs r.lru

theorem tarLoop_spec (d : Bytes) (hd : d ≠ []) :
    ∀ (n : Nat) (r : Rd) (bo : Nat), TInv d r → bo + n = blockOffsetLast d.length r.bs + 1 →
      ∃ r', tarLoop n r (d.drop (bo * r.bs)) bo = some r' ∧ TInv d r' ∧ r'.bs = r.bs
        ∧ (∀ k, bo ≤ k → k ≤ blockOffsetLast d.length r.bs → mget r'.blocks k = some (blockAt d r.bs k))
        ∧ (∀ k, k < bo → mget r'.blocks k = mget r.blocks k) := by
  intro n
  induction n with
  | zero =>
    intro r bo h hn
    exact ⟨r, rfl, h, rfl,
      fun k h1 h2 => absurd (Nat.le_trans (Nat.le_of_eq hn.symm) (Nat.le_trans h1 h2)) (Nat.not_succ_le_self _),
      fun _ _ => rfl⟩
  | succ n ih =>
    intro r bo h hn
    have hbo : bo ≤ blockOffsetLast d.length r.bs :=
      Nat.le_of_succ_le_succ (Nat.le_trans (Nat.add_le_add_left (Nat.succ_pos n) bo) (Nat.le_of_eq hn))
    obtain ⟨h0, _, hle, eb, er⟩ := block_in_range d r bo h.hbs h.hfsz hd hbo
    have hne := blockAt_ne_nil d r.bs bo h.hbs hd hbo
    obtain ⟨r', hrun, hinv, hbs', hnew, hold⟩ := ih (storeBlock r bo (blockAt d r.bs bo)) (bo + 1)
      { h with good := h.good.mins bo _ rfl hne }
      (by rw [Nat.add_right_comm]; exact hn)
    rw [tarLoop, if_neg (Nat.not_lt.mpr hle), if_neg h0, eb, er]
    refine ⟨r', hrun, hinv, hbs', fun k hk1 hk2 => ?_, fun k hk => ?_⟩
    · rcases Nat.eq_or_lt_of_le hk1 with rfl | hlt
      · rw [hold bo (Nat.lt_succ_self _)]
        exact mget_mins_self _ _ _
      · exact hnew k hlt hk2
    · rw [hold k (Nat.lt_succ_of_lt hk)]
      exact mget_mins_ne _ _ _ _ (Nat.ne_of_lt hk)

theorem readTar_spec (d : Bytes) (r : Rd) (k : Nat) (h : TInv d r) (hk : k ≤ blockOffsetLast d.length r.bs) :
    Answers d (TInv d) readTar r k := by
  unfold Answers readTar
  by_cases hd : d = []
  · subst hd
    rw [if_pos (show r.fsz = 0 from h.hfsz), specRes_nil]
    exact ⟨r, rfl, h, rfl⟩
  · obtain ⟨r', hrun, hinv, hbs', hnew, _⟩ := tarLoop_spec d hd (blockOffsetLast d.length r.bs + 1) r 0 h (Nat.zero_add _)
    rw [Nat.zero_mul, List.drop_zero] at hrun
    rw [if_neg (by rw [h.hfsz]; exact fun h0 => hd (List.eq_nil_of_length_eq_zero h0)), last_eq d r h.hfsz,
      h.hsrc, hrun]
    simp only [hnew k (Nat.zero_le _) hk, specRes_found d r.bs k hk hd]
    exact ⟨r', rfl, hinv, hbs'⟩

theorem readBlock_tar (d : Bytes) (r : Rd) (k : Nat) (h : TInv d r) :
    Answers d (TInv d) readBlock r k :=
  readBlock_of_dispatch (I := TInv d) (fun _ h => ⟨h.hfsz, h.good, h.goodL⟩)
    (fun _ _ _ h hl => { h with goodL := hl })
    (fun r k h hk => by unfold Answers dispatch; rw [h.hkind]; exact readTar_spec d r k h hk) r k h

theorem TInv.new (bs : Nat) (d : Bytes) (cs csPre : List Nat) (hbs : 1 ≤ bs) :
    TInv d (Rd.new .tar bs d cs csPre) :=
  ⟨hbs, rfl, rfl, rfl, Good.nil _ _, Good.nil _ _⟩

/-! ### xz: all blocks made in `new` -/

/-- the blocks `n - 1, …, 0` in the order the split loop leaves them -/
def xzList (d : Bytes) (bs n : Nat) : BMap := ((List.range n).map fun k => (k, blockAt d bs k)).reverse

theorem xzList_succ (d : Bytes) (bs n : Nat) : xzList d bs (n + 1) = (n, blockAt d bs n) :: xzList d bs n := by
  rw [xzList, List.range_succ, List.map_append, List.reverse_append]
  rfl

theorem xzList_keys (d : Bytes) (bs n : Nat) : ∀ p ∈ xzList d bs n, p.1 < n := fun p hp => by
  obtain ⟨k, hk, rfl⟩ := List.mem_map.mp (List.mem_reverse.mp hp)
  exact List.mem_range.mp hk

theorem mdel_of_keys_lt (m : BMap) (k : Nat) (h : ∀ p ∈ m, p.1 < k) : mdel m k = m :=
  List.filter_eq_self.mpr fun p hp => bne_iff_ne.mpr (Nat.ne_of_lt (h p hp))

theorem xz_slice (d : Bytes) (bs bo : Nat) :
    (d.take (bo * bs + min bs (d.length - bo * bs))).drop (bo * bs) = blockAt d bs bo := by
  unfold blockAt
  rw [List.drop_take, Nat.add_sub_cancel_left, ← List.length_drop, ← List.take_eq_take_min]

theorem xzSplit_eq (d : Bytes) (bs : Nat) : ∀ (n bo : Nat),
    xzSplit d bs n bo (xzList d bs bo) (List.range bo).reverse
      = (xzList d bs (bo + n), (List.range (bo + n)).reverse) := by
  intro n
  induction n with
  | zero => intro bo; rfl
  | succ n ih =>
    intro bo
    have hins : mins (xzList d bs bo) bo (blockAt d bs bo) = xzList d bs (bo + 1) := by
      rw [xzList_succ]; exact congrArg _ (mdel_of_keys_lt _ _ (xzList_keys d bs bo))
    rw [xzSplit]
    simp only [List.mem_reverse, List.mem_range, Nat.lt_irrefl, if_false, xz_slice, hins]
    rw [← Nat.add_assoc, Nat.add_right_comm bo n 1, ← ih (bo + 1), List.range_succ, List.reverse_append]
    rfl

theorem mget_xzList (d : Bytes) (bs n k : Nat) (hk : k < n) : mget (xzList d bs n) k = some (blockAt d bs k) := by
  induction n with
  | zero => cases hk
  | succ n ih =>
    rw [xzList_succ, mget_cons]
    by_cases h : n = k
    · rw [if_pos h, h]
    · rw [if_neg h]; exact ih (Nat.lt_of_le_of_ne (Nat.le_of_lt_succ hk) (Ne.symm h))

/-- the stored blocks tile the first `n * bs` bytes (`flatMap_blockAt_take`), so their lengths add up to that -/
theorem xzList_sum (d : Bytes) (bs n : Nat) :
    ((xzList d bs n).map (·.2.length)).sum = min (n * bs) d.length := by
  rw [← List.length_take, ← flatMap_blockAt_take, List.length_flatMap, xzList, List.map_reverse, List.sum_reverse,
    List.map_map]
  rfl

/-- `|d| / bs + 1` blocks (`XZ_SPLIT_INCLUSIVE`): when `bs ∣ |d|` the last of them, at key `|d| / bs`, is empty -/
theorem xz_new (bs : Nat) (d : Bytes) (cs csPre : List Nat) (hbs : 1 ≤ bs) (hd : d ≠ []) :
    Rd.new .xz bs d cs csPre =
      { kind := .xz, bs, fsz := d.length, src := d, dec := ⟨[], cs⟩, blocks := xzList d bs (d.length / bs + 1),
        blocksRead := (List.range (d.length / bs + 1)).reverse, lru := [],
        high := (xzList d bs (d.length / bs + 1)).length } := by
  have hemp : d.isEmpty = false := by
    cases d with
    | nil => exact absurd rfl hd
    | cons _ _ => rfl
  have hs : xzSplit d bs (xzRounds d.length bs) 0 [] []
      = (xzList d bs (d.length / bs + 1), (List.range (d.length / bs + 1)).reverse) :=
    (xzSplit_eq d bs (d.length / bs + 1) 0).trans (by rw [Nat.zero_add])
  -- the blocks cover `(|d| / bs + 1) * bs > |d|` bytes, so their lengths add up to `|d|`
  have hsum : ((xzList d bs (d.length / bs + 1)).map (·.2.length)).sum = d.length := by
    rw [xzList_sum, Nat.add_mul]
    have := Nat.lt_div_mul_add (a := d.length) (b := bs) hbs
    omega
  simp only [Rd.new, hemp, Bool.false_eq_true, if_false, hs, hsum]

structure XInv (d : Bytes) (r : Rd) : Prop where
  hbs : 1 ≤ r.bs
  hfsz : r.fsz = d.length
  hd : d ≠ []
  hall : ∀ k, k ≤ blockOffsetLast d.length r.bs → k ∈ r.blocksRead ∧ mget r.blocks k = some (blockAt d r.bs k)
  goodL : Good d r.bs r.lru

/-- xz: every in-range block is served from `blocks`; `read_block_FileXz` is never reached -/
theorem readBlock_xz (d : Bytes) (r : Rd) (k : Nat) (h : XInv d r) :
    Answers d (XInv d) readBlock r k := by
  have held : k ≤ blockOffsetLast d.length r.bs → ∀ b, mget r.blocks k = some b →
      b = blockAt d r.bs k ∧ b ≠ [] := fun hk b hb =>
    Option.some.inj ((h.hall k hk).2.symm.trans hb) ▸ ⟨rfl, blockAt_ne_nil d r.bs k h.hbs h.hd hk⟩
  rcases readBlock_cases d r k h.hfsz held h.goodL with
    ⟨_, e⟩ | ⟨hk, ⟨l', hc, e⟩ | ⟨_, hn, _⟩ | ⟨hn, _⟩⟩
  · exact ⟨r, e, h, rfl⟩
  · exact ⟨_, e, { h with goodL := hc.good }, rfl⟩
  · rw [(h.hall k hk).2] at hn
    cases hn
  · exact absurd (h.hall k hk).1 hn

theorem XInv.new (bs : Nat) (d : Bytes) (cs csPre : List Nat) (hbs : 1 ≤ bs) (hd : d ≠ []) :
    XInv d (Rd.new .xz bs d cs csPre) := by
  rw [xz_new bs d cs csPre hbs hd]
  refine ⟨hbs, rfl, hd, fun k hk => ?_, Good.nil _ _⟩
  have hlt := (le_blockOffsetLast_iff d.length bs k hbs (List.length_pos_iff.mpr hd)).mp hk
  have hkn : k < d.length / bs + 1 :=
    Nat.lt_succ_of_le ((Nat.le_div_iff_mul_le hbs).mpr (Nat.le_of_lt hlt))
  exact ⟨List.mem_reverse.mpr (List.mem_range.mpr hkn), mget_xzList d bs _ k hkn⟩

theorem readSeq_xz_nil (bs : Nat) (cs csPre : List Nat) (ks : List Nat) :
    (readSeq (Rd.new .xz bs [] cs csPre) ks).1 = ks.map (fun _ => S4V.Model.Stream.Res.done) := by
  have hstep : ∀ k, readBlock (Rd.new .xz bs [] cs csPre) k = (.done, Rd.new .xz bs [] cs csPre) := by
    intro k
    unfold readBlock
    by_cases hk : k > (Rd.new .xz bs [] cs csPre).last
    · rw [if_pos hk]
    · rw [if_neg hk]
      simp [Rd.new, mget, dispatch, readXz]
  induction ks with
  | nil => rfl
  | cons k ks ih => simp only [readSeq, hstep, List.map_cons, ih]

/-! ### the streamed readers (gz, bz2, lz4) -/

/-- the kinds whose block decode is right: gz, bz2 and lz4 for every chunking; `lz4Single` (one `read` per
block) only when the decoder fills the buffer -/
def DecOk (kind : Kind) (bs : Nat) (cs : List Nat) : Prop :=
  kind = .gz ∨ kind = .bz2 ∨ kind = .lz4 ∨ (kind = .lz4Single ∧ Fills bs cs)

theorem DecOk.gz {bs cs} : DecOk .gz bs cs := .inl rfl
theorem DecOk.bz2 {bs cs} : DecOk .bz2 bs cs := .inr (.inl rfl)
theorem DecOk.lz4 {bs cs} : DecOk .lz4 bs cs := .inr (.inr (.inl rfl))
theorem DecOk.lz4Single {bs cs} (h : Fills bs cs) : DecOk .lz4Single bs cs := .inr (.inr (.inr ⟨rfl, h⟩))

theorem decodeBlock_spec (kind : Kind) (bs : Nat) (s : Dec) (need : Nat) (hk : DecOk kind bs s.cs)
    (h1 : need ≤ bs) (h2 : need ≤ s.rest.length) :
    ∃ s', decodeBlock kind s need = some (s.rest.take need, s') ∧ s'.rest = s.rest.drop need
      ∧ DecOk kind bs s'.cs := by
  rcases hk with rfl | rfl | rfl | ⟨rfl, hf⟩
  · obtain ⟨s', e1, e2⟩ := fill_spec (some GZ_BUF_SZ) (by intro c hc; cases hc; decide) need s need []
      (Nat.le_refl _) h2
    exact ⟨s', e1, e2, .gz⟩
  · -- bz2, and lz4 next: `exact` unfolds the generated `BZ2_FILL_LOOP` / `LZ4_FILL_LOOP`; were the source to
    -- go back to a single read it would regenerate `false` and the step would no longer close
    obtain ⟨s', e1, e2⟩ := fill_spec none (fun _ hc => nomatch hc) need s need [] (Nat.le_refl _) h2
    exact ⟨s', e1, e2, .bz2⟩
  · obtain ⟨e1, e2⟩ := fillBreak_spec need s need [] (Nat.le_refl _) h2
    exact ⟨_, congrArg (fun b => some (b, _)) e1, e2, .lz4⟩
  · obtain ⟨e1, e2, e3⟩ := readOnce_spec s bs need hf h1 h2
    exact ⟨_, congrArg (fun b => some (b, _)) e1, e2, .lz4Single e3⟩

theorem dispatch_stream (r : Rd) (k : Nat) {bs : Nat} {cs : List Nat} (h : DecOk r.kind bs cs) :
    dispatch r k = readStream r k := by
  unfold dispatch
  rcases h with e | e | e | ⟨e, _⟩ <;> rw [e]

theorem dropBlock_on (r : Rd) (k : Nat) (h : r.dropData = true) :
    dropBlock r k = { r with blocks := mdel r.blocks k, lru := mdel r.lru k } := by
  simp [dropBlock, h]

theorem dropBlock_off (r : Rd) (k : Nat) (h : r.dropData = false) : dropBlock r k = r := by
  simp [dropBlock, h, DROP_BLOCK_GUARDED_BY_DROP_DATA]

theorem dropBlock_kind (r : Rd) (k : Nat) : (dropBlock r k).kind = r.kind := by
  unfold dropBlock; split <;> rfl

theorem dropBlock_bs (r : Rd) (k : Nat) : (dropBlock r k).bs = r.bs := by
  unfold dropBlock; split <;> rfl

theorem dropBlock_cases (r : Rd) (k : Nat) :
    dropBlock r k = r ∨ dropBlock r k = { r with blocks := mdel r.blocks k, lru := mdel r.lru k } := by
  unfold dropBlock
  split
  · exact Or.inl rfl
  · exact Or.inr rfl

/-- whether or not the look-back drop fires -/
theorem afterDecode_eq (r : Rd) (n old : Nat) (b : Bytes) (dec' : Dec) :
    ∃ bl lr, (∀ p ∈ bl, p ∈ mins r.blocks n b) ∧ (∀ p ∈ lr, p ∈ lruPut r.lru n b) ∧
      afterDecode r n old b dec' =
        { r with
          dec := dec', blocks := bl, lru := lr,
          blocksRead := (storeBlock r n b).blocksRead, high := (storeBlock r n b).high } := by
  unfold afterDecode
  split
  · rcases dropBlock_cases (storeLru (storeBlock { r with dec := dec' } n b) n b) old with e | e
    · exact ⟨_, _, fun _ hp => hp, fun _ hp => hp, e⟩
    · exact ⟨_, _, fun _ hp => (List.mem_filter.mp hp).1, fun _ hp => (List.mem_filter.mp hp).1, e⟩
  · exact ⟨_, _, fun _ hp => hp, fun _ hp => hp, rfl⟩

theorem afterDecode_bs (r : Rd) (n old : Nat) (b : Bytes) (dec' : Dec) : (afterDecode r n old b dec').bs = r.bs := by
  obtain ⟨_, _, _, _, e⟩ := afterDecode_eq r n old b dec'
  rw [e]

/-- what the invariants of a streamed reader that has decoded the blocks `< n` share, whether the
look-back drop is on (`SInv`) or off (`KInv`) -/
structure Core (d : Bytes) (r : Rd) (n : Nat) : Prop where
  hbs : 1 ≤ r.bs
  hfsz : r.fsz = d.length
  hk : DecOk r.kind r.bs r.dec.cs
  good : Good d r.bs r.blocks
  goodL : Good d r.bs r.lru
  hread : ∀ j, j ∈ r.blocksRead ↔ j < n
  hpos : r.dec.rest = d.drop (n * r.bs)

theorem Core.step {d : Bytes} {r : Rd} {n : Nat} (h : Core d r n) (hd : d ≠ [])
    (hk : n ≤ blockOffsetLast d.length r.bs) (old : Nat) (dec' : Dec)
    (hrest : dec'.rest = d.drop ((n + 1) * r.bs)) (hok : DecOk r.kind r.bs dec'.cs) :
    Core d (afterDecode r n old (blockAt d r.bs n) dec') (n + 1) := by
  have hne := blockAt_ne_nil d r.bs n h.hbs hd hk
  have hnot : n ∉ r.blocksRead := fun hm => Nat.lt_irrefl n ((h.hread n).mp hm)
  obtain ⟨bl, lr, hbl, hlr, e⟩ := afterDecode_eq r n old (blockAt d r.bs n) dec'
  rw [e]
  simp only [storeBlock, if_neg hnot]
  exact { h with
    hk := hok
    good := fun p hp => h.good.mins n _ rfl hne p (hbl p hp)
    goodL := fun p hp => h.goodL.lruPut n _ rfl hne p (hlr p hp)
    hread := fun j => by rw [List.mem_cons, h.hread j, Nat.lt_succ_iff, Nat.le_iff_lt_or_eq, Or.comm]
    hpos := hrest }

theorem streamLoop_succ {d : Bytes} {r : Rd} {n k : Nat} (h : Core d r n) (hd : d ≠ []) (hnk : n ≤ k)
    (hk : k ≤ blockOffsetLast d.length r.bs) (fuel old : Nat) :
    ∃ dec', dec'.rest = d.drop ((n + 1) * r.bs) ∧ DecOk r.kind r.bs dec'.cs ∧
      streamLoop (fuel + 1) r k n old =
        if n = k then (.found (blockAt d r.bs n), afterDecode r n old (blockAt d r.bs n) dec')
        else streamLoop fuel (afterDecode r n old (blockAt d r.bs n) dec') k (n + 1) n := by
  have hnl := Nat.le_trans hnk hk
  obtain ⟨_, hszle, hle, eb, er⟩ := block_in_range d r n h.hbs h.hfsz hd hnl
  obtain ⟨s', e1, e2, e3⟩ := decodeBlock_spec r.kind r.bs r.dec (r.szAt n) h.hk hszle (by rw [h.hpos]; exact hle)
  rw [h.hpos, eb] at e1
  rw [h.hpos, er] at e2
  have hnot : n ∉ r.blocksRead := fun hm => Nat.lt_irrefl n ((h.hread n).mp hm)
  have hemp : (blockAt d r.bs n).isEmpty = false :=
    Bool.eq_false_iff.mpr fun he => blockAt_ne_nil d r.bs n h.hbs hd hnl (List.isEmpty_iff.mp he)
  refine ⟨s', e2, e3, ?_⟩
  rw [streamLoop, if_pos hnk, if_neg hnot, e1]
  simp only [hemp, Bool.false_eq_true, if_false]

/-- a family of invariants `J r n` ("the blocks `< n` are decoded") of the streamed reader, kept by
decoding the next block and by changes to the LRU cache that `read_block` makes -/
structure Streamed (d : Bytes) (J : Rd → Nat → Prop) : Prop where
  core : ∀ {r n}, J r n → Core d r n
  step : ∀ {r n} (dec' : Dec), J r n → d ≠ [] → n ≤ blockOffsetLast d.length r.bs →
    dec'.rest = d.drop ((n + 1) * r.bs) → DecOk r.kind r.bs dec'.cs →
    J (afterDecode r n (n - 1) (blockAt d r.bs n) dec') (n + 1)
  lru : ∀ {r n k l'}, J r n → CacheHit d r k l' → J { r with lru := l' } n

theorem Streamed.streamLoop_spec {d : Bytes} {J : Rd → Nat → Prop} (hJ : Streamed d J) (hd : d ≠ []) :
    ∀ (fuel : Nat) (r : Rd) (n k : Nat), J r n → n ≤ k → k ≤ blockOffsetLast d.length r.bs →
      k + 1 - n ≤ fuel →
      ∃ r', streamLoop fuel r k n (n - 1) = (.found (blockAt d r.bs k), r') ∧ J r' (k + 1) ∧ r'.bs = r.bs := by
  intro fuel
  induction fuel with
  | zero =>
    intro r n k _ hnk _ hfuel
    exact absurd (Nat.le_trans (Nat.sub_eq_zero_iff_le.mp (Nat.le_zero.mp hfuel)) hnk) (Nat.not_succ_le_self k)
  | succ fuel ih =>
    intro r n k h hnk hk hfuel
    obtain ⟨dec', hrest, hok, e⟩ := streamLoop_succ (hJ.core h) hd hnk hk fuel (n - 1)
    have hs := hJ.step dec' h hd (Nat.le_trans hnk hk) hrest hok
    have hb := afterDecode_bs r n (n - 1) (blockAt d r.bs n) dec'
    rw [e]
    by_cases hlast : n = k
    · subst hlast
      rw [if_pos rfl]
      exact ⟨_, rfl, hs, hb⟩
    · obtain ⟨r', hrun, hinv, hbs'⟩ := ih _ (n + 1) k hs (Nat.lt_of_le_of_ne hnk hlast) (by rw [hb]; exact hk)
        (Nat.pred_le_pred hfuel)
      rw [Nat.add_sub_cancel, hb] at hrun
      rw [if_neg hlast]
      exact ⟨r', hrun, hinv, hbs'.trans hb⟩

theorem Streamed.readStream_spec {d : Bytes} {J : Rd → Nat → Prop} (hJ : Streamed d J) (hd : d ≠ []) {r : Rd}
    {n k : Nat} (h : J r n) (hnk : n ≤ k) (hk : k ≤ blockOffsetLast d.length r.bs) :
    ∃ r', readStream r k = (.found (blockAt d r.bs k), r') ∧ J r' (k + 1) ∧ r'.bs = r.bs := by
  have c := hJ.core h
  unfold readStream
  rw [if_neg (by rw [c.hfsz]; exact fun h0 => hd (List.eq_nil_of_length_eq_zero h0)), maxRead_eq r n c.hread]
  rcases n with _ | m
  · exact hJ.streamLoop_spec hd (k + 2) r 0 k h hnk hk (Nat.le_succ _)
  · -- the loop starts at the highest block read, `m`, and steps over it
    obtain ⟨r', f1, f2, f3⟩ := hJ.streamLoop_spec hd (k + 1) r (m + 1) k h hnk hk (Nat.sub_le _ _)
    refine ⟨r', ?_, f2, f3⟩
    rw [Nat.add_sub_cancel] at f1 ⊢
    rw [streamLoop, if_pos (Nat.le_of_succ_le hnk), if_pos ((c.hread m).mpr (Nat.lt_succ_self m)),
      if_neg (Nat.ne_of_lt hnk)]
    exact f1

/-- the plain reader's answer; then either nothing more is decoded (and `k`, if a block of `d`, was found in a
cache, from which `SInv` concludes `k < n`) or `n ≤ k` and the blocks up to `k` are -/
theorem Streamed.readBlock_spec {d : Bytes} {J : Rd → Nat → Prop} (hJ : Streamed d J) {r : Rd} {n : Nat}
    (h : J r n) (k : Nat) (hheld : k < n → mget r.blocks k = some (blockAt d r.bs k)) :
    ∃ r' n', readBlock r k = (specRes d r.bs k, r') ∧ J r' n' ∧ r'.bs = r.bs ∧
      (n' = n ∧ (k ≤ blockOffsetLast d.length r.bs → d ≠ [] → mget r.lru k ≠ none ∨ k ∈ r.blocksRead)
        ∨ n ≤ k ∧ n' = k + 1) := by
  have c := hJ.core h
  rcases readBlock_cases d r k c.hfsz (fun _ _ hb => c.good.get hb) c.goodL with
    ⟨hk, e⟩ | ⟨hk', ⟨l', hc, e⟩ | ⟨hm, hb, _⟩ | ⟨hm, e⟩⟩
  · exact ⟨r, n, e, h, rfl, .inl ⟨rfl, fun hk' => absurd hk' (Nat.not_le.mpr hk)⟩⟩
  · exact ⟨_, n, e, hJ.lru h hc, rfl, .inl ⟨rfl, fun _ _ => hc.cached⟩⟩
  · have := hheld ((c.hread k).mp hm)
    rw [hb] at this
    cases this
  · have hnk : n ≤ k := Nat.le_of_not_lt fun hlt => hm ((c.hread k).mpr hlt)
    rw [e, dispatch_stream r k c.hk]
    by_cases hd : d = []
    · subst hd
      refine ⟨r, n, ?_, h, rfl, .inl ⟨rfl, fun _ hd => absurd rfl hd⟩⟩
      unfold readStream
      rw [if_pos (show r.fsz = 0 from c.hfsz), specRes_nil]
    · obtain ⟨r', f1, f2, f3⟩ := hJ.readStream_spec hd h hnk hk'
      exact ⟨r', k + 1, by rw [f1, specRes_found d r.bs k hk' hd], f2, f3, .inr ⟨hnk, rfl⟩⟩

/-- a streamed reader with `drop_data` on (as `new` leaves it) after the blocks `< n` were decoded -/
structure SInv (d : Bytes) (r : Rd) (n : Nat) : Prop extends Core d r n where
  hlruKeys : ∀ p ∈ r.lru, p.1 < n
  /-- the look-back drop as coded: exactly one block, the highest decoded, is held between calls -/
  hblocks : r.blocks = if n = 0 then [] else [(n - 1, blockAt d r.bs (n - 1))]
  /-- 2: the block just stored and, until the drop, its predecessor -/
  hhigh : r.high ≤ 2
  hdd : r.dropData = true

theorem SInv.htop {d : Bytes} {r : Rd} {n : Nat} (h : SInv d r n) (hn : 0 < n) :
    mget r.blocks (n - 1) = some (blockAt d r.bs (n - 1)) := by
  rw [h.hblocks, if_neg (Nat.ne_of_gt hn), mget_cons, if_pos rfl]

theorem SInv.hdropped {d : Bytes} {r : Rd} {n : Nat} (h : SInv d r n) (j : Nat) (hj : j + 1 < n) :
    mget r.blocks j = none := by
  rw [h.hblocks, if_neg (by omega), mget_cons, if_neg (by omega)]
  rfl

theorem SInv.lt_of_cached {d : Bytes} {r : Rd} {n k : Nat} (h : SInv d r n)
    (hc : mget r.lru k ≠ none ∨ k ∈ r.blocksRead) : k < n :=
  hc.elim
    (fun hl => by
      cases hg : mget r.lru k with
      | none => exact absurd hg hl
      | some b => exact h.hlruKeys _ (mget_some_mem hg))
    (h.hread k).mp

theorem afterDecode_drop (r : Rd) (n : Nat) (b : Bytes) (dec' : Dec) (h : r.dropData = true) :
    (afterDecode r n (n - 1) b dec').blocks
        = (if n = 0 then mins r.blocks n b else mdel (mins r.blocks n b) (n - 1))
      ∧ (afterDecode r n (n - 1) b dec').high = max r.high (mins r.blocks n b).length
      ∧ (afterDecode r n (n - 1) b dec').dropData = true := by
  by_cases h0 : n = 0
  · subst h0
    simp [afterDecode, storeLru, storeBlock, h]
  · have hlt : n - 1 < n := by omega
    simp [afterDecode, READ_BLOCK_LOOKBACK_DROP, hlt, dropBlock, h, storeLru, storeBlock, h0]

theorem mdel_mins_single (n : Nat) (x b : Bytes) (hn : n ≠ 0) : mdel (mins [(n - 1, x)] n b) (n - 1) = [(n, b)] := by
  have e1 : (n - 1 != n) = true := by simp; omega
  have e2 : (n != n - 1) = true := by simp; omega
  simp [mins, mdel, List.filter, e1, e2]

theorem sinv_streamed (d : Bytes) : Streamed d (SInv d) where
  core h := h.toCore
  step {r n} dec' h hd hk hrest hok := by
    obtain ⟨e1, e2, e3⟩ := afterDecode_drop r n (blockAt d r.bs n) dec' h.hdd
    obtain ⟨_, lr, _, hlr, e⟩ := afterDecode_eq r n (n - 1) (blockAt d r.bs n) dec'
    have hlen : (mins r.blocks n (blockAt d r.bs n)).length ≤ 2 := by
      rw [h.hblocks]
      split <;> exact Nat.succ_le_succ (Nat.le_trans (List.length_filter_le _ _) (by simp))
    refine
      { toCore := h.toCore.step hd hk _ dec' hrest hok
        hlruKeys := ?_
        hblocks := ?_
        hhigh := e2 ▸ Nat.max_le.mpr ⟨h.hhigh, hlen⟩
        hdd := e3 }
    · rw [e]
      exact fun p hp => forall_lruPut (P := fun p => p.1 < n + 1)
        (fun p hp => Nat.lt_succ_of_lt (h.hlruKeys p hp)) n _ (Nat.lt_succ_self n) p (hlr p hp)
    · rw [e1, afterDecode_bs, h.hblocks, if_neg (Nat.succ_ne_zero n), Nat.add_sub_cancel]
      by_cases h0 : n = 0
      · subst h0; rfl
      · rw [if_neg h0, if_neg h0, mdel_mins_single n _ _ h0]
  lru {r n k _} h hc :=
    { h with
      goodL := hc.good
      hlruKeys := fun p hp =>
        forall_mins (P := fun p => p.1 < n) h.hlruKeys k _ (h.lt_of_cached hc.cached) p (hc.sub p hp) }

theorem readBlock_stream (d : Bytes) (r : Rd) (n k : Nat) (h : SInv d r n) (hord : n ≤ k + 1) :
    ∃ r' n', readBlock r k = (specRes d r.bs k, r') ∧ SInv d r' n' ∧ r'.bs = r.bs ∧ n' ≤ k + 1
      ∧ (d ≠ [] → k ≤ blockOffsetLast d.length r.bs → n' = k + 1) := by
  obtain ⟨r', n', e, h', hb, hn'⟩ := (sinv_streamed d).readBlock_spec h k fun hlt => by
    obtain rfl : n = k + 1 := Nat.le_antisymm hord hlt
    exact h.htop (Nat.succ_pos k)
  refine ⟨r', n', e, h', hb, ?_, fun hd hk => ?_⟩
  · rcases hn' with ⟨rfl, _⟩ | ⟨_, rfl⟩
    · exact hord
    · exact Nat.le_refl _
  · rcases hn' with ⟨rfl, hx⟩ | ⟨_, rfl⟩
    · -- nothing more was decoded though block `k` exists: it was cached, so it had been decoded
      exact Nat.le_antisymm hord (h.lt_of_cached (hx hk hd))
    · rfl

/-- the last conjunct: no more blocks are decoded than the requests demand -/
theorem readSeq_stream (d : Bytes) :
    ∀ (ks : List Nat) (r : Rd) (n : Nat), SInv d r n → (∀ x ∈ ks, n ≤ x + 1) → ks.Pairwise (· ≤ ·) →
      (readSeq r ks).1 = ks.map (specRes d r.bs) ∧
      ∃ n', SInv d (readSeq r ks).2 n' ∧ (readSeq r ks).2.bs = r.bs ∧
        ∀ y, (∀ x ∈ ks, x ≤ y) → n ≤ y + 1 → n' ≤ y + 1 := by
  intro ks
  induction ks with
  | nil => intro r n h _ _; exact ⟨rfl, n, h, rfl, fun y _ hy => hy⟩
  | cons k ks ih =>
    intro r n h hn hp
    obtain ⟨r', n', hans, hinv, hbs', hn', _⟩ := readBlock_stream d r n k h (hn k List.mem_cons_self)
    rw [List.pairwise_cons] at hp
    obtain ⟨hrest, n'', hinv'', hbs'', hbound⟩ :=
      ih r' n' hinv (fun x hx => Nat.le_trans hn' (Nat.succ_le_succ (hp.1 x hx))) hp.2
    simp only [readSeq, List.map_cons, hans]
    refine ⟨by rw [hrest, hbs'], n'', hinv'', hbs''.trans hbs', fun y hy _ => ?_⟩
    exact hbound y (fun x hx => hy x (List.mem_cons_of_mem _ hx))
      (Nat.le_trans hn' (Nat.succ_le_succ (hy k List.mem_cons_self)))

theorem lookback_state (d : Bytes) (ks : List Nat) (k : Nat) (r : Rd) (h : SInv d r 0)
    (hord : (ks ++ [k]).Pairwise (· ≤ ·)) (hd : d ≠ []) (hlast : k ≤ blockOffsetLast d.length r.bs) :
    mget (readSeq r (ks ++ [k])).2.blocks k = some (blockAt d r.bs k)
      ∧ ∀ j, j < k → mget (readSeq r (ks ++ [k])).2.blocks j = none := by
  rw [List.pairwise_append] at hord
  obtain ⟨hp, _, hle⟩ := hord
  obtain ⟨n1, hinv1, hbs1, hbound⟩ := (readSeq_stream d ks r 0 h (fun x _ => Nat.zero_le _) hp).2
  have hn1 : n1 ≤ k + 1 := hbound k (fun x hx => hle x hx k List.mem_cons_self) (Nat.zero_le _)
  obtain ⟨r', n', hans, hinv, hbs', _, hexact⟩ := readBlock_stream d (readSeq r ks).2 n1 k hinv1 hn1
  obtain rfl : n' = k + 1 := hexact hd (hbs1 ▸ hlast)
  rw [readSeq_append, hans, ← hbs1, ← hbs']
  exact ⟨hinv.htop (Nat.succ_pos k), fun j hj => hinv.hdropped j (Nat.succ_lt_succ hj)⟩

theorem countLoop_prepass (d : Bytes) (csPre : List Nat) :
    countLoop PREPASS_BUF_SZ (d.length + 1) ⟨d, csPre⟩ 0 = d.length :=
  (countLoop_spec PREPASS_BUF_SZ (by decide) _ ⟨d, csPre⟩ 0 (Nat.lt_succ_self _)).trans (Nat.zero_add _)

theorem new_stream (kind : Kind) (bs : Nat) (d : Bytes) (cs csPre : List Nat) (hk : DecOk kind bs cs) :
    Rd.new kind bs d cs csPre =
      { kind, bs, fsz := d.length, src := d, dec := ⟨d, cs⟩, blocks := [], blocksRead := [], lru := [], high := 0 } := by
  rcases hk with rfl | rfl | rfl | ⟨rfl, _⟩ <;> simp only [Rd.new, countLoop_prepass]

theorem SInv.new (kind : Kind) (bs : Nat) (d : Bytes) (cs csPre : List Nat) (hbs : 1 ≤ bs)
    (hk : DecOk kind bs cs) : SInv d (Rd.new kind bs d cs csPre) 0 ∧ (Rd.new kind bs d cs csPre).bs = bs := by
  rw [new_stream kind bs d cs csPre hk]
  refine ⟨?_, rfl⟩
  exact {
    hbs, hk
    hfsz := rfl
    good := Good.nil _ _
    goodL := Good.nil _ _
    hread := fun _ => ⟨nofun, nofun⟩
    hpos := by rw [Nat.zero_mul]; rfl
    hlruKeys := fun _ => nofun
    hblocks := rfl
    hhigh := Nat.zero_le _
    hdd := rfl }

end S4V.Lemmas.Stream
