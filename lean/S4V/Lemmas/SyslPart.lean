/-
The partition of a file into messages, as `S4V.Props.SyslSpec.messages_partition` collects it: the heads of the messages are the
timestamped lines (`messages_keys`, for any line list), and the messages of a well-formed list tile the file from the first of
them (`messages_geom`). Then `after F M`, the messages that end at or after `F` (`fsM M F`, the first message at or after `F`,
is its head), and the specification of `findSysline` in these terms, from `findSysline_eq`.
-/
import S4V.Lemmas.SyslFind

namespace S4V.Lemmas.Syslines
open S4V.Model.Syslines S4V.Gen.Filter

def lineKey (l : LineInfo) : Option (Nat × Int) := l.dt.map (l.beg, ·)
def msgKey (m : Sysl) : Nat × Int := (m.beg, m.dt)

theorem messagesAux_keys (ls : List LineInfo) (cur : Option Sysl) :
    (messagesAux ls cur).map msgKey = (cur.map msgKey).toList ++ ls.filterMap lineKey := by
  induction ls generalizing cur with
  | nil => cases cur <;> rfl
  | cons l r ih =>
    cases hdt : l.dt <;> cases cur <;>
      simp [messagesAux, hdt, ih, lineKey, msgKey]

theorem messages_keys (ls : List LineInfo) : (messages ls).map msgKey = ls.filterMap lineKey := by
  simpa [messages] using messagesAux_keys ls none

theorem lineKey_eq_some {l : LineInfo} {k : Nat × Int} :
    lineKey l = some k ↔ l.beg = k.1 ∧ l.dt = some k.2 := by
  cases h : l.dt <;> simp [lineKey, h, Prod.ext_iff, eq_comm]

theorem messages_eq_nil_iff (ls : List LineInfo) : messages ls = [] ↔ ∀ l ∈ ls, l.dt = none := by
  rw [← List.map_eq_nil_iff (f := msgKey), messages_keys, List.filterMap_eq_nil_iff]
  simp [lineKey]

theorem messages_length_le (ls : List LineInfo) : (messages ls).length ≤ ls.length := by
  rw [← List.length_map (f := msgKey), messages_keys]; exact List.length_filterMap_le ..

theorem head_begins_message {ls : List LineInfo} {l : LineInfo} (hl : l ∈ ls) {t : Int}
    (ht : l.dt = some t) : ∃ m ∈ messages ls, m.beg = l.beg ∧ m.dt = t := by
  have : (l.beg, t) ∈ (messages ls).map msgKey :=
    messages_keys ls ▸ List.mem_filterMap.2 ⟨l, hl, lineKey_eq_some.2 ⟨rfl, ht⟩⟩
  obtain ⟨m, hm, e⟩ := List.mem_map.1 this
  exact ⟨m, hm, congrArg Prod.fst e, congrArg Prod.snd e⟩

theorem message_begins_at_head {ls : List LineInfo} {m : Sysl} (hm : m ∈ messages ls) :
    ∃ l ∈ ls, l.beg = m.beg ∧ l.dt = some m.dt := by
  have : msgKey m ∈ ls.filterMap lineKey := messages_keys ls ▸ List.mem_map_of_mem hm
  obtain ⟨l, hl, e⟩ := List.mem_filterMap.1 this
  exact ⟨l, hl, lineKey_eq_some.1 e⟩

theorem head?_filterMap_lineKey (ls : List LineInfo) :
    (ls.filterMap lineKey).head? = (ls.find? (fun l => l.dt.isSome)).bind lineKey := by
  induction ls with
  | nil => rfl
  | cons l r ih => cases h : l.dt <;> simp [lineKey, h, ih]

theorem messages_head_beg (ls : List LineInfo) :
    (messages ls).head?.map (·.beg) = (ls.find? (fun l => l.dt.isSome)).map (·.beg) := by
  have := congrArg (fun k => k.head?.map Prod.fst) (messages_keys ls)
  simp only [List.head?_map, Option.map_map, head?_filterMap_lineKey] at this
  rw [show (fun m : Sysl => m.beg) = Prod.fst ∘ msgKey from rfl, this]
  cases h : ls.find? (fun l => l.dt.isSome) with
  | none => rfl
  | some l =>
    obtain ⟨t, ht⟩ : ∃ t, l.dt = some t := Option.isSome_iff_exists.1 (by simpa using List.find?_some h)
    simp [lineKey, ht]

def headRes : List Sysl → S4V.Model.Syslines.Res
  | [] => .done
  | m :: _ => .found (m.fin + 1) m

@[simp] theorem headRes_nil : headRes [] = .done := rfl
@[simp] theorem headRes_cons (m : Sysl) (r : List Sysl) : headRes (m :: r) = .found (m.fin + 1) m := rfl

def after (F : Nat) (M : List Sysl) : List Sysl := M.filter (fun m => F ≤ m.fin)

theorem mem_after {F : Nat} {M : List Sysl} {m : Sysl} : m ∈ after F M ↔ m ∈ M ∧ F ≤ m.fin := by
  simp [after]

theorem mem_after_of_eq {F : Nat} {M r : List Sysl} {m : Sysl} (h : after F M = m :: r) :
    m ∈ M ∧ F ≤ m.fin :=
  mem_after.1 (h ▸ List.mem_cons_self)

theorem after_zero (M : List Sysl) : after 0 M = M :=
  List.filter_eq_self.2 fun _ _ => decide_eq_true (Nat.zero_le _)

theorem headRes_eq (S : List Sysl) :
    headRes S = match S.head? with
      | some m => .found (m.fin + 1) m
      | none => .done := by
  cases S <;> rfl

theorem fsM_eq_after (M : List Sysl) (F : Nat) : fsM M F = headRes (after F M) := by
  rw [headRes_eq, after, List.head?_filter]; rfl

theorem after_after {F G : Nat} (h : F ≤ G) (M : List Sysl) : after G (after F M) = after G M := by
  unfold after
  rw [List.filter_filter]
  exact List.filter_congr fun m _ => by
    by_cases hg : G ≤ m.fin
    · simp [hg, Nat.le_trans h hg]
    · simp [hg]

theorem MContig.after_append_ge {s : Nat} {L R : List Sysl} (h : MContig s L) {F : Nat}
    (hF : mEnd s L ≤ F) : after F (L ++ R) = after F R := by
  rw [after, List.filter_append, List.filter_eq_nil_iff.2, List.nil_append, after]
  intro x hx
  have := (h.mem_bounds hx).2.2
  simp only [decide_eq_true_eq]; omega

theorem fsM_append_ge {s : Nat} {M1 M2 : List Sysl} (h : MContig s M1) {fo : Nat}
    (hfo : mEnd s M1 ≤ fo) : fsM (M1 ++ M2) fo = fsM M2 fo := by
  rw [fsM_eq_after, fsM_eq_after, h.after_append_ge hfo]

theorem fsM_beyond {s : Nat} {M : List Sysl} (h : MContig s M) {fo : Nat}
    (hfo : mEnd s M ≤ fo) : fsM M fo = .done := by
  have := fsM_append_ge (M2 := []) h hfo
  simpa using this

def firstHeadBeg (ls : List LineInfo) : Nat :=
  match ls.find? (fun l => l.dt.isSome) with
  | some h => h.beg
  | none => fileSz ls

theorem messages_geom {ls : List LineInfo} (hwf : WFLines ls) :
    MContig (firstHeadBeg ls) (messages ls) ∧ mEnd (firstHeadBeg ls) (messages ls) = fileSz ls := by
  obtain ⟨A, S, rfl, hA, hB⟩ := decomp hwf
  have hs : firstHeadBeg (A ++ S) = endOf 0 A := by
    unfold firstHeadBeg
    rw [find_head_headless_append hA]
    generalize messages (A ++ S) = Ms at hB
    cases hB with
    | nil => simp [fileSz_eq_endOf]
    | @cons _ h t c R Ms' ht hc hw hB' =>
      simp [ht]; exact hw.1
  rw [hs]
  refine ⟨hB.geom.1, ?_⟩
  rw [hB.geom.2, fileSz_eq_endOf, endOf_append]

theorem msg_nonempty {ls : List LineInfo} (hwf : WFLines ls) {m : Sysl} (hm : m ∈ messages ls) :
    m.beg ≤ m.fin :=
  ((messages_geom hwf).1.mem_bounds hm).2.1

theorem msg_overlap {ls : List LineInfo} (hwf : WFLines ls) {m m' : Sysl} (hm : m ∈ messages ls)
    (hm' : m' ∈ messages ls) (h1 : m.beg ≤ m'.fin) (h2 : m'.beg ≤ m.fin) : m = m' :=
  (messages_geom hwf).1.overlap hm hm' h1 h2

theorem message_one_head {ls : List LineInfo} (hwf : WFLines ls) {m : Sysl} (hm : m ∈ messages ls)
    {l : LineInfo} (hl : l ∈ ls) (hsome : l.dt.isSome) (h1 : m.beg ≤ l.beg) (h2 : l.beg ≤ m.fin) :
    l.beg = m.beg := by
  obtain ⟨t, ht⟩ := Option.isSome_iff_exists.1 hsome
  -- `l` begins a message that meets `m`: it is `m`
  obtain ⟨m', hm', hb, _⟩ := head_begins_message hl ht
  have := msg_nonempty hwf hm'
  rw [← hb, msg_overlap hwf hm hm' (by omega) (by omega)]

theorem Blocks.headless_in {s : Nat} {S : List LineInfo} {Ms : List Sysl} (hB : Blocks s S Ms)
    {l : LineInfo} (hl : l ∈ S) (hdt : l.dt = none) : ∃ m ∈ Ms, m.beg < l.beg ∧ l.fin ≤ m.fin := by
  induction hB with
  | nil => cases hl
  | @cons s h t c R Ms ht hc hw hB ih =>
    rcases List.mem_cons.1 hl with rfl | hl
    · rw [ht] at hdt; cases hdt
    · rcases List.mem_append.1 hl with hl | hl
      · have := Syslines.mem_bounds hw.2.2 hl
        refine ⟨_, List.mem_cons_self .., ?_, ?_⟩
        · have := hw.2.1
          show h.beg < l.beg
          omega
        · show l.fin ≤ endOf s (h :: c) - 1
          simp only [endOf_cons]
          omega
      · obtain ⟨m, hm, h1⟩ := ih hl
        exact ⟨m, List.mem_cons_of_mem _ hm, h1⟩

theorem headless_line_cases {ls : List LineInfo} (hwf : WFLines ls) {l : LineInfo} (hl : l ∈ ls)
    (hdt : l.dt = none) :
    (∀ m ∈ messages ls, l.fin < m.beg) ∨ ∃ m ∈ messages ls, m.beg < l.beg ∧ l.fin ≤ m.fin := by
  obtain ⟨A, S, rfl, hA, hB⟩ := decomp hwf
  rcases List.mem_append.1 hl with hl | hl
  · left
    intro m hm
    have := mem_bounds ((WFFrom_append 0 A S).1 hwf).1 hl
    have := hB.mem_bounds hm
    omega
  · right
    exact hB.headless_in hl hdt

theorem findSysline_done_of_beyond {ls : List LineInfo} (hwf : WFLines ls) {fo : Nat}
    (h : fileSz ls ≤ fo) : findSysline ls fo = .done := findSysline_beyond hwf h

theorem findSysline_inside {ls : List LineInfo} (hwf : WFLines ls) {m : Sysl}
    (hm : m ∈ messages ls) {fo : Nat} (h1 : m.beg ≤ fo) (h2 : fo ≤ m.fin) :
    findSysline ls fo = .found (m.fin + 1) m := by
  rw [findSysline_eq hwf]
  obtain ⟨hc, _⟩ := messages_geom hwf
  obtain ⟨M1, M2, hM⟩ := List.mem_iff_append.1 hm
  rw [hM] at hc ⊢
  obtain ⟨hc1, hc2⟩ := (MContig_append _ _ _).1 hc
  rw [fsM_append_ge hc1 (by have := hc2.1; omega), fsM_cons_le h2]

theorem findSysline_found {ls : List LineInfo} (hwf : WFLines ls) {fo n : Nat} {s : Sysl}
    (h : findSysline ls fo = .found n s) : s ∈ messages ls ∧ fo ≤ s.fin ∧ n = s.fin + 1 := by
  rw [findSysline_eq hwf, fsM] at h
  split at h
  · next m hm =>
    cases h
    exact ⟨List.mem_of_find?_eq_some hm, by simpa using List.find?_some hm, rfl⟩
  · cases h

theorem findSysline_before {ls : List LineInfo} (hwf : WFLines ls) {fo : Nat}
    (h : ∀ m ∈ messages ls, fo < m.beg) :
    findSysline ls fo = match (messages ls).head? with
      | some m0 => .found (m0.fin + 1) m0
      | none => .done := by
  rw [findSysline_eq hwf]
  obtain ⟨hc, _⟩ := messages_geom hwf
  cases hM : messages ls with
  | nil => rfl
  | cons m0 r =>
    rw [hM] at hc h
    have := h m0 (by simp)
    have := hc.2.1
    rw [fsM_cons_le (by omega)]
    rfl

end S4V.Lemmas.Syslines
