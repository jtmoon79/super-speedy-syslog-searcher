/-
C04, regex slice: the join for ONE row of `DATETIME_PARSE_DATAS`. A `RowResult` (what a capture theorem `C04_rowN_search`
gives) and `C04_words_denote` show that `bytes_to_regex_to_datetime` (`rowInstant`) on a rendered line yields the instant the
captured words spell (`e2e_of_result`, `e2e_end`). `pipeline_eq` carries this through the slicing of `find_datetime_in_line`
(`rowPipeline`) when the stamp ends at or before `range_regex.end`; `flat_le_maxLen` bounds every selection of a catalogue, so
`maxLen ≤ range_regex.end`, which a row certificate reads off the catalogue, discharges that hypothesis for all selections.
-/
import S4V.Lemmas.RegexE2EWords
import S4V.Lemmas.RegexAuto
import S4V.Props.RegexCapture
import S4V.Lemmas.Lists
import S4V.Model.Ezcheck

namespace S4V.Lemmas.RegexE2E
open S4V.Model.Regex S4V.Lemmas.RegexStep S4V.Lemmas.RegexSym S4V.Lemmas.RegexRows S4V.Lemmas.RegexAuto
open S4V.Gen.TimeTables S4V.Model.Time S4V.Model.DtParse S4V.Lemmas.DtParse S4V.Props.TimeSpec S4V.Lemmas.RegexZones
open S4V.Props.RegexCapture (capturesOf capField capField_eq)
open S4V.Model.Ezcheck (lineSlice)

abbrev RRow := S4V.Gen.Regex.Row

/-- `bytes_to_regex_to_datetime(slice, row, year_opt, tz_offset, …)`: instant in ns, `none` = no match or no date -/
def rowInstant (row : RRow) (slice : Bytes) (fbOff : Int) (fill : Option Int) : Option Int :=
  (search row.re slice).bind fun res => capturesToInstant row.dtfs (capturesOf row slice res.caps) fbOff fill

/-- one iteration of the loop of `find_datetime_in_line`: the row only sees its `range_regex` slice of the line -/
def rowPipeline (row : RRow) (line : Bytes) (fbOff : Int) (fill : Option Int) : Option Int :=
  rowInstant row (lineSlice line row.rangeStart (min line.length row.rangeEnd)) fbOff fill

def selField (row : RRow) (sel : Sel) (name : String) : Option Bytes :=
  (row.names.lookup name).bind (fun g => selText g sel)

def selFields (row : RRow) (sel : Sel) : Captures :=
  { year := selField row sel "year", month := selField row sel "month", day := selField row sel "day",
    hour := selField row sel "hour", minute := selField row sel "minute", second := selField row sel "second",
    fractional := selField row sel "fractional", tz := selField row sel "tz", epoch := selField row sel "epoch" }

/-- no named group is one the head `(^|x)` / `([c]|^)` recorded -/
def headFree (row : RRow) (c0 : Caps) : Bool := row.names.all (fun p => (capGet c0 p.2).isNone)

theorem names_all {row : RRow} {P : String × Nat → Bool} (h : row.names.all P = true) {name : String} {g : Nat}
    (hl : row.names.lookup name = some g) : P (name, g) = true :=
  List.all_eq_true.mp h _ (Lists.mem_of_lookup hl)

theorem capField_rowResult (row : RRow) {line : Bytes} {stop : Nat} {c0 : Caps} {sel : Sel}
    (h : RowResult row.re line stop c0 sel) (hf : headFree row c0 = true) (name : String) :
    capField row line (capsAt 0 c0 sel) name = selField row sel name := by
  rw [capField_eq]
  unfold selField
  cases hl : row.names.lookup name with
  | none => rfl
  | some g =>
    simp only [Option.bind_some]
    rw [h.2 g]
    have hn : capGet c0 g = none := by simpa using names_all hf hl
    cases selText g sel with
    | some t => rfl
    | none => simp [groupText, hn]

theorem capturesOf_rowResult (row : RRow) {line : Bytes} {stop : Nat} {c0 : Caps} {sel : Sel}
    (h : RowResult row.re line stop c0 sel) (hf : headFree row c0 = true) :
    capturesOf row line (capsAt 0 c0 sel) = selFields row sel := by
  simp only [capturesOf, selFields, capField_rowResult row h hf]

theorem selFields_end (row : RRow) (sel : Sel) (g : Nat) (s : Sym) (tail : Bytes)
    (hg : row.names.all (fun p => p.2 != g) = true) : selFields row (sel ++ [endEw g s tail]) = selFields row sel := by
  have key : ∀ name, selField row (sel ++ [endEw g s tail]) name = selField row sel name := by
    intro name
    unfold selField
    cases hl : row.names.lookup name with
    | none => rfl
    | some g' =>
      simp only [Option.bind_some]
      rw [selText_append, selText_endEw g g' s tail (by simpa using names_all hg hl)]
  simp only [selFields, key]

/-- **end to end, generic**: whatever selection a row theorem is about, well-shaped words with calendar values
are attributed the instant they spell -/
theorem e2e_of_result (row : RRow) (name : String) (hmem : (name, row.dtfs) ∈ allDTFSS) (hdt : row.dtfs.epoch = .none_)
    {line : Bytes} {stop : Nat} {c0 : Caps} {sel : Sel} (h : RowResult row.re line stop c0 sel)
    (hf : headFree row c0 = true) (fbOff : Int) (hfb : FbOK' fbOff) (fill : Option Int)
    (hs : shapeOK row.dtfs (selFields row sel) fill = true) (hr : rangeOK row.dtfs (selFields row sel) fill = true) :
    rowInstant row line fbOff fill = some (fieldsOf row.dtfs (selFields row sel) fbOff fill).instant := by
  unfold rowInstant
  rw [h.1]
  simp only [Option.bind_some]
  rw [capturesOf_rowResult row h hf]
  exact C04_words_denote name row.dtfs hmem hdt _ fbOff hfb fill hs hr

/-- rows with a final `(?P<g>[class]|$)`: the fields are those of the body selection -/
theorem e2e_end (row : RRow) (name : String) (hmem : (name, row.dtfs) ∈ allDTFSS) (hdt : row.dtfs.epoch = .none_)
    {line : Bytes} {stop : Nat} {c0 : Caps} {sel : Sel} {g : Nat} {s : Sym} {tail : Bytes}
    (h : RowResult row.re line stop c0 (sel ++ [endEw g s tail]))
    (hf : headFree row c0 = true) (hg : row.names.all (fun p => p.2 != g) = true)
    (fbOff : Int) (hfb : FbOK' fbOff) (fill : Option Int)
    (hs : shapeOK row.dtfs (selFields row sel) fill = true) (hr : rangeOK row.dtfs (selFields row sel) fill = true) :
    rowInstant row line fbOff fill = some (fieldsOf row.dtfs (selFields row sel) fbOff fill).instant := by
  have e := selFields_end row sel g s tail hg
  have := e2e_of_result row name hmem hdt h hf fbOff hfb fill (by rw [e]; exact hs) (by rw [e]; exact hr)
  rwa [e] at this

theorem slice_stamp (row : RRow) (hrs : row.rangeStart = 0) (stamp tail : Bytes) (hlen : stamp.length ≤ row.rangeEnd) :
    lineSlice (stamp ++ tail) row.rangeStart (min (stamp ++ tail).length row.rangeEnd) =
      stamp ++ tail.take (row.rangeEnd - stamp.length) := by
  rw [hrs]
  simp only [lineSlice, List.drop_zero, Nat.sub_zero, List.length_append]
  rw [List.take_append]
  have h1 : stamp.take (min (stamp.length + tail.length) row.rangeEnd) = stamp := by
    apply List.take_of_length_le; omega
  rw [h1]
  congr 1
  by_cases h : stamp.length + tail.length ≤ row.rangeEnd
  · rw [Nat.min_eq_left h]
    rw [List.take_of_length_le (by omega), List.take_of_length_le (by omega)]
  · rw [Nat.min_eq_right (by omega)]

theorem tailIn_take {s : Sym} {tail : Bytes} (h : TailIn s tail) (k : Nat) : TailIn s (tail.take k) := by
  intro x t e
  cases tail with
  | nil => simp at e
  | cons y r =>
    cases k with
    | zero => simp at e
    | succ k =>
      simp only [List.take_succ_cons, List.cons.injEq] at e
      rw [← e.1]; exact h y r rfl

theorem tailF_take {s : Sym} {tail : Bytes} (h : TailF s tail) (k : Nat) : TailF s (tail.take k) := tailIn_take h k

/-- the pipeline of a row on `stamp ++ tail` is `bytes_to_regex_to_datetime` on the stamp and the part of the tail
before `range_regex.end` -/
theorem pipeline_eq (row : RRow) (hrs : row.rangeStart = 0) (stamp tail : Bytes) (hlen : stamp.length ≤ row.rangeEnd)
    (fbOff : Int) (fill : Option Int) :
    rowPipeline row (stamp ++ tail) fbOff fill =
      rowInstant row (stamp ++ tail.take (row.rangeEnd - stamp.length)) fbOff fill := by
  unfold rowPipeline
  rw [slice_stamp row hrs stamp tail hlen]

def maxLen (qs : List Piece) : Nat := (qs.map (fun q => (q.dom.map (fun e => e.1.length)).foldl max 0)).foldl (· + ·) 0

theorem foldl_add (l : List Nat) (a : Nat) : l.foldl (· + ·) a = a + l.foldl (· + ·) 0 := by
  simpa using List.foldl_assoc (op := (· + · : Nat → Nat → Nat)) (a₁ := a) (a₂ := 0) (l := l)

theorem flat_le_maxLen : ∀ {qs : List Piece} {sel : Sel}, Valid qs sel → (flat sel).length ≤ maxLen qs := by
  intro qs
  induction qs with
  | nil => intro sel h; cases sel with
    | nil => simp [flat, maxLen]
    | cons _ _ => exact absurd h (by simp [Valid])
  | cons q qs ih =>
    intro sel h
    cases sel with
    | nil => exact absurd h (by simp [Valid])
    | cons ew sel =>
      obtain ⟨hm, hc, hv⟩ := h
      have h1 := ih hv
      have h2 : ew.2.length ≤ (q.dom.map (fun e => e.1.length)).foldl max 0 := by
        rw [← conc_length hc]
        exact (Lists.foldl_max_ge _ 0).2 _ (List.mem_map.mpr ⟨ew.1, hm, rfl⟩)
      simp only [flat, List.length_append, maxLen, List.map_cons, List.foldl_cons] at h1 ⊢
      rw [foldl_add]
      omega

end S4V.Lemmas.RegexE2E
