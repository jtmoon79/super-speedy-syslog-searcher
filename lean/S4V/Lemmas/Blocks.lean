/-
Lemmas about the block arithmetic generated into `S4V.Gen.Blocks`
(translated from blockreader.rs) and about `blockAt` of the Lines model.
-/
import S4V.Gen.Blocks
import S4V.Model.Lines

namespace S4V.Lemmas.Blocks
open S4V.Gen.Blocks S4V.Model.Lines

theorem blockOffsetAtFileOffset_eq (fo bs : Nat) : blockOffsetAtFileOffset fo bs = fo / bs := rfl

theorem fileOffsetAtBlockOffset_eq (bo bs : Nat) : fileOffsetAtBlockOffset bo bs = bo * bs := rfl

theorem fileOffsetAtBlockOffsetIndex_eq (bo bs bi : Nat) :
    fileOffsetAtBlockOffsetIndex bo bs bi = bo * bs + bi := rfl

theorem blockIndexAtFileOffset_eq (fo bs : Nat) : blockIndexAtFileOffset fo bs = fo % bs := by
  simp only [blockIndexAtFileOffset, fileOffsetAtBlockOffset, blockOffsetAtFileOffset]
  have := Nat.div_add_mod' fo bs
  omega

theorem fileOffsetAtBlockOffsetIndex_div_mod (fo bs : Nat) :
    fileOffsetAtBlockOffsetIndex (fo / bs) bs (fo % bs) = fo := by
  simp only [fileOffsetAtBlockOffsetIndex, fileOffsetAtBlockOffset]
  exact Nat.div_add_mod' fo bs

theorem div_eq_of_bounds {x bs q : Nat} (lo : q * bs ≤ x) (hi : x < q * bs + bs) : x / bs = q :=
  Nat.div_eq_of_lt_le lo (by rw [Nat.add_mul]; omega)

theorem mod_eq_of_bounds {x bs q : Nat} (lo : q * bs ≤ x) (hi : x < q * bs + bs) :
    x % bs = x - q * bs := by
  have h := Nat.div_add_mod' x bs
  rw [div_eq_of_bounds lo hi] at h
  omega

theorem countBlocks_bounds (n bs : Nat) (hbs : 1 ≤ bs) :
    n ≤ countBlocks n bs * bs ∧ countBlocks n bs * bs < n + bs := by
  have h1 := Nat.div_add_mod' n bs
  have h2 : n % bs < bs := Nat.mod_lt _ hbs
  rw [countBlocks, Nat.add_mul]
  by_cases h : n % bs > 0
  · rw [if_pos (decide_eq_true h)]
    omega
  · rw [if_neg (by rwa [decide_eq_true_eq])]
    omega

theorem countBlocks_eq (n bs : Nat) (hbs : 1 ≤ bs) : countBlocks n bs = (n + bs - 1) / bs := by
  obtain ⟨lo, hi⟩ := countBlocks_bounds n bs hbs
  exact (div_eq_of_bounds (by omega) (by omega)).symm

theorem blockOffsetLast_bounds (n bs : Nat) (hbs : 1 ≤ bs) (hn : 0 < n) :
    blockOffsetLast n bs * bs < n ∧ n ≤ (blockOffsetLast n bs + 1) * bs := by
  obtain ⟨lo, hi⟩ := countBlocks_bounds n bs hbs
  have hc : 0 < countBlocks n bs := Nat.pos_of_ne_zero fun h0 => by
    rw [h0, Nat.zero_mul] at lo
    omega
  rw [blockOffsetLast, if_neg (Nat.ne_of_gt hn), Nat.sub_add_cancel hc, Nat.sub_mul, Nat.one_mul]
  omega

theorem blockOffsetLast_eq (n bs : Nat) (hbs : 1 ≤ bs) (hn : 0 < n) :
    blockOffsetLast n bs = (n - 1) / bs := by
  obtain ⟨lo, hi⟩ := blockOffsetLast_bounds n bs hbs hn
  rw [Nat.add_mul] at hi
  exact (div_eq_of_bounds (by omega) (by omega)).symm

theorem le_blockOffsetLast_iff (n bs k : Nat) (hbs : 1 ≤ bs) (hn : 0 < n) :
    k ≤ blockOffsetLast n bs ↔ k * bs < n := by
  rw [blockOffsetLast_eq n bs hbs hn, Nat.le_div_iff_mul_le (by omega)]
  omega

/-- the size of block `k ≤ last`, for any `last` that satisfies `blockOffsetLast_bounds` -/
theorem blockSz_eq {k last bs n : Nat} (lo : last * bs < n) (hi : n ≤ last * bs + bs) (hk : k ≤ last) :
    blockSzAtBlockOffset k last bs n = min bs (n - k * bs) := by
  rw [blockSzAtBlockOffset, if_neg (by rw [decide_eq_true_eq]; exact Nat.ne_of_gt (Nat.zero_lt_of_lt lo))]
  rcases Nat.eq_or_lt_of_le hk with rfl | hk
  · rw [if_pos (decide_eq_true rfl), Nat.min_eq_right (Nat.sub_le_of_le_add (Nat.add_comm _ _ ▸ hi))]
    rcases Nat.eq_or_lt_of_le hi with rfl | hi
    · rw [Nat.add_mod_right, Nat.mul_mod_left, Nat.add_sub_cancel_left]
      rfl
    · rw [mod_eq_of_bounds (Nat.le_of_lt lo) hi]
      exact if_pos (decide_eq_true (Nat.sub_ne_zero_of_lt lo))
  · have := Nat.lt_of_le_of_lt (Nat.mul_le_mul_right bs hk) lo
    rw [Nat.succ_mul] at this
    rw [if_neg (by rw [decide_eq_true_eq]; exact Nat.ne_of_lt hk), Nat.min_eq_left (by omega)]

theorem blockAt_length (d : Bytes) (bs k : Nat) :
    (blockAt d bs k).length = min bs (d.length - k * bs) := by
  simp [blockAt]

theorem blockAt_getElem? (d : Bytes) (bs k j : Nat) :
    (blockAt d bs k)[j]? = if j < bs then d[k * bs + j]? else none := by
  simp only [blockAt, List.getElem?_take, List.getElem?_drop]

theorem blockAt_div_mod_getElem? (d : Bytes) (bs fo : Nat) (hbs : 1 ≤ bs) :
    (blockAt d bs (fo / bs))[fo % bs]? = d[fo]? := by
  rw [blockAt_getElem?, if_pos (Nat.mod_lt _ (by omega)), Nat.div_add_mod']

theorem blockAt_length_eq_blockSz (d : Bytes) (bs k : Nat) (hbs : 1 ≤ bs) (hd : d ≠ [])
    (hk : k ≤ blockOffsetLast d.length bs) :
    (blockAt d bs k).length
      = blockSzAtBlockOffset k (blockOffsetLast d.length bs) bs d.length := by
  obtain ⟨lo, hi⟩ := blockOffsetLast_bounds d.length bs hbs (List.length_pos_iff.mpr hd)
  rw [Nat.add_mul, Nat.one_mul] at hi
  rw [blockAt_length, blockSz_eq lo hi hk]

theorem flatMap_blockAt_take (d : Bytes) (bs m : Nat) :
    (List.range m).flatMap (blockAt d bs) = d.take (m * bs) := by
  induction m with
  | zero => simp
  | succ m ih =>
    rw [List.range_succ, List.flatMap_append, ih]
    simp only [List.flatMap_cons, List.flatMap_nil, List.append_nil, blockAt]
    rw [Nat.add_mul, Nat.one_mul, List.take_add]

theorem flatMap_blockAt (d : Bytes) (bs : Nat) (hbs : 1 ≤ bs) :
    (List.range (countBlocks d.length bs)).flatMap (blockAt d bs) = d := by
  rw [flatMap_blockAt_take]
  exact List.take_of_length_le (countBlocks_bounds d.length bs hbs).1

theorem blockAt_last_ne_nil_iff (d : Bytes) (bs : Nat) (hbs : 1 ≤ bs) :
    blockAt d bs (blockOffsetLast d.length bs) ≠ [] ↔ d ≠ [] := by
  constructor
  · intro h hd
    subst hd
    simp [blockAt] at h
  · intro hd
    have hn : 0 < d.length := List.length_pos_iff.mpr hd
    have hb := blockOffsetLast_bounds d.length bs hbs hn
    rw [← List.length_pos_iff, blockAt_length]
    omega

example : blockOffsetLast 5 2 = (5 - 1) / 2 := by decide
example : countBlocks 5 2 = (5 + 2 - 1) / 2 := by decide
example : (blockAt ([97, 98, 10, 99, 100] : Bytes) 2 (3 / 2))[3 % 2]?
    = ([97, 98, 10, 99, 100] : Bytes)[3]? := by decide
example : (List.range (countBlocks 5 2)).flatMap (blockAt ([97, 98, 10, 99, 100] : Bytes) 2)
    = [97, 98, 10, 99, 100] := by decide

/-- running example: `"ab\ncd"`, block size 2, file offset 3 -/
def ex : Bytes := [97, 98, 10, 99, 100]

example : blockIndexAtFileOffset 3 2 = 3 % 2 := blockIndexAtFileOffset_eq 3 2
example : countBlocks ex.length 2 = 3 := by decide
example : countBlocks ex.length 2 = (ex.length + 2 - 1) / 2 := countBlocks_eq ex.length 2 (by decide)
example : blockOffsetLast ex.length 2 = (ex.length - 1) / 2 :=
  blockOffsetLast_eq ex.length 2 (by decide) (by decide)
example : (blockAt ex 2 (3 / 2))[3 % 2]? = ex[3]? := blockAt_div_mod_getElem? ex 2 3 (by decide)
example : (blockAt ex 2 2).length = blockSzAtBlockOffset 2 (blockOffsetLast ex.length 2) 2 ex.length :=
  blockAt_length_eq_blockSz ex 2 2 (by decide) (by decide) (by decide)
example : (blockAt ex 2 2).length = 1 ∧ (blockAt ex 2 1).length = 2 := by decide
example : (List.range (countBlocks ex.length 2)).flatMap (blockAt ex 2) = ex :=
  flatMap_blockAt ex 2 (by decide)
example : blockAt ex 2 (blockOffsetLast ex.length 2) ≠ [] :=
  (blockAt_last_ne_nil_iff ex 2 (by decide)).mpr (by decide)

end S4V.Lemmas.Blocks
