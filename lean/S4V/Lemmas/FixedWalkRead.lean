/-
`read_data_to_buffer` returns the bytes of the file, whatever the block size and however many blocks the request spans:
`ReadsExact` (see `S4V.Lemmas.FixedWalk`) holds, for every span, for every reader whose `read_block` is faithful
(`Faithful`): the plain-file reader (any request order, blocks may be dropped and are read again) and the streamed
reader after `disable_drop_data` (every block kept).

Every arm of `read_data_to_buffer` is a sequence of `copyStep`s, each taking the buffer from `d[beg, a)` to `d[beg, c)`
or failing because the buffer is shorter (`upTo`, `copyStep_exact`, `upTo_bind`); `read_exact` puts the arms together.
-/
import S4V.Lemmas.FixedWalk
import S4V.Lemmas.StreamKeep

namespace S4V.Lemmas.FixedWalkRead
open S4V.Gen.Blocks S4V.Gen.Stream S4V.Gen.FixedWalk S4V.Model.Lines S4V.Model.Stream S4V.Model.FixedWalk
  S4V.Lemmas.Blocks S4V.Lemmas.Stream S4V.Lemmas.StreamKeep S4V.Lemmas.FixedWalk

structure Faithful (d : Bytes) (bs : Nat) (I : Rd → Prop) : Prop where
  hbs : 1 ≤ bs
  st : ∀ r, I r → r.bs = bs ∧ r.fsz = d.length
  step : ∀ r k, I r → ∃ r', readBlock r k = (specRes d bs k, r') ∧ I r'
  drop : ∀ r k, I r → I (dropBlock r k)

theorem faithful_plain (d : Bytes) (bs : Nat) (hbs : 1 ≤ bs) : Faithful d bs (fun r => PInv d r ∧ r.bs = bs) where
  hbs := hbs
  st := fun r h => ⟨h.2, h.1.hfsz⟩
  step := fun r k h => (readBlock_plain d r k h.1).at_bs h.2
  drop := fun r k h => by
    have hb : (dropBlock r k).bs = r.bs := dropBlock_bs r k
    refine ⟨?_, by rw [hb, h.2]⟩
    unfold dropBlock
    split
    · exact h.1
    · exact { h.1 with good := h.1.good.mdel k, goodL := h.1.goodL.mdel k }

/-- the streamed reader (gz, bz2, lz4) after `disable_drop_data` -/
theorem faithful_keep (d : Bytes) (bs : Nat) (hbs : 1 ≤ bs) :
    Faithful d bs (fun r => (∃ n, KInv d r n) ∧ r.bs = bs) where
  hbs := hbs
  st := fun r h => by obtain ⟨⟨n, hn⟩, hb⟩ := h; exact ⟨hb, hn.hfsz⟩
  step := fun r k ⟨⟨n, hn⟩, hb⟩ => (readBlock_keep d r n k hn).at_bs hb
  drop := fun r k h => by
    obtain ⟨⟨n, hn⟩, hb⟩ := h
    rw [dropBlock_off r k hn.hdd]
    exact ⟨⟨n, hn⟩, hb⟩

/-- block and index in the block of the two ends of a non-empty request `[beg, E)`, as `read_data` computes them -/
theorem geom (bs beg E : Nat) (hbs : 1 ≤ bs) (h : beg < E) :
    beg = beg / bs * bs + beg % bs ∧ beg % bs < bs
    ∧ E = rdBo2 (E % bs) (E / bs) * bs + rdBi2 (E % bs) bs
    ∧ 1 ≤ rdBi2 (E % bs) bs ∧ rdBi2 (E % bs) bs ≤ bs
    ∧ beg / bs ≤ rdBo2 (E % bs) (E / bs) := by
  have h1 := Nat.div_add_mod' beg bs
  have h2 := Nat.mod_lt beg hbs
  have h3 := Nat.div_add_mod' E bs
  have h4 := Nat.mod_lt E hbs
  have key : E = rdBo2 (E % bs) (E / bs) * bs + rdBi2 (E % bs) bs ∧ 1 ≤ rdBi2 (E % bs) bs ∧ rdBi2 (E % bs) bs ≤ bs := by
    unfold rdBo2 rdBi2
    split
    · next hz =>
      -- `E` is a block boundary: it is the END of block `E / bs - 1`
      have hpos : 1 ≤ E / bs := Nat.pos_of_ne_zero fun h0 => by rw [h0, hz] at h3; omega
      obtain ⟨q, hq⟩ : ∃ q, E / bs = q + 1 := ⟨E / bs - 1, by omega⟩
      rw [hq, Nat.succ_mul] at h3
      rw [hq, Nat.add_sub_cancel]
      omega
    · omega
  refine ⟨h1.symm, h2, key.1, key.2.1, key.2.2, Nat.le_of_lt_succ ((Nat.div_lt_iff_lt_mul hbs).mpr ?_)⟩
  rw [Nat.succ_mul]
  omega

theorem blockAt_slice (d : Bytes) (bs k i j : Nat) (hij : i ≤ j) (hj : j ≤ bs) :
    ((blockAt d bs k).drop i).take (j - i) = sl d (k * bs + i) (k * bs + j) := by
  unfold blockAt sl
  rw [List.drop_take, List.take_take, List.drop_drop]
  congr 1
  omega

theorem found_block {d : Bytes} {bs : Nat} {I : Rd → Prop} (hF : Faithful d bs I) (r : Rd) (k : Nat) (hr : I r)
    (hk : k * bs < d.length) :
    ∃ r', readBlock r k = (.found (blockAt d bs k), r') ∧ I r' := by
  obtain ⟨r', e, h⟩ := hF.step r k hr
  have hd : d ≠ [] := by intro h0; rw [h0] at hk; simp at hk
  rw [specRes_found d bs k ((le_blockOffsetLast_iff d.length bs k hF.hbs (by omega)).2 hk) hd] at e
  exact ⟨r', e, h⟩

theorem lenCheckFails_eq (len need : Nat) : lenCheckFails len need = decide (len < need) := by
  simp [lenCheckFails, LEN_CHECK_STRICT]

theorem slice_block (d : Bytes) (bs k i j : Nat) (hij : i ≤ j) (hj : j ≤ bs) (hL : k * bs + j ≤ d.length) :
    slice? (blockAt d bs k) i j = some (sl d (k * bs + i) (k * bs + j)) := by
  unfold slice?
  rw [if_pos ⟨hij, by rw [blockAt_length]; omega⟩, blockAt_slice d bs k i j hij hj]

/-- the copy after the bytes up to `c` were asked of it: `d[beg, c)` is in the buffer, or `Err` since the buffer (`len`
bytes) cannot hold them -/
def upTo (d : Bytes) (len beg c : Nat) : St := if len < c - beg then .err else .ok (sl d beg c)

theorem upTo_bind {d : Bytes} {len beg a c : Nat} {f : Bytes → St} (hac : a ≤ c)
    (hf : a - beg ≤ len → f (sl d beg a) = upTo d len beg c) : (upTo d len beg a).bind f = upTo d len beg c := by
  by_cases h : len < a - beg
  · rw [upTo, if_pos h, upTo, if_pos (by omega)]; rfl
  · rw [upTo, if_neg h]; exact hf (by omega)

/-- `hat`: a copy to `buffer[.. at + n]` instead of `buffer[at .. at + n]` (`fromAt = false`) panics unless nothing was
written before it -/
theorem copyStep_exact (d : Bytes) (bs len beg k i j n : Nat) (fromAt : Bool) (w : Bytes) (hw : w = sl d beg (k * bs + i))
    (hij : i ≤ j) (hj : j ≤ bs) (hL : k * bs + j ≤ d.length) (hn : n = j - i) (hb : beg ≤ k * bs + i)
    (hat : fromAt = true ∨ beg = k * bs + i) :
    copyStep len w (blockAt d bs k) n i j fromAt = upTo d len beg (k * bs + j) := by
  have hwl : w.length = k * bs + i - beg := by rw [hw]; exact sl_length _ _ _ (by omega)
  have hsl : (sl d (k * bs + i) (k * bs + j)).length = n := by rw [sl_length _ _ _ hL]; omega
  unfold copyStep upTo
  rw [lenCheckFails_eq, hwl, slice_block d bs k i j hij hj hL]
  by_cases hl : len < k * bs + j - beg
  · rw [if_pos hl, decide_eq_true (by omega)]; rfl
  · rw [if_neg hl, decide_eq_false (by omega)]
    simp only [Bool.false_eq_true, if_false]
    rw [if_neg, hw, sl_append d hb (by omega)]
    rintro (h | ⟨h1, h2⟩)
    · exact h hsl
    · rcases hat with hat | hat
      · rw [hat] at h1; cases h1
      · omega

def blocksFrom (d : Bytes) (bs : Nat) : Nat → Nat → List Bytes
  | 0, _ => []
  | n + 1, k => blockAt d bs k :: blocksFrom d bs n (k + 1)

theorem blocksFrom_length (d : Bytes) (bs : Nat) : ∀ (n k : Nat), (blocksFrom d bs n k).length = n
  | 0, _ => rfl
  | n + 1, k => by rw [blocksFrom, List.length_cons, blocksFrom_length d bs n]

theorem blocksFrom_snoc (d : Bytes) (bs : Nat) :
    ∀ (n k : Nat), blocksFrom d bs (n + 1) k = blocksFrom d bs n k ++ [blockAt d bs (k + n)]
  | 0, k => rfl
  | n + 1, k => by
    rw [blocksFrom, blocksFrom_snoc d bs n (k + 1), show k + 1 + n = k + (n + 1) by omega]
    rfl

/-- `K`: a block that starts inside the file, so that every `read_block` up to it is `Found`; `bo2` is one, since `end`
was clamped to the file size -/
theorem manyLoop_exact {d : Bytes} {bs : Nat} {I : Rd → Prop} (hF : Faithful d bs I) (K : Nat) (hK : K * bs < d.length) :
    ∀ (n : Nat) (r : Rd) (k : Nat) (acc : List Bytes), I r → k + n ≤ K + 1 →
      ∃ r', I r' ∧ manyLoop n r k acc = (.found (acc ++ blocksFrom d bs n k), r')
  | 0, r, k, acc, hr, _ => ⟨r, hr, by rw [blocksFrom, List.append_nil]; rfl⟩
  | n + 1, r, k, acc, hr, hk => by
    have hkb : k * bs ≤ K * bs := Nat.mul_le_mul_right _ (by omega)
    obtain ⟨r1, e1, hr1⟩ := found_block hF r k hr (by omega)
    obtain ⟨r2, hr2, e2⟩ := manyLoop_exact hF K hK n r1 (k + 1) (acc ++ [blockAt d bs k]) hr1 (by omega)
    refine ⟨r2, hr2, ?_⟩
    simp only [manyLoop, e1, e2, blocksFrom, List.append_assoc, List.cons_append, List.nil_append]

theorem copyMids_exact (d : Bytes) (bs len beg bi1 bi2 : Nat) :
    ∀ (m k : Nat), beg ≤ k * bs → (k + m) * bs ≤ d.length → k * bs - beg ≤ len →
      copyMids len bi1 bi2 (blocksFrom d bs m k) (sl d beg (k * bs)) = upTo d len beg ((k + m) * bs)
  | 0, k, _, _, hlen => by rw [upTo, Nat.add_zero, if_neg (by omega)]; rfl
  | m + 1, k, hb, hL, _ => by
    have e : (k + (m + 1)) * bs = (k + 1 + m) * bs := by rw [show k + (m + 1) = k + 1 + m by omega]
    have e1 : (k + 1) * bs = k * bs + bs := Nat.succ_mul k bs
    have hle : (k + 1) * bs ≤ (k + 1 + m) * bs := Nat.mul_le_mul_right _ (by omega)
    have hfull : (blockAt d bs k).length = bs := by rw [blockAt_length]; omega
    rw [blocksFrom, copyMids, manyMidN, manyMidBeg, manyMidEnd, manyMidDstFromAt, hfull,
      copyStep_exact d bs len beg k 0 bs bs true (sl d beg (k * bs)) rfl (Nat.zero_le _) (Nat.le_refl _) (by omega) rfl hb
        (Or.inl rfl), e, ← e1]
    exact upTo_bind hle fun h => copyMids_exact d bs len beg bi1 bi2 m (k + 1) (by omega) (by omega) h

section arms
variable {d : Bytes} {bs len beg E q1 i1 bo2 bi2 : Nat} (g1 : beg = q1 * bs + i1) (g2 : i1 < bs)
  (g3 : E = bo2 * bs + bi2) (g5 : bi2 ≤ bs) (hEL : E ≤ d.length)
include g1 g2 g3 g5 hEL

omit g5 in
theorem copyFirst_exact (hlt : q1 < bo2) :
    copyStep len [] (blockAt d bs q1) (bs - i1) i1 bs false = upTo d len beg (q1 * bs + bs) := by
  have : (q1 + 1) * bs ≤ bo2 * bs := Nat.mul_le_mul_right _ hlt
  rw [Nat.succ_mul] at this
  exact copyStep_exact d bs len beg q1 i1 bs _ false [] (by rw [← g1]; simp [sl]) (by omega) (Nat.le_refl _) (by omega) rfl
    (by omega) (Or.inr g1)

omit g1 g2 in
theorem copyLast_exact (hb : beg ≤ bo2 * bs) :
    copyStep len (sl d beg (bo2 * bs)) (blockAt d bs bo2) bi2 0 bi2 true = upTo d len beg E := by
  rw [g3]
  exact copyStep_exact d bs len beg bo2 0 bi2 _ true _ rfl (Nat.zero_le _) g5 (by omega) rfl hb (Or.inl rfl)

omit g2 in
theorem copyOne_exact (hbE : beg < E) (h : q1 = bo2) : copyOne len (blockAt d bs q1) i1 bi2 = upTo d len beg E := by
  subst h
  simp only [copyOne, oneN, oneBeg, oneEnd, oneDstFromAt]
  rw [show i1 + (bi2 - i1) = bi2 by omega, g3]
  exact copyStep_exact d bs len beg q1 i1 bi2 _ false [] (by rw [← g1]; simp [sl]) (by omega) g5 (by omega) rfl (by omega)
    (Or.inr g1)

theorem copyTwo_exact (h : q1 + 1 = bo2) :
    copyTwo len (blockAt d bs q1) (blockAt d bs bo2) i1 bi2 = upTo d len beg E := by
  have hB : bo2 * bs = q1 * bs + bs := by rw [← h, Nat.succ_mul]
  have hfull : (blockAt d bs q1).length = bs := by rw [blockAt_length]; omega
  simp only [copyTwo, twoFirstN, twoFirstBeg, twoFirstEnd, twoFirstDstFromAt, twoLastN, twoLastBeg, twoLastEnd,
    twoLastDstFromAt, hfull]
  rw [copyFirst_exact g1 g2 g3 hEL (by omega), ← hB]
  exact upTo_bind (by omega) fun _ => copyLast_exact g3 g5 hEL (by omega)

theorem copyMany_exact (M : Nat) (hM : bo2 = q1 + 1 + M) :
    copyMany len (blockAt d bs q1 :: (blocksFrom d bs M (q1 + 1) ++ [blockAt d bs bo2])) i1 bi2 = upTo d len beg E := by
  have hB : (q1 + 1 + M) * bs = bo2 * bs := by rw [hM]
  have hB' : (q1 + 1) * bs ≤ (q1 + 1 + M) * bs := Nat.mul_le_mul_right _ (by omega)
  have hQ : (q1 + 1) * bs = q1 * bs + bs := Nat.succ_mul q1 bs
  have hfull : (blockAt d bs q1).length = bs := by rw [blockAt_length]; omega
  have hmid : ((blockAt d bs q1 :: (blocksFrom d bs M (q1 + 1) ++ [blockAt d bs bo2])).drop MANY_MID_SKIP).take
      ((blockAt d bs q1 :: (blocksFrom d bs M (q1 + 1) ++ [blockAt d bs bo2])).length - MANY_MID_LESS)
        = blocksFrom d bs M (q1 + 1) := by
    simp only [MANY_MID_SKIP, MANY_MID_LESS, List.drop_succ_cons, List.drop_zero, List.length_cons, List.length_append,
      blocksFrom_length, List.length_nil]
    exact List.take_left' (blocksFrom_length d bs M (q1 + 1))
  unfold copyMany
  rw [List.head?_cons, ← List.cons_append, List.getLast?_concat]
  simp only [List.cons_append, hmid, manyFirstN, manyFirstBeg, manyFirstEnd, manyFirstDstFromAt, manyLastN, manyLastBeg,
    manyLastEnd, manyLastDstFromAt, hfull]
  rw [show i1 + (bs - i1) = bs by omega, copyFirst_exact g1 g2 g3 hEL (by omega), ← hQ]
  refine upTo_bind (by omega) fun h1 => ?_
  rw [copyMids_exact d bs len beg i1 bi2 M (q1 + 1) (by omega) (by omega) h1, hB]
  exact upTo_bind (by omega) fun _ => copyLast_exact g3 g5 hEL (by omega)

end arms

theorem read_exact {d : Bytes} {bs : Nat} {I : Rd → Prop} (hF : Faithful d bs I) (r : Rd) (beg e len : Nat)
    (hr : I r) (hlen : 1 ≤ len) :
    ∃ r', I r' ∧ r'.bs = r.bs ∧ readDataToBuffer r beg e false len =
      (if beg ≥ min e d.length then R3.done
       else if len < min e d.length - beg then R3.err
       else R3.found (sl d beg (min e d.length)), r') := by
  obtain ⟨hrbs, hrfsz⟩ := hF.st r hr
  have hbs := hF.hbs
  unfold readDataToBuffer
  rw [lenCheckFails_eq, decide_eq_false (by omega)]
  simp only [Bool.false_eq_true, if_false]
  unfold readData
  simp only [rdEnd, rdEmpty, hrfsz, hrbs]
  generalize hE : min e d.length = E
  by_cases hbE : beg ≥ E
  · simp only [decide_eq_true hbE, if_true, if_pos hbE]
    exact ⟨r, hr, hrbs, rfl⟩
  · simp only [decide_eq_false hbE, Bool.false_eq_true, if_false, if_neg hbE]
    have hEL : E ≤ d.length := by omega
    obtain ⟨g1, g2, g3, g4, g5, g6⟩ := geom bs beg E hbs (by omega)
    simp only [blockOffsetAtFileOffset_eq, blockIndexAtFileOffset_eq]
    generalize beg / bs = q1 at g1 g6 ⊢
    generalize beg % bs = i1 at g1 g2 ⊢
    generalize rdBo2 (E % bs) (E / bs) = bo2 at g3 g6 ⊢
    generalize rdBi2 (E % bs) bs = bi2 at g3 g4 g5 ⊢
    -- what the copy yields is what is to be returned
    have ret : ∀ r' : Rd, (match some (upTo d len beg E) with
        | none => (R3.done, r') | some (.ok w) => (.found w, r') | some .err => (.err, r') | some .panic => (.panic, r'))
        = (if len < E - beg then R3.err else R3.found (sl d beg E), r') := by
      intro r'
      unfold upTo
      by_cases hl : len < E - beg
      · rw [if_pos hl, if_pos hl]
      · rw [if_neg hl, if_neg hl]
    have hb2 : bi2 ≤ (blockAt d bs bo2).length := by rw [blockAt_length]; omega
    obtain ⟨r1, e1, hr1⟩ := found_block hF r q1 hr (by omega)
    rw [e1]
    simp only
    by_cases h12 : q1 = bo2
    · subst h12
      rw [if_pos (Or.inl rfl)]
      simp only
      rw [Nat.min_eq_left hb2, copyOne_exact g1 g3 g5 hEL (by omega) rfl]
      exact ⟨r1, hr1, (hF.st r1 hr1).1, ret r1⟩
    · have hlt : (q1 + 1) * bs ≤ bo2 * bs := Nat.mul_le_mul_right _ (by omega)
      rw [Nat.succ_mul] at hlt
      -- `bo2`, a later block, starts inside the file
      have hnl : q1 ≠ r.last := by
        rw [Rd.last, hrfsz, hrbs]
        intro heq
        have := (le_blockOffsetLast_iff d.length bs bo2 hbs (by omega)).2 (by omega)
        omega
      rw [if_neg (by rintro (h | h); exact h12 h; exact hnl h)]
      by_cases hq : q1 + 1 = bo2
      · obtain ⟨r2, e2, hr2⟩ := found_block hF r1 bo2 hr1 (by omega)
        rw [if_pos hq, e2]
        simp only
        rw [show (if bo2 = r.last then min bi2 (blockAt d bs bo2).length else bi2) = bi2 by
            split; exact Nat.min_eq_left hb2; rfl,
          copyTwo_exact g1 g2 g3 g5 hEL hq]
        exact ⟨r2, hr2, (hF.st r2 hr2).1, ret r2⟩
      · obtain ⟨M, hM⟩ : ∃ M, bo2 = q1 + 1 + (M + 1) := ⟨bo2 - q1 - 2, by omega⟩
        obtain ⟨r2, hr2, e2⟩ := manyLoop_exact hF bo2 (by omega) (M + 1 + 1) r1 (q1 + 1) [blockAt d bs q1] hr1 (by omega)
        simp only [if_neg hq, RD_MANY_LOOP_INCLUSIVE, if_true]
        rw [show bo2 - q1 = M + 1 + 1 by omega, e2, blocksFrom_snoc, show q1 + 1 + (M + 1) = bo2 by omega]
        simp only [List.cons_append, List.nil_append]
        rw [show lastLen (blockAt d bs q1 :: (blocksFrom d bs (M + 1) (q1 + 1) ++ [blockAt d bs bo2]))
              = (blockAt d bs bo2).length by rw [lastLen, ← List.cons_append, List.getLast?_concat]; rfl,
          Nat.min_eq_left hb2, copyMany_exact g1 g2 g3 g5 hEL (M + 1) hM]
        exact ⟨r2, hr2, (hF.st r2 hr2).1, ret r2⟩

theorem readsExact {d : Bytes} {bs : Nat} {I : Rd → Prop} (hF : Faithful d bs I) (span : Nat) : ReadsExact d I span where
  fsz := fun r h => (hF.st r h).2
  read := fun r beg e len hr hlen _ => read_exact hF r beg e len hr hlen
  drop := fun r k h => ⟨hF.drop r k h, dropBlock_bs r k⟩

end S4V.Lemmas.FixedWalkRead
