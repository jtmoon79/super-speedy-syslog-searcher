/-
Lemmas for C11 (`S4V.Model.Year`).

The model's loop `walk` is a function of the skeleton regenerated from the source (`S4V.Gen.Year`). `verdict_nf` writes
out what the CURRENT skeleton decides for a message (jump test, then start-of-file exit, then `OccursBefore => break`;
`>` twice; `year - 1`) by unfolding the generated constants; `walk_eq_walkS` uses it to reduce the loop, when every line
parses with every fill year, to its simple form `walkS`, on which the two inductions `walk_revOK` and `walk_true_years`
run. So a regenerated skeleton that differs breaks `verdict_nf` and with it every theorem of `S4V.Props.YearSpec` that
rests on `walkS`.
-/
import S4V.Model.Year
import S4V.Lemmas.Time

namespace S4V.Lemmas.Year
open S4V.Model.Time S4V.Model.Year S4V.Lemmas.Time
open S4V.Gen.Year (Decision)

def Adj {α : Type} (R : α → α → Prop) : List α → Prop
  | a :: b :: r => R a b ∧ Adj R (b :: r)
  | _ => True

theorem adj_cons_cons {α : Type} {R : α → α → Prop} {a b : α} {r : List α} :
    Adj R (a :: b :: r) ↔ R a b ∧ Adj R (b :: r) := Iff.rfl

instance adjDecidable {α : Type} (R : α → α → Prop) [DecidableRel R] : (l : List α) → Decidable (Adj R l)
  | [] => isTrue trivial
  | [_] => isTrue trivial
  | a :: b :: r =>
    have := adjDecidable R (b :: r)
    decidable_of_iff (R a b ∧ Adj R (b :: r)) adj_cons_cons.symm

theorem adj_append_singleton {α : Type} (R : α → α → Prop) : ∀ (l : List α) (x : α),
    Adj R (l ++ [x]) ↔ Adj R l ∧ ∀ a, l.getLast? = some a → R a x
  | [], _ => ⟨fun _ => ⟨trivial, fun _ h => nomatch h⟩, fun _ => trivial⟩
  | [_], _ => ⟨fun h => ⟨trivial, fun _ e => Option.some.inj e ▸ h.1⟩, fun h => ⟨h.2 _ rfl, trivial⟩⟩
  | _ :: b :: r, x =>
    have ih := adj_append_singleton R (b :: r) x
    ⟨fun h => ⟨⟨h.1, (ih.1 h.2).1⟩, (ih.1 h.2).2⟩, fun h => ⟨h.1.1, ih.2 ⟨h.1.2, h.2⟩⟩⟩

theorem adj_reverse {α : Type} (R : α → α → Prop) : ∀ l : List α,
    Adj R l.reverse ↔ Adj (fun a b => R b a) l
  | [] => Iff.rfl
  | [_] => Iff.rfl
  | b :: a :: r => by
    rw [List.reverse_cons, adj_append_singleton, adj_reverse R (a :: r), List.getLast?_reverse]
    exact ⟨fun h => ⟨h.2 a rfl, h.1⟩, fun h => ⟨h.2, fun _ e => Option.some.inj e ▸ h.1⟩⟩

theorem filterMap_map_none {α β : Type} (l : List α) :
    (l.map fun _ => (none : Option β)).filterMap id = [] := by
  rw [List.map_const', List.filterMap_replicate]; rfl

theorem map_none_eq {α β : Type} (l : List α) (f : α → β) :
    ((l.map f).map fun _ => (none : Option Int)) = l.map fun _ => none := by
  simp

theorem map_none_reverse' {α : Type} (l : List α) :
    (l.map fun _ => (none : Option Int)).reverse = l.map fun _ => none := by
  rw [List.map_const', List.reverse_replicate]

/-- `dt_cur > dt_prev && dt_cur - dt_prev > J` -/
def jumpedNF (J : Int) (prev : Option Int) (dt : Int) : Bool :=
  match prev with
  | some p => decide (dt > p) && decide (dt - p > J)
  | none => false

/-- `dt_after_or_before(dt, filter_dt_after) == OccursBefore` -/
def beforeWindow (after : Option Int) (dt : Int) : Bool :=
  match after with
  | some a => decide (dt < a)
  | none => false

theorem jumped_eq_nf (J : Int) (prev : Option Int) (dt : Int) :
    jumpedG skel.laterStrict skel.diffStrict J prev dt = jumpedNF J prev dt := by
  cases prev <;> simp [jumpedG, jumpedNF, skel, S4V.Gen.Year.JUMP_LATER_STRICT, S4V.Gen.Year.JUMP_DIFF_STRICT]

theorem breaksAfter_eq_nf (after : Option Int) (dt : Int) :
    breaksAfterG skel.breaksOn after dt = beforeWindow after dt := by
  cases after with
  | none =>
    simp [breaksAfterG, afterVariant, beforeWindow, skel, S4V.Gen.Year.AFTER_FILTER_BREAKS_ON,
      S4V.Gen.Filter.dtAfterOrBefore]
  | some a =>
    by_cases h : dt < a <;>
      simp [breaksAfterG, afterVariant, beforeWindow, skel, S4V.Gen.Year.AFTER_FILTER_BREAKS_ON,
        S4V.Gen.Filter.dtAfterOrBefore, S4V.Gen.Filter.unwrapD, h]

theorem verdict_nf (J : Int) (after prev : Option Int) (dt : Int) (atStart : Bool) :
    verdict skel J after prev dt atStart =
      if jumpedNF J prev dt then Verdict.retry
      else if atStart then Verdict.brk
      else if beforeWindow after dt then Verdict.brk else Verdict.next := by
  have hd : skel.decisions = [Decision.jump, Decision.startExit, Decision.afterFilter] := by
    simp [skel, S4V.Gen.Year.DECISIONS]
  unfold verdict
  rw [hd]
  simp only [verdictL, decision, jumped_eq_nf, breaksAfter_eq_nf]
  cases jumpedNF J prev dt <;> cases atStart <;> cases beforeWindow after dt <;> rfl

theorem findParse_head {off y : Int} {m : Msg} {dt : Int} (h : dateWith off y m = some dt) (rest : List Msg) :
    findParse off y (m :: rest) = some ([], m, dt, rest) := by
  simp [findParse, h]

theorem findParse_skip {off y : Int} {m : Msg} (h : dateWith off y m = none) (rest : List Msg) :
    findParse off y (m :: rest) = (findParse off y rest).map fun r => (m :: r.1, r.2.1, r.2.2.1, r.2.2.2) := by
  simp [findParse, h]

theorem refind_head {off y : Int} {m : Msg} {dt : Int} (h : dateWith off y m = some dt) (e : Option Int) (r : Later) :
    refind off y ((m, e) :: r) = some ([], m, dt, r) := by
  simp [refind, h]

theorem blank_of_head {off y : Int} {m : Msg} {dt : Int} (h : dateWith off y m = some dt) (e : Option Int) (r : Later) :
    blank off y ((m, e) :: r) = (m, e) :: r := by
  simp [blank, h]

theorem blank_skip {off y : Int} {m : Msg} (h : dateWith off y m = none) (e : Option Int) (r : Later) :
    blank off y ((m, e) :: r) = (m, none) :: blank off y r := by
  simp [blank, h]

theorem findParse_spec (off y : Int) : ∀ (ms sk : List Msg) (m : Msg) (dt : Int) (rest : List Msg),
    findParse off y ms = some (sk, m, dt, rest) →
      dateWith off y m = some dt ∧ (∀ s ∈ sk, dateWith off y s = none) ∧ ms = sk ++ m :: rest
  | [], _, _, _, _, h => nomatch h
  | a :: t, sk, m, dt, rest, h => by
    cases hd : dateWith off y a with
    | some d =>
      rw [findParse_head hd] at h
      cases h
      exact ⟨hd, fun _ hs => (nomatch hs), rfl⟩
    | none =>
      rw [findParse_skip hd] at h
      cases hf : findParse off y t with
      | none => rw [hf] at h; nomatch h
      | some r =>
        obtain ⟨sk', m', dt', rest'⟩ := r
        rw [hf] at h
        cases h
        obtain ⟨h1, h2, h3⟩ := findParse_spec off y t sk' m' dt' rest' hf
        refine ⟨h1, fun s hs => ?_, by rw [h3]; rfl⟩
        rcases List.mem_cons.1 hs with rfl | hs
        · exact hd
        · exact h2 s hs

theorem blank_idem (off y : Int) : ∀ l : Later, blank off y (blank off y l) = blank off y l
  | [] => rfl
  | (m, e) :: r => by
    cases hd : dateWith off y m with
    | some d => rw [blank_of_head hd, blank_of_head hd]
    | none => rw [blank_skip hd, blank_skip hd, blank_idem off y r]

theorem blank_skipped (off y : Int) (l : Later) : ∀ sk : List Msg, (∀ s ∈ sk, dateWith off y s = none) →
    blank off y ((sk.map fun s => (s, (none : Option Int))) ++ l) = (sk.map fun s => (s, none)) ++ blank off y l
  | [], _ => rfl
  | a :: t, h => by
    rw [List.map_cons, List.cons_append, blank_skip (h a List.mem_cons_self),
      blank_skipped off y l t fun s hs => h s (List.mem_cons_of_mem _ hs)]
    rfl

theorem jumpedNF_some {J p dt : Int} : jumpedNF J (some p) dt = true ↔ p < dt ∧ J < dt - p := by
  simp [jumpedNF]

theorem jumpedNF_of_le {J : Int} {prev : Option Int} {dt : Int} (h : ∀ p, prev = some p → dt ≤ p + J) :
    jumpedNF J prev dt = false := by
  cases prev with
  | none => rfl
  | some p =>
    have := h p rfl
    exact Bool.eq_false_iff.2 fun hj => by have := jumpedNF_some.1 hj; omega

theorem not_jumped {J : Int} (hJ : 0 ≤ J) {p dt : Int} (h : jumpedNF J (some p) dt = false) : dt ≤ p + J := by
  have := mt jumpedNF_some.2 (Bool.eq_false_iff.1 h)
  omega

/-- the loop when nothing is ever swallowed or found again (no 29 February, no malformed date): the head of the list
parses (the `none` arm is there for totality); entries in visiting order (last message first) -/
def walkS (J off : Int) (after : Option Int) : Nat → List Msg → Int → Option Int → List (Option Int)
  | _ + 1, m :: rest, y, prev =>
    match dateWith off y m with
    | some dt =>
      if jumpedNF J prev dt then walkS J off after ‹Nat› (m :: rest) (y - 1) prev
      else some dt :: (if beforeWindow after dt then rest.map fun _ => none else walkS J off after ‹Nat› rest y (some dt))
    | none => (m :: rest).map fun _ => none
  | _, ms, _, _ => ms.map fun _ => none

/-- the line of `m` parses with every fill year (a real month/day other than 29 February) -/
def AlwaysParse (off : Int) (m : Msg) : Prop := ∀ y, ∃ dt, dateWith off y m = some dt

theorem blank_alwaysParse (off y : Int) (l : Later) (h : ∀ x ∈ l, AlwaysParse off x.1) : blank off y l = l := by
  cases l with
  | nil => rfl
  | cons x r =>
    obtain ⟨m, e⟩ := x
    obtain ⟨dt, hd⟩ := h (m, e) (by simp) y
    exact blank_of_head hd e r

theorem walkS_head {J off : Int} {after : Option Int} {f : Nat} {m : Msg} {rest : List Msg} {y dt : Int}
    {prev : Option Int} (hd : dateWith off y m = some dt) (hj : jumpedNF J prev dt = false) :
    walkS J off after (f + 1) (m :: rest) y prev =
      some dt :: (if beforeWindow after dt then rest.map fun _ => none else walkS J off after f rest y (some dt)) := by
  rw [walkS, hd]
  simp only [hj, Bool.false_eq_true, if_false]

theorem walkS_retry {J off : Int} {after : Option Int} {f : Nat} {m : Msg} {rest : List Msg} {y dt : Int}
    {prev : Option Int} (hd : dateWith off y m = some dt) (hj : jumpedNF J prev dt = true) :
    walkS J off after (f + 1) (m :: rest) y prev = walkS J off after f (m :: rest) (y - 1) prev := by
  rw [walkS, hd]
  simp only [hj, if_true]

theorem walkS_nil (J off : Int) (after : Option Int) (y : Int) (prev : Option Int) :
    ∀ fuel, walkS J off after fuel [] y prev = []
  | 0 => rfl
  | _ + 1 => rfl

/-- The induction behind `walk_eq_walkS`, with messages already visited (`later`). `hH`: once nothing is left to visit,
the nearest of them is the one stored last — stored with the date its line has under `y`, and `prev` is that date. That
is the message `refind` finds again, so finding it again is no jump and changes nothing. -/
private theorem walk_eq_walkS_later (lead : Bool) (J off : Int) (after : Option Int) :
    ∀ (fuel : Nat) (ms : List Msg) (y : Int) (prev : Option Int) (later : Later),
      (∀ m ∈ ms, AlwaysParse off m) → (∀ x ∈ later, AlwaysParse off x.1) →
      (hH : ms = [] → ∀ x ∈ later.head?, prev = x.2 ∧ x.2 = dateWith off y x.1) →
      walk lead J off after fuel ms y prev later
        = (walkS J off after fuel ms y prev).reverse ++ later.map Prod.snd
  | 0, ms, _, _, later, _, _, _ => by
    show (ms.map fun _ => none) ++ later.map Prod.snd = (ms.map fun _ => none).reverse ++ _
    rw [map_none_reverse']
  | _ + 1, [], _, _, [], _, _, _ => rfl
  | fuel + 1, [], y, prev, (m, e) :: r, _, hl, hH => by
    obtain ⟨rfl, he⟩ := hH rfl (m, e) rfl
    obtain ⟨dt, hd⟩ := hl (m, prev) List.mem_cons_self y
    rw [hd] at he
    subst he
    have hj : jumpedNF J (some dt) dt = false :=
      Bool.eq_false_iff.2 fun h => Int.lt_irrefl _ (jumpedNF_some.1 h).1
    unfold walk walkG
    simp only [findParse, refind_head hd, verdict_nf, hj, Bool.false_eq_true, if_false,
      blank_alwaysParse off y r fun x hx => hl x (List.mem_cons_of_mem _ hx)]
    cases beforeWindow after dt <;> rfl
  | fuel + 1, m :: rest, y, prev, later, hms, hl, _ => by
    obtain ⟨dt, hd⟩ := hms m List.mem_cons_self y
    have ih := walk_eq_walkS_later lead J off after fuel
    unfold walk at ih ⊢
    unfold walkG
    simp only [findParse_head hd, verdict_nf, blank_alwaysParse off y later hl]
    cases hj : jumpedNF J prev dt
    · rw [walkS_head hd hj]
      simp only [Bool.false_eq_true, if_false]
      cases hs : (rest.isEmpty && !lead)
      · cases hb : beforeWindow after dt
        · simp only [Bool.false_eq_true, if_false, List.reverse_nil, List.map_nil, List.nil_append]
          rw [ih rest y (some dt) ((m, some dt) :: later) (fun m' h => hms m' (List.mem_cons_of_mem _ h))
            (fun x hx => (List.mem_cons.1 hx).elim (fun h => h ▸ hms m List.mem_cons_self) (hl x))
            (fun _ x hx => by cases hx; exact ⟨rfl, hd.symm⟩)]
          simp
        · simp [map_none_reverse']
      · -- start-of-file exit: nothing is left to visit
        have hr : rest = [] := List.isEmpty_iff.1 (Bool.and_eq_true_iff.1 hs).1
        subst hr
        simp [walkS_nil]
    · rw [walkS_retry hd hj]
      simp only [if_true]
      exact ih (m :: rest) (y - 1) prev later hms hl (fun h => nomatch h)

/-- When every line parses with every fill year the loop of the current source is the simple form. Nothing is ever
swallowed (`findParse` finds the head, `blank` changes nothing); a message is found again (`refind`) only when nothing is
left to visit, with the date it was stored with, which is no jump. The start-of-file exit is not visible: nothing is left
to visit then. -/
theorem walk_eq_walkS (lead : Bool) (J off : Int) (after : Option Int) (fuel : Nat) (ms : List Msg) (y : Int)
    (h : ∀ m ∈ ms, AlwaysParse off m) :
    walk lead J off after fuel ms y none [] = (walkS J off after fuel ms y none).reverse := by
  simpa using walk_eq_walkS_later lead J off after fuel ms y none [] h nofun fun _ => nofun

/-- later-first list: each entry is at most `J` after the entry before it (its successor in the file) -/
def RevOK (J : Int) : List Int → Prop := Adj (fun b a => a ≤ b + J)

/-- `prev` stands in front of the list so that the step from it to the next date stored is part of the claim: that step
is what the jump test bounds (`not_jumped`). -/
theorem walk_revOK (J off : Int) (after : Option Int) (hJ : 0 ≤ J) :
    ∀ (fuel : Nat) (ms : List Msg) (y : Int) (prev : Option Int),
      RevOK J (prev.toList ++ (walkS J off after fuel ms y prev).filterMap id)
  | fuel + 1, m :: rest, y, prev => by
    rw [walkS]
    cases dateWith off y m with
    | none =>
      simp only []
      rw [filterMap_map_none]
      cases prev <;> exact trivial
    | some dt =>
      simp only []
      cases hj : jumpedNF J prev dt
      · simp only [Bool.false_eq_true, if_false, List.filterMap_cons, id]
        have ht : RevOK J (dt :: (if beforeWindow after dt then rest.map fun _ => none
            else walkS J off after fuel rest y (some dt)).filterMap id) := by
          cases beforeWindow after dt
          · exact walk_revOK J off after hJ fuel rest y (some dt)
          · simp only [if_true]
            rw [filterMap_map_none]
            exact trivial
        cases prev with
        | none => exact ht
        | some p => exact adj_cons_cons.2 ⟨not_jumped hJ hj, ht⟩
      · simp only [if_true]
        exact walk_revOK J off after hJ fuel (m :: rest) (y - 1) prev
  | 0, ms, _, prev => by
    show RevOK J (prev.toList ++ (ms.map fun _ => none).filterMap id)
    rw [filterMap_map_none]
    cases prev <;> exact trivial
  | _ + 1, [], _, prev => by cases prev <;> exact trivial

theorem valid_shift {y : Int} (y' : Int) {m d : Int} (h29 : ¬ (m = 2 ∧ d = 29)) (h : validDate y m d = true) :
    validDate y' m d = true := by
  rw [validDate_iff] at h ⊢
  obtain ⟨h1, h2, h3, h4⟩ := h
  refine ⟨h1, h2, h3, ?_⟩
  by_cases hm : m = 2
  · subst hm
    simp only [if_true] at h4 ⊢
    have : d ≤ 28 := by split at h4 <;> omega
    split <;> omega
  · simp only [hm, if_false] at h4 ⊢
    exact h4

theorem days_shift (y m d : Int) (hm0 : 1 ≤ m) (hm1 : m ≤ 12) :
    daysFromCivil (y + 1) m d - daysFromCivil y m d = 365 ∨
      daysFromCivil (y + 1) m d - daysFromCivil y m d = 366 := by
  rw [daysFromCivil_closed _ _ _ hm0 hm1, daysFromCivil_closed _ _ _ hm0 hm1, jan1_succ]
  -- the month table cancels: only the leap-day terms of the two years are left
  have hT : daysBeforeMonth (y + 1) m - (if 3 ≤ m ∧ Leap (y + 1) then 1 else 0)
      = daysBeforeMonth y m - (if 3 ≤ m ∧ Leap y then 1 else 0) := by
    unfold daysBeforeMonth
    rw [Int.add_sub_cancel, Int.add_sub_cancel]
  by_cases hL : Leap y
  · have hL' : ¬ Leap (y + 1) := by unfold Leap at hL ⊢; omega
    simp only [hL, hL', and_true, and_false, if_true, if_false] at hT ⊢
    omega
  · simp only [hL, and_false, if_false] at hT ⊢
    by_cases hL' : 3 ≤ m ∧ Leap (y + 1) <;> simp only [hL', if_false] at hT ⊢ <;> omega

theorem days_in_year {y m d : Int} (h : validDate y m d = true) :
    jan1 y ≤ daysFromCivil y m d ∧ daysFromCivil y m d < jan1 (y + 1) := by
  have v := (validDate_iff _ _ _).mp h
  have o := ordinal_bounds y m d h
  rw [daysFromCivil_closed _ _ _ v.1 v.2.1, jan1_succ]
  omega

/-- a message together with the year it was really written in -/
structure TMsg where
  y : Int
  mo : Int
  day : Int
  sod : Int
deriving Repr, DecidableEq

def TMsg.msg (t : TMsg) : Msg := ⟨t.mo, t.day, t.sod⟩

/-- local seconds of the true date-time -/
def TMsg.loc (t : TMsg) : Int := daysFromCivil t.y t.mo t.day * 86400 + t.sod

/-- the true instant (zone `off` seconds east of UTC) -/
def TMsg.instant (off : Int) (t : TMsg) : Int := t.loc - off

/-- a real date that is not 29 February, with a time of day -/
def TMsg.Ok (t : TMsg) : Prop :=
  validDate t.y t.mo t.day = true ∧ ¬ (t.mo = 2 ∧ t.day = 29) ∧ 0 ≤ t.sod ∧ t.sod < 86400

instance (t : TMsg) : Decidable t.Ok := by unfold TMsg.Ok; exact inferInstance

/-- `a` is followed in the file by `b`: the year does not decrease, time runs backwards by at
most `J`, and the gap is less than 365 days minus `J` -/
def Step (J : Int) (a b : TMsg) : Prop :=
  a.y ≤ b.y ∧ a.loc ≤ b.loc + J ∧ b.loc - a.loc < 365 * 86400 - J

instance (J : Int) (a b : TMsg) : Decidable (Step J a b) := by unfold Step; exact inferInstance

theorem dateWith_true (off : Int) (t : TMsg) (h : t.Ok) : dateWith off t.y t.msg = some (t.instant off) := by
  unfold dateWith TMsg.msg TMsg.instant TMsg.loc
  simp [h.1]

theorem dateWith_next (off : Int) (t : TMsg) (h : t.Ok) :
    ∃ k : Int, (k = 365 ∨ k = 366) ∧ dateWith off (t.y + 1) t.msg = some (t.instant off + k * 86400) := by
  have v := (validDate_iff _ _ _).mp h.1
  have hv : validDate (t.y + 1) t.mo t.day = true := valid_shift _ h.2.1 h.1
  refine ⟨_, days_shift t.y t.mo t.day v.1 v.2.1, ?_⟩
  unfold dateWith TMsg.msg TMsg.instant TMsg.loc
  simp only [hv, if_true, Option.some.injEq]
  omega

theorem far_years {a b : TMsg} (ha : a.Ok) (hb : b.Ok) (h : a.y + 2 ≤ b.y) :
    b.loc - a.loc ≥ 365 * 86400 := by
  obtain ⟨hva, -, hsa⟩ := ha
  obtain ⟨hvb, -, hsb⟩ := hb
  -- `a` lies before the end of its year, `b` after the start of its own, and a whole year lies between
  have ia := days_in_year hva
  have ib := days_in_year hvb
  have m1 := jan1_mono (show a.y + 1 + 1 ≤ b.y by omega)
  have s1 := jan1_succ (a.y + 1)
  unfold TMsg.loc
  split at s1 <;> omega

theorem step_year {J : Int} (hJ : 0 ≤ J) {a b : TMsg} (ha : a.Ok) (hb : b.Ok) (h : Step J a b) :
    a.y = b.y ∨ a.y + 1 = b.y := by
  obtain ⟨hyear, -, hgap⟩ := h
  by_cases h2 : a.y + 2 ≤ b.y
  · have := far_years ha hb h2
    omega
  · omega

theorem step_instant_le {J off : Int} {a b : TMsg} (h : Step J a b) : a.instant off ≤ b.instant off + J := by
  obtain ⟨-, hback, -⟩ := h
  unfold TMsg.instant
  omega

theorem step_jumped {J off : Int} (hJ : 0 ≤ J) {a b : TMsg} (h : Step J a b) {k : Int} (hk : 365 ≤ k) :
    jumpedNF J (some (b.instant off)) (a.instant off + k * 86400) = true := by
  obtain ⟨-, -, hgap⟩ := h
  unfold TMsg.instant
  exact jumpedNF_some.2 ⟨by omega, by omega⟩

/-- what the walk yields for true instants `ts` (later first) under a `--dt-after` bound: every
message down to and including the first one before the bound is dated, the ones before it are not -/
def stopSpec (after : Option Int) : List Int → List (Option Int)
  | [] => []
  | t :: r => some t :: (if beforeWindow after t then r.map (fun _ => none) else stopSpec after r)

theorem stopSpec_none (l : List Int) : stopSpec none l = l.map some := by
  induction l with
  | nil => rfl
  | cons t r ih => simp [stopSpec, beforeWindow, ih]

/-- The backward walk over messages (later first) whose true years satisfy `Step` dates every
message with its true year. `y`/`prev` describe the state on entry: either nothing visited
yet and `y` is the first (= last in file) message's year, or `prev` is the true instant of the
message visited before (`s`), `y` its true year, and `Step r s` holds. -/
theorem walk_true_years (J off : Int) (after : Option Int) (hJ : 0 ≤ J) :
    ∀ (rs : List TMsg) (fuel : Nat) (y : Int) (prev : Option Int),
      2 * rs.length ≤ fuel →
      (∀ t ∈ rs, t.Ok) →
      Adj (fun b a => Step J a b) rs →
      (∀ r, rs.head? = some r →
        (prev = none ∧ y = r.y) ∨ (∃ s : TMsg, s.Ok ∧ prev = some (s.instant off) ∧ y = s.y ∧ Step J r s)) →
      walkS J off after fuel (rs.map TMsg.msg) y prev = stopSpec after (rs.map (TMsg.instant off))
  | [], fuel, _, _, _, _, _, _ => by cases fuel <;> rfl
  | r :: rest, fuel, y, prev, hfuel, hok, hadj, hst => by
    have hrok : r.Ok := hok r List.mem_cons_self
    obtain ⟨f, hf, rfl⟩ : ∃ f, 2 * rest.length ≤ f ∧ fuel = f + 2 :=
      ⟨fuel - 2, Nat.le_sub_of_add_le hfuel, (Nat.sub_add_cancel (Nat.le_trans (Nat.le_add_left 2 _) hfuel)).symm⟩
    -- with `r` stored under its true year the rest of the walk starts in the state of the statement
    have hrest : ∀ f', f ≤ f' → walkS J off after f' (rest.map TMsg.msg) r.y (some (r.instant off))
        = stopSpec after (rest.map (TMsg.instant off)) := fun f' hf' =>
      walk_true_years J off after hJ rest f' r.y _ (Nat.le_trans hf hf')
        (fun t ht => hok t (List.mem_cons_of_mem _ ht))
        (match rest, hadj with
          | [], _ => trivial
          | _ :: _, h => h.2)
        (match rest, hadj with
          | [], _ => fun _ h => nomatch h
          | a :: _, h => fun r' hr' => Option.some.inj hr' ▸ Or.inr ⟨r, hrok, rfl, rfl, h.1⟩)
    -- `r` read with its true year is not a jump, and is stored
    have accept : ∀ f', f ≤ f' → ∀ prev : Option Int, (∀ p, prev = some p → r.instant off ≤ p + J) →
        walkS J off after (f' + 1) ((r :: rest).map TMsg.msg) r.y prev
          = stopSpec after ((r :: rest).map (TMsg.instant off)) := fun f' hf' prev hp => by
      rw [List.map_cons, walkS_head (dateWith_true off r hrok) (jumpedNF_of_le hp), hrest f' hf', map_none_eq]
      exact (congrArg (fun l => some (r.instant off) :: if beforeWindow after (r.instant off) then l else _)
        (map_none_eq rest (TMsg.instant off))).symm
    rcases hst r rfl with ⟨rfl, rfl⟩ | ⟨s, hsok, rfl, rfl, hstep⟩
    · exact accept (f + 1) (Nat.le_succ f) none fun _ h => nomatch h
    · have hle : ∀ p, some (s.instant off) = some p → r.instant off ≤ p + J :=
        fun p hp => Option.some.inj hp ▸ step_instant_le hstep
      rcases step_year hJ hrok hsok hstep with hsame | hy2
      · rw [← hsame]
        exact accept (f + 1) (Nat.le_succ f) _ hle
      · -- the true year is one less: read with `s.y` the message is 365 or 366 days late, a jump;
        -- read again with `s.y - 1` it is stored
        obtain ⟨k, hk, hdw⟩ := dateWith_next off r hrok
        rw [hy2] at hdw
        rw [List.map_cons, walkS_retry hdw (step_jumped hJ hstep (by omega)), ← hy2, Int.add_sub_cancel, ← List.map_cons]
        exact accept f (Nat.le_refl f) _ hle

end S4V.Lemmas.Year
