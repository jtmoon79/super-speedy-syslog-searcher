/-
C04, regex slice — catalogues DERIVED from the generated AST of a row, with no per-row input, and the row theorems.

The catalogue of an item is every symbolic word it can consume (`RegexRows.symEntriesOf`), restricted by the
GREEDY-FIRST policy (`rawBodyAux`) and pruned from right to left (`pruneA`) to the entries on which the symbolic run `am` is
determinate given what can follow. The pruned catalogue passes `rowOk` by construction (`rowOkA_prune`), so soundness needs
no per-row check; what the per-row kernel computation reads off the catalogue (`keptCounts`, `catDigest`) pins what the
row theorem covers and breaks when the pattern changes. A body is checked against ANY set that holds the next byte, so one
check serves the empty tail and the tail that starts with a byte of the final class (`rowResult_last`); the final group is
sound whatever its class (`endPiece_ok`). The item in front of the body — `^`, `(^|x)`, `([class]|^)` or none — is read off the regex
(`headKind`): `auto_E` (rows with a final group) and `auto_P` (rows without) are what the generated row files apply.

Suffixes in this slice: `…E` / `…P` a row that ends in the final group `(?P<g>[class]|$)` / plainly; `…A` over the automatic
(pruned) catalogue; `…B` a Boolean form of a `Prop`; `…S`, `…s` on symbolic words; `…L` on a line given as bytes; `…F` (`amF`,
`pruneF`, `catOKF`, `bodyF`: `S4V.Lemmas.RegexEval`, `RegexTable`) the equal form that the kernel evaluates, never the one a
statement is about. `F` alone is a follow set.
-/
import S4V.Lemmas.RegexRows

namespace S4V.Lemmas.RegexAuto
open S4V.Model.Regex S4V.Lemmas.RegexStep S4V.Lemmas.RegexSym S4V.Lemmas.RegexRows

/-! ### monotonicity of the symbolic run in the follow set -/

/-- `b` refines `a`: a definite answer of `a` is also the answer of `b` -/
def RLe (a b : R) : Prop := a = .unk ∨ a = b

/-- "`a`, and `b` when `a` fails" (an alternation, one more round of a repetition) is monotone in both -/
theorem RLe.orElse {a a' b b' : R} : RLe a a' → RLe b b' →
    RLe (match a with | .fail => b | .unk => .unk | .done => .done) (match a' with | .fail => b' | .unk => .unk | .done => .done) := by
  intro ha hb
  rcases ha with rfl | rfl
  · exact Or.inl rfl
  · cases a with
    | fail => exact hb
    | unk => exact Or.inl rfl
    | done => exact Or.inr rfl

theorem inRanges_sub {F' F : Sym} (h : F' ⊆ F) {n : Nat} (hn : inRanges F' n = true) : inRanges F n = true := by
  simp only [inRanges, List.any_eq_true] at hn ⊢
  obtain ⟨x, hx, hp⟩ := hn
  exact ⟨x, h hx, hp⟩

theorem symHas_sub {F' F : Sym} (h : F' ⊆ F) {b : UInt8} (hb : symHas F' b = true) : symHas F b = true :=
  inRanges_sub h hb

theorem asciiOnly_sub {F' F : Sym} (h : F' ⊆ F) (ha : asciiOnly F = true) : asciiOnly F' = true := by
  simp only [asciiOnly, List.all_eq_true] at ha ⊢
  exact fun x hx => ha x (h hx)

theorem follFails_sub {F' F : Sym} (h : F' ⊆ F) {rs : List (Nat × Nat)} (hf : follFails F rs = true) :
    follFails F' rs = true := by
  simp only [follFails, Bool.and_eq_true, Bool.or_eq_true, List.all_eq_true] at hf ⊢
  refine ⟨fun n hn => ?_, hf.2.imp_left (asciiOnly_sub h)⟩
  have := hf.1 n hn
  cases h1 : inRanges F' n with
  | false => simp
  | true => simpa [inRanges_sub h h1] using this

theorem amLit_mono {F' F : Sym} (h : F' ⊆ F) :
    ∀ (bs : List UInt8) (syms : List Sym), amLit F bs syms = .unk ∨ amLit F bs syms = amLit F' bs syms := by
  intro bs
  induction bs with
  | nil => intro syms; right; simp [amLit]
  | cons b bs ih =>
    intro syms
    cases syms with
    | nil =>
      simp only [amLit]
      cases hF : symHas F b with
      | true => left; simp
      | false =>
        right
        cases hF' : symHas F' b with
        | true => rw [symHas_sub h hF'] at hF; cases hF
        | false => rfl
    | cons s rest =>
      simp only [amLit]
      split
      · exact ih rest
      · right; rfl

theorem amRep_mono {body body' : Nat → List Sym → Caps → AK → R}
    (hb : ∀ pos rest caps (k k' : AK), (∀ p r c, RLe (k p r c) (k' p r c)) → RLe (body pos rest caps k) (body' pos rest caps k'))
    (bounded : Bool) (k k' : AK) (hk : ∀ p r c, RLe (k p r c) (k' p r c)) :
    ∀ (fuel need pos : Nat) (rest : List Sym) (caps : Caps),
      RLe (amRep body bounded fuel need pos rest caps k) (amRep body' bounded fuel need pos rest caps k') := by
  intro fuel
  induction fuel with
  | zero =>
    intro need pos rest caps
    simp only [amRep]
    cases bounded with
    | false => left; rfl
    | true =>
      simp only [↓reduceIte]
      split
      · exact hk _ _ _
      · right; rfl
  | succ f ih =>
    intro need pos rest caps
    simp only [amRep]
    split
    · exact (hb pos rest caps _ _ (fun p r c => ih 0 p r c)).orElse (hk _ _ _)
    · exact hb pos rest caps _ _ (fun p r c => ih (need - 1) p r c)

theorem am_mono {F' F : Sym} (h : F' ⊆ F) (a : Re) :
    ∀ (pos : Nat) (rest : List Sym) (caps : Caps) (k k' : AK), (∀ p r c, RLe (k p r c) (k' p r c)) →
      RLe (am F a pos rest caps k) (am F' a pos rest caps k') := by
  intro pos rest caps k k' hk
  induction a generalizing pos rest caps k k' with
  | eps => simpa [am] using hk pos rest caps
  | lit bs =>
    simp only [am]
    rcases amLit_mono h bs rest with hu | he
    · left; rw [hu]
    · rw [he]
      cases amLit F' bs rest with
      | ok r => exact hk _ _ _
      | fail => right; rfl
      | unk => left; rfl
  | cls rs =>
    cases rest with
    | nil =>
      simp only [am]
      cases hf : follFails F rs with
      | true => right; simp [follFails_sub h hf]
      | false => left; simp
    | cons s rest' =>
      simp only [am]
      split
      · exact hk _ _ _
      · split
        · right; rfl
        · left; rfl
  | cat a b iha ihb => simp only [am]; exact iha _ _ _ _ _ (fun p r c => ihb p r c k k' hk)
  | alt a b iha ihb => simp only [am]; exact (iha pos rest caps k k' hk).orElse (ihb pos rest caps k k' hk)
  | rep r lo hi ih => simp only [am]; exact amRep_mono (fun pos rest caps k k' hk => ih pos rest caps k k' hk) _ k k' hk _ _ _ _ _
  | group i r ih => simp only [am]; exact ih _ _ _ _ _ (fun p r' c => hk _ _ _)
  | bol => left; rfl
  | eol =>
    cases rest with
    | nil =>
      simp only [am]
      cases hF : F.isEmpty with
      | false => left; simp
      | true =>
        -- an empty follow set has only the empty subset
        obtain rfl : F = [] := by simpa using hF
        obtain rfl : F' = [] := List.subset_nil.mp h
        simpa using hk pos [] caps
    | cons s rest' => right; rfl

theorem firsts_sub {d' d : List Entry} (h : d' ⊆ d) : firsts d' ⊆ firsts d := by
  intro x hx
  simp only [firsts, List.mem_flatMap] at hx ⊢
  obtain ⟨e, he, hxe⟩ := hx
  exact ⟨e, h he, hxe⟩

theorem nullable_sub {d' d : List Entry} (h : d' ⊆ d) (hn : nullable d' = true) : nullable d = true := by
  simp only [nullable, List.any_eq_true] at hn ⊢
  obtain ⟨e, he, hp⟩ := hn
  exact ⟨e, h he, hp⟩

/-- one step of `follow`: what can come first only shrinks when the catalogue and what follows it do -/
theorem follow_cons_sub {d' d : List Entry} {F' F : Sym} (hd : d' ⊆ d) (hF : F' ⊆ F) :
    firsts d' ++ (if nullable d' then F' else []) ⊆ firsts d ++ (if nullable d then F else []) := by
  refine List.append_subset.mpr ⟨fun x hx => List.mem_append_left _ (firsts_sub hd hx), fun x hx => List.mem_append_right _ ?_⟩
  split at hx
  · next hn => rw [if_pos (nullable_sub hd hn)]; exact hF hx
  · cases hx

/-- the slots of the entry lie inside its word: per entry what `RegexRows.domSlotsOk` asks of a catalogue, and for a chosen
word the third conjunct of `RegexRows.EwOK` -/
def slotsOk (e : Entry) : Bool := e.2.all (fun c => decide (c.2.1 ≤ c.2.2) && decide (c.2.2 ≤ e.1.length))

/-- the symbolic run of `item` on the entry is determinate when followed by `F` -/
def entryOk (F : Sym) (item : Re) (e : Entry) : Bool :=
  am F item 0 e.1 [] (topK e.1.length e.2) == .done && slotsOk e

/-- from right to left: keep the determinate entries; `A` = what can follow the whole list -/
def pruneA : List Piece → Sym → List Piece
  | [], _ => []
  | q :: qs, A => ⟨q.item, q.dom.filter (entryOk (follow (pruneA qs A) A) q.item)⟩ :: pruneA qs A

/-- `RegexSym.rowOk` again (`rowOkA_eq`) -/
def rowOkA : List Piece → Sym → Bool
  | [], _ => true
  | q :: qs, A => pieceOk (follow qs A) q && rowOkA qs A

theorem of_mem_prune {F : Sym} {item : Re} {dom : List Entry} {e : Entry} (he : e ∈ dom.filter (entryOk F item)) :
    am F item 0 e.1 [] (topK e.1.length e.2) = .done ∧ slotsOk e = true := by
  simpa [entryOk] using (List.mem_filter.mp he).2

theorem rowOkA_prune : ∀ (qs : List Piece) (A : Sym), rowOkA (pruneA qs A) A = true := by
  intro qs A
  induction qs with
  | nil => rfl
  | cons q qs ih =>
    simp only [pruneA, rowOkA, Bool.and_eq_true, pieceOk, List.all_eq_true, beq_iff_eq]
    exact ⟨fun e he => (of_mem_prune he).1, ih⟩

theorem slots_prune : ∀ (qs : List Piece) (A : Sym), rowSlotsOk (pruneA qs A) = true := by
  intro qs A
  induction qs with
  | nil => rfl
  | cons q qs ih =>
    simp only [rowSlotsOk, pruneA, List.all_cons, Bool.and_eq_true]
    exact ⟨List.all_eq_true.mpr fun e he => (of_mem_prune he).2, by simpa [rowSlotsOk] using ih⟩

theorem items_prune : ∀ (qs : List Piece) (A : Sym), (pruneA qs A).map Piece.item = qs.map Piece.item := by
  intro qs A
  induction qs with
  | nil => rfl
  | cons q qs ih => simp [pruneA, ih]

theorem rowOkA_eq : ∀ (qs : List Piece) (A : Sym), rowOkA qs A = rowOk qs A
  | [], _ => rfl
  | _ :: qs, A => by simp [rowOkA, rowOk, rowOkA_eq qs A]

/-- the classes of the greedy, variable-count repetitions an item can END with (`[[:blank:]]+`, the `\\.?` closing
every alternative of a day / month name, …) -/
def greedyTail : Re → List (List (Nat × Nat))
  | .rep (.cls rs) lo hi => if hi == some lo then [] else [rs]
  | .rep (.group _ a) _ _ => greedyTail a
  | .group _ a => greedyTail a
  | .cat _ b => greedyTail b
  | .alt a b => greedyTail a ++ greedyTail b
  | _ => []

def startsIn (rs : List (Nat × Nat)) (e : Entry) : Bool :=
  match e.1 with
  | [] => false
  | s :: _ => (List.range 128).any (fun n => inRanges s n && inRanges rs n)

def symMinus (s : Sym) (prev : List (List (Nat × Nat))) : Sym :=
  ((List.range 128).filter (fun n => inRanges s n && !prev.any (fun rs => inRanges rs n))).map (fun n => (n, n))

/-- restrict the first byte of an entry to what the greedy classes before it cannot take (unchanged when there is
no overlap; dropped when nothing remains) -/
def restrictFirst (prev : List (List (Nat × Nat))) (e : Entry) : Option Entry :=
  if prev.any (fun rs => startsIn rs e) then
    match e.1 with
    | [] => some e
    | s :: w => if (symMinus s prev).isEmpty then none else some (symMinus s prev :: w, e.2)
  else some e

/-- the derived catalogue of each item (`symEntriesOf`); GREEDY-FIRST policy: right after an item that can end
with a greedy variable-count repetition of a class (also across items that can be empty), words may not start with a member of the class
(the repetition takes that byte: `Jan  1` — the pad of ` 1` belongs to `[[:blank:]]+`, see
`C04_rfc3164_padded_day_full_false`) -/
def rawBodyAux : List (List (Nat × Nat)) → List Re → List Piece
  | _, [] => []
  | prev, it :: rest =>
    ⟨it, (symEntriesOf it).filterMap (restrictFirst prev)⟩ ::
      rawBodyAux ((greedyTail it).eraseDups ++
        (if (symEntriesOf it).any (fun e => e.1.isEmpty) then prev else [])) rest

def rawBody (items : List Re) : List Piece := rawBodyAux [] items

theorem rawBodyAux_items : ∀ (items : List Re) (prev : List (List (Nat × Nat))),
    (rawBodyAux prev items).map Piece.item = items := by
  intro items
  induction items with
  | nil => intro _; rfl
  | cons it rest ih => intro prev; simp [rawBodyAux, ih]

theorem rawBody_items (items : List Re) : (rawBody items).map Piece.item = items := rawBodyAux_items items []

/-- the final `(?P<g>[class]|$)` -/
def endItem (g : Nat) (rs : List (Nat × Nat)) : Re := .group g (.alt (.cls rs) .eol)
def endPiece (g : Nat) (rs : List (Nat × Nat)) (e : Bool) : Piece := ⟨endItem g rs, endDom g (asciiPart rs) e⟩
/-- first bytes of what follows the body of a row with a final group, when the tail is not empty -/
def endFollow (g : Nat) (rs : List (Nat × Nat)) : Sym := follow [endPiece g rs true] anyByte

/-- the catalogue of a row body followed by `(?P<g>[rs]|$)` -/
def bodyE (items : List Re) (g : Nat) (rs : List (Nat × Nat)) : List Piece := pruneA (rawBody items) (endFollow g rs)
/-- the catalogue of a row body followed by a tail that is empty or starts with a byte of `tF` -/
def bodyP (items : List Re) (tF : Sym) : List Piece := pruneA (rawBody items) tF

theorem endFollow_eq (g : Nat) (rs : List (Nat × Nat)) : endFollow g rs = asciiPart rs := by
  simp [endFollow, follow, firsts, endPiece, endDom, nullable]

theorem subCls_asciiPart (rs : List (Nat × Nat)) : subCls (asciiPart rs) rs = true := by
  simp only [subCls, asciiOnly, asciiPart, inRanges, Bool.and_eq_true, List.all_eq_true, List.mem_filterMap, List.any_filterMap,
    decide_eq_true_eq, Bool.or_eq_true, Bool.not_eq_true', List.any_eq_true, List.any_eq_false, forall_exists_index, and_imp]
  refine ⟨fun r x _ h => ?_, fun n _ => Classical.or_iff_not_imp_right.mpr fun hn x hx hm => hn ⟨x, hx, ?_⟩⟩
  · split at h <;> cases h
    exact Nat.lt_succ_of_le (Nat.min_le_right _ _)
  · by_cases h : x.1 < 128 <;> simp [h] at hm
    omega

/-- the final group takes a byte of its class, and nothing at the end of the slice, whatever the class -/
theorem endPiece_ok (g : Nat) (rs : List (Nat × Nat)) :
    ∀ e, pieceOk (tailSym e) ⟨endItem g rs, endDom g (asciiPart rs) e⟩ = true
  | true => by simp [pieceOk, endDom, endItem, am, subCls_asciiPart, topK]
  | false => by simp [pieceOk, endDom, endItem, am, follFails, asciiOnly, topK, inRanges, tailSym]

/-- `(?P<g>^|x)` at offset 0 -/
theorem head_softL (g : Nat) (x : Re) (line : List UInt8) :
    Step (.group g (.alt .bol x)) 0 line [] 0 line [(g, 0, 0)] :=
  step_group g (step_altL step_bol)

/-- `(?P<g>[rs]|^)` at offset 0, when the line cannot start with a member of the class -/
theorem head_softR (g : Nat) (rs : List (Nat × Nat)) {F : Sym} {line : List UInt8} (hF : follFails F rs = true)
    (hl : TailF F line) : Step (.group g (.alt (.cls rs) .bol)) 0 line [] 0 line [(g, 0, 0)] :=
  step_group g (step_altR (fun k => cls_follFails hl hF 0 [] k) step_bol)

/-- the matcher's answer on a rendered line: match at 0 up to `stop`, slots `capsAt`, and `Captures::get(g)` =
the word of the piece that recorded group `g` (else what the head recorded: `(g, 0, 0)` for `(^|…)`) -/
def RowResult (re : Re) (line : List UInt8) (stop : Nat) (c0 : Caps) (sel : Sel) : Prop :=
  search re line = some ⟨0, stop, capsAt 0 c0 sel⟩ ∧
  ∀ g, groupText line (capsAt 0 c0 sel) g =
    match selText g sel with
    | some t => some t
    | none => groupText line c0 g

theorem groupText_of_rowResult {re : Re} {line : List UInt8} {stop : Nat} {sel : Sel} (h : RowResult re line stop [] sel)
    (g : Nat) : groupText line (capsAt 0 [] sel) g = selText g sel := by
  rw [h.2 g]
  cases selText g sel <;> simp [groupText, capGet]

/-- a row `^ item₁ item₂ …`: how a run of the items becomes a run of the row -/
theorem head_bol {re : Re} {as : List Re} (hre : re = catL (.bol :: as)) (hne : as ≠ []) {line r : List UInt8} {p : Nat}
    {c : Caps} (h : Step (catL as) 0 line [] p r c) : Step re 0 line [] p r c := by
  cases as with
  | nil => exact absurd rfl hne
  | cons _ _ => exact hre ▸ step_cat step_bol h

/-- **the row theorem in its general form**: the pieces pass the row check, and `head` says how a run of the pieces from slots
`c0` becomes a run of `re` from no slots (nothing in front, or a `Step` that consumes nothing and records `c0`) -/
theorem rowResult_of_rowOk {re : Re} {qs : List Piece} {tF : Sym} {c0 : Caps} {sel : Sel} {tail : List UInt8}
    (hok : rowOk qs tF = true) (hv : AllOK qs sel) (ht : TailF tF tail)
    (head : ∀ {p r c}, Step (catL (qs.map Piece.item)) 0 (flat sel ++ tail) c0 p r c → Step re 0 (flat sel ++ tail) [] p r c) :
    RowResult re (flat sel ++ tail) (flat sel).length c0 sel := by
  refine ⟨by simpa using search_of_step (head (row_step ht qs sel 0 c0 hok (allOK_valid hv))), fun g => ?_⟩
  have := groupText_capsAt g tail sel [] c0 (allOK_slots hv)
  rw [List.nil_append, List.length_nil] at this
  exact this

/-! ### rows with a last item of their own

The body is checked against ANY set `F` that holds the next byte, so one check of the body serves every kind of tail: what
differs between an empty and a non-empty tail is the last item only. -/

/-- checked pieces, then any `Step` of one more item (the body may be empty) -/
theorem step_body_last {body : List Piece} {F : Sym} (hok : rowOk body F = true) {sel : Sel} (hv : Valid body sel)
    {rest : List UInt8} (hF : TailF F rest) {last : Re} {c0 : Caps} {p' : Nat} {r' : List UInt8} {c' : Caps}
    (hl : Step last (flat sel).length rest (capsAt 0 c0 sel) p' r' c') :
    Step (catL (body.map Piece.item ++ [last])) 0 (flat sel ++ rest) c0 p' r' c' := by
  cases body with
  | nil =>
    cases sel with
    | nil => exact hl
    | cons _ _ => exact absurd hv (by simp [Valid])
  | cons q qs =>
    refine step_catL_snoc (by simp) ?_ hl
    simpa using row_step hF (q :: qs) sel 0 c0 hok hv

theorem rowResult_last {re : Re} {body : List Piece} {F tL : Sym} {last : Piece} {c0 : Caps} {sel : Sel}
    {ew : Entry × List UInt8} {tail : List UInt8}
    (hok : rowOk body F = true) (hv : AllOK body sel) (hF : TailF F (ew.2 ++ tail))
    (hlast : pieceOk tL last = true) (hl : EwOK last.dom ew) (ht : TailF tL tail)
    (head : ∀ {p r c}, Step (catL (body.map Piece.item ++ [last.item])) 0 (flat sel ++ (ew.2 ++ tail)) c0 p r c →
      Step re 0 (flat sel ++ (ew.2 ++ tail)) [] p r c) :
    RowResult re (flat sel ++ (ew.2 ++ tail)) ((flat sel).length + ew.2.length) c0 (sel ++ [ew]) := by
  constructor
  · rw [search_of_step (head (step_body_last hok (allOK_valid hv) hF (piece_step hlast hl.1 hl.2.1 ht)))]
    simp [capsAt_append, capsAt]
  · intro g
    have := groupText_capsAt g tail (sel ++ [ew]) [] c0
      (slotsIn_append (allOK_slots hv) (fun x hx => by rw [List.mem_singleton.mp hx]; exact hl.2.2))
    rw [List.nil_append, List.length_nil, flat_append] at this
    simp only [flat, List.append_nil, List.append_assoc] at this
    exact this

/-- rows `… body (?P<g>[rs]|$)`: the body is checked once, against the ASCII part `s` of the class; the final group needs no check
(`endPiece_ok`) -/
theorem rowResult_end {re : Re} {body : List Piece} {g : Nat} {rs : List (Nat × Nat)} {s : Sym} {c0 : Caps} {sel : Sel}
    (hok : rowOk body s = true) (hv : AllOK body sel) (tail : List UInt8) (ht : TailIn s tail)
    (head : ∀ {p r c}, Step (catL (body.map Piece.item ++ [endItem g rs])) 0 (flat sel ++ tail) c0 p r c →
      Step re 0 (flat sel ++ tail) [] p r c) (hs : asciiPart rs = s) :
    RowResult re (flat sel ++ tail) ((flat sel).length + tailLen tail) c0 (sel ++ [endEw g s tail]) := by
  subst hs
  have := rowResult_last (re := re) (c0 := c0) (ew := endEw g (asciiPart rs) tail) (tail := tail.drop (tailLen tail)) hok hv
    (by rw [endEw_word]; exact ht) (endPiece_ok g rs _) (ewOK_endEw ht) (tailF_rest tail) (by rw [endEw_word]; exact head)
  rw [endEw_word] at this
  cases tail <;> exact this

theorem auto_end {re : Re} {items : List Re} {g : Nat} {rs : List (Nat × Nat)} {c0 : Caps}
    (sel : Sel) (hv : Valid (bodyE items g rs) sel) (tail : List UInt8) (ht : TailIn (asciiPart rs) tail)
    (head : ∀ {p r c}, Step (catL (items ++ [endItem g rs])) 0 (flat sel ++ tail) c0 p r c → Step re 0 (flat sel ++ tail) [] p r c) :
    RowResult re (flat sel ++ tail) ((flat sel).length + tailLen tail) c0 (sel ++ [endEw g (asciiPart rs) tail]) :=
  rowResult_end (by rw [← endFollow_eq g rs, ← rowOkA_eq]; exact rowOkA_prune _ _)
    (allOK_of_valid (qs := bodyE items g rs) (slots_prune _ _) hv) tail ht (by rw [bodyE, items_prune, rawBody_items]; exact head) rfl

theorem auto_plain {re : Re} {items : List Re} {tF : Sym} {c0 : Caps}
    (sel : Sel) (hv : Valid (bodyP items tF) sel) (tail : List UInt8) (ht : TailF tF tail)
    (head : ∀ {p r c}, Step (catL items) 0 (flat sel ++ tail) c0 p r c → Step re 0 (flat sel ++ tail) [] p r c) :
    RowResult re (flat sel ++ tail) (flat sel).length c0 sel :=
  rowResult_of_rowOk (by rw [← rowOkA_eq]; exact rowOkA_prune _ _) (allOK_of_valid (qs := bodyP items tF) (slots_prune _ _) hv) ht
    (by rw [bodyP, items_prune, rawBody_items]; exact head)

/-! ### the first byte of a valid selection (for the `([class]|^)` head) -/

theorem tailF_sel {qs : List Piece} {sel : Sel} {tF : Sym} {tail : List UInt8} (hv : Valid qs sel) (ht : TailF tF tail) :
    TailF (follow qs tF) (flat sel ++ tail) := tailF_follow ht qs sel hv

theorem follow_prune_sub (A : Sym) : ∀ qs : List Piece, follow (pruneA qs A) A ⊆ follow qs A
  | [] => fun _ h => h
  | _ :: qs => follow_cons_sub (fun _ h => (List.mem_filter.mp h).1) (follow_prune_sub A qs)

theorem tailF_sub {F' F : Sym} (h : F' ⊆ F) {r : List UInt8} (hr : TailF F' r) : TailF F r :=
  fun x t e => symHas_sub h (hr x t e)

theorem tailF_endFollow {g : Nat} {rs : List (Nat × Nat)} {tail : List UInt8} (ht : TailIn (asciiPart rs) tail) :
    TailF (endFollow g rs) tail := endFollow_eq g rs ▸ ht

/-- the first byte of a rendered line lies in the first bytes of the (unpruned) catalogue -/
theorem tailF_body_end {items : List Re} {g : Nat} {rs : List (Nat × Nat)} {sel : Sel} {tail : List UInt8}
    (hv : Valid (bodyE items g rs) sel) (ht : TailIn (asciiPart rs) tail) :
    TailF (follow (rawBody items) (endFollow g rs)) (flat sel ++ tail) :=
  tailF_sub (follow_prune_sub _ _) (tailF_follow (tailF_endFollow ht) _ sel hv)

theorem tailF_body_plain {items : List Re} {tF : Sym} {sel : Sel} {tail : List UInt8}
    (hv : Valid (bodyP items tF) sel) (ht : TailF tF tail) :
    TailF (follow (rawBody items) tF) (flat sel ++ tail) :=
  tailF_sub (follow_prune_sub _ _) (tailF_follow ht _ sel hv)

/-! ### reading a row's shape off the generated AST -/

/-- items after the head, without the final item -/
def midItems (re : Re) (skip : Nat) : List Re := ((itemsOf re).drop skip).dropLast

def endG (re : Re) : Nat × List (Nat × Nat) :=
  match (itemsOf re).getLast? with
  | some (.group g (.alt (.cls rs) .eol)) => (g, rs)
  | _ => (0, [])

/-- ASCII bytes outside the class, and every non-ASCII byte -/
def complSym (rs : List (Nat × Nat)) : Sym :=
  ((List.range 128).filter (fun n => !inRanges rs n)).map (fun n => (n, n)) ++ [(128, 255)]

/-- the admissible first bytes of the tail of a row without a final group: anything, unless the row ends
with an unbounded repetition of a class (then: anything the repetition cannot take) -/
def autoTail (re : Re) : Sym :=
  match (itemsOf re).getLast? with
  | some (.rep (.cls rs) _ none) => complSym rs
  | _ => anyByte

/-- (kept, total) entries per item: what the row theorem covers -/
def keptCounts (pruned : List Piece) : List (Nat × Nat) :=
  pruned.map (fun q => (q.dom.length, (symEntriesOf q.item).length))

def rowBodyE (re : Re) (skip : Nat) : List Piece := bodyE (midItems re skip) (endG re).1 (endG re).2
def rowBodyP (re : Re) (skip : Nat) : List Piece := bodyP ((itemsOf re).drop skip) (autoTail re)
def rowEndSym (re : Re) : Sym := asciiPart (endG re).2
def rowEndEw (re : Re) (tail : List UInt8) : Entry × List UInt8 := endEw (endG re).1 (rowEndSym re) tail
def rowEndItem (re : Re) : Re := endItem (endG re).1 (endG re).2

/-- the item in front of a row's body: `^`, `(?P<g>^|x)`, `(?P<g>[class]|^)`, or none -/
inductive HeadKind | bol | softL | softR | none

def headKind (re : Re) : HeadKind :=
  match itemsOf re with
  | .bol :: _ => .bol
  | .group _ (.alt .bol _) :: _ => .softL
  | .group _ (.alt (.cls _) .bol) :: _ => .softR
  | _ => .none

def headSkip (re : Re) : Nat :=
  match headKind re with
  | .none => 0
  | _ => 1

/-- `(group, other alternative, class)` of a head `(?P<g>^|x)` / `(?P<g>[class]|^)` -/
def headParts (re : Re) : Nat × Re × List (Nat × Nat) :=
  match itemsOf re with
  | (.group g (.alt .bol x)) :: _ => (g, x, [])
  | (.group g (.alt (.cls rs) .bol)) :: _ => (g, .eps, rs)
  | _ => (0, .eps, [])

/-- what the head has recorded when the body starts: a head group matches the empty word at 0 -/
def headCaps (re : Re) : Caps :=
  match headKind re with
  | .softL | .softR => [((headParts re).1, 0, 0)]
  | _ => []

/-- `rest` behind the head item of `re` -/
def withHead (re rest : Re) : Re :=
  match headKind re with
  | .bol => .cat .bol rest
  | .softL => .cat (.group (headParts re).1 (.alt .bol (headParts re).2.1)) rest
  | .softR => .cat (.group (headParts re).1 (.alt (.cls (headParts re).2.2) .bol)) rest
  | .none => rest

/-- a head `([class]|^)` comes to its branch `^` only if the class fails: no first byte of the body is in the class -/
def headROk (re : Re) : Bool :=
  match headKind re with
  | .softR => follFails (follow (rawBody (midItems re 1)) (endFollow (endG re).1 (endG re).2)) (headParts re).2.2
  | _ => true

/-- **rows `head body (?P<g>[class]|$)`**, the head read off the regex (`hre` holds by `rfl` for a generated row) -/
theorem auto_E {re : Re} (hre : re = withHead re (catL (midItems re (headSkip re) ++ [rowEndItem re]))) (hF : headROk re = true)
    (sel : Sel) (hv : Valid (rowBodyE re (headSkip re)) sel) (tail : List UInt8) (ht : TailIn (rowEndSym re) tail) :
    RowResult re (flat sel ++ tail) ((flat sel).length + tailLen tail) (headCaps re) (sel ++ [rowEndEw re tail]) := by
  cases hk : headKind re <;> simp only [withHead, headSkip, headCaps, headROk, hk] at hre hF hv ⊢
  · exact auto_end sel hv tail ht fun h => hre ▸ step_cat step_bol h
  · exact auto_end sel hv tail ht fun h => hre ▸ step_cat (head_softL _ _ _) h
  · exact auto_end sel hv tail ht fun h => hre ▸ step_cat (head_softR _ _ hF (tailF_body_end hv ht)) h
  · exact auto_end sel hv tail ht fun h => hre ▸ h

/-- **rows `head body`** with a head that records nothing (`^` or none: no generated row without a final group has another) -/
theorem auto_P {re : Re} (hre : re = withHead re (catL ((itemsOf re).drop (headSkip re)))) (hc : headCaps re = [])
    (sel : Sel) (hv : Valid (rowBodyP re (headSkip re)) sel) (tail : List UInt8) (ht : TailF (autoTail re) tail) :
    RowResult re (flat sel ++ tail) (flat sel).length [] sel := by
  cases hk : headKind re <;> simp only [withHead, headSkip, headCaps, hk] at hre hc hv
  · exact auto_plain sel hv tail ht fun h => hre ▸ step_cat step_bol h
  · cases hc
  · cases hc
  · exact auto_plain sel hv tail ht fun h => hre ▸ h

/-- a line splits along the catalogues (the hypotheses of the row theorems are satisfiable on it) -/
def splitsL (body : List Piece) (line : List UInt8) : Bool :=
  match chooseSel body line with
  | some (sel, rest) => validB body sel && (flat sel ++ rest == line)
  | none => false

theorem valid_of_splitsL {body : List Piece} {line : List UInt8} (h : splitsL body line = true) :
    ∃ sel rest, Valid body sel ∧ flat sel ++ rest = line := by
  unfold splitsL at h
  split at h
  · next sel rest _ =>
    simp only [Bool.and_eq_true, beq_iff_eq] at h
    exact ⟨sel, rest, valid_of_validB h.1, h.2⟩
  · cases h

def lowWord (w : List Sym) : List UInt8 := w.map (fun s => match s with | [] => 0 | r :: _ => UInt8.ofNat r.1)
/-- the first entry of every piece, with its lowest word: a canonical rendering -/
def firstSel (body : List Piece) : Sel := body.filterMap (fun q => q.dom.head?.map (fun e => (e, lowWord e.1)))
def inhabitedB (body : List Piece) : Bool := validB body (firstSel body)

/-- a digest of the whole catalogue (every range bound of every symbolic word, every slot): pins the exact catalogue
the row theorem is about, beyond the counts -/
def catDigest (body : List Piece) : Nat :=
  body.foldl (fun d q =>
    q.dom.foldl (fun d e =>
      let d := e.1.foldl (fun d s => s.foldl (fun d r => (d * 257 + r.1 * 131 + r.2 + 1) % 1000000007) ((d * 31 + 7) % 1000000007)) ((d * 31 + 5) % 1000000007)
      e.2.foldl (fun d c => (d * 263 + c.1 * 10007 + c.2.1 * 101 + c.2.2 + 3) % 1000000007) d)
      ((d * 31 + 3) % 1000000007)) 1

end S4V.Lemmas.RegexAuto
