/-
Lemmas for the cached `SyslineReader` model (`S4V.Model.SyslCached`): the
invariant of the stored state, its preservation by every operation, and the
answers of `check_store` / `find_sysline` / `find_sysline_in_block`.
-/
import S4V.Lemmas.Syslines
import S4V.Lemmas.Lists
import S4V.Lemmas.KeysDistinct
import S4V.Model.SyslCached

namespace S4V.Lemmas.SyslCached
open S4V.Model.Syslines S4V.Model.SyslCached S4V.Lemmas.Syslines S4V.Gen.SyslCache
open S4V.Lemmas.LinesCached (KeysDistinct)

/-- `known` marks whole true messages -/
def KnownTrue (ls : List LineInfo) (known : Nat → Bool) : Prop :=
  ∀ x, known x = true → ∃ m ∈ messages ls, m.beg ≤ x ∧ x ≤ m.fin ∧
    ∀ y, m.beg ≤ y → y ≤ m.fin → known y = true

/-- if the byte right before a line without a timestamp is known, it lies in the message the line
belongs to, so the whole line is known -/
theorem KnownTrue.of_pred {ls : List LineInfo} {known : Nat → Bool} (hk : KnownTrue ls known)
    (hwf : WFLines ls) {l : LineInfo} (hl : l ∈ ls) (hdt : l.dt = none) {fo : Nat}
    (hkv : known (l.beg - 1) = true) (h1 : l.beg ≤ fo) (h2 : fo ≤ l.fin) : known fo = true := by
  obtain ⟨m, hm, hm1, hm2, hm3⟩ := hk _ hkv
  rcases headless_line_cases hwf hl hdt with hc | ⟨m0, hm0, hc1, hc2⟩
  · have := hc m hm; omega
  · obtain rfl : m = m0 := msg_overlap hwf hm hm0 (by omega) (by omega)
    exact hm3 fo (by omega) (by omega)

theorem slPartAC_eq {ls : List LineInfo} (hwf : WFLines ls) {known : Nat → Bool}
    (hk : KnownTrue ls known) :
    ∀ (fuel fo1 : Nat) (z : Bool) (M : Nat), (z = false → known fo1 = false) →
      slPartAC ls known fuel fo1 z M = slPartA ls fuel fo1 z M := by
  intro fuel
  induction fuel with
  | zero => intro fo1 z M _; rfl
  | succ f ih =>
    intro fo1 z M hz
    unfold slPartAC slPartA
    cases hl : lineAt ls fo1 with
    | none => rfl
    | some l =>
      simp only
      cases hdt : l.dt with
      | some t => rfl
      | none =>
        simp only
        cases z with
        | true => simp only [if_true]; exact ih _ _ _ (by intro h; cases h)
        | false =>
          simp only [Bool.false_eq_true, if_false]
          by_cases hb : l.beg > 1
          · simp only [hb, if_true]
            obtain ⟨hlm, hl1, hl2⟩ := (lineAt_some_iff hwf fo1 l).1 hl
            -- were the byte before `l` known, `fo1` would be too (`of_pred`); but the lookup at `fo1` missed
            have hkn : known (l.beg - 1) = false := Bool.eq_false_iff.2 fun hkv =>
              Bool.false_ne_true ((hz rfl).symm.trans (hk.of_pred hwf hlm hdt hkv hl1 hl2))
            simp only [hkn, Bool.false_eq_true, if_false]
            exact ih _ _ _ (fun _ => hkn)
          · simp only [hb, if_false]
            exact ih _ _ _ (by intro h; cases h)

/-- the cache-free answer -/
def Ans (ls : List LineInfo) (fo : Nat) : CRes := ofRes (findSysline ls fo)

theorem ans_inside {ls : List LineInfo} (hwf : WFLines ls) {m : Sysl} (hm : m ∈ messages ls)
    {fo : Nat} (h1 : m.beg ≤ fo) (h2 : fo ≤ m.fin) : Ans ls fo = .found (m.fin + 1) m := by
  unfold Ans
  rw [findSysline_inside hwf hm h1 h2]
  rfl

theorem slGet_some {m : List Sysl} {k : Nat} {s : Sysl} (h : slGet m k = some s) :
    s ∈ m ∧ s.beg = k := by
  unfold slGet at h
  have h1 := List.find?_some h
  simp only [beq_iff_eq] at h1
  exact ⟨List.mem_of_find?_eq_some h, h1⟩

theorem slGet_slInsert (m : List Sysl) (s : Sysl) (k : Nat) :
    slGet (slInsert m s) k = if s.beg = k then some s else slGet m k := by
  unfold slInsert slGet
  by_cases hk : s.beg = k
  · subst hk
    simp
  · have : (s.beg == k) = false := by simp [hk]
    simp only [List.find?_cons, this, hk, if_false]
    exact Lists.find?_filter_key_ne Sysl.beg m (fun h => hk h.symm)

theorem slGet_slRemove (m : List Sysl) (b k : Nat) :
    slGet (slRemove m b) k = if k = b then none else slGet m k := by
  unfold slRemove slGet
  by_cases hk : k = b
  · subst hk
    simp only [if_true]
    exact Lists.find?_filter_key_self Sysl.beg m k
  · simp only [hk, if_false]
    exact Lists.find?_filter_key_ne Sysl.beg m hk

theorem rmGet_some {m : List (Nat × Nat × Nat)} {fo v : Nat} (h : rmGet m fo = some v) :
    ∃ e ∈ m, e.1 ≤ fo ∧ fo < e.2.1 ∧ e.2.2 = v := by
  obtain ⟨e, he, rfl⟩ := Option.map_eq_some_iff.1 h
  have := List.find?_some he
  simp only [Bool.and_eq_true, decide_eq_true_eq] at this
  exact ⟨e, List.mem_of_find?_eq_some he, this.1, this.2, rfl⟩

theorem rmGet_isSome_of_mem {m : List (Nat × Nat × Nat)} {fo : Nat} {e : Nat × Nat × Nat}
    (he : e ∈ m) (h1 : e.1 ≤ fo) (h2 : fo < e.2.1) : (rmGet m fo).isSome = true := by
  unfold rmGet
  rw [Option.isSome_map, List.find?_isSome]
  exact ⟨e, he, by simp [h1, h2]⟩

theorem mem_lruPut {l : List (Nat × CRes)} {fo : Nat} {r : CRes} {p : Nat × CRes}
    (h : p ∈ lruPut l fo r) : p = (fo, r) ∨ p ∈ l :=
  Lists.mem_lruPut h

/-- `get` of a stored key is a `put` of the value it has: within capacity nothing falls out -/
theorem lruPromote_cases (l : List (Nat × CRes)) (fo : Nat) (hlen : l.length ≤ lruCap) :
    lruPromote l fo = l ∨ ∃ r, (fo, r) ∈ l ∧ lruPromote l fo = lruPut l fo r := by
  unfold lruPromote
  cases hf : l.find? (·.1 == fo) with
  | none => exact Or.inl rfl
  | some e =>
    obtain ⟨rfl, h2⟩ := Lists.find?_fst hf
    exact Or.inr ⟨e.2, h2, Lists.promote_eq_lruPut hf hlen⟩

theorem lruGet_some {l : List (Nat × CRes)} {fo : Nat} {r : CRes} (h : lruGet l fo = some r) :
    (fo, r) ∈ l :=
  (Lists.find?_fst_map h).2

structure Inv (ls : List LineInfo) (st : Store) : Prop where
  sl_true : ∀ s ∈ st.syslines, s ∈ messages ls
  /-- every range is `[beg, end+1) ↦ beg` of a true message (it may have been dropped from
  `syslines` since: `drop_sysline` leaves the range behind) -/
  rng_true : ∀ e ∈ st.byRange, ∃ m ∈ messages ls, e = (m.beg, m.fin + 1, m.beg)
  lru_true : ∀ p ∈ st.lru, p.2 = Ans ls p.1
  lru_len : st.lru.length ≤ lruCap
  lru_keys : KeysDistinct st.lru

/-- every range whose message is gone from `syslines` ends at or before `k` -/
def StaleBelow (st : Store) (k : Nat) : Prop :=
  ∀ e ∈ st.byRange, (slGet st.syslines e.2.2).isSome = true ∨ e.2.1 ≤ k

instance (st : Store) (k : Nat) : Decidable (StaleBelow st k) := by
  unfold StaleBelow; exact inferInstance

theorem inv_empty (ls : List LineInfo) (b : Bool) : Inv ls ⟨[], [], [], b⟩ where
  sl_true := fun _ h => by cases h
  rng_true := fun _ h => by cases h
  lru_true := fun _ h => by cases h
  lru_len := Nat.zero_le _
  lru_keys := List.Pairwise.nil

theorem staleBelow_empty (b : Bool) (k : Nat) : StaleBelow ⟨[], [], [], b⟩ k :=
  fun _ h => by cases h

theorem Inv.shrink {ls : List LineInfo} {st st' : Store} (h : Inv ls st)
    (h1 : ∀ s ∈ st'.syslines, s ∈ st.syslines) (h2 : ∀ e ∈ st'.byRange, e ∈ st.byRange)
    (h3 : st'.lru.Sublist st.lru) : Inv ls st' where
  sl_true := fun s hs => h.sl_true s (h1 s hs)
  rng_true := fun e he => h.rng_true e (h2 e he)
  lru_true := fun p hp => h.lru_true p (h3.subset hp)
  lru_len := Nat.le_trans h3.length_le h.lru_len
  lru_keys := h.lru_keys.sublist h3

theorem Inv.lruPut {ls : List LineInfo} {st : Store} (h : Inv ls st) (fo : Nat) (r : CRes)
    (hr : r = Ans ls fo) : Inv ls { st with lru := lruPut st.lru fo r } where
  sl_true := h.sl_true
  rng_true := h.rng_true
  lru_true := by
    intro p hp
    rcases mem_lruPut hp with rfl | hp
    · exact hr
    · exact h.lru_true p hp
  lru_len := Lists.lruPut_length _ _ _ _
  lru_keys := (h.lru_keys.cons_filter fo r).take _

theorem Inv.lruPromote {ls : List LineInfo} {st : Store} (h : Inv ls st) (fo : Nat) :
    Inv ls { st with lru := lruPromote st.lru fo } := by
  rcases lruPromote_cases st.lru fo h.lru_len with e | ⟨r, hr, e⟩
  · rw [e]; exact h
  · rw [e]; exact h.lruPut fo r (h.lru_true _ hr)

/-- cutting a true message's range out of a map of true-message ranges removes whole
entries only: what is left are entries of the map that do not meet the range -/
theorem mem_rmRemove_true {ls : List LineInfo} (hwf : WFLines ls) {m : List (Nat × Nat × Nat)}
    (hm : ∀ e ∈ m, ∃ m' ∈ messages ls, e = (m'.beg, m'.fin + 1, m'.beg)) {s : Sysl}
    (hs : s ∈ messages ls) {x : Nat × Nat × Nat} (hx : x ∈ rmRemove m s.beg (s.fin + 1)) :
    x ∈ m ∧ (x.2.1 ≤ s.beg ∨ s.fin + 1 ≤ x.1) := by
  unfold rmRemove at hx
  obtain ⟨e, he, hx⟩ := List.mem_flatMap.1 hx
  by_cases hd : e.2.1 ≤ s.beg ∨ s.fin + 1 ≤ e.1
  · rw [if_pos hd] at hx
    have := List.mem_singleton.1 hx
    subst this
    exact ⟨he, hd⟩
  · rw [if_neg hd] at hx
    exfalso
    obtain ⟨m', hm', rfl⟩ := hm e he
    simp only at hd hx
    obtain rfl : m' = s := msg_overlap hwf hm' hs
      (Nat.le_of_lt_succ (Nat.lt_of_not_le fun h => hd (.inr h)))
      (Nat.le_of_lt_succ (Nat.lt_of_not_le fun h => hd (.inl h)))
    simp at hx

theorem Inv.insert {ls : List LineInfo} (hwf : WFLines ls) {st : Store} (h : Inv ls st) {s : Sysl}
    (hs : s ∈ messages ls) : Inv ls (insertSysline st s) where
  sl_true := by
    intro x hx
    unfold insertSysline slInsert at hx
    rcases List.mem_cons.1 hx with rfl | hx
    · exact hs
    · exact h.sl_true x (List.mem_filter.1 hx).1
  rng_true := by
    intro e he
    unfold insertSysline rmInsert at he
    rcases List.mem_cons.1 he with rfl | he
    · exact ⟨s, hs, rfl⟩
    · exact h.rng_true e (mem_rmRemove_true hwf h.rng_true hs he).1
  lru_true := h.lru_true
  lru_len := h.lru_len
  lru_keys := h.lru_keys

theorem StaleBelow.insert {ls : List LineInfo} (hwf : WFLines ls) {st : Store} (h : Inv ls st)
    {s : Sysl} (hs : s ∈ messages ls) {k : Nat} (hk : StaleBelow st k) :
    StaleBelow (insertSysline st s) k := by
  intro e he
  unfold insertSysline rmInsert at he
  simp only [insertSysline]
  rw [slGet_slInsert]
  rcases List.mem_cons.1 he with rfl | he
  · left; simp
  · have := (mem_rmRemove_true hwf h.rng_true hs he).1
    rcases hk e this with h1 | h1
    · left
      by_cases hb : s.beg = e.2.2
      · simp [hb]
      · simpa [hb] using h1
    · exact Or.inr h1

theorem knownTrue_of_inv {ls : List LineInfo} {st : Store} (h : Inv ls st) :
    KnownTrue ls (rmContains st.byRange) := by
  intro x hx
  unfold rmContains at hx
  cases hg : rmGet st.byRange x with
  | none => rw [hg] at hx; cases hx
  | some v =>
    obtain ⟨e, he, h1, h2, _⟩ := rmGet_some hg
    obtain ⟨m, hm, rfl⟩ := h.rng_true e he
    simp only at h1 h2
    refine ⟨m, hm, h1, by omega, ?_⟩
    intro y hy1 hy2
    unfold rmContains
    exact rmGet_isSome_of_mem he hy1 (by simp only; omega)

/-- what one lookup guarantees -/
structure Good (ls : List LineInfo) (st : Store) (fo : Nat) (r : CRes) (st' : Store) : Prop where
  inv : Inv ls st'
  /-- never a wrong answer -/
  sound : r = Ans ls fo ∨ r = .panic
  /-- no panic at or after the stale ranges; no new stale range -/
  stale : ∀ k, StaleBelow st k → StaleBelow st' k ∧ (k ≤ fo → r = Ans ls fo)
  flag : st'.lruEnabled = st.lruEnabled

theorem Inv.range_of_key {ls : List LineInfo} (hwf : WFLines ls) {st : Store} (h : Inv ls st)
    {e : Nat × Nat × Nat} (he : e ∈ st.byRange) {s : Sysl} (hs : s ∈ messages ls)
    (hk : e.2.2 = s.beg) : e = (s.beg, s.fin + 1, s.beg) := by
  obtain ⟨m, hm, rfl⟩ := h.rng_true e he
  rw [(messages_geom hwf).1.beg_inj hm hs hk]

theorem Good.of_lru {ls : List LineInfo} {st : Store} {fo : Nat} {r : CRes} {l : List (Nat × CRes)}
    (hI : Inv ls { st with lru := l }) (hr : r = Ans ls fo) : Good ls st fo r { st with lru := l } :=
  ⟨hI, Or.inl hr, fun _ hk => ⟨hk, fun _ => hr⟩, rfl⟩

theorem Good.ite {ls : List LineInfo} {st st1 st2 : Store} {fo : Nat} {r : CRes} {c : Prop}
    [Decidable c] (h1 : Good ls st fo r st1) (h2 : Good ls st fo r st2) :
    Good ls st fo r (if c then st1 else st2) := by
  split <;> assumption

theorem checkStore_spec {ls : List LineInfo} (hwf : WFLines ls) {st : Store} (fo : Nat)
    (hI : Inv ls st) :
    match checkStore ls st fo with
    | some (r, st') => Good ls st fo r st'
    | none => rmContains st.byRange fo = false := by
  unfold checkStore
  cases hL : (if st.lruEnabled then lruGet st.lru fo else none) with
  | some r0 =>
    have hmem : (fo, r0) ∈ st.lru := by
      cases he : st.lruEnabled <;> simp only [he, if_true] at hL
      · cases hL
      · exact lruGet_some hL
    exact Good.of_lru (hI.lruPromote fo) (hI.lru_true _ hmem)
  | none =>
    cases hR : rmGet st.byRange fo with
    | some v =>
      dsimp only
      obtain ⟨e, he, he1, he2, hev⟩ := rmGet_some hR
      obtain ⟨m, hm, rfl⟩ := hI.rng_true e he
      simp only at he1 he2 hev
      cases hS : slGet st.syslines v with
      | none =>
        -- the message of the range is gone: `self.syslines[fo]` panics; the range is stale
        refine ⟨hI, Or.inr rfl, fun k hk => ⟨hk, fun hle => ?_⟩, rfl⟩
        rcases hk _ he with h1 | h1
        · simp only [hev, hS] at h1; cases h1
        · exact absurd (Nat.le_trans h1 hle) (Nat.not_le.2 he2)
      | some s =>
        obtain ⟨hs1, hs2⟩ := slGet_some hS
        have hsm := hI.sl_true s hs1
        obtain rfl : s = m := (messages_geom hwf).1.beg_inj hsm hm (hs2.trans hev.symm)
        have hr := (ans_inside hwf hsm he1 (Nat.le_of_lt_succ he2)).symm
        exact Good.of_lru (hI.lruPut fo _ hr) hr
    | none =>
      dsimp only
      cases hS : slGet st.syslines fo with
      | none => simp only [rmContains, hR]; rfl
      | some s =>
        obtain ⟨hs1, hs2⟩ := slGet_some hS
        have hsm := hI.sl_true s hs1
        have hr := (ans_inside hwf hsm (Nat.le_of_eq hs2) (hs2 ▸ msg_nonempty hwf hsm)).symm
        dsimp only
        by_cases hc : (isSyslineLast ls s || st.lruEnabled) = true
        · rw [if_pos hc]; exact Good.of_lru (hI.lruPut fo _ hr) hr
        · rw [if_neg hc]; exact Good.of_lru (l := st.lru) hI hr

def storeFound (st : Store) (fo : Nat) (s : Sysl) : Store :=
  if st.lruEnabled then
    { insertSysline st s with lru := lruPut (insertSysline st s).lru fo (.found (s.fin + 1) s) }
  else insertSysline st s

theorem storeFound_good {ls : List LineInfo} (hwf : WFLines ls) {st : Store} (hI : Inv ls st)
    {fo : Nat} {s : Sysl} (hs : s ∈ messages ls) (hr : CRes.found (s.fin + 1) s = Ans ls fo) :
    Good ls st fo (.found (s.fin + 1) s) (storeFound st fo s) :=
  have hI1 := hI.insert hwf hs
  have hst := fun k hk => (⟨StaleBelow.insert hwf hI hs hk, fun _ => hr⟩ :
    StaleBelow (insertSysline st s) k ∧ (k ≤ fo → _))
  Good.ite ⟨hI1.lruPut fo _ hr, Or.inl hr, hst, rfl⟩ ⟨hI1, Or.inl hr, hst, rfl⟩

theorem findSysline_of_partA {ls : List LineInfo} {fo : Nat} :
    findSysline ls fo = match slPartA ls (2 * ls.length + 2) fo false 0 with
      | none => .done
      | some h => .found ((msgFrom ls h).fin + 1) (msgFrom ls h) := by
  simp only [findSysline, msgFrom]
  cases slPartA ls (2 * ls.length + 2) fo false 0 <;> rfl

theorem walk_good {ls : List LineInfo} (hwf : WFLines ls) {st : Store} (hI : Inv ls st) {fo : Nat}
    {h : LineInfo} (hA : slPartA ls (2 * ls.length + 2) fo false 0 = some h) :
    Good ls st fo (.found ((msgFrom ls h).fin + 1) (msgFrom ls h)) (storeFound st fo (msgFrom ls h)) := by
  have hf := findSysline_of_partA (ls := ls) (fo := fo)
  rw [hA] at hf
  exact storeFound_good hwf hI (findSysline_found hwf hf).1 (by unfold Ans; rw [hf]; rfl)

theorem findSyslineCached_spec {ls : List LineInfo} (hwf : WFLines ls) {st : Store} (hI : Inv ls st)
    (fo : Nat) : Good ls st fo (findSyslineCached ls st fo).1 (findSyslineCached ls st fo).2 := by
  have hcs := checkStore_spec hwf fo hI
  unfold findSyslineCached
  cases hc : checkStore ls st fo with
  | some x => rw [hc] at hcs; exact hcs
  | none =>
    rw [hc] at hcs
    simp only
    rw [slPartAC_eq hwf (knownTrue_of_inv hI) _ _ _ _ (fun _ => hcs)]
    cases hA : slPartA ls (2 * ls.length + 2) fo false 0 with
    | none =>
      have hr : CRes.done = Ans ls fo := by rw [Ans, findSysline_of_partA, hA]; rfl
      exact Good.ite (Good.of_lru (hI.lruPut fo _ hr) hr) (Good.of_lru (l := st.lru) hI hr)
    | some h => exact walk_good hwf hI hA

theorem ans_ne_panic (ls : List LineInfo) (fo : Nat) : Ans ls fo ≠ .panic := by
  unfold Ans
  rw [findSysline_of_partA]
  cases slPartA ls (2 * ls.length + 2) fo false 0 <;> simp [ofRes]

/-- an in-block request is *safe* when the forward-only walk and the full walk start the
message at the same line -/
def IbSafe (ls : List LineInfo) (fo : Nat) : Prop :=
  ibTarget ls fo = slPartA ls (2 * ls.length + 2) fo false 0

instance (ls : List LineInfo) (fo : Nat) : Decidable (IbSafe ls fo) := by
  unfold IbSafe; exact inferInstance

theorem ibSafe_of_head {ls : List LineInfo} {fo : Nat} {l : LineInfo} {t : Int}
    (hl : lineAt ls fo = some l) (ht : l.dt = some t) : IbSafe ls fo := by
  unfold IbSafe ibTarget
  rw [slPartA_head hl ht, slPartA_head hl ht]

theorem ibSafe_of_beyond {ls : List LineInfo} (hwf : WFLines ls) {fo : Nat}
    (h : fileSz ls ≤ fo) : IbSafe ls fo := by
  have hl : lineAt ls fo = none := lineAt_none hwf h
  unfold IbSafe ibTarget
  rw [slPartA_none hl, slPartA_none hl]

theorem findSyslineIBCached_spec {ls : List LineInfo} (hwf : WFLines ls) {st : Store}
    (hI : Inv ls st) (fo : Nat) (w : Bool) (hsafe : IbSafe ls fo) :
    Good ls st fo (findSyslineIBCached ls st fo w).1 (findSyslineIBCached ls st fo w).2 ∨
      findSyslineIBCached ls st fo w = (.done, st) := by
  have hcs := checkStore_spec hwf fo hI
  unfold findSyslineIBCached
  cases hc : checkStore ls st fo with
  | some x => rw [hc] at hcs; exact Or.inl hcs
  | none =>
    simp only
    cases w with
    | false => exact Or.inr rfl
    | true =>
      rw [if_pos rfl, hsafe]
      cases hA : slPartA ls (2 * ls.length + 2) fo false 0 with
      | none => exact Or.inr rfl
      | some h => exact Or.inl (walk_good hwf hI hA)

theorem StaleBelow.mono {st : Store} {k k' : Nat} (h : StaleBelow st k) (hle : k ≤ k') :
    StaleBelow st k' := fun e he => (h e he).imp_right fun h1 => Nat.le_trans h1 hle

/-- removing the message `s` from `syslines`: a range keeps its message unless it is the range
of `s` -/
theorem staleBelow_slRemove {ls : List LineInfo} (hwf : WFLines ls) {st st' : Store} (hI : Inv ls st)
    {s : Sysl} (hs : s ∈ messages ls) {k : Nat} (hk : StaleBelow st k)
    (h1 : st'.syslines = slRemove st.syslines s.beg)
    (h2 : ∀ e ∈ st'.byRange, e ∈ st.byRange ∧ (e = (s.beg, s.fin + 1, s.beg) → s.fin + 1 ≤ k)) :
    StaleBelow st' k := by
  intro e he
  obtain ⟨he1, he2⟩ := h2 e he
  rw [h1, slGet_slRemove]
  by_cases hv : e.2.2 = s.beg
  · have e := hI.range_of_key hwf he1 hs hv
    exact Or.inr (e ▸ he2 e)
  · rw [if_neg hv]; exact hk e he1

theorem dropSysline_spec {ls : List LineInfo} (hwf : WFLines ls) {st : Store} (hI : Inv ls st)
    {s : Sysl} (hs : s ∈ messages ls) {k : Nat} (hk : StaleBelow st k) (hle : s.fin + 1 ≤ k) :
    Inv ls (dropSysline st s) ∧ StaleBelow (dropSysline st s) k :=
  ⟨hI.shrink (fun _ hx => (List.mem_filter.1 hx).1) (fun _ he => he) List.filter_sublist,
   staleBelow_slRemove hwf hI hs hk rfl fun _ he => ⟨he, fun _ => hle⟩⟩

theorem foldl_dropSysline {ls : List LineInfo} (hwf : WFLines ls) {K : Nat} (l : List Sysl)
    {st : Store} (hl : ∀ s ∈ l, s ∈ messages ls ∧ s.fin + 1 ≤ K) (hI : Inv ls st)
    (hk : StaleBelow st K) :
    Inv ls (l.foldl dropSysline st) ∧ StaleBelow (l.foldl dropSysline st) K := by
  induction l generalizing st with
  | nil => exact ⟨hI, hk⟩
  | cons a r ih =>
    obtain ⟨h1, h2⟩ := hl a List.mem_cons_self
    obtain ⟨hI', hk'⟩ := dropSysline_spec hwf hI h1 hk h2
    exact ih (fun s hs => hl s (List.mem_cons_of_mem _ hs)) hI' hk'

theorem dropData_spec {ls : List LineInfo} (hwf : WFLines ls) {bs : Nat} (hbs : 1 ≤ bs)
    {st : Store} (hI : Inv ls st) (bo : Nat) {k : Nat} (hk : StaleBelow st k) :
    Inv ls (dropData bs st bo) ∧ StaleBelow (dropData bs st bo) (max k ((bo + 1) * bs)) := by
  refine foldl_dropSysline hwf _ (fun s hs => ?_) hI (hk.mono (Nat.le_max_left ..))
  obtain ⟨h1, h2⟩ := List.mem_filter.1 hs
  -- the last byte lies in a block `≤ bo`, so before the end of block `bo`
  have := (Nat.div_lt_iff_lt_mul (Nat.lt_of_lt_of_le Nat.zero_lt_one hbs)).1
    (Nat.lt_succ_of_le (of_decide_eq_true h2))
  exact ⟨hI.sl_true s h1, Nat.le_trans this (Nat.le_max_right ..)⟩

theorem clearSyslines_spec {ls : List LineInfo} {st : Store} (hI : Inv ls st) (k : Nat) :
    Inv ls (clearSyslines st) ∧ StaleBelow (clearSyslines st) k :=
  ⟨hI.shrink (fun _ h => by cases h) (fun _ h => by cases h) (List.nil_sublist _),
   fun _ h => by cases h⟩

theorem removeSysline_spec {ls : List LineInfo} (hwf : WFLines ls) {st : Store} (hI : Inv ls st)
    (fo : Nat) {k : Nat} (hk : StaleBelow st k) :
    Inv ls (removeSysline st fo).2 ∧ StaleBelow (removeSysline st fo).2 k := by
  unfold removeSysline
  cases hS : slGet st.syslines fo with
  | none => exact ⟨hI.shrink (fun _ h => h) (fun _ h => h) (List.nil_sublist _), hk⟩
  | some s =>
    obtain ⟨hs1, rfl⟩ := slGet_some hS
    have hsm := hI.sl_true s hs1
    have hrm := fun e he => mem_rmRemove_true hwf hI.rng_true hsm (x := e) he
    refine ⟨hI.shrink (fun _ hx => (List.mem_filter.1 hx).1) (fun e he => (hrm e he).1)
      (List.nil_sublist _), staleBelow_slRemove hwf hI hsm hk rfl fun e he => ⟨(hrm e he).1, ?_⟩⟩
    -- the range of `s` itself has been cut out
    rintro rfl
    have := (hrm _ he).2
    have := msg_nonempty hwf hsm
    simp only at *
    omega

/-- the stale bound after an op: a drop of block `bo` may leave ranges ending at or before
`(bo + 1) * bs` behind -/
def opBound (bs k : Nat) : Op → Nat
  | .drop bo => max k ((bo + 1) * bs)
  | _ => k

def IbSafeAll (ls : List LineInfo) : List Op → Prop
  | [] => True
  | .findib fo _ :: ops => IbSafe ls fo ∧ IbSafeAll ls ops
  | _ :: ops => IbSafeAll ls ops

instance decIbSafeAll (ls : List LineInfo) : (ops : List Op) → Decidable (IbSafeAll ls ops)
  | [] => isTrue trivial
  | .findib fo _ :: ops =>
    have := decIbSafeAll ls ops
    inferInstanceAs (Decidable (IbSafe ls fo ∧ IbSafeAll ls ops))
  | .find _ :: ops => decIbSafeAll ls ops
  | .drop _ :: ops => decIbSafeAll ls ops
  | .clear :: ops => decIbSafeAll ls ops
  | .remove _ :: ops => decIbSafeAll ls ops

def isDrop : Op → Bool
  | .drop _ => true
  | _ => false

def NoDrop (ops : List Op) : Prop := ∀ op ∈ ops, isDrop op = false

instance (ops : List Op) : Decidable (NoDrop ops) := by unfold NoDrop; exact inferInstance

def boundAt (bs : Nat) (k : Nat) (ops : List Op) (i : Nat) : Nat := (ops.take i).foldl (opBound bs) k

theorem applyOp_spec {ls : List LineInfo} (hwf : WFLines ls) {bs : Nat} (hbs : 1 ≤ bs) {st : Store}
    (hI : Inv ls st) {k : Nat} (hk : StaleBelow st k) {op : Op} {ops : List Op}
    (hs : IbSafeAll ls (op :: ops)) :
    Inv ls (applyOp ls bs st op).2 ∧ StaleBelow (applyOp ls bs st op).2 (opBound bs k op) ∧
      IbSafeAll ls ops := by
  cases op with
  | find fo =>
    have g := findSyslineCached_spec hwf hI fo
    exact ⟨g.inv, (g.stale k hk).1, hs⟩
  | findib fo w =>
    show Inv ls (findSyslineIBCached ls st fo w).2 ∧
      StaleBelow (findSyslineIBCached ls st fo w).2 k ∧ _
    rcases findSyslineIBCached_spec hwf hI fo w hs.1 with g | g
    · exact ⟨g.inv, (g.stale k hk).1, hs.2⟩
    · rw [g]; exact ⟨hI, hk, hs.2⟩
  | drop bo => exact (dropData_spec hwf hbs hI bo hk).imp_right (⟨·, hs⟩)
  | clear => exact (clearSyslines_spec hI k).imp_right (⟨·, hs⟩)
  | remove fo => exact (removeSysline_spec hwf hI fo hk).imp_right (⟨·, hs⟩)

theorem runOps_spec {ls : List LineInfo} (hwf : WFLines ls) {bs : Nat} (hbs : 1 ≤ bs) (ops : List Op)
    {st : Store} {k : Nat} (hI : Inv ls st) (hk : StaleBelow st k) (hs : IbSafeAll ls ops) :
    Inv ls (runOps ls bs st ops).2 ∧ ∀ i fo, ops[i]? = some (.find fo) →
      ((runOps ls bs st ops).1[i]? = some (.res (Ans ls fo)) ∨
        (runOps ls bs st ops).1[i]? = some (.res .panic)) ∧
      (boundAt bs k ops i ≤ fo → (runOps ls bs st ops).1[i]? = some (.res (Ans ls fo))) := by
  induction ops generalizing st k with
  | nil => exact ⟨hI, fun i fo h => by simp at h⟩
  | cons op ops ih =>
    obtain ⟨a1, a2, a3⟩ := applyOp_spec hwf hbs hI hk hs
    obtain ⟨b1, b2⟩ := ih a1 a2 a3
    refine ⟨b1, fun i fo h => ?_⟩
    cases i with
    | zero =>
      obtain rfl : op = .find fo := by simpa using h
      have g := findSyslineCached_spec hwf hI fo
      have e : ∀ {r}, (findSyslineCached ls st fo).1 = r →
          (runOps ls bs st (.find fo :: ops)).1[0]? = some (.res r) := fun h => h ▸ rfl
      exact ⟨g.sound.imp e e, fun hle => e ((g.stale k hk).2 hle)⟩
    | succ j => exact b2 j fo h

theorem boundAt_noDrop (bs k : Nat) (ops : List Op) (h : NoDrop ops) (i : Nat) :
    boundAt bs k ops i = k := by
  unfold boundAt
  induction ops generalizing k i with
  | nil => simp
  | cons op ops ih =>
    cases i with
    | zero => simp
    | succ j =>
      simp only [List.take_succ_cons, List.foldl_cons]
      have : opBound bs k op = k := by
        cases op with
        | drop bo => exact absurd (h (.drop bo) (List.mem_cons_self ..)) (by simp [isDrop])
        | _ => rfl
      rw [this]
      exact ih k (fun op' h' => h op' (List.mem_cons_of_mem _ h')) j

end S4V.Lemmas.SyslCached
