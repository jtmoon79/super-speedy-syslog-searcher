/-
Lemmas about the member lookup loops of `S4V.Model.TarMember`: with `firstWins` both loops compute
`List.find?` of the hit predicate; the split of `archive SEP member` at the last separator.
-/
import S4V.Model.TarMember

namespace S4V.Lemmas.TarMember
open S4V.Model.Path (Bytes)
open S4V.Model.TarMember S4V.Gen.TarMember

theorem splitFirst_append (sep : UInt8) (a b : Bytes) (h : sep ∉ a) :
    splitFirst sep (a ++ sep :: b) = some (a, b) := by
  induction a with
  | nil => simp [splitFirst]
  | cons x xs ih =>
    rw [List.mem_cons, not_or] at h
    simp [splitFirst, Ne.symm h.1, ih h.2]

theorem splitFirst_none (sep : UInt8) (a : Bytes) (h : sep ∉ a) : splitFirst sep a = none := by
  induction a with
  | nil => simp [splitFirst]
  | cons x xs ih =>
    rw [List.mem_cons, not_or] at h
    simp [splitFirst, Ne.symm h.1, ih h.2]

theorem splitLast_append (sep : UInt8) (a b : Bytes) (h : sep ∉ b) :
    splitLast sep (a ++ sep :: b) = some (a, b) := by
  have hr : (a ++ sep :: b).reverse = b.reverse ++ sep :: a.reverse := by simp
  have h' : sep ∉ b.reverse := by simpa using h
  simp [splitLast, hr, splitFirst_append sep _ _ h']

theorem splitLast_sep_in_name (sep : UInt8) (a b c : Bytes) (h : sep ∉ c) :
    splitLast sep (a ++ sep :: (b ++ sep :: c)) = some (a ++ sep :: b, c) := by
  have := splitLast_append sep (a ++ sep :: b) c h
  simpa using this

theorem sepB_eq : subpathSep = [sepB] := by decide

theorem ntfLoop_first (st : LookupSite) (hfw : st.firstWins = true) (sub : Bytes) (es : Archive) :
    ntfLoop st sub es none = es.find? (hit st sub) := by
  induction es with
  | nil => simp [ntfLoop]
  | cons e es ih =>
    by_cases h : hit st sub e = true
    · simp [ntfLoop, h, hfw]
    · simp [ntfLoop, h, ih]

theorem brReadAll_size (ar : Archive) (k : Nat) (e : Entry) (h : ar[k]? = some e) :
    brReadAll ar (k, e.data.length) = brWant e := by
  by_cases hd : e.data = [] <;> simp [brReadAll, brWant, h, hd]

/-- the loop resumed behind entries `pre` none of which hit, so `filesz_actual` is still 0 -/
theorem brReadAll_brLoop (st : LookupSite) (hfw : st.firstWins = true) (sub : Bytes) :
    ∀ (es pre : Archive) (j : Nat),
      brReadAll (pre ++ es) (brLoop st sub es pre.length (j, 0)) =
        match es.find? (hit st sub) with
        | some e => brWant e
        | none => if es = [] then brReadAll pre (j, 0) else .empty
  | [], pre, j => by simp [brLoop]
  | a :: as, pre, j => by
    by_cases ha : hit st sub a = true
    · simp only [brLoop, ha, hfw, if_true, List.find?_cons_of_pos]
      exact brReadAll_size _ _ _ (by simp)
    · have ih := brReadAll_brLoop st hfw sub as (pre ++ [a]) pre.length
      simp only [List.length_append, List.length_singleton, List.append_assoc, List.singleton_append] at ih
      simp only [brLoop, ha, List.find?_cons_of_neg, Bool.false_eq_true, if_false, ih, not_false_eq_true]
      cases as.find? (hit st sub) with
      | some e => rfl
      | none => simp [brReadAll]

/-- no hit: an empty reader over the last entry — an `Err` (from `nth`) only when the archive has no entry at all -/
theorem brReadAll_brNew (st : LookupSite) (hfw : st.firstWins = true) (sub : Bytes) (ar : Archive) :
    brReadAll ar (brNew st sub ar) =
      match ar.find? (hit st sub) with
      | some e => brWant e
      | none => if ar = [] then .readErr else .empty :=
  brReadAll_brLoop st hfw sub ar [] 0

end S4V.Lemmas.TarMember
