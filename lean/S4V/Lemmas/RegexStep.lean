/-
A small calculus for predicting what the backtracking matcher `S4V.Model.Regex.m` does on inputs of
a known shape (what the symbolic run of `S4V.Lemmas.RegexSym` is proved sound against).

* `Step a p r c p' r' c'`  started on `a` in state `(p, r, c)` (position, remaining input, captures),
                           the matcher's first-priority way through `a` ends in `(p', r', c')`: whenever
                           the continuation succeeds there, that success is the matcher's answer
* `Fails a p r c`          `a` cannot match at all in that state (whatever the continuation)
-/
import S4V.Model.Regex

namespace S4V.Lemmas.RegexStep
open S4V.Model.Regex

def Step (a : Re) (p : Nat) (r : List UInt8) (c : Caps) (p' : Nat) (r' : List UInt8) (c' : Caps) : Prop :=
  ∀ (k : K) (res : Res), k p' r' c' = some res → m a p r c k = some res

def Fails (a : Re) (p : Nat) (r : List UInt8) (c : Caps) : Prop :=
  ∀ (k : K), m a p r c k = none

variable {p p1 p2 : Nat} {r r1 r2 : List UInt8} {c c1 c2 : Caps}

theorem step_eps : Step .eps p r c p r c := fun k res h => by simpa [m] using h

theorem step_bol : Step .bol 0 r c 0 r c := fun k res h => by simpa [m] using h

theorem step_eol : Step .eol p [] c p [] c := fun k res h => by simpa [m] using h

theorem fails_eol {x : UInt8} : Fails .eol p (x :: r) c := fun k => by simp [m]

theorem isPrefix_iff {a b : List UInt8} : isPrefix a b = true ↔ a <+: b := by
  rw [← List.isPrefixOf_iff_prefix]
  induction a generalizing b with
  | nil => simp [isPrefix]
  | cons x t ih => cases b <;> simp [isPrefix, ih]

theorem isPrefix_self_append (bs r : List UInt8) : isPrefix bs (bs ++ r) = true :=
  isPrefix_iff.mpr (List.prefix_append bs r)

theorem step_lit (bs : List UInt8) : Step (.lit bs) p (bs ++ r) c (p + bs.length) r c := by
  intro k res h
  simp [m, isPrefix_self_append, h]

theorem fails_lit {bs : List UInt8} (h : isPrefix bs r = false) : Fails (.lit bs) p r c :=
  fun k => by simp [m, h]

theorem decode_ascii_cons {b : UInt8} (hb : b.toNat < 128) : decode (b :: r) = some (b.toNat, 1) := by
  simp [decode, hb]

theorem decode_some {s : List UInt8} {c n : Nat} (h : decode s = some (c, n)) :
    (s.take n).length = n ∧ decode (s.take n) = some (c, n) ∧
      (c < 128 → ∃ b t, s = b :: t ∧ b.toNat = c ∧ n = 1) := by
  cases s with
  | nil => simp [decode] at h
  | cons b0 rest =>
    simp only [decode] at h
    repeat' split at h
    all_goals first
      | (simp only [Option.some.injEq, Prod.mk.injEq] at h
         obtain ⟨rfl, rfl⟩ := h
         simp [decode, *]
         try simp only [Bool.and_eq_true, decide_eq_true_eq, Bool.not_eq_true', Bool.and_eq_false_iff,
           decide_eq_false_iff_not] at *
         try omega)
      | cases h

theorem step_cls {rs : List (Nat × Nat)} {b : UInt8} (hb : b.toNat < 128)
    (hin : inRanges rs b.toNat = true) : Step (.cls rs) p (b :: r) c (p + 1) r c := by
  intro k res h
  simp [m, decode_ascii_cons hb, hin, h]

theorem fails_cls {rs : List (Nat × Nat)} {b : UInt8} (hb : b.toNat < 128)
    (hin : inRanges rs b.toNat = false) : Fails (.cls rs) p (b :: r) c :=
  fun k => by simp [m, decode_ascii_cons hb, hin]

theorem fails_cls_nil {rs : List (Nat × Nat)} : Fails (.cls rs) p [] c :=
  fun k => by simp [m, decode]

theorem step_cat {a b : Re} (ha : Step a p r c p1 r1 c1) (hb : Step b p1 r1 c1 p2 r2 c2) :
    Step (.cat a b) p r c p2 r2 c2 := by
  intro k res h
  simp only [m]
  exact ha _ res (hb k res h)

theorem fails_cat {a b : Re} (ha : Fails a p r c) : Fails (.cat a b) p r c :=
  fun k => by simp only [m]; exact ha _

theorem step_altL {a b : Re} (ha : Step a p r c p1 r1 c1) : Step (.alt a b) p r c p1 r1 c1 := by
  intro k res h
  simp only [m, ha k res h]

theorem step_altR {a b : Re} (ha : Fails a p r c) (hb : Step b p r c p1 r1 c1) :
    Step (.alt a b) p r c p1 r1 c1 := by
  intro k res h
  simp only [m, ha k, hb k res h]

theorem fails_alt {a b : Re} (ha : Fails a p r c) (hb : Fails b p r c) : Fails (.alt a b) p r c :=
  fun k => by simp only [m, ha k, hb k]

theorem step_group {a : Re} (i : Nat) (ha : Step a p r c p1 r1 c1) :
    Step (.group i a) p r c p1 r1 ((i, p, p1) :: c1) := by
  intro k res h
  simp only [m]
  exact ha _ res h

theorem fails_group {a : Re} (i : Nat) (ha : Fails a p r c) : Fails (.group i a) p r c :=
  fun k => by simp only [m]; exact ha _

/-- `a?` is `.rep a 0 (some 1)`; it is greedy, so the item is tried first -/
theorem step_opt_take {a : Re} (ha : Step a p r c p1 r1 c1) : Step (.rep a 0 (some 1)) p r c p1 r1 c1 := by
  intro k res h
  simp only [m, repLoop, ↓reduceIte]
  rw [ha _ res (by simpa using h)]

theorem step_opt_skip {a : Re} (ha : Fails a p r c) : Step (.rep a 0 (some 1)) p r c p r c := by
  intro k res h
  simp only [m, repLoop, ↓reduceIte]
  rw [ha _]
  exact h

def isD (b : UInt8) : Prop := 48 ≤ b.toNat ∧ b.toNat ≤ 57

/-- the input after a run of digits: empty, or starting with an ASCII non-digit -/
def StopsDigits : List UInt8 → Prop
  | [] => True
  | x :: _ => x.toNat < 128 ∧ ¬ isD x

theorem isPrefix_eq_of_len {l w : List UInt8} (h : isPrefix l w = true) (hl : w.length ≤ l.length) : l = w :=
  (isPrefix_iff.mp h).eq_of_length_le hl

theorem m_catL_snoc (b : Re) : ∀ (as : List Re), as ≠ [] → ∀ (p : Nat) (r : List UInt8) (c : Caps) (k : K),
    m (catL (as ++ [b])) p r c k = m (catL as) p r c (fun p' r' c' => m b p' r' c' k) := by
  intro as
  induction as with
  | nil => intro h; exact absurd rfl h
  | cons a t ih =>
    intro _ p r c k
    cases t with
    | nil => rfl
    | cons a2 t2 =>
      simp only [List.cons_append, catL, m]
      congr 1
      funext p' r' c'
      exact ih (by simp) p' r' c' k

theorem step_catL_snoc {as : List Re} {b : Re} (h : as ≠ []) (ha : Step (catL as) p r c p1 r1 c1)
    (hb : Step b p1 r1 c1 p2 r2 c2) : Step (catL (as ++ [b])) p r c p2 r2 c2 := by
  intro k res hk
  rw [m_catL_snoc b as h]
  exact ha _ res (hb k res hk)

theorem search_of_step {a : Re} {line r' : List UInt8} {p' : Nat} {c' : Caps}
    (h : Step a 0 line [] p' r' c') : search a line = some ⟨0, p', c'⟩ := by
  unfold search
  cases line with
  | nil => simp only [searchFrom]; exact h _ _ rfl
  | cons b t =>
    simp only [searchFrom]
    rw [h _ _ rfl]

end S4V.Lemmas.RegexStep
