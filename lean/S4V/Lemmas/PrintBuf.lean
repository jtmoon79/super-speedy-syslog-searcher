/-
Lemmas for the second half of the printing model: lines split into `lineparts`
(`print_color_line_highlight_dt!` as `hlParts`) and the print buffer machine (`stepD`/`runD`).
-/
import S4V.Lemmas.Print

namespace S4V.Lemmas.PrintBuf
open S4V.Model.Print S4V.Lemmas.Print

/-- every byte handed to `buffer_write_or_return!`, with the spec last given to
`setcolor_or_return!` before it (`cur` = the spec in force on entry) -/
def tagsOf : Option Spec → List Op → List (Option Spec × UInt8)
  | _, [] => []
  | _, .setc s :: r => tagsOf (some s) r
  | cur, .wr b :: r => b.map (fun x => (cur, x)) ++ tagsOf cur r

/-- the colouring a highlighted line should get: byte `i` of the line (`at_` = index of the first
byte of `x`) is datetime-coloured iff `b ≤ i < e`, text-coloured otherwise -/
def paint (b e : Nat) : Nat → Bytes → List (Option Spec × UInt8)
  | _, [] => []
  | at_, x :: r => (some (if b ≤ at_ ∧ at_ < e then Spec.dt else Spec.txt), x) :: paint b e (at_ + 1) r

def tag (s : Spec) (x : Bytes) : List (Option Spec × UInt8) := x.map (fun c => (some s, c))

theorem tagsOf_snd (cur : Option Spec) (os : List Op) : (tagsOf cur os).map Prod.snd = wrOf os := by
  induction os generalizing cur with
  | nil => rfl
  | cons x r ih =>
    cases x with
    | setc s => simp [tagsOf, wrOf, ih]
    | wr b => simp [tagsOf, wrOf, ih, Function.comp_def]

theorem paint_snd (b e at_ : Nat) (x : Bytes) : (paint b e at_ x).map Prod.snd = x := by
  induction x generalizing at_ with
  | nil => rfl
  | cons c r ih => simp [paint, ih]

theorem tagsOf_setc_wr (cur : Option Spec) (s : Spec) (x : Bytes) (rest : List Op) :
    tagsOf cur (.setc s :: .wr x :: rest) = tag s x ++ tagsOf (some s) rest := by
  simp [tagsOf, tag]

theorem tagsOf_wrNE (cur : Option Spec) (s : Spec) (x : Bytes) (rest : List Op) :
    tagsOf cur (wrNE s x ++ rest) = tag s x ++ tagsOf (if x = [] then cur else some s) rest := by
  unfold wrNE
  by_cases h : x = []
  · simp [h, tag]
  · simp [h, tagsOf, tag]

theorem paint_append (b e at_ : Nat) (x y : Bytes) :
    paint b e at_ (x ++ y) = paint b e at_ x ++ paint b e (at_ + x.length) y := by
  induction x generalizing at_ with
  | nil => simp [paint]
  | cons c r ih =>
    simp only [List.cons_append, paint, ih, List.length_cons]
    have : at_ + 1 + r.length = at_ + (r.length + 1) := by omega
    rw [this]

/-- Each of the three pieces may be empty: the subtractions clamp. -/
theorem paint_eq (at_ : Nat) (x : Bytes) {b e : Nat} (h : b ≤ e) :
    paint b e at_ x =
      tag .txt (x.take (b - at_)) ++ tag .dt ((x.take (e - at_)).drop (b - at_)) ++ tag .txt (x.drop (e - at_)) := by
  induction x generalizing at_ with
  | nil => simp [paint, tag]
  | cons c r ih =>
    -- with `i = b - at_ ≤ j = e - at_` the head is inside iff `i = 0 < j`, and the tail has `i - 1`, `j - 1`
    have hij : b - at_ ≤ e - at_ := Nat.sub_le_sub_right h at_
    rw [paint, ih, Nat.sub_add_eq b, Nat.sub_add_eq e]
    simp only [← Nat.sub_eq_zero_iff_le (n := b), ← Nat.sub_pos_iff_lt (n := e)]
    generalize b - at_ = i at hij ⊢
    generalize e - at_ = j at hij ⊢
    match i, j, hij with
    | 0, 0, _ => rfl
    | 0, j + 1, _ => rw [if_pos ⟨rfl, Nat.succ_pos j⟩]; rfl
    | i + 1, j + 1, _ => rfl
    | i + 1, 0, hij => exact absurd hij (Nat.not_succ_le_zero i)

/-- `T` = the tags of what follows; they do not depend on the colour in force because every write there has its own
`setcolor_or_return!`. Each of the five cases of the macro writes the three pieces of `paint_eq`, leaving out those
it knows to be empty. -/
theorem tags_hlPart (at_ : Nat) (p : Bytes) {b e : Nat} (h : b ≤ e) {rest : List Op}
    {T : List (Option Spec × UInt8)} (hT : ∀ cur, tagsOf cur rest = T) (cur : Option Spec) :
    tagsOf cur (hlPart at_ p b e ++ rest) = paint b e at_ p ++ T := by
  have all {k : Nat} (hk : p.length ≤ k) : p.take k = p ∧ p.drop k = [] :=
    ⟨List.take_of_length_le hk, List.drop_eq_nil_of_le hk⟩
  have two (s : Spec) : tagsOf cur ([.setc s, .wr p] ++ rest) = tag s p ++ T := by rw [← hT (some s)]; exact tagsOf_setc_wr ..
  have ite {c : Prop} [Decidable c] {x y : List Op} {R} (hx : c → tagsOf cur (x ++ rest) = R)
      (hy : ¬c → tagsOf cur (y ++ rest) = R) : tagsOf cur ((if c then x else y) ++ rest) = R := by
    split
    · exact hx ‹_›
    · exact hy ‹_›
  rw [paint_eq at_ p h]
  refine ite (fun _ => ?_) fun _ => ite (fun ⟨_, _, hpe⟩ => ?_) fun _ => ite (fun ⟨hba, _⟩ => ?_) fun _ =>
    ite (fun ⟨hba, hpe⟩ => ?_) fun _ => ?_
  · simp only [List.append_assoc, tagsOf_wrNE, hT]
  · -- the datetime runs to the end of the part: no text after it
    simp only [List.append_assoc, tagsOf_wrNE, hT, all (Nat.le_sub_of_add_le' hpe), tag, List.map_nil, List.nil_append]
  · -- it began before the part: no text before it
    simp only [List.append_assoc, tagsOf_wrNE, hT, Nat.sub_eq_zero_of_le (Nat.le_of_lt hba), List.take_zero, List.drop_zero,
      tag, List.map_nil, List.nil_append]
  · -- both: the part is datetime throughout
    simp only [two, Nat.sub_eq_zero_of_le (Nat.le_of_lt hba), all (Nat.le_sub_of_add_le' hpe), List.take_zero,
      List.drop_zero, tag, List.map_nil, List.nil_append, List.append_nil]
  · -- the part ends before `b` or starts after `e`: text throughout
    rcases Nat.lt_or_ge b at_ with hb | hb
    · simp only [two, Nat.sub_eq_zero_of_le (Nat.le_of_lt hb), show e - at_ = 0 by omega, List.take_zero, List.drop_zero, tag,
        List.map_nil, List.nil_append]
    · have hl : p.length ≤ b - at_ := by omega
      simp only [two, all hl, all (Nat.le_trans hl (Nat.sub_le_sub_right h at_)), tag, List.map_nil, List.append_nil]

theorem tags_hlPartsAt {b e : Nat} (h : b ≤ e) (ps : List Bytes) (at_ : Nat) (cur : Option Spec) :
    tagsOf cur (hlPartsAt b e at_ ps) = paint b e at_ ps.flatten := by
  induction ps generalizing at_ cur with
  | nil => rfl
  | cons p r ih =>
    simp only [hlPartsAt, List.flatten_cons, paint_append]
    exact tags_hlPart at_ p h (fun c => ih (at_ + p.length) c) cur

theorem paint_zero (l : Bytes) {b e : Nat} (h : b ≤ e) :
    paint b e 0 l = tag .txt (l.take b) ++ tag .dt ((l.drop b).take (e - b)) ++ tag .txt (l.drop e) := by
  rw [paint_eq 0 l h, List.drop_take]
  rfl

def wrM (ms : List MOp) : Bytes := wrOf (erase ms)

@[simp] theorem wrM_nil : wrM [] = [] := rfl
@[simp] theorem wrM_flush (r : List MOp) : wrM (.flush :: r) = wrM r := rfl
@[simp] theorem wrM_setc (s : Spec) (r : List MOp) : wrM (.setc s :: r) = wrM r := rfl
@[simp] theorem wrM_wr (b : Bytes) (r : List MOp) : wrM (.wr b :: r) = b ++ wrM r := rfl

theorem erase_append (a b : List MOp) : erase (a ++ b) = erase a ++ erase b := by
  induction a with
  | nil => rfl
  | cons x r ih => cases x <;> simp [erase, ih]

theorem erase_withFlush (os : List Op) : erase (withFlush os) = os := by
  induction os with
  | nil => rfl
  | cons x r ih => cases x <;> simp [withFlush, erase, ih]

theorem erase_flatMap {α} (f : α → List MOp) (xs : List α) : erase (xs.flatMap f) = xs.flatMap (fun x => erase (f x)) := by
  induction xs with
  | nil => rfl
  | cons x r ih => rw [List.flatMap_cons, erase_append, ih, List.flatMap_cons]

theorem erase_optM (x : Option Bytes) : erase (optM x) = optB x := by cases x <;> rfl

theorem erase_map_wr (l : List Bytes) : erase (l.map .wr) = l.map .wr := by
  induction l with
  | nil => rfl
  | cons x r ih => rw [List.map_cons, erase, ih, List.map_cons]

theorem erase_prependColorLoopM (pre : List MOp) (b e at_ : Nat) (ls : List Bytes) :
    erase (prependColorLoopM pre b e at_ ls) = prependColorLoop (erase pre) b e at_ ls := by
  induction ls generalizing at_ with
  | nil => rfl
  | cons l r ih => rw [prependColorLoopM, erase_append, erase_append, erase_withFlush, ih, prependColorLoop]

theorem wrM_append (a b : List MOp) : wrM (a ++ b) = wrM a ++ wrM b := by
  simp [wrM, erase_append, wrOf_append]

theorem wrM_withFlush (os : List Op) : wrM (withFlush os) = wrOf os := by simp [wrM, erase_withFlush]

theorem wrM_map_wr (l : List Bytes) : wrM (l.map .wr) = l.flatten := by
  induction l with
  | nil => rfl
  | cons x r ih => rw [List.map_cons, wrM_wr, ih, List.flatten_cons]

theorem wrM_flatMap {α} (f : α → List MOp) (xs : List α) : wrM (xs.flatMap f) = xs.flatMap (fun x => wrM (f x)) := by
  induction xs with
  | nil => rfl
  | cons x r ih => simp [List.flatMap_cons, wrM_append, ih]

theorem wrM_optM (x : Option Bytes) : wrM (optM x) = optBytes x := by
  cases x <;> simp [optM, optBytes]

/-- stdout so far with what waits in the buffer appended: what a flush leaves unchanged (`pdata`: the same for the
counted bytes) -/
def pend (d : Dev) : Bytes := bytesOf d.out ++ d.buf
def pdata (d : Dev) : Bytes := dataOf d.out ++ d.buf

theorem cnt_add_def (a b : Cnt) : a + b = ⟨a.printed + b.printed, a.flushed + b.flushed⟩ := rfl
theorem cnt_zero_add (c : Cnt) : (⟨0, 0⟩ : Cnt) + c = c := by
  cases c; simp [cnt_add_def]
theorem cnt_add_zero (c : Cnt) : c + (⟨0, 0⟩ : Cnt) = c := by
  cases c; simp [cnt_add_def]
theorem cnt_add_assoc (a b c : Cnt) : a + b + c = a + (b + c) := by
  cases a; cases b; cases c; simp [cnt_add_def, Nat.add_assoc]
theorem cnt_add_printed (a b : Cnt) : (a + b).printed = a.printed + b.printed := rfl
theorem cnt_add_flushed (a b : Cnt) : (a + b).flushed = a.flushed + b.flushed := rfl

theorem bytesOf_snoc (cs : List Chunk) (c : Chunk) : bytesOf (cs ++ [c]) = bytesOf cs ++ c.bytes := by
  simp [bytesOf]
theorem dataOf_snoc_data (cs : List Chunk) (b : Bytes) : dataOf (cs ++ [.data b]) = dataOf cs ++ b := by
  simp [dataOf_append, dataOf]
theorem dataOf_snoc_esc (cs : List Chunk) (b : Bytes) : dataOf (cs ++ [.esc b]) = dataOf cs := by
  simp [dataOf_append, dataOf]

theorem flushD_spec (d : Dev) :
    pend (flushD d).1 = pend d ∧ pdata (flushD d).1 = pdata d ∧ (flushD d).1.last = d.last ∧
      (flushD d).1.buf = [] ∧ (flushD d).2.printed = d.buf.length := by
  unfold flushD
  split
  next h => simp [h]
  next => simp [pend, pdata, bytesOf_snoc, dataOf_snoc_data, Chunk.bytes]

theorem writeD_spec (env : Env) (hu : env.use = true) (d : Dev) (s : Bytes) :
    pend (writeD env d s).1 = pend d ++ s ∧ pdata (writeD env d s).1 = pdata d ++ s ∧
      (writeD env d s).1.last = d.last ∧
      (writeD env d s).2.printed + (writeD env d s).1.buf.length = d.buf.length + s.length := by
  unfold writeD
  simp only [hu, Bool.not_true, Bool.false_eq_true, if_false]
  split
  · simp [pend, pdata]
  · split
    · simp [pend, pdata, dataOf_append, bytesOf, dataOf, Chunk.bytes]
    · simp [pend, pdata, dataOf_append, bytesOf, dataOf, Chunk.bytes]

theorem setcD_spec (env : Env) (d : Dev) (s : Spec) :
    pend (setcD env d s).1 = pend d ++ (if d.last = some (env.pal.esc s) then [] else env.pal.esc s) ∧
      pdata (setcD env d s).1 = pdata d ∧ (setcD env d s).1.last = some (env.pal.esc s) ∧
      (setcD env d s).1.buf = [] ∧ (setcD env d s).2.printed = d.buf.length := by
  obtain ⟨f1, f2, f3, f4, f5⟩ := flushD_spec d
  have e1 : bytesOf (flushD d).1.out = pend d := by simpa only [pend, f4, List.append_nil] using f1
  have e2 : dataOf (flushD d).1.out = pdata d := by simpa only [pdata, f4, List.append_nil] using f2
  unfold setcD
  simp only [f3]
  split
  next h => simp [f1, f2, f3, f4, f5, h]
  next => simp [pend, pdata, bytesOf_snoc, dataOf_snoc_esc, Chunk.bytes, e1, e2, f4, f5, cnt_add_printed]

theorem runD_append (env : Env) (d : Dev) (a b : List MOp) :
    runD env d (a ++ b) = ((runD env (runD env d a).1 b).1, (runD env d a).2 + (runD env (runD env d a).1 b).2) := by
  induction a generalizing d with
  | nil => simp [runD, cnt_zero_add]
  | cons x r ih =>
    simp only [List.cons_append, runD, ih, cnt_add_assoc]

/-- The buffer decides when bytes reach stdout, not which: in terms of `pend` a run is `exec` on the same calls
without the flushes, and `printed` is what has left the buffer. -/
theorem runD_spec (env : Env) (hu : env.use = true) (d : Dev) (ms : List MOp) :
    pend (runD env d ms).1 = pend d ++ bytesOf (exec env.pal d.last (erase ms)).1 ∧
      (runD env d ms).1.last = (exec env.pal d.last (erase ms)).2 ∧
      pdata (runD env d ms).1 = pdata d ++ wrM ms ∧
      (runD env d ms).2.printed + (runD env d ms).1.buf.length = d.buf.length + (wrM ms).length := by
  induction ms generalizing d with
  | nil => simp [runD, erase, exec, bytesOf, wrM, wrOf]
  | cons x r ih =>
    cases x with
    | flush =>
      obtain ⟨f1, f2, f3, f4, f5⟩ := flushD_spec d
      obtain ⟨i1, i2, i3, i4⟩ := ih (flushD d).1
      simp only [runD, stepD, erase, wrM_flush, cnt_add_printed]
      rw [f1, f3] at i1; rw [f3] at i2; rw [f2] at i3; rw [f4] at i4
      refine ⟨i1, i2, i3, ?_⟩
      simp at i4; omega
    | wr b =>
      obtain ⟨w1, w2, w3, w4⟩ := writeD_spec env hu d b
      obtain ⟨i1, i2, i3, i4⟩ := ih (writeD env d b).1
      simp only [runD, stepD, erase, wrM_wr, cnt_add_printed, exec]
      rw [w1, w3] at i1; rw [w3] at i2; rw [w2] at i3
      refine ⟨?_, i2, ?_, ?_⟩
      · rw [i1]; simp [bytesOf, Chunk.bytes]
      · rw [i3]; simp
      · simp only [List.length_append]; omega
    | setc s =>
      obtain ⟨s1, s2, s3, s4, s5⟩ := setcD_spec env d s
      obtain ⟨i1, i2, i3, i4⟩ := ih (setcD env d s).1
      simp only [runD, stepD, erase, wrM_setc, cnt_add_printed, exec]
      rw [s1, s3] at i1; rw [s3] at i2; rw [s2] at i3; rw [s4] at i4
      split
      next h =>
        simp only [h, if_true, List.append_nil] at i1
        rw [← h] at i1 i2
        refine ⟨i1, i2, i3, ?_⟩
        simp at i4; omega
      next h =>
        simp only [h, if_false] at i1
        refine ⟨?_, i2, i3, ?_⟩
        · rw [i1]; simp [bytesOf, Chunk.bytes]
        · simp at i4; omega

theorem runD_buf_flush (env : Env) (d : Dev) (ms : List MOp) : (runD env d (ms ++ [.flush])).1.buf = [] := by
  rw [runD_append]
  simp only [runD, stepD]
  obtain ⟨_, _, _, hbuf, _⟩ := flushD_spec (runD env d ms).1
  exact hbuf

theorem runD_buf_setc (env : Env) (d : Dev) (ms : List MOp) (s : Spec) : (runD env d (ms ++ [.setc s])).1.buf = [] := by
  rw [runD_append]
  simp only [runD, stepD]
  obtain ⟨_, _, _, hbuf, _⟩ := setcD_spec env (runD env d ms).1 s
  exact hbuf

theorem ncLoop_flat (env : Env) (F : Flags) (hF : F.ret.print_line = true) (pre : List MOp) (d : Dev)
    (ls : List (List Bytes)) :
    ncLoop env F true pre d ls = runD env d (ls.flatMap (fun l => pre ++ l.map .wr)) := by
  induction ls generalizing d with
  | nil => rfl
  | cons l r ih =>
    simp only [ncLoop, print_line_M, List.flatMap_cons, runD_append, ih, hF, tup, addRes, if_true]
    congr 1

/-! ### the escapes too: multi-part and one-part highlighting give the same byte stream -/

inductive Guarded : List Op → Prop
  | nil : Guarded []
  | cons (s : Spec) (b : Bytes) (r : List Op) : b ≠ [] → Guarded r → Guarded (.setc s :: .wr b :: r)

/-- stdout of coloured bytes: an escape whenever the colour of the next byte differs from the last one set -/
def rend (p : Pal) : Last → List (Option Spec × UInt8) → Bytes × Last
  | last, [] => ([], last)
  | last, (none, x) :: r => (x :: (rend p last r).1, (rend p last r).2)
  | last, (some s, x) :: r =>
    if last = some (p.esc s) then (x :: (rend p last r).1, (rend p last r).2)
    else (p.esc s ++ x :: (rend p (some (p.esc s)) r).1, (rend p (some (p.esc s)) r).2)

theorem rend_same (p : Pal) (s : Spec) (b : Bytes) (t : List (Option Spec × UInt8)) :
    rend p (some (p.esc s)) (tag s b ++ t) = (b ++ (rend p (some (p.esc s)) t).1, (rend p (some (p.esc s)) t).2) := by
  induction b with
  | nil => simp [tag]
  | cons c r ih =>
    simp only [tag, List.map_cons, List.cons_append, rend, if_true] at *
    rw [ih]

theorem rend_run (p : Pal) (last : Last) (s : Spec) (b : Bytes) (hb : b ≠ []) (t : List (Option Spec × UInt8)) :
    rend p last (tag s b ++ t) =
      ((if last = some (p.esc s) then [] else p.esc s) ++ b ++ (rend p (some (p.esc s)) t).1, (rend p (some (p.esc s)) t).2) := by
  cases b with
  | nil => exact absurd rfl hb
  | cons c r =>
    have := rend_same p s r t
    simp only [tag] at this
    by_cases h : last = some (p.esc s)
    · subst h
      simp only [tag, List.map_cons, List.cons_append, rend, if_true, this]
      simp
    · simp only [tag, List.map_cons, List.cons_append, rend, h, if_false, this]
      simp

theorem exec_guarded (p : Pal) (os : List Op) (h : Guarded os) (last : Last) (cur : Option Spec) :
    (bytesOf (exec p last os).1, (exec p last os).2) = rend p last (tagsOf cur os) := by
  induction h generalizing last cur with
  | nil => simp [exec, bytesOf, tagsOf, rend]
  | cons s b r hb _ ih =>
    have ih' := ih (some (p.esc s)) (some s)
    rw [tagsOf_setc_wr, rend_run p last s b hb]
    have e1 : bytesOf (exec p (some (p.esc s)) r).1 = (rend p (some (p.esc s)) (tagsOf (some s) r)).1 := by rw [← ih']
    have e2 : (exec p (some (p.esc s)) r).2 = (rend p (some (p.esc s)) (tagsOf (some s) r)).2 := by rw [← ih']
    by_cases hl : last = some (p.esc s)
    · subst hl
      simp [exec, bytesOf, Chunk.bytes, ← e1, ← e2]
    · simp [exec, hl, bytesOf, Chunk.bytes, ← e1, ← e2]

theorem guarded_wrNE (s : Spec) (x : Bytes) (r : List Op) (h : Guarded r) : Guarded (wrNE s x ++ r) := by
  unfold wrNE
  by_cases hx : x = []
  · simpa [hx] using h
  · simpa [hx] using Guarded.cons s x r hx h

theorem guarded_hlPart (at_ : Nat) (p : Bytes) (hp : p ≠ []) (b e : Nat) (r : List Op) (h : Guarded r) :
    Guarded (hlPart at_ p b e ++ r) := by
  have ite {c : Prop} [Decidable c] {x y : List Op} (hx : Guarded (x ++ r)) (hy : Guarded (y ++ r)) :
      Guarded ((if c then x else y) ++ r) := by split <;> assumption
  have two (s t : Spec) (x y : Bytes) : Guarded (wrNE s x ++ wrNE t y ++ r) := by
    rw [List.append_assoc]; exact guarded_wrNE _ _ _ (guarded_wrNE _ _ _ h)
  have three (x y z : Bytes) : Guarded (wrNE .txt x ++ wrNE .dt y ++ wrNE .txt z ++ r) := by
    rw [List.append_assoc, List.append_assoc]
    exact guarded_wrNE _ _ _ (guarded_wrNE _ _ _ (guarded_wrNE _ _ _ h))
  exact ite (three ..) (ite (two ..) (ite (two ..) (ite (.cons _ _ _ hp h) (.cons _ _ _ hp h))))

theorem guarded_hlPartsAt (b e : Nat) (ps : List Bytes) (hne : ∀ p ∈ ps, p ≠ []) (at_ : Nat) :
    Guarded (hlPartsAt b e at_ ps) := by
  induction ps generalizing at_ with
  | nil => exact Guarded.nil
  | cons p r ih =>
    exact guarded_hlPart at_ p (hne p (by simp)) b e _ (ih (fun q hq => hne q (by simp [hq])) _)

theorem hlLine_eq_hlPart (l : Bytes) (hl : l ≠ []) (b e : Nat) : hlLine l b e = hlPart 0 l b e := by
  unfold hlLine hlPart
  simp only [hl, if_false, Nat.zero_le, true_and, Nat.zero_add, Nat.sub_zero, Nat.not_lt_zero, false_and]
  split
  · rw [List.drop_take]
  · split
    next h1 h2 =>
      have : l.length ≤ e := by omega
      simp [this, h2]
    next _ h2 => simp [h2]

theorem tags_hlLine (l : Bytes) {b e : Nat} (h : b ≤ e) (cur : Option Spec) : tagsOf cur (hlLine l b e) = paint b e 0 l := by
  by_cases hl : l = []
  · subst hl; simp [hlLine, tagsOf, paint]
  · have := tags_hlPart 0 l h (rest := []) (fun _ => rfl) cur
    simpa [hlLine_eq_hlPart l hl] using this

theorem guarded_hlLine (l : Bytes) (b e : Nat) : Guarded (hlLine l b e) := by
  by_cases hl : l = []
  · subst hl; simpa [hlLine] using Guarded.nil
  · rw [hlLine_eq_hlPart l hl]
    simpa using guarded_hlPart 0 l hl b e [] Guarded.nil

/-- What allows the first half of the model to take a line as one `linepart`. -/
theorem exec_hlParts_eq_hlLine (p : Pal) (last : Last) (ps : List Bytes) (hne : ∀ q ∈ ps, q ≠ []) {b e : Nat} (h : b ≤ e) :
    bytesOf (exec p last (hlParts ps b e)).1 = bytesOf (exec p last (hlLine ps.flatten b e)).1 ∧
      (exec p last (hlParts ps b e)).2 = (exec p last (hlLine ps.flatten b e)).2 := by
  -- both are guarded, and both colour the line as `paint` does
  have a := exec_guarded p _ (guarded_hlPartsAt b e ps hne 0) last none
  rw [tags_hlPartsAt h, ← tags_hlLine _ h none, ← exec_guarded p _ (guarded_hlLine ps.flatten b e) last none] at a
  exact Prod.mk.inj a

end S4V.Lemmas.PrintBuf
