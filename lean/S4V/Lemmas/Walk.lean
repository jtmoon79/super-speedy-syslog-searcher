/-
Lemmas about `S4V.Model.Walk` for C15 (`S4V.Props.WalkSpec`). `pathLt` is the lexicographic `<` of
`List`, so a directory's listing is strictly sorted once its children's blocks are sorted by their
(distinct) names and each block is sorted inside (`dir_sorted`, `walkN_sorted`); with hidden files
included the listing is a permutation of the files of the tree (`walkN_perm`), and two strictly sorted
permutations are equal (`sorted_perm_eq`). Further: a walked file that is kept is classified as the
same file named on the command line (`classifyWalked_eq_named`), and the `-` loop of
`cli_process_args` in closed form.
-/
import S4V.Model.Walk
import S4V.Lemmas.Path

namespace S4V.Lemmas.Walk
open S4V.Model.Walk S4V.Model.Path S4V.Model.PathTypes S4V.Lemmas.Path

theorem bytesLe_iff : ∀ {a b : Bytes}, bytesLe a b = true ↔ a ≤ b
  | [], _ => by simp [bytesLe]
  | _ :: _, [] => by simp [bytesLe]
  | x :: xs, y :: ys => by simp [bytesLe, List.cons_le_cons_iff, bytesLe_iff (a := xs)]

theorem bytesLt_iff {a b : Bytes} : bytesLt a b = true ↔ a < b := by
  simp [bytesLt, ← Bool.not_eq_true, bytesLe_iff]

theorem pathLt_iff : ∀ {p q : List Bytes}, pathLt p q = true ↔ p < q
  | [], [] => by simp [pathLt]
  | [], _ :: _ => by simp [pathLt]
  | _ :: _, [] => by simp [pathLt]
  | a :: as, b :: bs => by simp [pathLt, List.cons_lt_cons_iff, bytesLt_iff, pathLt_iff (p := as)]

theorem bytesLt_asymm (a b : Bytes) (h1 : bytesLt a b = true) : bytesLt b a = false :=
  Bool.eq_false_iff.mpr fun h2 => List.lt_asymm (bytesLt_iff.mp h1) (bytesLt_iff.mp h2)

theorem pathLt_irrefl (p : List Bytes) : pathLt p p = false :=
  Bool.eq_false_iff.mpr fun h => List.lt_irrefl p (pathLt_iff.mp h)

theorem pathLt_trans (p q r : List Bytes) (h1 : pathLt p q = true) (h2 : pathLt q r = true) :
    pathLt p r = true :=
  pathLt_iff.mpr (List.lt_trans (pathLt_iff.mp h1) (pathLt_iff.mp h2))

theorem pathLt_cons (n : Bytes) (p q : List Bytes) : pathLt (n :: p) (n :: q) = pathLt p q := by
  rw [Bool.eq_iff_iff, pathLt_iff, pathLt_iff, List.cons_lt_cons_iff]
  simp [List.lt_irrefl]

theorem pathLt_append (par p q : List Bytes) : pathLt (par ++ p) (par ++ q) = pathLt p q := by
  induction par with
  | nil => rfl
  | cons a as ih => simp [pathLt_cons, ih]

abbrev PLt (p q : List Bytes) : Prop := pathLt p q = true

theorem sorted_perm_eq {l₁ l₂ : List (List Bytes)} (h₁ : l₁.Pairwise PLt) (h₂ : l₂.Pairwise PLt)
    (hp : l₁.Perm l₂) : l₁ = l₂ :=
  List.Perm.eq_of_pairwise (le := PLt)
    (fun _ _ _ _ hab hba => absurd (pathLt_iff.mp hba) (List.lt_asymm (pathLt_iff.mp hab))) h₁ h₂ hp

theorem insertBlock_perm (x : Block) : ∀ l : List Block, (insertBlock x l).Perm (x :: l)
  | [] => List.Perm.refl _
  | y :: ys => by
    unfold insertBlock
    split
    · exact List.Perm.refl _
    · exact ((insertBlock_perm x ys).cons y).trans (List.Perm.swap x y ys)

theorem sortBlocks_perm : ∀ l : List Block, (sortBlocks l).Perm l
  | [] => List.Perm.refl _
  | x :: xs => (insertBlock_perm x (sortBlocks xs)).trans ((sortBlocks_perm xs).cons x)

theorem insertBlock_sorted (x : Block) : ∀ l : List Block, l.Pairwise (·.1 ≤ ·.1) →
    (insertBlock x l).Pairwise (·.1 ≤ ·.1)
  | [], _ => by simp [insertBlock]
  | y :: ys, h => by
    unfold insertBlock
    have hy := List.pairwise_cons.mp h
    split
    · next hxy =>
      refine List.pairwise_cons.mpr ⟨fun z hz => ?_, h⟩
      rcases List.mem_cons.mp hz with rfl | hz
      · exact bytesLe_iff.mp hxy
      · exact List.le_trans (bytesLe_iff.mp hxy) (hy.1 z hz)
    · next hxy =>
      refine List.pairwise_cons.mpr ⟨fun z hz => ?_, insertBlock_sorted x ys hy.2⟩
      rcases List.mem_cons.mp ((insertBlock_perm x ys).mem_iff.mp hz) with rfl | hz
      · exact (List.le_total z.1 y.1).resolve_left (mt bytesLe_iff.mpr hxy)
      · exact hy.1 z hz

theorem sortBlocks_sorted : ∀ l : List Block, (sortBlocks l).Pairwise (·.1 ≤ ·.1)
  | [] => List.Pairwise.nil
  | x :: xs => insertBlock_sorted x _ (sortBlocks_sorted xs)

theorem sortBlocks_strict (l : List Block) (hd : (l.map (·.1)).Nodup) :
    (sortBlocks l).Pairwise (·.1 < ·.1) := by
  have hne : ((sortBlocks l).map (·.1)).Nodup := ((sortBlocks_perm l).map (·.1)).nodup_iff.mpr hd
  exact ((sortBlocks_sorted l).and (List.pairwise_map.mp hne)).imp fun h => Std.lt_of_le_of_ne h.1 h.2

theorem flatten_sortBlocks_perm (l : List Block) : (flatten (sortBlocks l)).Perm (flatten l) :=
  (sortBlocks_perm l).flatMap_right _

theorem walkN_head (ih : Bool) : ∀ (c : Node) (p : List Bytes), p ∈ walkN ih c → ∃ q, p = c.name :: q
  | .file n, p, h => by
    simp [walkN] at h
    exact ⟨[], by simp [h, Node.name]⟩
  | .dir n cs, p, h => by
    simp only [walkN, List.mem_map] at h
    obtain ⟨q, _, rfl⟩ := h
    exact ⟨q, rfl⟩

theorem walkL_eq (ih : Bool) : ∀ cs : List Node,
    walkL ih cs = (cs.filter fun c => ih || !isHidden c.name).map fun c => (c.name, walkN ih c)
  | [] => by simp [walkL]
  | c :: cs => by
    rw [walkL, walkL_eq ih cs, List.filter_cons]
    split <;> rfl

theorem walkL_mem (ih : Bool) (cs : List Node) (b : Block) (h : b ∈ walkL ih cs) :
    ∃ c, c ∈ cs ∧ b = (c.name, walkN ih c) := by
  rw [walkL_eq, List.mem_map] at h
  obtain ⟨c, hc, rfl⟩ := h
  exact ⟨c, (List.mem_filter.mp hc).1, rfl⟩

theorem walkL_keys_sublist (ih : Bool) (cs : List Node) :
    ((walkL ih cs).map (·.1)).Sublist (cs.map Node.name) := by
  rw [walkL_eq, List.map_map]
  exact List.filter_sublist.map Node.name

theorem namesDistinct_nodup : ∀ ns : List Bytes, namesDistinct ns = true → ns.Nodup
  | [], _ => List.nodup_nil
  | n :: ns, h => by
    simp only [namesDistinct, Bool.and_eq_true, Bool.not_eq_true', List.contains_eq_mem,
      decide_eq_false_iff_not] at h
    exact List.nodup_cons.mpr ⟨h.1, namesDistinct_nodup ns h.2⟩

theorem nodup_namesDistinct : ∀ ns : List Bytes, ns.Nodup → namesDistinct ns = true
  | [], _ => rfl
  | n :: ns, h => by
    have h' := List.nodup_cons.mp h
    simp [namesDistinct, h'.1, nodup_namesDistinct ns h'.2]

theorem dir_sorted (n : Bytes) (bs : List Block)
    (hkeys : (bs.map (·.1)).Nodup)
    (hhead : ∀ b ∈ bs, ∀ p ∈ b.2, ∃ q, p = b.1 :: q)
    (hin : ∀ b ∈ bs, b.2.Pairwise PLt) :
    ((flatten (sortBlocks bs)).map (n :: ·)).Pairwise PLt := by
  refine List.Pairwise.map _ (fun a b h => by simpa [PLt, pathLt_cons] using h) ?_
  unfold flatten
  refine List.pairwise_flatMap.mpr ⟨?_, ?_⟩
  · intro b hb
    exact hin b ((sortBlocks_perm bs).mem_iff.mp hb)
  · refine (sortBlocks_strict bs hkeys).imp_of_mem fun {a b} ha hb hlt x hx y hy => ?_
    obtain ⟨qx, rfl⟩ := hhead a ((sortBlocks_perm bs).mem_iff.mp ha) x hx
    obtain ⟨qy, rfl⟩ := hhead b ((sortBlocks_perm bs).mem_iff.mp hb) y hy
    exact pathLt_iff.mpr (List.cons_lt_cons_iff.mpr (.inl hlt))

mutual
theorem walkN_sorted (ih : Bool) : ∀ t : Node, okN t = true → (walkN ih t).Pairwise PLt
  | .file n, _ => by simp [walkN]
  | .dir n cs, h => by
    simp only [okN, Bool.and_eq_true] at h
    unfold walkN
    refine dir_sorted n (walkL ih cs) ?_ ?_ (walkL_sorted ih cs h.2)
    · exact (walkL_keys_sublist ih cs).nodup (namesDistinct_nodup _ h.1)
    · intro b hb p hp
      obtain ⟨c, _, rfl⟩ := walkL_mem ih cs b hb
      exact walkN_head ih c p hp
theorem walkL_sorted (ih : Bool) : ∀ cs : List Node, okL cs = true → ∀ b ∈ walkL ih cs, b.2.Pairwise PLt
  | [], _ => by simp [walkL]
  | c :: cs, h => by
    simp only [okL, Bool.and_eq_true] at h
    intro b hb
    simp only [walkL, List.mem_append] at hb
    rcases hb with hb | hb
    · split at hb
      · simp at hb; subst hb; exact walkN_sorted ih c h.1
      · simp at hb
    · exact walkL_sorted ih cs h.2 b hb
end

mutual
theorem walkN_perm : ∀ t : Node, (walkN true t).Perm (filesN t)
  | .file n => by simp [walkN, filesN]
  | .dir n cs => by
    unfold walkN filesN
    exact ((flatten_sortBlocks_perm _).trans (walkL_perm cs)).map _
theorem walkL_perm : ∀ cs : List Node, (flatten (walkL true cs)).Perm (filesL cs)
  | [] => by simp [walkL, filesL, flatten]
  | c :: cs => by
    simp only [walkL, filesL, flatten, Bool.true_or, if_true, List.flatMap_append, List.flatMap_cons,
      List.flatMap_nil, List.append_nil]
    exact (walkN_perm c).append (walkL_perm cs)
end

mutual
theorem walkN_noHidden (ih : Bool) : ∀ t : Node, noHiddenN t = true → walkN ih t = walkN true t
  | .file n, _ => by simp [walkN]
  | .dir n cs, h => by
    simp only [noHiddenN] at h
    unfold walkN
    rw [walkL_noHidden ih cs h]
theorem walkL_noHidden (ih : Bool) : ∀ cs : List Node, noHiddenL cs = true → walkL ih cs = walkL true cs
  | [], _ => by simp [walkL]
  | c :: cs, h => by
    simp only [noHiddenL, Bool.and_eq_true, Bool.not_eq_true'] at h
    simp only [walkL, h.1.1, Bool.not_false, Bool.or_true, if_true]
    rw [walkN_noHidden ih c h.1.2, walkL_noHidden ih cs h.2]
end

theorem walkN_ne_nil (ih : Bool) (t : Node) : ∀ p ∈ walkN ih t, p ≠ [] := by
  intro p hp
  obtain ⟨q, rfl⟩ := walkN_head ih t p hp
  simp

/-- the walked file is kept (not `Unparsable`) -/
def keep (p : List Bytes) : Bool :=
  match classify (p.getLastD []) false with
  | some r => r.kind != .unparsable
  | none => false

theorem classifyWalked_path (p : List Bytes) : (classifyWalked p).path = p := by
  unfold classifyWalked; split
  · rfl
  · split <;> rfl

theorem classifyNamed_path (p : List Bytes) (c : Bytes) : (classifyNamed p c).path = p := by
  unfold classifyNamed; split
  · rfl
  · split <;> rfl

theorem classifyWalked_attempted (p : List Bytes) : (classifyWalked p).out.attempted = keep p := by
  unfold classifyWalked keep
  cases h : classify (p.getLastD []) false with
  | none => rfl
  | some r =>
    obtain ⟨k, a⟩ := r
    cases k <;> simp [Outcome.attempted]

theorem classifyWalked_eq_named (par p : List Bytes) (h : keep p = true) :
    (⟨par ++ p, (classifyWalked p).out⟩ : Entry) = classifyNamed (par ++ p) (p.getLastD []) := by
  unfold keep at h
  cases hc : classify (p.getLastD []) false with
  | none => rw [hc] at h; exact absurd h (by decide)
  | some r =>
    rw [hc] at h
    have hne : r.kind ≠ .unparsable := by simpa using h
    have ht := classify_false_true _ r hc hne
    unfold classifyWalked classifyNamed
    rw [hc, ht]
    obtain ⟨k, a⟩ := r
    cases k <;> simp_all

theorem classifyNamed_attempted (p : List Bytes) (c : Bytes) : (classifyNamed p c).out.attempted = true := by
  unfold classifyNamed
  have hs := classify_isSome c true
  cases h : classify c true with
  | none => simp [h] at hs
  | some r =>
    obtain ⟨k, a⟩ := r
    cases k <;> simp [Outcome.attempted]

theorem spliceAux_seen (stdin : List Bytes) : ∀ args, spliceAux stdin true args = args.filter (· ≠ DASH)
  | [] => rfl
  | a :: rest => by
    unfold spliceAux
    by_cases h : a = DASH
    · simp [h, spliceAux_seen stdin rest]
    · simp [h, spliceAux_seen stdin rest]

theorem spliceAux_prefix (stdin : List Bytes) (seen : Bool) : ∀ (pre rest : List Bytes), DASH ∉ pre →
    spliceAux stdin seen (pre ++ rest) = pre ++ spliceAux stdin seen rest
  | [], _, _ => rfl
  | a :: pre, rest, h => by
    have ha : a ≠ DASH := fun e => h (by simp [e])
    have hp : DASH ∉ pre := fun e => h (List.mem_cons_of_mem _ e)
    simp only [List.cons_append]
    rw [spliceAux]
    simp [ha, spliceAux_prefix stdin seen pre rest hp]

theorem filter_ne_of_not_mem (l : List Bytes) (h : DASH ∉ l) : l.filter (· ≠ DASH) = l := by
  apply List.filter_eq_self.mpr
  intro a ha
  simp only [ne_eq, decide_not, Bool.not_eq_eq_eq_not, Bool.not_true, decide_eq_false_iff_not]
  exact fun e => h (e ▸ ha)

end S4V.Lemmas.Walk
