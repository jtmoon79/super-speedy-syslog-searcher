/-
Lemmas for the coordinator model (`S4V/Model/Coord.lean`), in this order: the first minimum; the merge it specifies; one
iteration of the loop as a relation (`Step` over `Body`; what a receive arm does is the table `RecvArm` with the state update
`recvd`, and `Base.upd` is the one lemma that re-establishes `Base` after it); the invariant (`Base`, `FinInv`, then `FiInv` for
well-formed scripts; the error count through `errsOf` / `errsRem` / `RecvArm.errs` / `fin_errs`) with
what follows from it at the end of a run; the termination measure `μ`; the refinement by bounded buffers (`bstep_sim`).
-/
import S4V.Model.Coord
import S4V.Lemmas.Lists
namespace S4V.Lemmas.Coord
open S4V.Model.Coord
open S4V.Lemmas.Lists (getD_set getD_of_le lt_of_getD_ne length_filter_eq_zero_iff)

section
variable {α : Type}

theorem set_eq_self {l : List α} {i : Nat} {d v : α} (h : l.getD i d = v) : l.set i v = l := by
  subst h
  by_cases h : i < l.length
  · simp [List.getD_eq_getElem?_getD, h]
  · exact List.set_eq_of_length_le (Nat.le_of_not_lt h)

theorem ext_getD {d : α} {l₁ l₂ : List α} (hl : l₁.length = l₂.length)
    (h : ∀ j : Nat, l₁.getD j d = l₂.getD j d) : l₁ = l₂ := by
  apply List.ext_getElem hl
  intro j h₁ h₂
  simpa [List.getD_eq_getElem?_getD, h₁, h₂] using h j

/-- `S4V.Model.Coord.bstep` reads `closed` with default `true` where a worker acts (`send`, `close`) and with default
`false` where the coordinator polls; inside the list the default does not matter -/
theorem getD_default_irrel (l : List α) (i : Nat) (d₁ d₂ : α) (h : i < l.length) :
    l.getD i d₁ = l.getD i d₂ := by
  simp [List.getD_eq_getElem?_getD, List.getElem?_eq_getElem h]

theorem getD_map {β : Type} (f : α → β) (l : List α) (j : Nat) (d : α) : (l.map f).getD j (f d) = f (l.getD j d) := by
  simp only [List.getD_eq_getElem?_getD, List.getElem?_map]
  cases l[j]? <;> rfl

theorem sum_map_set (f : α → Nat) (l : List α) (i : Nat) (v d : α) (hi : i < l.length) :
    ((l.set i v).map f).sum + f (l.getD i d) = (l.map f).sum + f v := by
  induction l generalizing i with
  | nil => simp at hi
  | cons a t ih =>
    cases i with
    | zero => simp; omega
    | succ i =>
      have := ih i (by simpa using hi)
      simp at this ⊢
      omega

theorem sum_range_map_update (n : Nat) (f g : Nat → Nat) (i : Nat) (hi : i < n)
    (h : ∀ j, j ≠ i → f j = g j) :
    ((List.range n).map f).sum + g i = ((List.range n).map g).sum + f i := by
  induction n with
  | zero => omega
  | succ n ih =>
    simp only [List.range_succ, List.map_append, List.sum_append, List.map_cons, List.map_nil,
      List.sum_cons, List.sum_nil]
    by_cases hin : i = n
    · subst hin
      have : (List.range i).map f = (List.range i).map g :=
        List.map_congr_left fun j hj => h j (Nat.ne_of_lt (List.mem_range.1 hj))
      rw [this]; omega
    · have := ih (by omega)
      have := h n (fun e => hin e.symm)
      omega

theorem range_map_eq_map {β : Type} (l : List α) (g : Nat → β) (f : α → β)
    (h : ∀ (j : Nat) (hj : j < l.length), g j = f l[j]) : (List.range l.length).map g = l.map f :=
  List.ext_getElem (by simp) fun j _ h₂ => by simpa using h j (by simpa using h₂)

theorem range_map_set (n : Nat) (f : Nat → α) (i : Nat) (v : α) :
    ((List.range n).map f).set i v = (List.range n).map (fun j => if j = i then v else f j) := by
  apply List.ext_getElem (by simp)
  intro j h₁ h₂
  simp only [List.getElem_set, List.getElem_map, List.getElem_range, eq_comm]

theorem length_filter_eq_sum (p : α → Bool) (l : List α) :
    (l.filter p).length = (l.map fun x => if p x then 1 else 0).sum := by
  induction l with
  | nil => rfl
  | cons a t ih => rw [List.filter_cons]; split <;> simp [*] <;> omega

theorem countSome_set_some (l : List (Option Msg)) (i : Nat) (m : Msg) (hi : i < l.length)
    (h : l.getD i none = none) : countSome (l.set i (some m)) = countSome l + 1 := by
  have := sum_map_set (fun x : Option Msg => if x.isSome then 1 else 0) l i (some m) none hi
  rw [h] at this
  simpa [countSome, length_filter_eq_sum] using this

theorem sum_map_set_le (f : α → Nat) (l : List α) (i : Nat) (v d : α) (hd : f d = 0) :
    ((l.set i v).map f).sum + f (l.getD i d) ≤ (l.map f).sum + f v := by
  rcases Nat.lt_or_ge i l.length with hi | hi
  · exact Nat.le_of_eq (sum_map_set f l i v d hi)
  · rw [List.set_eq_of_length_le hi, getD_of_le l i d hi, hd]; omega

theorem length_filter_set_le (p : α → Bool) (l : List α) (i : Nat) (v d : α) (hd : p d = false) :
    ((l.set i v).filter p).length + (if p (l.getD i d) then 1 else 0) ≤
      (l.filter p).length + (if p v then 1 else 0) := by
  simp only [length_filter_eq_sum]
  exact sum_map_set_le _ l i v d (by simp [hd])

theorem length_filter_le_of_imp {β : Type} (p : α → Bool) (q : β → Bool) (a : α) (b : β) (ha : p a = false)
    (hb : q b = false) : ∀ (l₁ : List α) (l₂ : List β), (∀ j : Nat, p (l₁.getD j a) = true → q (l₂.getD j b) = true) →
      (l₁.filter p).length ≤ (l₂.filter q).length := by
  intro l₁
  induction l₁ with
  | nil => intros; exact Nat.zero_le _
  | cons x t ih =>
    intro l₂ h
    cases l₂ with
    | nil =>
      rw [(length_filter_eq_zero_iff p a ha _).2 fun j => Bool.eq_false_iff.2 fun hj => ?_]
      · exact Nat.zero_le _
      · have := h j hj
        rw [List.getD_nil, hb] at this
        cases this
    | cons y u =>
      have := ih u fun j hj => h (j + 1) hj
      have h0 : p x = true → q y = true := h 0
      rw [List.filter_cons, List.filter_cons]
      by_cases hp : p x = true
      · rw [if_pos hp, if_pos (h0 hp)]; exact Nat.succ_le_succ this
      · rw [if_neg hp]
        split
        · exact Nat.le_succ_of_le this
        · exact this

end

def LexLe (a b : Nat × Msg) : Prop := a.2.dt < b.2.dt ∨ (a.2.dt = b.2.dt ∧ a.1 ≤ b.1)

/-- `(i, m)` is the first minimum by `dt` of the `some` entries of `p`: the least entry in the order `LexLe` -/
def IsMin (p : List (Option Msg)) (i : Nat) (m : Msg) : Prop :=
  p.getD i none = some m ∧ ∀ (j : Nat) (m' : Msg), p.getD j none = some m' → LexLe (i, m) (j, m')

def IsMinOpt (p : List (Option Msg)) : Option (Nat × Msg) → Prop
  | none => ∀ j : Nat, p.getD j none = none
  | some (i, m) => IsMin p i m

theorem getD_snoc_eq_some (l : List (Option Msg)) (x : Option Msg) (j : Nat) (m : Msg) :
    (l ++ [x]).getD j none = some m ↔ l.getD j none = some m ∨ (j = l.length ∧ x = some m) := by
  simp only [List.getD_eq_getElem?_getD, List.getElem?_append]
  split
  · next h => simp; omega
  · next h =>
    rw [List.getElem?_eq_none (Nat.le_of_not_lt h)]
    by_cases e : j = l.length
    · simp [e]
    · rw [List.getElem?_eq_none (by simp; omega)]; simp [e]

theorem minPendingAux_spec (p : List (Option Msg)) :
    ∀ (pre : List (Option Msg)) (best : Option (Nat × Msg)), IsMinOpt pre best →
      IsMinOpt (pre ++ p) (minPendingAux p pre.length best) := by
  induction p with
  | nil => intro pre best h; simpa [minPendingAux] using h
  | cons x r ih =>
    intro pre best h
    have key : ∀ nb, IsMinOpt (pre ++ [x]) nb →
        IsMinOpt (pre ++ x :: r) (minPendingAux r (pre.length + 1) nb) := by
      intro nb hnb
      simpa using ih (pre ++ [x]) nb hnb
    match x, best, h with
    | none, none, h =>
      have h : ∀ j, pre.getD j none = none := h
      refine key none fun j => ?_
      cases hj : (pre ++ [none]).getD j none with
      | none => rfl
      | some m => rw [getD_snoc_eq_some, h j] at hj; simp at hj
    | none, some (j, b), h =>
      refine key (some (j, b)) ?_
      simpa only [IsMinOpt, IsMin, getD_snoc_eq_some, reduceCtorEq, and_false, or_false] using h
    | some m, none, h =>
      have h : ∀ j, pre.getD j none = none := h
      refine key (some (pre.length, m)) ⟨(getD_snoc_eq_some ..).2 (Or.inr ⟨rfl, rfl⟩), fun k m' e => ?_⟩
      rw [getD_snoc_eq_some, h k] at e
      obtain e | ⟨rfl, e⟩ := e
      · cases e
      · cases e; exact Or.inr ⟨rfl, Nat.le_refl _⟩
    | some m, some (j, b), ⟨h1, h2⟩ =>
      have hj : j < pre.length := lt_of_getD_ne (by rw [h1]; simp)
      simp only [minPendingAux]
      split
      · refine key (some (pre.length, m)) ⟨(getD_snoc_eq_some ..).2 (Or.inr ⟨rfl, rfl⟩), fun k m' e => ?_⟩
        rw [getD_snoc_eq_some] at e
        obtain e | ⟨rfl, e⟩ := e
        · have := h2 k m' e; simp only [LexLe] at this ⊢; omega
        · cases e; exact Or.inr ⟨rfl, Nat.le_refl _⟩
      · refine key (some (j, b)) ⟨(getD_snoc_eq_some ..).2 (Or.inl h1), fun k m' e => ?_⟩
        rw [getD_snoc_eq_some] at e
        obtain e | ⟨rfl, e⟩ := e
        · exact h2 k m' e
        · cases e; simp only [LexLe]; omega

theorem minPending_isMinOpt (p : List (Option Msg)) : IsMinOpt p (minPending p) := by
  simpa [minPending] using minPendingAux_spec p [] none (fun j => rfl)

theorem isMinOpt_unique {p : List (Option Msg)} : ∀ {r r' : Option (Nat × Msg)},
    IsMinOpt p r → IsMinOpt p r' → r = r'
  | none, none, _, _ => rfl
  | none, some (j, b), h, h' => by cases (h j).symm.trans h'.1
  | some (i, a), none, h, h' => by cases (h' i).symm.trans h.1
  | some (i, a), some (j, b), h, h' => by
    have e1 := h.2 j b h'.1
    have e2 := h'.2 i a h.1
    simp only [LexLe] at e1 e2
    obtain rfl : i = j := by omega
    cases h.1.symm.trans h'.1
    rfl

theorem minPending_eq_iff {p : List (Option Msg)} {r : Option (Nat × Msg)} :
    minPending p = r ↔ IsMinOpt p r :=
  ⟨fun h => h ▸ minPending_isMinOpt p, fun h => isMinOpt_unique (minPending_isMinOpt p) h⟩

theorem minHeadAux_eq (ls : List (List Msg)) : ∀ k best,
    minHeadAux ls k best = minPendingAux (ls.map List.head?) k best := by
  induction ls with
  | nil => intros; rfl
  | cons l r ih =>
    intro k best
    rcases l with _ | ⟨m, t⟩ <;> rcases best with _ | ⟨j, b⟩ <;> simp [minHeadAux, minPendingAux, ih]

theorem minHead_eq (ls : List (List Msg)) : minHead ls = minPending (ls.map List.head?) := by
  simp [minHead, minPending, minHeadAux_eq]

theorem getD_map_head? (ls : List (List Msg)) (j : Nat) :
    (ls.map List.head?).getD j none = (ls.getD j []).head? :=
  getD_map List.head? ls j []

theorem minHead_eq_some_iff_lex {ls : List (List Msg)} {i : Nat} {m : Msg} :
    minHead ls = some (i, m) ↔ (ls.getD i []).head? = some m ∧
      ∀ (j : Nat) (m' : Msg), (ls.getD j []).head? = some m' → LexLe (i, m) (j, m') := by
  rw [minHead_eq, minPending_eq_iff]
  simp only [IsMinOpt, IsMin, getD_map_head?]

def HeadMin (ls : List (List Msg)) (i : Nat) (m : Msg) : Prop :=
  (ls.getD i []).head? = some m ∧
  (∀ (j : Nat) (m' : Msg), (ls.getD j []).head? = some m' → m.dt ≤ m'.dt) ∧
  (∀ (j : Nat) (m' : Msg), j < i → (ls.getD j []).head? = some m' → m.dt < m'.dt)

theorem minHead_eq_some_iff {ls : List (List Msg)} {i : Nat} {m : Msg} :
    minHead ls = some (i, m) ↔ HeadMin ls i m := by
  rw [minHead_eq_some_iff_lex]
  simp only [HeadMin, LexLe]
  refine and_congr_right fun _ => ⟨fun h => ⟨fun j m' e => ?_, fun j m' hlt e => ?_⟩, fun h j m' e => ?_⟩
  · have := h j m' e; omega
  · have := h j m' e; omega
  · have := h.1 j m' e
    by_cases hlt : j < i
    · have := h.2 j m' hlt e; omega
    · omega

theorem minHead_eq_none_iff {ls : List (List Msg)} :
    minHead ls = none ↔ ∀ j : Nat, ls.getD j [] = [] := by
  rw [minHead_eq, minPending_eq_iff]
  simp only [IsMinOpt, getD_map_head?, List.head?_eq_none_iff]

theorem popAt_getD (ls : List (List Msg)) (i j : Nat) :
    (popAt ls i).getD j [] = if j = i then (ls.getD i []).tail else ls.getD j [] := by
  simp only [popAt, List.getD_eq_getElem?_getD, List.getElem?_set]
  grind

theorem popAt_getD_suffix (ls : List (List Msg)) (i j : Nat) : (popAt ls i).getD j [] <:+ ls.getD j [] := by
  rw [popAt_getD]
  split
  · next e => exact e ▸ List.tail_suffix _
  · exact List.suffix_refl _

theorem popAt_length (ls : List (List Msg)) (i : Nat) : (popAt ls i).length = ls.length := by
  simp [popAt]

theorem popAt_of_nil {ls : List (List Msg)} {i : Nat} (h : ls.getD i [] = []) : popAt ls i = ls := by
  rw [popAt, h]
  exact set_eq_self h

theorem totalLen_cons (l : List Msg) (r : List (List Msg)) :
    totalLen (l :: r) = l.length + totalLen r := by
  simp [totalLen]

theorem totalLen_popAt {ls : List (List Msg)} {i : Nat} {m : Msg}
    (h : (ls.getD i []).head? = some m) : totalLen ls = totalLen (popAt ls i) + 1 := by
  have hi : i < ls.length := lt_of_getD_ne (d := []) fun e => by rw [e] at h; cases h
  have := sum_map_set List.length ls i (ls.getD i []).tail [] hi
  cases hl : ls.getD i [] with
  | nil => rw [hl] at h; cases h
  | cons a t =>
    rw [hl] at this
    simp only [totalLen, popAt, hl, List.tail_cons, List.length_cons] at this ⊢
    omega

theorem totalLen_eq_zero_iff {ls : List (List Msg)} : totalLen ls = 0 ↔ ∀ j : Nat, ls.getD j [] = [] := by
  induction ls with
  | nil => simp [totalLen]
  | cons l r ih =>
    rw [totalLen_cons, Nat.add_eq_zero_iff, ih, List.length_eq_zero_iff]
    exact ⟨fun h j => by cases j with | zero => exact h.1 | succ j => exact h.2 j,
      fun h => ⟨by simpa using h 0, fun j => by simpa using h (j + 1)⟩⟩

theorem merge_step {ls : List (List Msg)} {i : Nat} {m : Msg} (h : minHead ls = some (i, m)) :
    merge ls = (i, m) :: merge (popAt ls i) := by
  have hl := totalLen_popAt (minHead_eq_some_iff.1 h).1
  unfold merge
  rw [hl]
  simp only [mergeAux, h]

theorem merge_none {ls : List (List Msg)} (h : minHead ls = none) : merge ls = [] := by
  unfold merge
  cases totalLen ls <;> simp [mergeAux, h]

theorem merge_induction {P : List (List Msg) → Prop}
    (hnone : ∀ ls, minHead ls = none → P ls)
    (hstep : ∀ ls i m, minHead ls = some (i, m) → P (popAt ls i) → P ls) :
    ∀ ls, P ls := by
  intro ls
  generalize hn : totalLen ls = n
  induction n generalizing ls with
  | zero => exact hnone ls (minHead_eq_none_iff.2 (totalLen_eq_zero_iff.1 hn))
  | succ n ih =>
    cases hm : minHead ls with
    | none => exact hnone ls hm
    | some im =>
      obtain ⟨i, m⟩ := im
      have := totalLen_popAt (minHead_eq_some_iff.1 hm).1
      exact hstep ls i m hm (ih _ (by omega))

theorem merge_per_source (ls : List (List Msg)) (i : Nat) :
    ((merge ls).filter (fun p => p.1 = i)).map (fun p => p.2) = ls.getD i [] := by
  induction ls using merge_induction with
  | hnone ls h => rw [merge_none h, (minHead_eq_none_iff.1 h) i]; rfl
  | hstep ls j m h ih =>
    rw [merge_step h]
    have hh := (minHead_eq_some_iff.1 h).1
    rw [popAt_getD] at ih
    by_cases hji : j = i
    · subst hji
      simp only [List.filter_cons, decide_true, if_true, List.map_cons, ih]
      cases hl : ls.getD j [] with
      | nil => rw [hl] at hh; cases hh
      | cons a t => rw [hl] at hh; cases hh; rfl
    · simpa only [List.filter_cons, hji, decide_false, Bool.false_eq_true, Ne.symm hji, if_false] using ih

theorem mem_merge {ls : List (List Msg)} {j : Nat} {m : Msg} (h : (j, m) ∈ merge ls) :
    m ∈ ls.getD j [] := by
  rw [← merge_per_source ls j]
  exact List.mem_map.2 ⟨(j, m), List.mem_filter.2 ⟨h, by simp⟩, rfl⟩

theorem merge_length (ls : List (List Msg)) : (merge ls).length = totalLen ls := by
  induction ls using merge_induction with
  | hnone ls h => rw [merge_none h, totalLen_eq_zero_iff.2 (minHead_eq_none_iff.1 h)]; rfl
  | hstep ls j m h ih =>
    rw [merge_step h, totalLen_popAt (minHead_eq_some_iff.1 h).1, List.length_cons, ih]

theorem merge_cons_inv {ls : List (List Msg)} {i : Nat} {m : Msg} {rest : List (Nat × Msg)}
    (h : merge ls = (i, m) :: rest) : minHead ls = some (i, m) ∧ rest = merge (popAt ls i) := by
  cases hm : minHead ls with
  | none => rw [merge_none hm] at h; cases h
  | some jb =>
    obtain ⟨j, b⟩ := jb
    rw [merge_step hm] at h
    injection h with h1 h2
    cases h1
    exact ⟨rfl, h2.symm⟩

theorem merge_drop (n : Nat) : ∀ ls : List (List Msg), ∃ ls' : List (List Msg),
    (merge ls).drop n = merge ls' ∧ ls'.length = ls.length ∧
      ∀ j : Nat, ls'.getD j [] <:+ ls.getD j [] := by
  induction n with
  | zero => intro ls; exact ⟨ls, rfl, rfl, fun _ => List.suffix_refl _⟩
  | succ n ih =>
    intro ls
    cases hm : minHead ls with
    | none => exact ⟨ls, by rw [merge_none hm]; rfl, rfl, fun _ => List.suffix_refl _⟩
    | some im =>
      obtain ⟨i, m⟩ := im
      obtain ⟨ls', h1, h2, h3⟩ := ih (popAt ls i)
      exact ⟨ls', by rw [merge_step hm]; exact h1, by rw [h2, popAt_length],
        fun j => (h3 j).trans (popAt_getD_suffix ls i j)⟩

theorem merge_sorted_lex (ls : List (List Msg)) :
    (∀ j : Nat, (ls.getD j []).Pairwise (fun a b => a.dt ≤ b.dt)) → (merge ls).Pairwise LexLe := by
  induction ls using merge_induction with
  | hnone ls h => intro _; rw [merge_none h]; exact List.Pairwise.nil
  | hstep ls i m h ih =>
    intro hs
    rw [merge_step h]
    refine List.Pairwise.cons ?_ (ih fun j => (hs j).sublist (popAt_getD_suffix ls i j).sublist)
    -- the element emitted is least among the heads, and each head is earliest in its (sorted) list
    rintro ⟨j, m'⟩ hmem
    have hm' := (popAt_getD_suffix ls i j).subset (mem_merge hmem)
    have hsj := hs j
    cases hl : ls.getD j [] with
    | nil => rw [hl] at hm'; cases hm'
    | cons a t =>
      have hle := (minHead_eq_some_iff_lex.1 h).2 j a (by rw [hl]; rfl)
      rw [hl] at hm' hsj
      have : a.dt ≤ m'.dt := by
        rcases List.mem_cons.1 hm' with rfl | e
        · exact Int.le_refl _
        · exact (List.pairwise_cons.1 hsj).1 m' e
      simp only [LexLe] at hle ⊢
      omega

def mask (h : Nat → Bool) (ls : List (List Msg)) : List (List Msg) :=
  ls.mapIdx (fun i l => if h i then l else [])

theorem mask_getD (h : Nat → Bool) (ls : List (List Msg)) (j : Nat) :
    (mask h ls).getD j [] = if h j then ls.getD j [] else [] := by
  simp only [mask, List.getD_eq_getElem?_getD, List.getElem?_mapIdx]
  cases ls[j]? <;> simp

theorem mask_popAt (h : Nat → Bool) (ls : List (List Msg)) (i : Nat) :
    mask h (popAt ls i) = popAt (mask h ls) i := by
  simp only [popAt, mask_getD]
  simp only [mask, List.mapIdx_set]
  split <;> rfl

theorem filter_merge (h : Nat → Bool) (ls : List (List Msg)) :
    (merge ls).filter (fun p => h p.1) = merge (mask h ls) := by
  induction ls using merge_induction with
  | hnone ls hm =>
    rw [merge_none hm, merge_none]; · rfl
    exact minHead_eq_none_iff.2 fun j => by rw [mask_getD, minHead_eq_none_iff.1 hm j]; simp
  | hstep ls i m hm ih =>
    rw [merge_step hm, List.filter_cons, ih, mask_popAt]
    obtain ⟨h1, h2⟩ := minHead_eq_some_iff_lex.1 hm
    cases hi : h i with
    | true =>
      have hm' : minHead (mask h ls) = some (i, m) := by
        refine minHead_eq_some_iff_lex.2 ⟨by rw [mask_getD, hi]; exact h1, fun j m' hj => ?_⟩
        rw [mask_getD] at hj
        split at hj
        · exact h2 j m' hj
        · cases hj
      rw [merge_step hm']; rfl
    | false => rw [popAt_of_nil (by rw [mask_getD, hi]; rfl)]; rfl

/-- what the coordinator can ever receive from a script: the prefix up to and
including the first `summary` (the channel is removed there) -/
def deliverable : List Datum → List Datum
  | [] => []
  | .fileInfo ok :: r => .fileInfo ok :: deliverable r
  | .msg m :: r => .msg m :: deliverable r
  | .summary ok :: _ => [.summary ok]

/-- errors a script contributes: not-ok `fileInfo`/`summary` up to the first
summary, plus one (disconnect) when there is no summary -/
def errsOf : List Datum → Nat
  | [] => 1
  | .fileInfo ok :: r => (if ok then 0 else 1) + errsOf r
  | .msg _ :: r => errsOf r
  | .summary ok :: _ => if ok then 0 else 1

/-- messages of source `i` not yet printed -/
def rem (s : St) (i : Nat) : List Msg :=
  (s.pending.getD i none).toList ++
    (if s.live.getD i false then msgsOf (deliverable (s.streams.getD i [])) else [])

def rems (s : St) : List (List Msg) := (List.range s.streams.length).map (rem s)

def errsRem (s : St) (i : Nat) : Nat :=
  if s.live.getD i false then errsOf (s.streams.getD i []) else 0

def specMsgs (scripts : List (List Datum)) : List (List Msg) :=
  scripts.map (fun sc => msgsOf (deliverable sc))

def WF (scripts : List (List Datum)) : Prop := ∀ sc ∈ scripts, wfScript sc = true

instance (scripts : List (List Datum)) : Decidable (WF scripts) := by unfold WF; infer_instance

theorem specMsgs_getD (scripts : List (List Datum)) (j : Nat) :
    (specMsgs scripts).getD j [] = msgsOf (deliverable (scripts.getD j [])) :=
  getD_map (fun sc => msgsOf (deliverable sc)) scripts j []

theorem deliverable_prefix (sc : List Datum) : deliverable sc <+: sc := by
  induction sc with
  | nil => exact List.prefix_refl _
  | cons d r ih =>
    cases d with
    | fileInfo ok => simpa [deliverable] using ih
    | msg m => simpa [deliverable] using ih
    | summary ok => simp [deliverable]

variable {scripts : List (List Datum)} {s s' : St} {i : Nat}

theorem eligible_iff :
    eligible s i = true ↔ s.live.getD i false = true ∧ s.pending.getD i none = none := by
  simp only [eligible, Bool.and_eq_true, Option.isNone_iff_eq_none]

theorem anyEligible_iff : anyEligible s = true ↔ ∃ i : Nat, eligible s i = true := by
  simp only [anyEligible, List.any_eq_true, List.mem_range]
  constructor
  · rintro ⟨i, _, h⟩; exact ⟨i, h⟩
  · rintro ⟨i, h⟩
    exact ⟨i, lt_of_getD_ne (by rw [(eligible_iff.1 h).1]; simp), h⟩

theorem closeIfEmpty_eq (s : St) : closeIfEmpty s = { s with fin := s.fin || countTrue s.live == 0 } := by
  unfold closeIfEmpty
  split
  · next h => simp [h]
  · next h => rw [beq_false_of_ne h, Bool.or_false]

theorem clearFiIfAll_eq (s : St) :
    clearFiIfAll s = { s with fi := s.fi.bind fun f => if f.all id then none else some f } := by
  rcases s with ⟨_, _, _, fi, _, _, _, _⟩
  cases fi with
  | none => rfl
  | some f => simp only [clearFiIfAll, Option.bind_some]; split <;> rfl

/-- what an arm of `step s (.recv i)` does to channel `i`; `recvd` applies it. `live[i]` and `pending[i]` are overwritten in
every arm, which is right because `i` is eligible: connected, and without a message on hand. -/
structure Arm where
  /-- what is left of the stream -/
  rest : List Datum
  /-- `live[i]` afterwards -/
  keep : Bool
  /-- `pending[i]` afterwards -/
  msg : Option Msg
  /-- the FileInfo flag of `i` is set -/
  flag : Bool
  /-- the errors counted -/
  errs : Nat

/-- the arms of `step s (.recv i)`, by the stream of channel `i`. A further kind of datum needs a constructor here, its arm in
`Model.Coord.step` and its case in `Step.of_step`; the same list of arms stands in `replay1` (`TEv`), in the regenerated skeleton
(`Model/CoordSkel`, `CoordSkelTypes`, `Gen/Coord`) and in the worker protocol (`Model/WorkerProto`: `Ev`, `allEvs`, `phaseStep`). -/
inductive RecvArm : List Datum → Arm → Prop
  | disc : RecvArm [] ⟨[], false, none, false, 1⟩
  | finfo (ok : Bool) (r : List Datum) : RecvArm (.fileInfo ok :: r) ⟨r, true, none, true, if ok then 0 else 1⟩
  | msg (m : Msg) (r : List Datum) : RecvArm (.msg m :: r) ⟨r, true, some m, false, 0⟩
  | summ (ok : Bool) (r : List Datum) : RecvArm (.summary ok :: r) ⟨r, false, none, false, if ok then 0 else 1⟩

def recvd (s : St) (i : Nat) (x : Arm) : St :=
  { s with streams := s.streams.set i x.rest, live := s.live.set i x.keep, pending := s.pending.set i x.msg,
           fi := if x.flag then s.fi.map (fun fl => fl.set i true) else s.fi, errs := s.errs + x.errs }

theorem waitCond_false (h : waitCond s = false) :
    countTrue s.live = countSome s.pending ∧ s.fi = none := by
  simp only [waitCond, Bool.or_eq_false_iff, bne_eq_false_iff_eq, Option.isSome_eq_false_iff,
    Option.isNone_iff_eq_none] at h
  exact h

/-- the arm of one iteration, before the bookkeeping at its end -/
inductive Body (s : St) : Ev → St → Prop
  | recv {i x} : waitCond s = true → eligible s i = true → RecvArm (s.streams.getD i []) x →
      Body s (.recv i) (recvd s i x)
  | print {i m} : waitCond s = false → minPending s.pending = some (i, m) →
      Body s .print { s with printed := s.printed ++ [(i, m)], pending := s.pending.set i none }
  | idle : waitCond s = false → minPending s.pending = none → Body s .print s

/-- what `step s e = some s'` implies (`Step.of_step`): an iteration is its arm followed by the bookkeeping
`closeIfEmpty ∘ clearFiIfAll` -/
inductive Step : St → Ev → St → Prop
  | iter {s c : St} {e : Ev} : s.fin = false → s.broke = false → Body s e c → Step s e (closeIfEmpty (clearFiIfAll c))
  | brk {s : St} : s.fin = false → s.broke = false → waitCond s = true → anyEligible s = false →
      Step s .brk { s with broke := true }
  | fin {s : St} : s.fin = true → Step s .fin s

variable {c : St} {e : Ev}

/-- on the print branch the flags are gone and `clearFiIfAll` does nothing -/
theorem Step.iter' (h1 : s.fin = false) (h2 : s.broke = false) (hb : Body s e c) (h : c.fi = none) :
    Step s e (closeIfEmpty c) := by
  have := Step.iter h1 h2 hb
  unfold clearFiIfAll at this
  rwa [h] at this

theorem Step.of_step (h : step s e = some s') : Step s e s' := by
  cases e with
  | recv i =>
    simp only [step] at h
    split at h
    · cases h
    · next hc =>
      simp only [Bool.or_eq_true, Bool.not_eq_true', not_or, Bool.not_eq_true, Bool.not_eq_false] at hc
      obtain ⟨⟨⟨hfin, hbrk⟩, hwait⟩, hel⟩ := hc
      -- the entries an arm leaves alone are overwritten with themselves in `recvd`
      obtain ⟨hl, hp⟩ := eligible_iff.1 hel
      have hl := set_eq_self hl
      have hp := set_eq_self hp
      have key : ∀ {x}, RecvArm (s.streams.getD i []) x →
          Step s (.recv i) (closeIfEmpty (clearFiIfAll (recvd s i x))) := fun arm => .iter hfin hbrk (.recv hwait hel arm)
      split at h <;> cases h
      · next hst => have := key (by rw [hst]; exact .disc); simpa [recvd, set_eq_self hst, hp] using this
      · next ok r hst => have := key (by rw [hst]; exact .finfo ok r); cases ok <;> simpa [recvd, hl, hp] using this
      · next m r hst => have := key (by rw [hst]; exact .msg m r); simpa [recvd, hl] using this
      · next ok r hst => have := key (by rw [hst]; exact .summ ok r); cases ok <;> simpa [recvd, hp] using this
  | print =>
    simp only [step] at h
    split at h
    · cases h
    · next hc =>
      simp only [Bool.or_eq_true, not_or, Bool.not_eq_true] at hc
      obtain ⟨⟨hfin, hbrk⟩, hwait⟩ := hc
      split at h <;> cases h
      · next i m hm => exact .iter' hfin hbrk (.print hwait hm) (waitCond_false hwait).2
      · next hm => exact .iter' hfin hbrk (.idle hwait hm) (waitCond_false hwait).2
  | brk =>
    simp only [step] at h
    split at h
    · cases h
    · next hc =>
      simp only [Bool.or_eq_true, Bool.not_eq_true', not_or, Bool.not_eq_true, Bool.not_eq_false] at hc
      obtain ⟨⟨⟨hfin, hbrk⟩, hwait⟩, hnone⟩ := hc
      cases h
      exact .brk hfin hbrk hwait hnone
  | fin =>
    simp only [step] at h
    split at h
    · next hf => cases h; exact .fin hf
    · cases h

theorem Body.flags (hb : Body s e c) : c.fin = s.fin ∧ c.broke = s.broke := by
  cases hb <;> exact ⟨rfl, rfl⟩

theorem step_recv_enabled (h1 : s.fin = false) (h2 : s.broke = false)
    (h3 : waitCond s = true) (h4 : eligible s i = true) : (step s (.recv i)).isSome = true := by
  simp only [step]
  rw [if_neg (by simp [h1, h2, h3, h4])]
  split <;> rfl

theorem step_print_enabled (h1 : s.fin = false) (h2 : s.broke = false)
    (h3 : waitCond s = false) : (step s .print).isSome = true := by
  simp only [step]
  rw [if_neg (by simp [h1, h2, h3])]
  split <;> rfl

/-! what the invariant and the measure need to know of an arm -/
namespace RecvArm
variable {st : List Datum} {x : Arm}

theorem suffix (h : RecvArm st x) : x.rest <:+ st := by
  cases h
  · exact List.suffix_refl _
  all_goals exact List.suffix_cons _ _

theorem pend (h : RecvArm st x) (hp : x.msg.isSome = true) : x.keep = true := by
  cases h <;> first | rfl | cases hp

theorem msgs (h : RecvArm st x) :
    x.msg.toList ++ (if x.keep then msgsOf (deliverable x.rest) else []) = msgsOf (deliverable st) := by
  cases h <;> rfl

theorem errs (h : RecvArm st x) : x.errs + (if x.keep then errsOf x.rest else 0) = errsOf st := by
  cases h <;> simp [errsOf]

theorem measure (h : RecvArm st x) :
    2 * x.rest.length + (if x.keep then 1 else 0) + (if x.msg.isSome then 1 else 0) < 2 * st.length + 1 := by
  cases h <;> simp <;> omega

theorem flag (h : RecvArm st x) {ok : Bool} {t : List Datum} (e : st = .fileInfo ok :: t) :
    x.flag = true := by
  cases h <;> first | rfl | cases e

theorem shorter (h : RecvArm st x) : x.rest.length < st.length ∨ x.rest = [] := by
  cases h
  · exact Or.inr rfl
  all_goals exact Or.inl (Nat.lt_succ_self _)

end RecvArm

structure Base (scripts : List (List Datum)) (s : St) : Prop where
  len_streams : s.streams.length = scripts.length
  len_live : s.live.length = scripts.length
  len_pending : s.pending.length = scripts.length
  pend_live : ∀ j : Nat, (s.pending.getD j none).isSome = true → s.live.getD j false = true
  suffix : ∀ j : Nat, s.streams.getD j [] <:+ scripts.getD j []
  /-- printed so far, then the merge of what remains, is the merge of everything -/
  cons : s.printed ++ merge (rems s) = merge (specMsgs scripts)
  errs : s.errs + ((List.range scripts.length).map (errsRem s)).sum = (scripts.map errsOf).sum

theorem Base.lt_of_live (hb : Base scripts s) (h : s.live.getD i false = true) : i < scripts.length :=
  hb.len_live ▸ lt_of_getD_ne (by rw [h]; simp)

theorem Base.frame (hb : Base scripts s) (f : Option (List Bool))
    (x y : Bool) : Base scripts { s with fi := f, fin := x, broke := y } :=
  { hb with }

theorem Base.closeIfEmpty (hb : Base scripts s) :
    Base scripts (closeIfEmpty s) :=
  closeIfEmpty_eq s ▸ hb.frame _ _ _

theorem Base.clearFiIfAll (hb : Base scripts s) :
    Base scripts (clearFiIfAll s) :=
  clearFiIfAll_eq s ▸ hb.frame _ _ _

theorem rems_length (s : St) : (rems s).length = s.streams.length := by simp [rems]

theorem Base.rems_getD (hb : Base scripts s) (j : Nat) :
    (rems s).getD j [] = rem s j := by
  have hl := hb.len_live
  have hp := hb.len_pending
  have hs := hb.len_streams
  by_cases hj : j < s.streams.length
  · simp [rems, hj]
  · rw [getD_of_le _ _ _ (by rw [rems_length]; omega), rem, getD_of_le _ _ _ (by omega : s.pending.length ≤ j),
      getD_of_le _ _ _ (by omega : s.live.length ≤ j)]
    rfl

theorem base_init (scripts : List (List Datum)) : Base scripts (init scripts) := by
  constructor
  · rfl
  · simp [init]
  · simp [init]
  · intro j; simp [init, List.getD_eq_getElem?_getD, List.getElem?_map]
    cases scripts[j]? <;> simp
  · intro j; exact List.suffix_refl _
  · have : rems (init scripts) = specMsgs scripts :=
      range_map_eq_map scripts _ _ fun j hj => by simp [rem, init, hj]
    rw [this]; rfl
  · have : (List.range scripts.length).map (errsRem (init scripts)) = scripts.map errsOf :=
      range_map_eq_map scripts _ _ fun j hj => by simp [errsRem, init, hj]
    rw [this]; simp [init]

/-- `Base` is kept when only source `i` changes. The new state is given by three equations, not as `recvd …`, because
printing leaves the stream and the channel as they are and changes `printed` as well (`Base.print`) -/
theorem Base.upd {s1 : St} {r : List Datum} {a : Bool} {p : Option Msg} (hb : Base scripts s)
    (hi : i < scripts.length) (hs : s1.streams = s.streams.set i r) (hl : s1.live = s.live.set i a)
    (hp : s1.pending = s.pending.set i p)
    (hsuf : r <:+ s.streams.getD i []) (hpl : p.isSome = true → a = true)
    (hcons : s1.printed ++ merge ((rems s).set i (p.toList ++ if a then msgsOf (deliverable r) else [])) =
      s.printed ++ merge (rems s))
    (herr : s1.errs + (if a then errsOf r else 0) = s.errs + errsRem s i) : Base scripts s1 := by
  have his : i < s.streams.length := hb.len_streams ▸ hi
  have hil : i < s.live.length := hb.len_live ▸ hi
  have hip : i < s.pending.length := hb.len_pending ▸ hi
  constructor
  · rw [hs, List.length_set]; exact hb.len_streams
  · rw [hl, List.length_set]; exact hb.len_live
  · rw [hp, List.length_set]; exact hb.len_pending
  · intro j hj
    rw [hp, getD_set] at hj
    rw [hl, getD_set]
    by_cases e : i = j
    · subst e
      rw [if_pos ⟨rfl, hip⟩] at hj
      rw [if_pos ⟨rfl, hil⟩]
      exact hpl hj
    · rw [if_neg fun h => e h.1] at hj ⊢
      exact hb.pend_live j hj
  · intro j
    rw [hs, getD_set]
    split
    · next h => exact h.1 ▸ hsuf.trans (hb.suffix i)
    · exact hb.suffix j
  · rw [← hb.cons, ← hcons]
    congr 2
    rw [rems, rems, hs, List.length_set, range_map_set]
    refine List.map_congr_left fun j _ => ?_
    simp only [rem, hs, hl, hp, getD_set]
    by_cases e : j = i
    · subst e; simp only [true_and, his, hil, hip, if_true]
    · simp only [e, Ne.symm e, false_and, if_false]
  · rw [← hb.errs]
    have := sum_range_map_update scripts.length (errsRem s1) (errsRem s) i hi fun j hj => by
      simp only [errsRem, hs, hl, getD_set, Ne.symm hj, false_and, if_false]
    have : errsRem s1 i = if a then errsOf r else 0 := by
      simp only [errsRem, hs, hl, getD_set, true_and, his, hil, if_true]
    omega

theorem Base.recv {x : Arm} (hb : Base scripts s)
    (hel : eligible s i = true) (arm : RecvArm (s.streams.getD i []) x) : Base scripts (recvd s i x) := by
  obtain ⟨hlive, hpend⟩ := eligible_iff.1 hel
  have hi := hb.lt_of_live hlive
  have hrem : rem s i = msgsOf (deliverable (s.streams.getD i [])) := by simp only [rem, hpend, hlive]; rfl
  refine hb.upd hi rfl rfl rfl arm.suffix arm.pend ?_ ?_
  · rw [arm.msgs, ← hrem, set_eq_self (hb.rems_getD i)]; rfl
  · simp only [recvd, errsRem, hlive, if_true, ← arm.errs]; omega

theorem heads_eq (hb : Base scripts s) (hw : waitCond s = false) :
    (rems s).map List.head? = s.pending := by
  refine ext_getD (d := none) (by rw [List.length_map, rems_length, hb.len_streams, hb.len_pending]) fun j => ?_
  rw [getD_map_head?, hb.rems_getD, rem]
  cases hp : s.pending.getD j none with
  | some m => rfl
  | none =>
    cases hl : s.live.getD j false with
    | false => rfl
    | true =>
      -- a live channel with nothing on hand: taking it out leaves all pending entries on live channels
      have h1 := length_filter_set_le id s.live j false false rfl
      have h2 := length_filter_le_of_imp Option.isSome id none false rfl rfl s.pending (s.live.set j false) fun k hk => by
        rw [getD_set]
        split
        · next h => rw [← h.1, hp] at hk; cases hk
        · exact hb.pend_live k hk
      have hc := (waitCond_false hw).1
      simp only [hl, id, if_true, Bool.false_eq_true, if_false] at h1
      simp only [countTrue, countSome] at hc
      omega

theorem Base.print {m : Msg} (hb : Base scripts s) (hw : waitCond s = false)
    (hm : minPending s.pending = some (i, m)) :
    Base scripts { s with printed := s.printed ++ [(i, m)], pending := s.pending.set i none } := by
  have hpi : s.pending.getD i none = some m := (minPending_eq_iff.1 hm).1
  have hli := hb.pend_live i (by rw [hpi]; rfl)
  have hi := hb.lt_of_live hli
  have hmh : minHead (rems s) = some (i, m) := by rw [minHead_eq, heads_eq hb hw]; exact hm
  refine hb.upd (r := s.streams.getD i []) (a := true) hi (set_eq_self rfl).symm (set_eq_self hli).symm rfl
    (List.suffix_refl _) (fun h => rfl) ?_ ?_
  · rw [merge_step hmh, popAt, hb.rems_getD, rem, hpi, hli]
    simp
  · simp only [errsRem, hli, if_true]

theorem Body.base (hb : Body s e c) (h : Base scripts s) : Base scripts c := by
  cases hb with
  | recv _ h4 arm => exact h.recv h4 arm
  | print h3 hm => exact h.print h3 hm
  | idle => exact h

structure FinInv (s : St) : Prop where
  fin_dead : s.fin = true → countTrue s.live = 0
  nofin_live : s.fin = false → countTrue s.live ≠ 0 ∨ s.fi.isSome = true

theorem FinInv.closeIfEmpty (h : s.fin = false) : FinInv (closeIfEmpty s) := by
  unfold S4V.Model.Coord.closeIfEmpty
  split
  · next hz => exact ⟨fun _ => hz, fun hf => by simp at hf⟩
  · next hz => exact ⟨fun hf => (by rw [h] at hf; cases hf), fun _ => Or.inl hz⟩

/-- invariant that holds for arbitrary scripts -/
def Inv0 (scripts : List (List Datum)) (s : St) : Prop := Base scripts s ∧ FinInv s

theorem inv0_init (scripts : List (List Datum)) : Inv0 scripts (init scripts) :=
  ⟨base_init scripts, ⟨fun h => by simp [init] at h, fun _ => Or.inr (by simp [init])⟩⟩

theorem inv0_step (hi : Inv0 scripts s) (hs : step s e = some s') : Inv0 scripts s' := by
  obtain ⟨hb, hf⟩ := hi
  cases Step.of_step hs with
  | iter h1 _ hbody =>
    exact ⟨(hbody.base hb).clearFiIfAll.closeIfEmpty,
      FinInv.closeIfEmpty (by rw [clearFiIfAll_eq]; exact hbody.flags.1.trans h1)⟩
  | brk => exact ⟨hb.frame _ _ _, { hf with }⟩
  | fin => exact ⟨hb, hf⟩

theorem run_cons_eq_some {e : Ev} {es : List Ev} :
    run s (e :: es) = some s' ↔ ∃ s1, step s e = some s1 ∧ run s1 es = some s' := by
  simp only [run]
  cases step s e <;> simp

theorem run_induction {P : St → Prop} (hstep : ∀ {s s' e}, P s → step s e = some s' → P s') :
    ∀ {evs : List Ev} {s s' : St}, P s → run s evs = some s' → P s'
  | [], _, _, hp, hr => Option.some.inj hr ▸ hp
  | _ :: _, _, _, hp, hr =>
    have ⟨_, h1, h2⟩ := run_cons_eq_some.1 hr
    run_induction hstep (hstep hp h1) h2

theorem inv0_run {evs : List Ev} :
    Inv0 scripts s → run s evs = some s' → Inv0 scripts s' :=
  run_induction inv0_step

theorem rem_nil_of_dead (hb : Base scripts s) {j : Nat}
    (hl : s.live.getD j false = false) : rem s j = [] := by
  have hp : s.pending.getD j none = none := by
    cases hp : s.pending.getD j none with
    | none => rfl
    | some m => have := hb.pend_live j (by rw [hp]; rfl); rw [hl] at this; cases this
  simp only [rem, hp, hl]; rfl

theorem fin_printed (hi : Inv0 scripts s) (hf : s.fin = true) :
    s.printed = merge (specMsgs scripts) := by
  obtain ⟨hb, hfi⟩ := hi
  have hd : ∀ j, s.live.getD j false = false := (length_filter_eq_zero_iff id false rfl _).1 (hfi.fin_dead hf)
  rw [← hb.cons, merge_none, List.append_nil]
  exact minHead_eq_none_iff.2 fun j => by rw [hb.rems_getD, rem_nil_of_dead hb (hd j)]

theorem fin_errs (hi : Inv0 scripts s) (hf : s.fin = true) :
    s.errs = (scripts.map errsOf).sum := by
  obtain ⟨hb, hfi⟩ := hi
  have hd : ∀ j, s.live.getD j false = false := (length_filter_eq_zero_iff id false rfl _).1 (hfi.fin_dead hf)
  have h0 : ((List.range scripts.length).map (errsRem s)).sum = 0 :=
    List.sum_eq_zero_iff_forall_eq_nat.2 fun x hx => by
      obtain ⟨j, _, rfl⟩ := List.mem_map.1 hx
      simp only [errsRem, hd j]; rfl
  have := hb.errs
  omega

def okDatum : Datum → Bool
  | .fileInfo ok => ok
  | .msg _ => true
  | .summary ok => ok

def isSummary : Datum → Bool
  | .summary _ => true
  | _ => false

theorem errsOf_eq (sc : List Datum) :
    errsOf sc = ((deliverable sc).filter (fun d => !okDatum d)).length +
      (if (deliverable sc).any isSummary then 0 else 1) := by
  induction sc with
  | nil => rfl
  | cons d r ih =>
    cases d with
    | fileInfo ok => cases ok <;> simp [errsOf, deliverable, okDatum, isSummary, ih] <;> omega
    | msg m => simp [errsOf, deliverable, okDatum, isSummary, ih]
    | summary ok => cases ok <;> simp [errsOf, deliverable, okDatum, isSummary]

theorem errsOf_eq_zero_iff (sc : List Datum) :
    errsOf sc = 0 ↔ (∀ d ∈ deliverable sc, okDatum d = true) ∧ (deliverable sc).any isSummary = true := by
  rw [errsOf_eq, Nat.add_eq_zero_iff, List.length_eq_zero_iff, List.filter_eq_nil_iff]
  refine and_congr ⟨fun h d hd => by simpa using h d hd, fun h d hd => by simp [h d hd]⟩ ?_
  cases (deliverable sc).any isSummary <;> simp

theorem sum_errsOf_eq_zero_iff (scripts : List (List Datum)) :
    (scripts.map errsOf).sum = 0 ↔
      ∀ sc ∈ scripts, (∀ d ∈ deliverable sc, okDatum d = true) ∧ (deliverable sc).any isSummary = true := by
  rw [List.sum_eq_zero_iff_forall_eq_nat]
  simp only [List.mem_map, forall_exists_index, and_imp, forall_apply_eq_imp_iff₂, errsOf_eq_zero_iff]

/-! The FileInfo handshake; keeping it invariant needs well-formed scripts. "Never stops early" (`inv_anyEligible`) uses
`fi_len`, `fi_notall` and the first half of `fi_some`: a flag still off marks a connected source with nothing on hand.
The second half of `fi_some` and `fi_none` say how far each stream has got; they are carried along for
`S4V.Props.CoordSpec.inv_spelled`. -/

structure FiPre (scripts : List (List Datum)) (s : St) : Prop where
  fi_len : ∀ flags, s.fi = some flags → flags.length = scripts.length
  /-- flag `false` ⇔ nothing of that source has been received yet -/
  fi_some : ∀ flags, s.fi = some flags → ∀ j, j < scripts.length →
    (flags.getD j true = false →
      s.streams.getD j [] = scripts.getD j [] ∧ s.live.getD j false = true ∧ s.pending.getD j none = none) ∧
    (flags.getD j true = true → (s.streams.getD j []).length < (scripts.getD j []).length)
  /-- flags cleared ⇒ every source's FileInfo has been received -/
  fi_none : s.fi = none → ∀ j, j < scripts.length →
    (s.streams.getD j []).length < (scripts.getD j []).length

structure FiInv (scripts : List (List Datum)) (s : St) : Prop extends FiPre scripts s where
  /-- the flags are cleared as soon as all are set -/
  fi_notall : ∀ flags, s.fi = some flags → scripts ≠ [] → flags.all id = false

theorem wf_getD (hwf : WF scripts) (hi : i < scripts.length) :
    ∃ ok r, scripts.getD i [] = Datum.fileInfo ok :: r := by
  have := hwf _ (S4V.Lemmas.Lists.getD_mem [] hi)
  cases h : scripts.getD i [] with
  | nil => rw [h] at this; simp [wfScript] at this
  | cons d r =>
    rw [h] at this
    cases d with
    | fileInfo ok => exact ⟨ok, r, rfl⟩
    | msg m => simp [wfScript] at this
    | summary ok => simp [wfScript] at this

theorem FiInv.frame (h : FiInv scripts s) (x y : Bool) :
    FiInv scripts { s with fin := x, broke := y } :=
  { h with }

theorem FiInv.closeIfEmpty (h : FiInv scripts s) :
    FiInv scripts (closeIfEmpty s) :=
  closeIfEmpty_eq s ▸ h.frame _ _

theorem all_id_getD {flags : List Bool} (h : flags.all id = true) (j : Nat) : flags.getD j true = true := by
  simp only [List.all_eq_true, id] at h
  simp only [List.getD_eq_getElem?_getD]
  cases hj : flags[j]? with
  | none => rfl
  | some b => exact h b (List.mem_of_getElem? hj)

theorem FiPre.clearFiIfAll (h : FiPre scripts s) :
    FiInv scripts (clearFiIfAll s) := by
  unfold S4V.Model.Coord.clearFiIfAll
  split
  · next flags hfl =>
    split
    · next hall =>
      refine { fi_len := ?_, fi_some := ?_, fi_none := ?_, fi_notall := ?_ }
      · intro f hf; cases hf
      · intro f hf; cases hf
      · intro _ j hj
        exact ((h.fi_some flags hfl j hj).2 (all_id_getD hall j))
      · intro f hf; cases hf
    · next hall =>
      exact { toFiPre := h, fi_notall := fun f hf _ => by
                rw [hfl] at hf; cases hf; simpa using hall }
  · next hfl =>
    exact { toFiPre := h, fi_notall := fun f hf _ => by rw [hfl] at hf; cases hf }

theorem FiPre.recv {x : Arm} (hwf : WF scripts) (hb : Base scripts s) (hel : eligible s i = true)
    (h : FiPre scripts s) (arm : RecvArm (s.streams.getD i []) x) : FiPre scripts (recvd s i x) := by
  have hi := hb.lt_of_live (eligible_iff.1 hel).1
  have his : i < s.streams.length := hb.len_streams ▸ hi
  obtain ⟨ok0, r0, hw⟩ := wf_getD hwf hi
  -- shorter even when nothing is left: the script starts with a `FileInfo`
  have hr : x.rest.length < (scripts.getD i []).length := by
    have := (hb.suffix i).length_le
    rcases arm.shorter with h | h
    · omega
    · rw [h, hw]; exact Nat.succ_pos _
  have hfi : ∀ flags', (recvd s i x).fi = some flags' →
      ∃ flags, s.fi = some flags ∧ flags' = if x.flag then flags.set i true else flags := by
    intro flags' e
    dsimp only [recvd] at e
    split at e
    · next hx => obtain ⟨flags, e1, e2⟩ := Option.map_eq_some_iff.1 e; exact ⟨flags, e1, by rw [if_pos hx, e2]⟩
    · next hx => exact ⟨flags', e, by rw [if_neg hx]⟩
  refine ⟨fun flags' e => ?_, fun flags' e j hj => ?_, fun e j hj => ?_⟩
  · obtain ⟨flags, e1, rfl⟩ := hfi flags' e
    rw [← h.fi_len flags e1]
    split <;> simp
  · obtain ⟨flags, e1, rfl⟩ := hfi flags' e
    simp only [recvd, getD_set]
    by_cases hij : i = j
    · subst hij
      simp only [true_and, his, if_true]
      refine ⟨fun hf => ?_, fun _ => hr⟩
      -- the flag of `i` is set afterwards: by this arm, or before it (else the stream is the script, so the arm is `finfo`)
      split at hf
      · rw [getD_set, if_pos ⟨rfl, h.fi_len flags e1 ▸ hi⟩] at hf; cases hf
      · next hx => exact absurd (arm.flag (((h.fi_some flags e1 i hi).1 hf).1.trans hw)) hx
    · simp only [hij, false_and, if_false]
      have : (if x.flag then flags.set i true else flags).getD j true = flags.getD j true := by
        split
        · rw [getD_set, if_neg fun h => hij h.1]
        · rfl
      rw [this]
      exact h.fi_some flags e1 j hj
  · have e1 : s.fi = none := by
      dsimp only [recvd] at e
      split at e
      · exact Option.map_eq_none_iff.1 e
      · exact e
    simp only [recvd, getD_set]
    split
    · next hh => exact hh.1 ▸ hr
    · exact h.fi_none e1 j hj

theorem Body.fiPre (hwf : WF scripts) (hb : Body s e c) (h : Base scripts s) (hfi : FiInv scripts s) :
    FiPre scripts c := by
  cases hb with
  | recv _ h4 arm => exact hfi.toFiPre.recv hwf h h4 arm
  | print h3 _ =>
    -- the flags are gone when the loop prints
    exact { hfi with fi_some := fun flags hfl => by rw [(waitCond_false h3).2] at hfl; cases hfl }
  | idle => exact hfi.toFiPre

theorem fiInv_init (scripts : List (List Datum)) : FiInv scripts (init scripts) := by
  refine { fi_len := ?_, fi_some := ?_, fi_none := ?_, fi_notall := ?_ }
  · intro flags hfl; simp [init] at hfl; subst hfl; simp
  · intro flags hfl j hj
    simp [init] at hfl; subst hfl
    simp [init, hj]
  · intro hfl; simp [init] at hfl
  · intro flags hfl hne
    simp [init] at hfl; subst hfl
    cases scripts with
    | nil => exact absurd rfl hne
    | cons a t => simp

def Inv (scripts : List (List Datum)) (s : St) : Prop := Base scripts s ∧ FinInv s ∧ FiInv scripts s

theorem Inv.inv0 (h : Inv scripts s) : Inv0 scripts s := ⟨h.1, h.2.1⟩

theorem inv_init (scripts : List (List Datum)) : Inv scripts (init scripts) :=
  ⟨(inv0_init scripts).1, (inv0_init scripts).2, fiInv_init scripts⟩

theorem inv_step (hwf : WF scripts) (hi : Inv scripts s) (hs : step s e = some s') : Inv scripts s' := by
  have h0 := inv0_step hi.inv0 hs
  refine ⟨h0.1, h0.2, ?_⟩
  obtain ⟨hb, _, hfi⟩ := hi
  cases Step.of_step hs with
  | iter _ _ hbody => exact (hbody.fiPre hwf hb hfi).clearFiIfAll.closeIfEmpty
  | brk => exact hfi.frame _ _
  | fin => exact hfi

theorem inv_run (hwf : WF scripts) {evs : List Ev} :
    Inv scripts s → run s evs = some s' → Inv scripts s' :=
  run_induction (inv_step hwf)

theorem inv_anyEligible (hne : scripts ≠ [])
    (hi : Inv scripts s) (h3 : waitCond s = true) : anyEligible s = true := by
  obtain ⟨hb, _, hfi⟩ := hi
  cases hf : s.fi with
  | some flags =>
    -- some flag is still off: that source has sent nothing yet
    obtain ⟨b, hb1, hb2⟩ := List.all_eq_false.1 (hfi.fi_notall flags hf hne)
    obtain ⟨j, hj, rfl⟩ := List.getElem_of_mem hb1
    have hjf : flags.getD j true = false := by
      simpa [List.getD_eq_getElem?_getD, List.getElem?_eq_getElem hj] using hb2
    obtain ⟨_, hlive, hpend⟩ := (hfi.fi_some flags hf j (hfi.fi_len flags hf ▸ hj)).1 hjf
    exact anyEligible_iff.2 ⟨j, eligible_iff.2 ⟨hlive, hpend⟩⟩
  | none =>
    -- the counts differ; were no channel eligible, every live channel would have a message on hand
    cases hany : anyEligible s with
    | true => rfl
    | false =>
      have hle := length_filter_le_of_imp Option.isSome id none false rfl rfl s.pending s.live hb.pend_live
      have hge := length_filter_le_of_imp id Option.isSome false none rfl rfl s.live s.pending fun j hj => by
        cases hp : s.pending.getD j none with
        | some m => rfl
        | none => rw [anyEligible_iff.2 ⟨j, eligible_iff.2 ⟨hj, hp⟩⟩] at hany; cases hany
      simp only [waitCond, hf, Option.isSome_none, Bool.or_false, bne_iff_ne, countTrue, countSome] at h3
      omega

theorem inv_no_break (hne : scripts ≠ [])
    (hi : Inv scripts s) : step s .brk = none := by
  cases hs : step s .brk with
  | none => rfl
  | some s' =>
    cases Step.of_step hs with
    | iter _ _ hb => cases hb
    | brk _ _ h3 h4 => rw [inv_anyEligible hne hi h3] at h4; cases h4

/-- termination measure; a datum counts twice because receiving a message takes one datum off a stream and puts one
message on hand -/
def μ (s : St) : Nat :=
  2 * (s.streams.map List.length).sum + countTrue s.live + countSome s.pending +
    (if s.fin then 0 else 1) + (if s.broke then 0 else 1)

theorem μ_closeIfEmpty_le (s : St) : μ (closeIfEmpty s) ≤ μ s := by
  unfold closeIfEmpty
  split
  · simp only [μ]; cases s.fin <;> simp
  · exact Nat.le_refl _

theorem μ_closeIfEmpty_lt (s : St) (hf : s.fin = false) (hz : countTrue s.live = 0) :
    μ (closeIfEmpty s) < μ s := by
  unfold closeIfEmpty
  simp only [hz, if_true, μ, hf]
  simp

theorem μ_clearFiIfAll (s : St) : μ (clearFiIfAll s) = μ s := by
  rw [clearFiIfAll_eq]; rfl

theorem μ_recv {x : Arm} (hel : eligible s i = true) (arm : RecvArm (s.streams.getD i []) x) :
    μ (recvd s i x) < μ s := by
  obtain ⟨hlive, _⟩ := eligible_iff.1 hel
  have h1 := length_filter_set_le id s.live i x.keep false rfl
  have h2 := length_filter_set_le Option.isSome s.pending i x.msg none rfl
  have h3 := sum_map_set_le List.length s.streams i x.rest [] rfl
  have h4 := arm.measure
  simp only [hlive, id, if_true] at h1
  unfold μ recvd countTrue countSome
  dsimp only
  omega

/-- an arm lowers `μ`, except the idle one, which leaves no channel connected -/
theorem Body.measure (hb : Body s e c) : μ c < μ s ∨ (c = s ∧ countTrue s.live = 0) := by
  cases hb with
  | recv _ h4 arm => exact Or.inl (μ_recv h4 arm)
  | @print i m _ hm =>
    have := length_filter_set_le Option.isSome s.pending i none none rfl
    rw [(minPending_eq_iff.1 hm).1] at this
    left
    unfold μ countSome
    dsimp only
    simp only [Option.isSome_some, Option.isSome_none, if_true, Bool.false_eq_true, if_false] at this
    omega
  | idle h3 hm =>
    have hz : countSome s.pending = 0 :=
      (length_filter_eq_zero_iff Option.isSome none rfl _).2 fun j => by rw [minPending_eq_iff.1 hm j]; rfl
    exact Or.inr ⟨rfl, by rw [(waitCond_false h3).1, hz]⟩

theorem step_decreases (hs : step s e = some s') (he : e ≠ .fin) : μ s' < μ s := by
  cases Step.of_step hs with
  | @iter c _ h1 _ hbody =>
    have := μ_clearFiIfAll c
    rcases hbody.measure with h | ⟨rfl, hz⟩
    · have := μ_closeIfEmpty_le (clearFiIfAll c)
      omega
    · have := μ_closeIfEmpty_lt (clearFiIfAll c) (by rw [clearFiIfAll_eq]; exact h1) (by rw [clearFiIfAll_eq]; exact hz)
      omega
  | brk _ h2 => simp only [μ, h2]; simp
  | fin => exact absurd rfl he

theorem countTrue_map_true {α : Type} (l : List α) : countTrue (l.map fun _ => true) = l.length := by
  simp [countTrue, List.filter_map, Function.comp_def]

theorem μ_init (scripts : List (List Datum)) :
    μ (init scripts) = 2 * (scripts.map List.length).sum + scripts.length + 2 := by
  have h2 : countSome (scripts.map fun _ => none) = 0 := by
    simp [countSome, List.filter_map, Function.comp_def]
  simp [μ, init, countTrue_map_true, h2]

/-- number of loop iterations (everything except the final stutter `Ev.fin`) -/
def iterations (evs : List Ev) : Nat := (evs.filter (fun e => e != Ev.fin)).length

theorem run_iterations : ∀ {evs : List Ev} {s s' : St}, run s evs = some s' → iterations evs + μ s' ≤ μ s
  | [], _, _, hr => by cases hr; simp [iterations]
  | e :: es, s, s', hr => by
    obtain ⟨s1, h1, h2⟩ := run_cons_eq_some.1 hr
    have := run_iterations h2
    by_cases he : e = .fin
    · subst he
      cases Step.of_step h1 with
      | iter _ _ hb => cases hb
      | fin => simpa [iterations] using this
    · have := step_decreases h1 he
      have hi : iterations (e :: es) = iterations es + 1 := by simp [iterations, he]
      omega

theorem inv_progress (hne : scripts ≠ [])
    (hi : Inv scripts s) (hf : s.fin = false) (hbk : s.broke = false) :
    (step s .print).isSome = true ∨ ∃ i, (step s (.recv i)).isSome = true := by
  cases hw : waitCond s with
  | false => exact Or.inl (step_print_enabled hf hbk hw)
  | true =>
    obtain ⟨i, hel⟩ := anyEligible_iff.1 (inv_anyEligible hne hi hw)
    exact Or.inr ⟨i, step_recv_enabled hf hbk hw hel⟩

theorem step_broke (hs : step s e = some s') (he : e ≠ .brk) : s'.broke = s.broke := by
  cases Step.of_step hs with
  | iter _ _ hbody => rw [closeIfEmpty_eq, clearFiIfAll_eq]; exact hbody.flags.2
  | brk => exact absurd rfl he
  | fin => rfl

/-- `brk` is never enabled (`inv_no_break`), and no other event sets `broke` -/
theorem inv_unbroken_step (hwf : WF scripts) (hne : scripts ≠ []) (h : Inv scripts s ∧ s.broke = false)
    (hs : step s e = some s') : Inv scripts s' ∧ s'.broke = false :=
  ⟨inv_step hwf h.1 hs, (step_broke hs fun he => by rw [he, inv_no_break hne h.1] at hs; cases hs).trans h.2⟩

theorem inv_broke (hwf : WF scripts) (hne : scripts ≠ [])
    {evs : List Ev} (hi : Inv scripts s) (hb : s.broke = false) (hr : run s evs = some s') :
    s'.broke = false :=
  (run_induction (inv_unbroken_step hwf hne) ⟨hi, hb⟩ hr).2

/-- under the invariant an unfinished, unbroken state has an enabled `print` or `recv`, which lowers `μ`: so every
such state can be run to the end -/
theorem inv_can_finish (hwf : WF scripts) (hne : scripts ≠ []) :
    ∀ {s : St}, Inv scripts s → s.broke = false → ∃ evs s', run s evs = some s' ∧ s'.fin = true
  | s, hi, hbk => by
    cases hf : s.fin with
    | true => exact ⟨[], s, rfl, hf⟩
    | false =>
      obtain ⟨e, he, s1, h1⟩ : ∃ e, e ≠ Ev.fin ∧ ∃ s1, step s e = some s1 := by
        rcases inv_progress hne hi hf hbk with h | ⟨i, h⟩
        · exact ⟨.print, by simp, Option.isSome_iff_exists.1 h⟩
        · exact ⟨.recv i, by simp, Option.isSome_iff_exists.1 h⟩
      have := step_decreases h1 he
      obtain ⟨hi1, hbk1⟩ := inv_unbroken_step hwf hne ⟨hi, hbk⟩ h1
      obtain ⟨evs, s', h2, h3⟩ := inv_can_finish hwf hne hi1 hbk1
      exact ⟨e :: evs, s', run_cons_eq_some.2 ⟨s1, h1, h2⟩, h3⟩
termination_by s => μ s

def brun (cap : Nat) (b : BSt) : List BEv → Option BSt
  | [] => some b
  | e :: es => match bstep cap b e with
    | some b' => brun cap b' es
    | none => none

structure BWf (scripts : List (List Datum)) (b : BSt) : Prop where
  len_toSend : b.toSend.length = scripts.length
  len_buf : b.buf.length = scripts.length
  len_closed : b.closed.length = scripts.length
  len_core : b.core.streams.length = scripts.length
  /-- a worker drops its sender only after sending everything -/
  closed_done : ∀ i : Nat, b.closed.getD i false = true → b.toSend.getD i [] = []

theorem bwf_init (scripts : List (List Datum)) : BWf scripts (binit scripts) := by
  constructor <;> simp [binit, init]
  intro i h
  cases h' : scripts[i]? <;> simp [h'] at h

/-- `step (.recv i)` looks only at the head of stream `i`, and takes it off -/
theorem step_recv_frame (s : St) (X Y : List (List Datum)) (i : Nat)
    (h : (X.getD i []).head? = (Y.getD i []).head?) :
    step { s with streams := Y } (.recv i) =
      (step { s with streams := X } (.recv i)).map fun c => { c with streams := Y.set i (Y.getD i []).tail } := by
  simp only [step, waitCond, eligible]
  split
  · rfl
  · rcases hX : X.getD i [] with _ | ⟨d, _⟩ <;> rcases hY : Y.getD i [] with _ | ⟨d', t⟩ <;> rw [hX, hY] at h <;>
      cases h
    · simp only [Option.map_some, closeIfEmpty_eq, clearFiIfAll_eq, List.tail_nil, set_eq_self hY]
    · cases d <;> simp only [Option.map_some, closeIfEmpty_eq, clearFiIfAll_eq, List.tail_cons]

theorem step_other_frame (s : St) (Y : List (List Datum)) (e : Ev) (he : ∀ i, e ≠ .recv i) :
    step { s with streams := Y } e = (step s e).map (fun c => { c with streams := Y }) := by
  cases e with
  | recv i => exact absurd rfl (he i)
  | print =>
    have hw : waitCond { s with streams := Y } = waitCond s := rfl
    simp only [step, hw]
    split
    · rfl
    · split <;> simp only [Option.map_some, closeIfEmpty_eq]
  | brk =>
    have hw : waitCond { s with streams := Y } = waitCond s := rfl
    have ha : anyEligible { s with streams := Y } = anyEligible s := rfl
    simp only [step, hw, ha]
    split <;> rfl
  | fin => simp only [step]; split <;> rfl

theorem step_streams_other {s c : St} {e : Ev} (h : step s e = some c) (he : ∀ i, e ≠ .recv i) :
    c.streams = s.streams := by
  have : (step s e).map _ = some c := (step_other_frame s s.streams e he).symm.trans h
  rw [h] at this
  exact (congrArg St.streams (Option.some.inj this)).symm

theorem bstep_coord {cap : Nat} (b : BSt) {e : Ev} (he : ∀ i, e ≠ .recv i) :
    bstep cap b (.coord e) = (step b.core e).map fun c => { b with core := c } := by
  cases e with
  | recv i => exact absurd rfl (he i)
  | _ => simp only [bstep]; cases step b.core _ <;> rfl

def absStreams (b : BSt) : List (List Datum) :=
  (List.range b.toSend.length).map (fun i => b.buf.getD i [] ++ b.toSend.getD i [])

theorem abs_eq (b : BSt) : abs b = { b.core with streams := absStreams b } := rfl

theorem absStreams_getD (b : BSt) (j : Nat) (h : b.buf.length = b.toSend.length) :
    (absStreams b).getD j [] = b.buf.getD j [] ++ b.toSend.getD j [] := by
  by_cases hj : j < b.toSend.length
  · simp [absStreams, hj]
  · rw [getD_of_le _ _ _ (by simp [absStreams]; omega), getD_of_le _ _ _ (by omega),
      getD_of_le _ _ _ (by omega)]
    rfl

theorem absStreams_upd {b : BSt} {T B : List (List Datum)} {cl : List Bool} {c : St} {i : Nat} {x y : List Datum}
    (h : b.buf.length = b.toSend.length) (hb : B = b.buf.set i x) (ht : T = b.toSend.set i y) :
    absStreams ⟨T, B, cl, c⟩ = (absStreams b).set i (x ++ y) := by
  simp only [absStreams, ht, hb, List.length_set, range_map_set]
  refine List.map_congr_left fun j hj => ?_
  have hj := List.mem_range.1 hj
  simp only [getD_set]
  by_cases e : i = j
  · subst e; rw [if_pos ⟨rfl, h ▸ hj⟩, if_pos ⟨rfl, hj⟩, if_pos rfl]
  · rw [if_neg fun h => e h.1, if_neg fun h => e h.1, if_neg fun h => e h.symm]

theorem bstep_sim {cap : Nat} {b b' : BSt} {ev : BEv} (hw : BWf scripts b) (h : bstep cap b ev = some b') :
    BWf scripts b' ∧
    match ev with
    | .coord e => step (abs b) e = some (abs b')
    | _ => abs b' = abs b := by
  have hbl : b.buf.length = b.toSend.length := hw.len_buf.trans hw.len_toSend.symm
  cases ev with
  | send i =>
    simp only [bstep] at h
    split at h
    · next d r e =>
      split at h <;> cases h
      next hc =>
      refine ⟨{ hw with len_toSend := by simpa using hw.len_toSend, len_buf := by simpa using hw.len_buf,
                        closed_done := fun j hj => ?_ }, ?_⟩
      · simp only [getD_set]
        split
        · next hh =>
          obtain ⟨rfl, hlt⟩ := hh
          rw [getD_default_irrel b.closed i true false (hw.len_closed ▸ hw.len_toSend ▸ hlt), hj] at hc
          cases hc.2
        · exact hw.closed_done j hj
      · show abs _ = abs b
        have : (absStreams b).getD i [] = b.buf.getD i [] ++ [d] ++ r := by
          rw [absStreams_getD b i hbl, e, List.append_assoc]; rfl
        rw [abs_eq, abs_eq, absStreams_upd hbl rfl rfl, set_eq_self this]
    · cases h
  | close i =>
    simp only [bstep] at h
    split at h <;> cases h
    next hc =>
    refine ⟨{ hw with len_closed := by simpa using hw.len_closed, closed_done := fun j hj => ?_ }, rfl⟩
    simp only [getD_set] at hj
    split at hj
    · next hh => exact hh.1 ▸ hc.1
    · exact hw.closed_done j hj
  | coord e =>
    by_cases he : ∃ i, e = .recv i
    · obtain ⟨i, rfl⟩ := he
      simp only [bstep] at h
      split at h
      · next d r e =>
        split at h <;> cases h
        next c hc =>
        refine ⟨{ hw with len_buf := by simpa using hw.len_buf }, ?_⟩
        have hi : i < b.core.streams.length := hw.len_core ▸ hw.len_buf ▸ lt_of_getD_ne (by rw [e]; simp)
        show step (abs b) (.recv i) = _
        -- `bstep` runs `step` on a stream that holds only the head `d`; the abstract stream has the same head
        rw [abs_eq, step_recv_frame b.core (b.core.streams.set i [d]) _ i, hc, abs_eq,
          absStreams_upd hbl rfl (set_eq_self rfl).symm, absStreams_getD b i hbl, e]
        · rfl
        · rw [absStreams_getD b i hbl, e, getD_set, if_pos ⟨rfl, hi⟩]; rfl
      · next e =>
        split at h
        · next hcl =>
          split at h <;> cases h
          next c hc =>
          refine ⟨{ hw with }, ?_⟩
          have hY : (absStreams b).getD i [] = [] := by rw [absStreams_getD b i hbl, e, hw.closed_done i hcl]; rfl
          show step (abs b) (.recv i) = _
          rw [abs_eq, step_recv_frame b.core (b.core.streams.set i []) _ i, hc, hY, List.tail_nil, set_eq_self hY]
          · rfl
          · rw [hY, getD_set]
            split
            · rfl
            · next hn => rw [getD_of_le _ _ _ (Nat.le_of_not_lt fun hlt => hn ⟨rfl, hlt⟩)]
        · cases h
    · have he : ∀ i, e ≠ .recv i := fun i h => he ⟨i, h⟩
      rw [bstep_coord b he] at h
      obtain ⟨c, hc, rfl⟩ := Option.map_eq_some_iff.1 h
      refine ⟨{ hw with len_core := (step_streams_other hc he).symm ▸ hw.len_core }, ?_⟩
      show step (abs b) e = _
      rw [abs_eq, step_other_frame _ _ _ he, hc]; rfl

theorem abs_binit (scripts : List (List Datum)) : abs (binit scripts) = init scripts := by
  have : absStreams (binit scripts) = scripts :=
    (range_map_eq_map scripts _ id fun j hj => by simp [binit, hj]).trans (List.map_id _)
  rw [abs_eq, this]
  simp [binit, init]

theorem brun_projects {cap : Nat} {bevs : List BEv} :
    ∀ {b b' : BSt}, BWf scripts b → brun cap b bevs = some b' →
      BWf scripts b' ∧ ∃ evs, run (abs b) evs = some (abs b') := by
  induction bevs with
  | nil => intro b b' hw hr; simp only [brun] at hr; cases hr; exact ⟨hw, [], rfl⟩
  | cons ev es ih =>
    intro b b' hw hr
    simp only [brun] at hr
    split at hr
    · next b1 h1 =>
      obtain ⟨hw1, href⟩ := bstep_sim hw h1
      obtain ⟨hw', evs, hrun⟩ := ih hw1 hr
      refine ⟨hw', ?_⟩
      cases ev with
      | coord e => exact ⟨e :: evs, run_cons_eq_some.2 ⟨_, href, hrun⟩⟩
      | _ => exact ⟨evs, (show abs b1 = abs b from href) ▸ hrun⟩
    · cases hr

def BReach (cap : Nat) (scripts : List (List Datum)) (b : BSt) : Prop :=
  ∃ bevs, brun cap (binit scripts) bevs = some b

theorem breach_abs {cap : Nat} {b : BSt} (h : BReach cap scripts b) :
    BWf scripts b ∧ ∃ evs, run (init scripts) evs = some (abs b) := by
  obtain ⟨bevs, hb⟩ := h
  have := brun_projects (bwf_init scripts) hb
  rw [abs_binit] at this
  exact this

end S4V.Lemmas.Coord
