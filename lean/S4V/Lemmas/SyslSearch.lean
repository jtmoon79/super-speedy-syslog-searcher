/-
`lsearch` and `bsearch` (property C03) over a well-formed line list, from ANY start offset `F`: with
`M = messages ls`, `findSysline ls F` is the head of `after F M` (the messages that end at or after
`F`), and both searches return the first message of `after F M` that satisfies the filter: the linear
one always, the binary one if the instants are non-decreasing and every message has two bytes.
-/
import S4V.Lemmas.SyslPart

namespace S4V.Lemmas.Syslines
open S4V.Model.Syslines S4V.Gen.Filter

def firstGE (a : Option Int) (M2 : List Sysl) : S4V.Model.Syslines.Res :=
  headRes (M2.filter fun m => decide (geA a m.dt))

@[simp] theorem firstGE_nil (a : Option Int) : firstGE a [] = .done := rfl

theorem firstGE_cons_pos {a : Option Int} {m : Sysl} {r : List Sysl} (h : geA a m.dt) :
    firstGE a (m :: r) = .found (m.fin + 1) m := by
  simp [firstGE, h]

theorem firstGE_cons_neg {a : Option Int} {m : Sysl} {r : List Sysl} (h : ¬ geA a m.dt) :
    firstGE a (m :: r) = firstGE a r := by
  simp [firstGE, h]

theorem MContig.fins_increasing {s : Nat} {M : List Sysl} (h : MContig s M) :
    M.Pairwise (fun a b => a.fin < b.fin) :=
  h.begs_increasing.imp_of_mem fun _ hb hab => Nat.lt_of_lt_of_le hab (h.mem_bounds hb).2.1

theorem MContig.after_next {s : Nat} {M : List Sysl} (h : MContig s M) {F : Nat} {m : Sysl}
    {r : List Sysl} (hS : after F M = m :: r) : after (m.fin + 1) M = r := by
  have hm := (mem_after_of_eq hS).2
  have hp : (m :: r).Pairwise (fun a b => a.fin < b.fin) :=
    hS ▸ h.fins_increasing.sublist (List.filter_sublist (l := M))
  rw [← after_after (Nat.le_succ_of_le hm), hS, after, List.filter_cons_of_neg (by simp)]
  exact List.filter_eq_self.2 fun y hy => decide_eq_true ((List.pairwise_cons.1 hp).1 y hy)

theorem MContig.after_mEnd {s : Nat} {L R : List Sysl} (h : MContig s (L ++ R)) :
    after (mEnd s L) (L ++ R) = R := by
  obtain ⟨h1, h2⟩ := (MContig_append _ _ _).1 h
  rw [h1.after_append_ge (Nat.le_refl _)]
  exact List.filter_eq_self.2 fun x hx => decide_eq_true (by have := h2.mem_bounds hx; omega)

theorem fsM_of_lt_mEnd {s : Nat} {L R : List Sysl} (h : MContig s L) {fo : Nat}
    (hne : L ≠ []) (hfo : fo < mEnd s L) :
    ∃ m ∈ L, fsM (L ++ R) fo = .found (m.fin + 1) m ∧ fo ≤ m.fin ∧ (s ≤ fo → m.beg ≤ fo) := by
  induction L generalizing s with
  | nil => exact absurd rfl hne
  | cons m r ih =>
    obtain ⟨e1, e2, e3⟩ := h
    by_cases hle : fo ≤ m.fin
    · exact ⟨m, List.mem_cons_self, fsM_cons_le hle, hle, fun _ => by omega⟩
    · -- `fo` is past `m` and before the end: `m` is not the last message
      obtain ⟨x, hx, he, hb⟩ := ih e3 (by rintro rfl; simp at hfo; omega) hfo
      exact ⟨x, List.mem_cons_of_mem _ hx, (fsM_cons_gt hle).trans he, hb.1, fun _ => hb.2 (by omega)⟩

theorem MContig.after_eq_nil_iff {s : Nat} {M : List Sysl} (h : MContig s M) (hne : M ≠ [])
    {F : Nat} : after F M = [] ↔ mEnd s M ≤ F := by
  constructor
  · intro e
    refine Nat.le_of_not_lt fun hlt => ?_
    obtain ⟨m, hm, _, hb, _⟩ := fsM_of_lt_mEnd (R := []) h hne hlt
    have : m ∈ after F M := mem_after.2 ⟨hm, hb⟩
    rw [e] at this; cases this
  · intro hle
    exact List.filter_eq_nil_iff.2 fun x hx => by
      have := (h.mem_bounds hx).2.2; simp only [decide_eq_true_eq]; omega

theorem after_length (ls : List LineInfo) (F : Nat) : (after F (messages ls)).length + 1 ≤ ls.length + 2 :=
  Nat.succ_le_succ (Nat.le_succ_of_le (Nat.le_trans (List.length_filter_le ..) (messages_length_le ls)))

section
variable {ls : List LineInfo} (hwf : WFLines ls)
include hwf

theorem findSysline_after (F : Nat) : findSysline ls F = headRes (after F (messages ls)) := by
  rw [findSysline_eq hwf, fsM_eq_after]

private theorem lsearch_after (a : Option Int) :
    ∀ (S : List Sysl) (F fuel : Nat), after F (messages ls) = S → S.length + 1 ≤ fuel →
      lsearch ls a fuel F = firstGE a S := by
  intro S
  induction S with
  | nil =>
    intro F fuel hS hf
    obtain ⟨f, rfl⟩ := Nat.exists_eq_add_of_le' (Nat.le_of_add_left_le hf)
    simp [lsearch, findSysline_after hwf, hS]
  | cons m r ih =>
    intro F fuel hS hf
    obtain ⟨f, rfl⟩ := Nat.exists_eq_add_of_le' (Nat.le_of_add_left_le hf)
    simp only [lsearch, findSysline_after hwf, hS, headRes_cons]
    have hnext := ih (m.fin + 1) f ((messages_geom hwf).1.after_next hS) (by simpa using hf)
    cases a with
    | none => simp [firstGE_cons_pos]
    | some A =>
      by_cases hlt : m.dt < A
      · rw [dtAfterOrBefore_some_lt hlt, firstGE_cons_neg (by simp; omega)]; exact hnext
      · rw [dtAfterOrBefore_some_ge (by omega), firstGE_cons_pos (by simp; omega)]

theorem lsearch_from (a : Option Int) (F : Nat) :
    lsearch ls a (ls.length + 2) F = firstGE a (after F (messages ls)) :=
  lsearch_after hwf a _ F _ rfl (after_length ls F)

end

theorem isSyslineLast_iff (ls : List LineInfo) (s : Sysl) :
    isSyslineLast ls s = true ↔ s.fin + 1 = fileSz ls := by
  simp [isSyslineLast]

/-- threshold view of a sorted file for the filter `A`: offsets below `T` lead
to messages `< A` (of at least two bytes), offsets from `T` on to messages `≥ A`
that begin at or after `T`; the answer is `findSysline ls T`, the message beginning at `T` -/
structure Thr (ls : List LineInfo) (A : Int) (T : Nat) : Prop where
  T_le : T ≤ fileSz ls
  below : ∀ fo, fo < T → ∃ s, findSysline ls fo = .found (s.fin + 1) s ∧ s.dt < A ∧
    fo ≤ s.fin ∧ s.fin < T ∧ s.beg < s.fin
  above : ∀ fo, T ≤ fo → fo < fileSz ls → ∃ s, findSysline ls fo = .found (s.fin + 1) s ∧
    A ≤ s.dt ∧ T ≤ s.beg ∧ s.beg ≤ fo
  last : T = fileSz ls → findSysline ls T = .done

theorem mid_lt {a b : Nat} (h : a < b) : a + (b - a) / 2 < b :=
  Nat.lt_of_lt_of_eq
    (Nat.add_lt_add_left (Nat.div_lt_self (Nat.sub_pos_of_lt h) (Nat.lt_succ_self 1)) a)
    (Nat.add_sub_of_le (Nat.le_of_lt h))

/-- raising the lower end to `x`, at or above the midpoint, shrinks the interval unless the
midpoint stays where it was -/
theorem mid_raise {a b x : Nat} (h : a < b) (hx : a + (b - a) / 2 ≤ x)
    (hne : x + (b - x) / 2 ≠ a + (b - a) / 2) : b - x < b - a :=
  Nat.sub_lt_sub_left h
    (Nat.lt_of_le_of_ne (Nat.le_trans (Nat.le_add_right ..) hx) fun e => hne (e ▸ rfl))

/-- the midpoint of `[x, b]` is the probe `t ≤ x` again: the gap is closed, the threshold is
right after `x` -/
theorem mid_stay {x b t T : Nat} (h1 : t ≤ x) (h2 : x < T) (h3 : T ≤ b)
    (hc : x + (b - x) / 2 = t) : t = x ∧ T = x + 1 := by omega

section
variable {ls : List LineInfo} {A : Int} {T : Nat}

theorem bs_before (hT : Thr ls A T) (F : Nat) {tf fb : Nat} (tfl fa : Nat)
    (last : Option Sysl) (fuel : Nat) (h1 : tf < T) (h2 : T ≤ fb) :
    ∃ s : Sysl, s.fin < T ∧ tf ≤ s.fin ∧
      bsearchLoop ls F (some A) (fuel + 1) ⟨tf, tfl, fa, fb, last⟩ =
        if s.fin + (fb - s.fin) / 2 = tf then findSysline ls T
        else bsearchLoop ls F (some A) fuel ⟨s.fin + (fb - s.fin) / 2, tf, s.fin, fb, some s⟩ := by
  obtain ⟨s, hfind, hlt, hb1, hb2, hb3⟩ := hT.below tf h1
  refine ⟨s, hb2, hb1, ?_⟩
  have hmin : min s.fin fb = s.fin := Nat.min_eq_left (Nat.le_of_lt (Nat.lt_of_lt_of_le hb2 h2))
  rw [bsearchLoop]
  simp only [hfind, dtAfterOrBefore_some_lt hlt, hmin]
  by_cases hc : s.fin + (fb - s.fin) / 2 = tf
  · -- converged: the probe is the last byte of `s`, which has two bytes (`hb3`; here `TwoBytesM` is needed), so
    -- `s.beg < try_fo` and the convergence handling looks at the message after `s`
    obtain ⟨rfl, rfl⟩ := mid_stay hb1 hb2 h2 hc
    simp only [hc, ne_eq, not_true_eq_false, if_false, if_true,
      Bool.false_eq_true, hb3, decide_true, Bool.and_true]
    by_cases hl : s.fin + 1 = fileSz ls
    · simp [(isSyslineLast_iff ls s).2 hl, hT.last hl]
    · obtain ⟨sn, hf2, hge, _, _⟩ := hT.above _ (Nat.le_refl _) (Nat.lt_of_le_of_ne hT.T_le hl)
      rw [hf2]
      simp [mt (isSyslineLast_iff ls s).1 hl, dtAfterOrBefore_some_ge hge]
  · simp [hc]

theorem bs_after (hT : Thr ls A T) {F : Nat} {tf fa fb : Nat} (tfl : Nat)
    (last : Option Sysl) (fuel : Nat) (h1 : T ≤ tf) (h2 : tf < fb) (h3 : fb ≤ fileSz ls)
    (h4 : fa < T) (hF : tf ≠ F) :
    ∃ s : Sysl, T ≤ s.beg ∧ s.beg ≤ tf ∧
      bsearchLoop ls F (some A) (fuel + 1) ⟨tf, tfl, fa, fb, last⟩ =
        bsearchLoop ls F (some A) fuel ⟨fa + (s.beg - fa) / 2, tf, fa, s.beg, some s⟩ := by
  obtain ⟨s, hfind, hge, hb1, hb2⟩ := hT.above tf h1 (Nat.lt_of_lt_of_le h2 h3)
  refine ⟨s, hb1, hb2, ?_⟩
  have hfs : fa < s.beg := Nat.lt_of_lt_of_le h4 hb1
  have hne : fa + (s.beg - fa) / 2 ≠ tf := Nat.ne_of_lt (Nat.lt_of_lt_of_le (mid_lt hfs) hb2)
  rw [bsearchLoop]
  simp only [hfind, dtAfterOrBefore_some_ge hge, Nat.min_eq_left hb2, hF, if_false,
    Nat.not_lt.2 (Nat.le_of_lt hfs)]
  simp [hne]

/-- every round shrinks `fb - fa` or ends -/
theorem bs_loop (hT : Thr ls A T) {F : Nat} (hF : F < T) :
    ∀ (fuel tfl fa fb : Nat) (last : Option Sysl), fa < T → T ≤ fb → fb ≤ fileSz ls →
      fb - fa < fuel →
      bsearchLoop ls F (some A) fuel ⟨fa + (fb - fa) / 2, tfl, fa, fb, last⟩ = findSysline ls T := by
  intro fuel
  induction fuel with
  | zero => intro tfl fa fb last h1 h2 h3 h4; cases h4
  | succ f ih =>
    intro tfl fa fb last h1 h2 h3 h4
    have hab : fa < fb := Nat.lt_of_lt_of_le h1 h2
    have hmid := mid_lt hab
    by_cases hlt : fa + (fb - fa) / 2 < T
    · obtain ⟨s, hs1, hs2, heq⟩ := bs_before hT F tfl fa last f hlt h2
      rw [heq]
      split
      · rfl
      · next hne =>
        exact ih _ s.fin fb (some s) hs1 h2 h3
          (Nat.lt_of_lt_of_le (mid_raise hab hs2 hne) (Nat.le_of_lt_succ h4))
    · have hle := Nat.le_of_not_lt hlt
      obtain ⟨s, hs1, hs2, heq⟩ := bs_after hT tfl last f hle hmid h3 h1
        (Nat.ne_of_gt (Nat.lt_of_lt_of_le hF hle))
      rw [heq]
      have hsb : s.beg < fb := Nat.lt_of_le_of_lt hs2 hmid
      exact ih _ fa s.beg (some s) h1 hs1 (Nat.le_trans (Nat.le_of_lt hsb) h3)
        (Nat.lt_of_lt_of_le (Nat.sub_lt_sub_right (Nat.le_of_lt (Nat.lt_of_lt_of_le h1 hs1)) hsb)
          (Nat.le_of_lt_succ h4))

theorem bsearch_thr (hT : Thr ls A T) {F : Nat} (hF : F < T) : bsearch ls F (some A) = findSysline ls T := by
  obtain ⟨s, hs1, hs2, heq⟩ := bs_before hT F F F none (2 * fileSz ls + 7) hF hT.T_le
  rw [bsearch, heq]
  split
  · rfl
  · exact bs_loop hT hF _ F s.fin (fileSz ls) (some s) hs1 hT.T_le (Nat.le_refl _) (by omega)

end

theorem bsearch_first_hit {ls : List LineInfo} {F : Nat} {a : Option Int} {m : Sysl}
    (hfind : findSysline ls F = .found (m.fin + 1) m) (hge : geA a m.dt) :
    bsearch ls F a = .found (m.fin + 1) m := by
  rw [bsearch, bsearchLoop]
  cases a with
  | none => simp [hfind]
  | some A => simp [hfind, dtAfterOrBefore_some_ge ((geA_some A m.dt).1 hge)]

theorem bsearch_all_done {ls : List LineInfo} {F : Nat} (a : Option Int)
    (h : ∀ x, F ≤ x → findSysline ls x = .done) : bsearch ls F a = .done := by
  rw [bsearch, bsearchLoop]
  simp only [h F (Nat.le_refl _)]
  by_cases hc : F + (fileSz ls - F) / 2 = F
  · simp [hc]
  · simp only [hc, Bool.true_and, decide_false, Bool.false_eq_true, if_false, ne_eq,
      not_false_eq_true, if_true]
    rw [bsearchLoop]
    simp [h (F + (fileSz ls - F) / 2) (by omega)]

def SortedM (M : List Sysl) : Prop := M.Pairwise (fun a b => a.dt ≤ b.dt)

def TwoBytesM (M : List Sysl) : Prop := ∀ m ∈ M, m.beg < m.fin

theorem Thr.of_split {ls : List LineInfo} (hwf : WFLines ls)
    {L R : List Sysl} (hM : messages ls = L ++ R) {A : Int} (hL : ∀ m ∈ L, m.dt < A)
    (hR : ∀ m ∈ R, A ≤ m.dt) (h2 : ∀ m ∈ L, m.beg < m.fin) (hne : L ≠ []) :
    Thr ls A (mEnd (firstHeadBeg ls) L) := by
  obtain ⟨hcg, hsz⟩ := messages_geom hwf
  rw [hM] at hcg hsz
  obtain ⟨hc1, hc2⟩ := (MContig_append _ _ _).1 hcg
  rw [mEnd_append] at hsz
  have hTle : mEnd (firstHeadBeg ls) L ≤ fileSz ls := by rw [← hsz]; exact hc2.le_mEnd
  refine ⟨hTle, ?_, ?_, fun h => findSysline_beyond hwf (Nat.le_of_eq h.symm)⟩
  · intro fo hfo
    obtain ⟨m, hm, he, hb, _⟩ := fsM_of_lt_mEnd (R := R) hc1 hne hfo
    refine ⟨m, by rw [findSysline_eq hwf, hM]; exact he, hL m hm, hb, (hc1.mem_bounds hm).2.2, h2 m hm⟩
  · intro fo h1 h3
    rw [findSysline_eq hwf, hM, fsM_append_ge hc1 h1]
    obtain ⟨m, hm, he, _, hb⟩ := fsM_of_lt_mEnd (R := []) hc2
      (by rintro rfl; simp at hsz; omega) (hsz ▸ h3)
    rw [List.append_nil] at he
    exact ⟨m, he, hR m hm, (hc2.mem_bounds hm).1, hb h1⟩

theorem sorted_split {M2 : List Sysl} (hs : SortedM M2) (A : Int) :
    ∃ L R, M2 = L ++ R ∧ (∀ m ∈ L, m.dt < A) ∧ (∀ m ∈ R, A ≤ m.dt) := by
  induction M2 with
  | nil => exact ⟨[], [], rfl, by simp, by simp⟩
  | cons m r ih =>
    obtain ⟨h1, h2⟩ := List.pairwise_cons.1 hs
    by_cases hlt : m.dt < A
    · obtain ⟨L, R, rfl, hL, hR⟩ := ih h2
      refine ⟨m :: L, R, rfl, ?_, hR⟩
      intro x hx
      rcases List.mem_cons.1 hx with rfl | hx
      · exact hlt
      · exact hL x hx
    · refine ⟨[], m :: r, rfl, by simp, ?_⟩
      intro x hx
      rcases List.mem_cons.1 hx with rfl | hx
      · omega
      · have := h1 x hx; omega

section
variable {ls : List LineInfo} (hwf : WFLines ls) (a : Option Int) (F : Nat)
include hwf

theorem bsearch_after_head (h : ∀ m ∈ (after F (messages ls)).head?, geA a m.dt) :
    bsearch ls F a = firstGE a (after F (messages ls)) := by
  cases hS : after F (messages ls) with
  | nil =>
    refine bsearch_all_done a fun x hx => ?_
    rw [findSysline_after hwf, ← after_after hx, hS]; rfl
  | cons m r =>
    rw [hS] at h
    rw [firstGE_cons_pos (h m rfl)]
    exact bsearch_first_hit (by rw [findSysline_after hwf, hS]; rfl) (h m rfl)

theorem bsearch_after (hs : SortedM (messages ls)) (h2 : TwoBytesM (messages ls)) :
    bsearch ls F a = firstGE a (after F (messages ls)) := by
  by_cases hge : ∀ m ∈ (after F (messages ls)).head?, geA a m.dt
  · exact bsearch_after_head hwf a F hge
  · obtain ⟨m, r, hS, A, rfl, hlt⟩ : ∃ m r, after F (messages ls) = m :: r ∧ ∃ A, a = some A ∧ m.dt < A := by
      cases hS : after F (messages ls) with
      | nil => simp [hS] at hge
      | cons m r => cases a with
        | none => simp at hge
        | some A => exact ⟨m, r, rfl, A, rfl, by simpa [hS] using hge⟩
    obtain ⟨hmM, hFm⟩ := mem_after_of_eq hS
    -- the file splits at the threshold; `m` lies below it
    obtain ⟨L, R, hLR, hL, hR⟩ := sorted_split hs A
    have hmL : m ∈ L := by
      rcases List.mem_append.1 (hLR ▸ hmM) with h | h
      · exact h
      · have := hR m h; omega
    have hT := Thr.of_split hwf hLR hL hR (fun x hx => h2 x (hLR ▸ List.mem_append_left _ hx))
      (List.ne_nil_of_mem hmL)
    have hcg := hLR ▸ (messages_geom hwf).1
    obtain ⟨hc1, hc2⟩ := (MContig_append _ _ _).1 hcg
    have hFT : F < mEnd (firstHeadBeg ls) L := Nat.lt_of_le_of_lt hFm (hc1.mem_bounds hmL).2.2
    -- the answer is the head of `R`; of the messages at or after `F`, those with `dt ≥ A` are `R`
    rw [bsearch_thr hT hFT, findSysline_after hwf, hLR, hcg.after_mEnd, firstGE, after,
      List.filter_filter, List.filter_append,
      List.filter_eq_nil_iff.2 fun x hx => by have := hL x hx; simp; omega, List.nil_append,
      List.filter_eq_self.2 fun x hx => by have := hR x hx; have := hc2.mem_bounds hx; simp; omega]

end

end S4V.Lemmas.Syslines
