/-
`messages`, `slPartA`, `slPartB`, `findSysline` over a well-formed line list.

Main results: `decomp` (a well-formed list is a head-less prefix followed by
blocks "timestamped line + head-less lines", and `messages` lists the blocks),
`findSysline_eq` (`findSysline ls fo` is the first message whose last byte is at
or after `fo`).
-/
import S4V.Lemmas.SyslBasic

namespace S4V.Lemmas.Syslines
open S4V.Model.Lines S4V.Model.Syslines S4V.Gen.Filter

def Headless (c : List LineInfo) : Prop := ∀ x ∈ c, x.dt = none

def HeadFirst : List LineInfo → Prop
  | [] => True
  | h :: _ => ∃ t, h.dt = some t

theorem Headless.nil : Headless [] := by intro x hx; cases hx
theorem Headless.cons_iff {x : LineInfo} {c : List LineInfo} :
    Headless (x :: c) ↔ x.dt = none ∧ Headless c := by
  simp [Headless]
theorem Headless.append_iff {a b : List LineInfo} :
    Headless (a ++ b) ↔ Headless a ∧ Headless b := List.forall_mem_append

theorem Headless.find_eq_none {A : List LineInfo} (hA : Headless A) :
    A.find? (fun l => l.dt.isSome) = none := by
  rw [List.find?_eq_none]
  intro x hx
  simp [hA x hx]

theorem find_head_headless_append {A S : List LineInfo} (hA : Headless A) :
    (A ++ S).find? (fun l => l.dt.isSome) = S.find? (fun l => l.dt.isSome) := by
  rw [List.find?_append, hA.find_eq_none, Option.none_or]

def MContig : Nat → List Sysl → Prop
  | _, [] => True
  | s, m :: r => m.beg = s ∧ m.beg ≤ m.fin ∧ MContig (m.fin + 1) r

def mEnd : Nat → List Sysl → Nat
  | s, [] => s
  | _, m :: r => mEnd (m.fin + 1) r

@[simp] theorem MContig_nil (s : Nat) : MContig s [] := trivial
@[simp] theorem MContig_cons (s : Nat) (m : Sysl) (r : List Sysl) :
    MContig s (m :: r) ↔ m.beg = s ∧ m.beg ≤ m.fin ∧ MContig (m.fin + 1) r := Iff.rfl
@[simp] theorem mEnd_nil (s : Nat) : mEnd s [] = s := rfl
@[simp] theorem mEnd_cons (s : Nat) (m : Sysl) (r : List Sysl) :
    mEnd s (m :: r) = mEnd (m.fin + 1) r := rfl

/-- a message as the one line with its extent: consecutive messages are a tiling by such lines, so the facts about
`WFFrom`/`endOf` carry over -/
def msgLine (m : Sysl) : LineInfo := ⟨m.beg, m.fin, some m.dt⟩

theorem mEnd_eq_endOf (s : Nat) (M : List Sysl) : mEnd s M = endOf s (M.map msgLine) := by
  induction M generalizing s with
  | nil => rfl
  | cons m r ih => exact ih _

theorem MContig_iff_wf (s : Nat) (M : List Sysl) : MContig s M ↔ WFFrom s (M.map msgLine) := by
  induction M generalizing s with
  | nil => exact Iff.rfl
  | cons m r ih => exact and_congr_right fun _ => and_congr_right fun _ => ih _

theorem mEnd_append (s : Nat) (a b : List Sysl) : mEnd s (a ++ b) = mEnd (mEnd s a) b := by
  simp only [mEnd_eq_endOf, List.map_append, endOf_append]

theorem MContig_append (s : Nat) (a b : List Sysl) :
    MContig s (a ++ b) ↔ MContig s a ∧ MContig (mEnd s a) b := by
  simp only [MContig_iff_wf, mEnd_eq_endOf, List.map_append, WFFrom_append]

theorem MContig.le_mEnd {s : Nat} {M : List Sysl} (h : MContig s M) : s ≤ mEnd s M :=
  mEnd_eq_endOf s M ▸ le_endOf ((MContig_iff_wf s M).1 h)

theorem MContig.mem_bounds {s : Nat} {M : List Sysl} (h : MContig s M) {m : Sysl} (hm : m ∈ M) :
    s ≤ m.beg ∧ m.beg ≤ m.fin ∧ m.fin < mEnd s M :=
  mEnd_eq_endOf s M ▸ Syslines.mem_bounds ((MContig_iff_wf s M).1 h) (List.mem_map_of_mem hm)

theorem MContig.lt_mEnd {s : Nat} {M : List Sysl} (h : MContig s M) (hne : M ≠ []) :
    s < mEnd s M :=
  mEnd_eq_endOf s M ▸ lt_endOf_of_ne_nil ((MContig_iff_wf s M).1 h) (mt List.map_eq_nil_iff.1 hne)

theorem MContig.next {s : Nat} {M : List Sysl} (h : MContig s M) (k : Nat) (hk : k + 1 < M.length) :
    M[k + 1].beg = M[k].fin + 1 := by
  have := ((WFFrom_iff s _).1 ((MContig_iff_wf s M).1 h)).2.2 k (by simpa using hk)
  rwa [List.getElem_map, List.getElem_map] at this

theorem MContig.begs_increasing {s : Nat} {M : List Sysl} (h : MContig s M) :
    M.Pairwise (fun a b => a.fin < b.beg) := by
  induction M generalizing s with
  | nil => exact List.Pairwise.nil
  | cons m r ih =>
    obtain ⟨h1, h2, h3⟩ := h
    refine List.Pairwise.cons ?_ (ih h3)
    intro b hb
    have := h3.mem_bounds hb
    omega

theorem MContig.disjoint {s : Nat} {M : List Sysl} (h : MContig s M) {m m' : Sysl} (hm : m ∈ M)
    (hm' : m' ∈ M) : m = m' ∨ m.fin < m'.beg ∨ m'.fin < m.beg :=
  List.Pairwise.forall_of_forall_of_flip (R := fun a b => a = b ∨ a.fin < b.beg ∨ b.fin < a.beg)
    (fun _ _ => .inl rfl) (h.begs_increasing.imp fun h => .inr (.inl h))
    (h.begs_increasing.imp fun h => .inr (.inr h)) hm hm'

theorem MContig.overlap {s : Nat} {M : List Sysl} (h : MContig s M) {m m' : Sysl} (hm : m ∈ M)
    (hm' : m' ∈ M) (h1 : m.beg ≤ m'.fin) (h2 : m'.beg ≤ m.fin) : m = m' := by
  rcases h.disjoint hm hm' with e | _ | _
  · exact e
  all_goals omega

theorem MContig.beg_inj {s : Nat} {M : List Sysl} (h : MContig s M) {m m' : Sysl}
    (hm : m ∈ M) (hm' : m' ∈ M) (hb : m.beg = m'.beg) : m = m' :=
  h.overlap hm hm' (hb ▸ (h.mem_bounds hm').2.1) (hb ▸ (h.mem_bounds hm).2.1)

theorem messagesAux_headless_none {A : List LineInfo} (hA : Headless A) (S : List LineInfo) :
    messagesAux (A ++ S) none = messagesAux S none := by
  induction A with
  | nil => rfl
  | cons x A ih =>
    obtain ⟨h1, h2⟩ := Headless.cons_iff.1 hA
    simp only [List.cons_append, messagesAux, h1]
    exact ih h2

theorem messagesAux_run {c : List LineInfo} (hc : Headless c) {R : List LineInfo}
    (hR : HeadFirst R) (s : Sysl) :
    messagesAux (c ++ R) (some s)
      = { s with fin := endOf (s.fin + 1) c - 1 } :: messagesAux R none := by
  induction c generalizing s with
  | nil =>
    cases R with
    | nil => simp [messagesAux]
    | cons h R' =>
      obtain ⟨t, ht⟩ := hR
      simp [messagesAux, ht]
  | cons x c ih =>
    obtain ⟨h1, h2⟩ := Headless.cons_iff.1 hc
    simp only [List.cons_append, messagesAux, h1]
    rw [ih h2]
    simp

/-- block view of a list that is empty or begins with a timestamped line: each
block is a timestamped line `h` plus head-less lines `c`; `Ms` are the messages -/
inductive Blocks : Nat → List LineInfo → List Sysl → Prop
  | nil (s : Nat) : Blocks s [] []
  | cons {s : Nat} {h : LineInfo} {t : Int} {c R : List LineInfo} {Ms : List Sysl} :
      h.dt = some t → Headless c → WFFrom s (h :: c) →
      Blocks (endOf s (h :: c)) R Ms →
      Blocks s (h :: (c ++ R)) (⟨h.beg, endOf s (h :: c) - 1, t⟩ :: Ms)

theorem Blocks.headFirst {s : Nat} {S : List LineInfo} {Ms : List Sysl} (h : Blocks s S Ms) :
    HeadFirst S := by
  cases h with
  | nil => trivial
  | cons ht _ _ _ => exact ⟨_, ht⟩

theorem Blocks.geom {s : Nat} {S : List LineInfo} {Ms : List Sysl} (h : Blocks s S Ms) :
    MContig s Ms ∧ mEnd s Ms = endOf s S := by
  induction h with
  | nil => exact ⟨trivial, rfl⟩
  | @cons s h t c R Ms ht hc hw _ ih =>
    have h1 := lt_endOf_of_ne_nil hw (by simp)
    have e2 : endOf s (h :: c) - 1 + 1 = endOf s (h :: c) := by omega
    have e : h :: (c ++ R) = (h :: c) ++ R := rfl
    rw [e, endOf_append, mEnd_cons, MContig_cons, e2]
    exact ⟨⟨hw.1, by have := hw.1; show h.beg ≤ endOf s (h :: c) - 1; omega, ih.1⟩, ih.2⟩

theorem decompFrom {s : Nat} {ls : List LineInfo} (h : WFFrom s ls) :
    ∃ A S, ls = A ++ S ∧ Headless A ∧ Blocks (endOf s A) S (messagesAux ls none) := by
  induction ls generalizing s with
  | nil => exact ⟨[], [], rfl, Headless.nil, Blocks.nil _⟩
  | cons l r ih =>
    obtain ⟨h1, h2, h3⟩ := h
    obtain ⟨A, S, rfl, hA, hB⟩ := ih h3
    rw [messagesAux_headless_none hA] at hB
    cases hdt : l.dt with
    | none =>
      refine ⟨l :: A, S, rfl, Headless.cons_iff.2 ⟨hdt, hA⟩, ?_⟩
      rw [← List.cons_append, messagesAux_headless_none (Headless.cons_iff.2 ⟨hdt, hA⟩)]
      simpa using hB
    | some t =>
      refine ⟨[], l :: (A ++ S), rfl, Headless.nil, ?_⟩
      have hw : WFFrom s (l :: A) := ⟨h1, h2, ((WFFrom_append _ _ _).1 h3).1⟩
      have e : messagesAux (l :: (A ++ S)) none
          = ⟨l.beg, endOf s (l :: A) - 1, t⟩ :: messagesAux S none := by
        simp only [messagesAux, hdt]
        rw [messagesAux_run hA hB.headFirst]
        simp
      rw [e]
      exact Blocks.cons hdt hA hw (by simpa using hB)

theorem decomp {ls : List LineInfo} (h : WFLines ls) :
    ∃ A S, ls = A ++ S ∧ Headless A ∧ Blocks (endOf 0 A) S (messages ls) := decompFrom h

theorem Blocks.mem_bounds {s : Nat} {S : List LineInfo} {Ms : List Sysl} (h : Blocks s S Ms)
    {m : Sysl} (hm : m ∈ Ms) : s ≤ m.beg ∧ m.beg ≤ m.fin ∧ m.fin < endOf s S :=
  h.geom.2 ▸ h.geom.1.mem_bounds hm

theorem wf_adjacent {X Y : List LineInfo} {a b : LineInfo} (h : WFLines (X ++ a :: b :: Y)) :
    b.beg = a.fin + 1 ∧ a.beg ≤ a.fin ∧ b.beg ≤ b.fin ∧ a.beg = endOf 0 X := by
  obtain ⟨_, h1, h2, h3, h4, _⟩ := (WFFrom_append 0 X _).1 h
  exact ⟨h3, h2, h4, h1⟩

theorem wf_mid {X Y : List LineInfo} {a : LineInfo} (h : WFLines (X ++ a :: Y)) :
    a.beg = endOf 0 X ∧ a.beg ≤ a.fin := by
  obtain ⟨_, h1, h2, _⟩ := (WFFrom_append 0 X _).1 h
  exact ⟨h1, h2⟩

section
variable {ls : List LineInfo} {fo : Nat} {l : LineInfo}

theorem slPartA_none (hl : lineAt ls fo = none) (fuel : Nat) (z : Bool) (M : Nat) :
    slPartA ls (fuel + 1) fo z M = none := by
  simp only [slPartA, hl]

theorem slPartA_head {t : Int} (hl : lineAt ls fo = some l) (ht : l.dt = some t) (fuel : Nat)
    (z : Bool) (M : Nat) : slPartA ls (fuel + 1) fo z M = some l := by
  simp only [slPartA, hl, ht]

theorem slPartA_step (hl : lineAt ls fo = some l) (ht : l.dt = none) (fuel : Nat) (z : Bool)
    (M : Nat) :
    slPartA ls (fuel + 1) fo z M =
      if z then slPartA ls fuel (max M (l.fin + 1)) true (max M (l.fin + 1))
      else if l.beg > 1 then slPartA ls fuel (l.beg - 1) false (max M (l.fin + 1))
      else slPartA ls fuel 0 true (max M (l.fin + 1)) := by
  simp only [slPartA, hl, ht]

-- `ls = P ++ Q` splits the file right after the line the walk began in; `M` is `fo_a_max`, which reaches
-- the end of that line at the first step and stays there: `max M (l.fin + 1) = endOf 0 P` at every line `l`
-- the walk visits. The flag (`fo_zero_tried`) is `false` while the walk goes backwards and `true` from the probe
-- at offset 0 on, after which the walk goes forward from `endOf 0 P`. `partA_fwd`, `partA_first` and `partA_back` carry the
-- induction; `partA_run` is what is used.
variable (hwf : WFLines ls) {P Q : List LineInfo} (hPQ : ls = P ++ Q)
include hwf hPQ

theorem partA_fwd (fuel : Nat) (hf : Q.length + 1 ≤ fuel) :
    slPartA ls fuel (endOf 0 P) true (endOf 0 P) = Q.find? (fun l => l.dt.isSome) := by
  induction Q generalizing P fuel with
  | nil =>
    obtain ⟨f, rfl⟩ := Nat.exists_eq_add_of_le' (Nat.le_of_add_left_le hf)
    exact slPartA_none (lineAt_none hwf (by rw [fileSz_eq_endOf, hPQ]; simp)) ..
  | cons q Q ih =>
    obtain ⟨f, rfl⟩ := Nat.exists_eq_add_of_le' (Nat.le_of_add_left_le hf)
    subst hPQ
    obtain ⟨hb, hbf⟩ := wf_mid hwf
    have hl : lineAt (P ++ q :: Q) (endOf 0 P) = some q := lineAt_mid hwf (by omega) (by omega)
    cases hdt : q.dt with
    | some t => rw [slPartA_head hl hdt, List.find?_cons_of_pos (by simp [hdt])]
    | none =>
      rw [slPartA_step hl hdt, if_pos rfl, Nat.max_eq_right (by omega),
        List.find?_cons_of_neg (by simp [hdt])]
      have := ih (P := P ++ [q]) (by simp) f (by simp at hf; omega)
      rwa [endOf_append] at this

private theorem partA_first {p : LineInfo} {Y : List LineInfo} (hls : ls = p :: Y) (hfo : fo ≤ p.fin)
    {M : Nat} (hM : max M (p.fin + 1) = endOf 0 P) (z : Bool) (fuel : Nat)
    (hf : Q.length + 3 ≤ fuel) :
    slPartA ls fuel fo z M
      = ([p].find? (fun l => l.dt.isSome)).or (Q.find? (fun l => l.dt.isSome)) := by
  obtain ⟨f, rfl⟩ := Nat.exists_eq_add_of_le' (Nat.le_of_add_left_le hf)
  have hw : WFLines ([] ++ p :: Y) := hls ▸ hwf
  have hb : p.beg = 0 := (wf_mid hw).1
  have hl : ∀ x, x ≤ p.fin → lineAt ls x = some p := fun x hx =>
    hls ▸ lineAt_mid hw (by omega) hx
  cases hdt : p.dt with
  | some t => rw [slPartA_head (hl fo hfo) hdt, List.find?_cons_of_pos (by simp [hdt])]; rfl
  | none =>
    have hfwd : ∀ g, Q.length + 1 ≤ g → ∀ M', max M' (p.fin + 1) = endOf 0 P → ∀ x, x ≤ p.fin →
        slPartA ls (g + 1) x true M' = Q.find? (fun l => l.dt.isSome) := fun g hg M' hM' x hx => by
      rw [slPartA_step (hl x hx) hdt, if_pos rfl, hM']
      exact partA_fwd hwf hPQ g hg
    rw [List.find?_cons_of_neg (by simp [hdt]), List.find?_nil, Option.none_or]
    cases z with
    | true => exact hfwd (f + 2) (by omega) M hM fo hfo
    | false =>
      rw [slPartA_step (hl fo hfo) hdt, if_neg Bool.false_ne_true, if_neg (by omega), hM]
      exact hfwd (f + 1) (by omega) _ (by omega) 0 (Nat.zero_le _)

private theorem partA_back (Xr : List LineInfo) {Y : List LineInfo} (hls : ls = Xr.reverse ++ l :: Y)
    (h1 : l.beg ≤ fo) (h2 : fo ≤ l.fin) {M : Nat} (hM : max M (l.fin + 1) = endOf 0 P)
    (fuel : Nat) (hf : Xr.length + Q.length + 3 ≤ fuel) :
    slPartA ls fuel fo false M
      = ((l :: Xr).find? (fun l => l.dt.isSome)).or (Q.find? (fun l => l.dt.isSome)) := by
  induction Xr generalizing l Y fo M fuel with
  | nil => exact partA_first hwf hPQ hls h2 hM false fuel (by simpa using hf)
  | cons p r ih =>
    obtain ⟨f, rfl⟩ := Nat.exists_eq_add_of_le' (Nat.le_of_add_left_le hf)
    have hls' : ls = r.reverse ++ p :: l :: Y := by
      rw [hls, List.reverse_cons, List.append_assoc]; rfl
    have hf' : r.length + 1 + Q.length + 3 ≤ f + 3 := hf
    have hw := hls' ▸ hwf
    obtain ⟨ha1, ha2, ha3, ha4⟩ := wf_adjacent hw
    have hl : lineAt ls fo = some l :=
      (lineAt_some_iff hwf fo l).2 ⟨hls ▸ List.mem_append_right _ List.mem_cons_self, h1, h2⟩
    cases hdt : l.dt with
    | some t => rw [slPartA_head hl hdt, List.find?_cons_of_pos (by rw [hdt]; rfl)]; rfl
    | none =>
      rw [slPartA_step hl hdt, if_neg Bool.false_ne_true, hM,
        List.find?_cons_of_neg (by rw [hdt]; exact Bool.false_ne_true)]
      -- the walk goes on at the last byte of `p`, which ends before the line it began in
      have e : l.beg - 1 = p.fin := by rw [ha1]; rfl
      have hmax : max (endOf 0 P) (p.fin + 1) = endOf 0 P :=
        Nat.max_eq_left (ha1 ▸ Nat.le_trans ha3 (Nat.le_of_succ_le (hM ▸ Nat.le_max_right ..)))
      by_cases hb : l.beg > 1
      · rw [if_pos hb, e]
        exact ih hls' ha2 (Nat.le_refl _) hmax (f + 2) (by omega)
      · rw [if_neg hb]
        cases r with
        | nil => exact partA_first hwf hPQ hls' (Nat.zero_le _) hmax true (f + 2) (by omega)
        | cons _ _ => have := lt_endOf_of_ne_nil ((WFFrom_append 0 _ _).1 hw).1 (by simp); omega

end

section
variable {ls : List LineInfo} (hwf : WFLines ls)
include hwf

theorem partA_run {X c R : List LineInfo} (hls : ls = X ++ (c ++ R)) (hc : Headless c) {fo : Nat}
    (h1 : endOf 0 X ≤ fo) (h2 : fo < endOf (endOf 0 X) c) :
    slPartA ls (2 * ls.length + 2) fo false 0
      = (X.reverse.find? (fun l => l.dt.isSome)).or (R.find? (fun l => l.dt.isSome)) := by
  have hwc : WFFrom (endOf 0 X) c :=
    ((WFFrom_append _ c R).1 ((WFFrom_append 0 X _).1 (hls ▸ hwf)).2).1
  obtain ⟨l, hl, hb1, hb2⟩ := exists_line hwc h1 h2
  obtain ⟨c1, c2, rfl⟩ := List.mem_iff_append.1 hl
  have hH : Headless (l :: c1.reverse) := fun x hx => hc x (by
    simp at hx ⊢; rcases hx with rfl | hx <;> simp [*])
  rw [partA_back hwf (P := X ++ c1 ++ [l]) (Q := c2 ++ R) (by rw [hls]; simp)
    (c1.reverse ++ X.reverse) (Y := c2 ++ R) (by rw [hls]; simp) hb1 hb2
    (by simp [endOf_append]) _ (by rw [hls]; simp; omega),
    ← List.cons_append, find_head_headless_append hH,
    find_head_headless_append fun x hx => hc x (by simp [hx])]

theorem partA_block {X c R : List LineInfo} {h : LineInfo} {t : Int}
    (hls : ls = X ++ h :: (c ++ R)) (ht : h.dt = some t) (hc : Headless c) {fo : Nat}
    (h1 : h.beg ≤ fo) (h2 : fo < endOf h.beg (h :: c)) :
    slPartA ls (2 * ls.length + 2) fo false 0 = some h := by
  by_cases hfo : fo ≤ h.fin
  · exact slPartA_head ((lineAt_some_iff hwf fo h).2 ⟨by rw [hls]; simp, h1, hfo⟩) ht ..
  · rw [partA_run hwf (X := X ++ [h]) (R := R) (by rw [hls]; simp) hc (by rw [endOf_append]; exact Nat.lt_of_not_le hfo)
      (by rw [endOf_append]; exact h2)]
    simp [ht]

theorem partA_pre {A S : List LineInfo} (hls : ls = A ++ S) (hA : Headless A) {fo : Nat}
    (hfo : fo < endOf 0 A) :
    slPartA ls (2 * ls.length + 2) fo false 0 = S.find? (fun l => l.dt.isSome) :=
  partA_run hwf (X := []) hls hA (Nat.zero_le _) hfo

end

theorem partB_run {ls : List LineInfo} (hwf : WFLines ls) {R : List LineInfo} (hR : HeadFirst R)
    (c : List LineInfo) {X : List LineInfo} (hls : ls = X ++ c ++ R) (hc : Headless c) {fin : Nat}
    (hX : endOf 0 X = fin + 1) (fuel : Nat) (hf : c.length + 1 ≤ fuel) :
    slPartB ls fuel (fin + 1) fin = endOf (fin + 1) c - 1 := by
  induction c generalizing X fin fuel with
  | nil =>
    obtain ⟨f, rfl⟩ := Nat.exists_eq_add_of_le' (Nat.le_of_add_left_le hf)
    rw [List.append_nil] at hls
    cases R with
    | nil =>
      have : lineAt ls (fin + 1) = none :=
        lineAt_none hwf (by rw [fileSz_eq_endOf, hls, List.append_nil, hX]; exact Nat.le_refl _)
      simp [slPartB, this]
    | cons r R' =>
      obtain ⟨t, ht⟩ := hR
      have hw := hls ▸ hwf
      have hl : lineAt ls (fin + 1) = some r :=
        hls ▸ lineAt_mid hw (by have := wf_mid hw; omega) (by have := wf_mid hw; omega)
      simp [slPartB, hl, ht]
  | cons x c ih =>
    obtain ⟨f, rfl⟩ := Nat.exists_eq_add_of_le' (Nat.le_of_add_left_le hf)
    obtain ⟨hx, hc'⟩ := Headless.cons_iff.1 hc
    have hls' : ls = X ++ x :: (c ++ R) := by simpa using hls
    have hw := hls' ▸ hwf
    have hl : lineAt ls (fin + 1) = some x :=
      hls' ▸ lineAt_mid hw (by have := wf_mid hw; omega) (by have := wf_mid hw; omega)
    simp only [slPartB, hl, hx, endOf_cons]
    exact ih (X := X ++ [x]) (by simpa using hls) hc' (by rw [endOf_append]; rfl) f
      (by simp at hf; omega)

/-- what `findSysline` computes: the first message whose last byte is at or after `fo` -/
def fsM (M : List Sysl) (fo : Nat) : S4V.Model.Syslines.Res :=
  match M.find? (fun m => fo ≤ m.fin) with
  | some m => .found (m.fin + 1) m
  | none => .done

theorem fsM_cons_le {m : Sysl} {Ms : List Sysl} {fo : Nat} (h : fo ≤ m.fin) :
    fsM (m :: Ms) fo = .found (m.fin + 1) m := by
  simp [fsM, h]

theorem fsM_cons_gt {m : Sysl} {Ms : List Sysl} {fo : Nat} (h : ¬ fo ≤ m.fin) :
    fsM (m :: Ms) fo = fsM Ms fo := by
  simp [fsM, h]

@[simp] theorem fsM_nil (fo : Nat) : fsM [] fo = .done := rfl

section
variable {ls : List LineInfo} (hwf : WFLines ls)
include hwf

theorem findSysline_of_head {X c R : List LineInfo} {h : LineInfo} {t : Int}
    (hls : ls = X ++ h :: (c ++ R)) (ht : h.dt = some t) (hc : Headless c) (hR : HeadFirst R)
    {fo : Nat} (hA : slPartA ls (2 * ls.length + 2) fo false 0 = some h) :
    findSysline ls fo
      = .found (endOf h.beg (h :: c) - 1 + 1) ⟨h.beg, endOf h.beg (h :: c) - 1, t⟩ := by
  have hB := partB_run hwf hR c (X := X ++ [h]) (by rw [hls]; simp) hc (fin := h.fin)
    (by rw [endOf_append]; rfl) (ls.length + 1) (by rw [hls]; simp; omega)
  unfold findSysline
  simp only [hA, hB, ht, Option.getD_some, endOf_cons]

theorem findSysline_beyond {fo : Nat} (h : fileSz ls ≤ fo) : findSysline ls fo = .done := by
  simp only [findSysline, slPartA_none (lineAt_none hwf h)]

end

theorem findSysline_blocks {s : Nat} {S : List LineInfo} {Ms : List Sysl} (hB : Blocks s S Ms) :
    ∀ X : List LineInfo, WFLines (X ++ S) → endOf 0 X = s → ∀ fo, s ≤ fo →
      findSysline (X ++ S) fo = fsM Ms fo := by
  induction hB with
  | nil s =>
    intro X hwf hX fo hfo
    exact findSysline_beyond hwf (by rw [fileSz_eq_endOf]; simpa [hX] using hfo)
  | @cons s h t c R Ms ht hc hw hB ih =>
    intro X hwf hX fo hfo
    have hs : h.beg = s := hw.1
    have h1 := lt_endOf_of_ne_nil hw (by simp)
    by_cases hlt : fo < endOf s (h :: c)
    · rw [findSysline_of_head hwf rfl ht hc hB.headFirst
        (partA_block hwf rfl ht hc (by omega) (hs ▸ hlt)), hs]
      symm; apply fsM_cons_le
      show fo ≤ endOf s (h :: c) - 1; omega
    · have e : X ++ h :: (c ++ R) = (X ++ h :: c) ++ R := by simp
      rw [e, ih (X ++ h :: c) (e ▸ hwf) (by rw [endOf_append, hX]) fo (by omega)]
      symm; apply fsM_cons_gt
      show ¬ fo ≤ endOf s (h :: c) - 1; omega

theorem findSysline_eq {ls : List LineInfo} (hwf : WFLines ls) (fo : Nat) :
    findSysline ls fo = fsM (messages ls) fo := by
  obtain ⟨A, S, rfl, hA, hB⟩ := decomp hwf
  by_cases hfo : endOf 0 A ≤ fo
  · exact findSysline_blocks hB A hwf rfl fo hfo
  · have hPA := partA_pre hwf rfl hA (fo := fo) (by omega)
    generalize messages (A ++ S) = Ms at hB
    cases hB with
    | nil => simp only [findSysline, hPA]; rfl
    | @cons _ h t c R Ms' ht hc hw hB' =>
      rw [List.find?_cons_of_pos (by simp [ht])] at hPA
      rw [findSysline_of_head hwf rfl ht hc hB'.headFirst hPA, hw.1]
      have h3 := lt_endOf_of_ne_nil hw (by simp)
      symm; apply fsM_cons_le
      show fo ≤ endOf (endOf 0 A) (h :: c) - 1; omega

end S4V.Lemmas.Syslines
