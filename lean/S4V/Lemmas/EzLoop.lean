/-
Transparency of the EZCHECK machinery inside `find_datetime_in_line` (model `S4V.Model.Ezcheck`):
cursor invariant, one step of `ezcheck_slice`, and the loop.
-/
import S4V.Lemmas.Ezcheck

namespace S4V.Lemmas.EzLoop
open S4V.Model.Ezcheck S4V.Lemmas.Ezcheck

/-- what the three cursors stand for: the prefix of the line they have proven clean (of digit pairs up to and including
the byte at the cursor, where the next test starts) -/
structure Inv (line : List UInt8) (cur : Cur) : Prop where
  h12 : has12 (line.take cur.c12) = false
  hd2 : hasD2 (line.take (cur.cd2 + 1)) = false
  hb12 : has12 (line.take cur.c12d2) = false
  hbd2 : hasD2 (line.take (cur.c12d2 + 1)) = false
  l12 : cur.c12 < line.length
  ld2 : cur.cd2 < line.length
  lb : cur.c12d2 < line.length

theorem inv_init {line : List UInt8} (h : 0 < line.length) : Inv line ⟨0, 0, 0⟩ := by
  refine ⟨by simp [has12, hasByte], ?_, by simp [has12, hasByte], ?_, h, h, h⟩ <;>
  · cases line with
    | nil => simp [hasD2]
    | cons x t => simp [hasD2]

theorem has12_slice {line : List UInt8} {c e : Nat}
    (hc : has12 (line.take c) = false)
    (ht : has12 (tailFrom c (line.take e)) = false) : has12 (line.take e) = false := by
  unfold tailFrom at ht
  refine hasByte_split is12 _ (min c (line.take e).length) ?_ ht
  rw [List.take_take]
  exact hasByte_take_mono is12 line (by omega) hc

theorem hasD2_slice {line : List UInt8} {c e : Nat}
    (hc : hasD2 (line.take (c + 1)) = false)
    (ht : hasD2 (tailFrom c (line.take e)) = false) : hasD2 (line.take e) = false := by
  unfold tailFrom at ht
  refine hasD2_split _ (min c (line.take e).length) ?_ ht
  rw [List.take_take]
  exact hasD2_take_mono line (by omega) hc

/-- one call of `ezcheck_slice` for a row with `range_regex.start = 0` (so `slice_ = line[0..e)`):
the invariant is kept, and a skip means the slice lacks what the row's flags promise -/
theorem ezcheckSlice_step {line : List UInt8} {d : RowInfo} {cur : Cur} {e : Nat}
    (hs : d.rangeStart = 0) (he0 : 0 < e) (he : e ≤ line.length) (inv : Inv line cur) :
    Inv line (ezcheckSlice d (line.take e) 1 cur).2 ∧
    ((ezcheckSlice d (line.take e) 1 cur).1 = true →
      (d.hasYear4 = true ∧ has12 (line.take e) = false) ∨ (d.hasD2 = true ∧ hasD2 (line.take e) = false)) := by
  have hlen : (line.take e).length = e := by simp [List.length_take]; omega
  cases hy : d.hasYear4 <;> cases hd : d.hasD2
  · simp [ezcheckSlice, hy, hd, inv]
  · -- EZCHECKD2
    simp only [ezcheckSlice, hy, hd, sliceContainsD2_eq, hs, hlen]
    cases ht : hasD2 (tailFrom cur.cd2 (line.take e))
    · have hcl := hasD2_slice inv.hd2 ht
      simp only [Bool.not_false, ne_eq, not_true_eq_false, ↓reduceIte, true_and]
      refine ⟨?_, fun _ => by simp [hcl]⟩
      split
      · refine { inv with hd2 := ?_, ld2 := ?_ }
        · show hasD2 (line.take (e - 1 + 1)) = false
          rw [Nat.sub_add_cancel he0]; exact hcl
        · show e - 1 < line.length
          omega
      · exact inv
    · simp [inv]
  · -- EZCHECK12
    simp only [ezcheckSlice, hy, hd, sliceContainsX2_12, hs, hlen]
    cases ht : has12 (tailFrom cur.c12 (line.take e))
    · have hcl := has12_slice inv.h12 ht
      simp only [Bool.not_false, ne_eq, not_true_eq_false, ↓reduceIte, true_and]
      refine ⟨?_, fun _ => by simp [hcl]⟩
      split
      · refine { inv with h12 := ?_, l12 := ?_ }
        · show has12 (line.take (e - 1)) = false
          exact hasByte_take_mono is12 line (by omega) hcl
        · show e - 1 < line.length
          omega
      · exact inv
    · simp [inv]
  · -- EZCHECK12D2
    simp only [ezcheckSlice, hy, hd, sliceContains12D2_eq, hs, hlen]
    cases ht1 : has12 (tailFrom cur.c12d2 (line.take e)) <;>
      cases ht2 : hasD2 (tailFrom cur.c12d2 (line.take e))
    · have hcl1 := has12_slice inv.hb12 ht1
      have hcl2 := hasD2_slice inv.hbd2 ht2
      simp only [Bool.or_false, Bool.not_false, ne_eq, not_true_eq_false, ↓reduceIte, true_and]
      refine ⟨?_, fun _ => by simp [hcl1]⟩
      split
      · refine { inv with hb12 := ?_, hbd2 := ?_, lb := ?_ }
        · show has12 (line.take (e - 1)) = false
          exact hasByte_take_mono is12 line (by omega) hcl1
        · show hasD2 (line.take (e - 1 + 1)) = false
          rw [Nat.sub_add_cancel he0]; exact hcl2
        · show e - 1 < line.length
          omega
      · exact inv
    · simp [inv]
    · simp [inv]
    · simp [inv]

/-- the abstract matcher respects the flags: a `Some` result needs what EZCHECK looks for -/
def Respects {α : Type} (info : Nat → RowInfo) (mt : Nat → List UInt8 → Option α) : Prop :=
  ∀ i s x, mt i s = some x →
    ((info i).hasYear4 = true → has12 s = true) ∧ ((info i).hasD2 = true → hasD2 s = true)

theorem findLoop_eq_plain {α : Type} (info : Nat → RowInfo) (mt : Nat → List UInt8 → Option α)
    (hR : Respects info mt) (line : List UInt8) (charsz : Nat) (hl : 0 < line.length) :
    ∀ (idxs : List Nat) (cur : Cur), (∀ i ∈ idxs, (info i).rangeStart = 0) → Inv line cur →
      findLoop info mt line charsz idxs cur = findLoopPlain info mt line idxs := by
  intro idxs
  induction idxs with
  | nil => intros; rfl
  | cons i rest ih =>
    intro cur hstart inv
    have hs : (info i).rangeStart = 0 := hstart i (by simp)
    have hrest : ∀ j ∈ rest, (info j).rangeStart = 0 := fun j hj => hstart j (by simp [hj])
    have n0 : ¬ line.length ≤ 0 := by omega
    have n1 : ¬ line.length ≤ cur.c12 := by have := inv.l12; omega
    have n2 : ¬ line.length ≤ cur.cd2 := by have := inv.ld2; omega
    have n3 : ¬ line.length ≤ cur.c12d2 := by have := inv.lb; omega
    simp only [findLoop, findLoopPlain, hs, n0, n1, n2, n3, ↓reduceIte, ge_iff_le, Nat.le_zero_eq]
    -- `e`: where the row's slice ends
    have hle : min line.length (info i).rangeEnd ≤ line.length := Nat.min_le_left _ _
    generalize min line.length (info i).rangeEnd = e at hle ⊢
    by_cases he : e = 0
    · simp only [he, ↓reduceIte]
      exact ih cur hrest inv
    · simp only [he, ↓reduceIte]
      rw [show lineSlice line 0 e = line.take e by simp [lineSlice]]
      by_cases hc : charsz = 1
      · subst hc
        simp only [↓reduceIte]
        obtain ⟨inv', hskip⟩ := ezcheckSlice_step (d := info i) (cur := cur) hs (by omega) hle inv
        cases hez : (ezcheckSlice (info i) (line.take e) 1 cur).1
        · simp only [Bool.false_eq_true, ↓reduceIte]
          cases hm : mt i (line.take e) with
          | none => exact ih _ hrest inv'
          | some x => rfl
        · simp only [↓reduceIte]
          -- a skipped row would not have matched: a match needs what the skip found missing
          have hnone : mt i (line.take e) = none := by
            cases hm : mt i (line.take e) with
            | none => rfl
            | some x =>
              obtain ⟨r1, r2⟩ := hR i _ x hm
              rcases hskip hez with ⟨hy, hf⟩ | ⟨hd, hf⟩
              · rw [r1 hy] at hf; cases hf
              · rw [r2 hd] at hf; cases hf
          rw [hnone]
          exact ih _ hrest inv'
      · simp only [hc, ↓reduceIte, Bool.false_eq_true]
        cases hm : mt i (line.take e) with
        | none => exact ih _ hrest inv
        | some x => rfl

theorem findLoop_nil_line {α : Type} (info : Nat → RowInfo) (mt : Nat → List UInt8 → Option α)
    (charsz : Nat) (idxs : List Nat) (cur : Cur) :
    findLoop info mt [] charsz idxs cur = none := by
  induction idxs with
  | nil => rfl
  | cons i rest ih => simp [findLoop, ih]

theorem findLoopPlain_nil_line {α : Type} (info : Nat → RowInfo) (mt : Nat → List UInt8 → Option α)
    (idxs : List Nat) : findLoopPlain info mt [] idxs = none := by
  induction idxs with
  | nil => rfl
  | cons i rest ih => simp [findLoopPlain, ih]

/-- with every listed row starting its slice at 0, the EZCHECKs never change the answer -/
theorem findDatetimeInLine_eq_plain {α : Type} (strMin : Nat) (info : Nat → RowInfo)
    (mt : Nat → List UInt8 → Option α) (hR : Respects info mt) (line : List UInt8) (charsz : Nat)
    (idxs : List Nat) (hstart : ∀ i ∈ idxs, (info i).rangeStart = 0) :
    findDatetimeInLine strMin info mt line charsz idxs = findDatetimeInLinePlain strMin info mt line idxs := by
  unfold findDatetimeInLine findDatetimeInLinePlain
  split
  · rfl
  · cases line with
    | nil => rw [findLoop_nil_line, findLoopPlain_nil_line]
    | cons x t =>
      exact findLoop_eq_plain info mt hR (x :: t) charsz (by simp) idxs _ hstart (inv_init (by simp))

end S4V.Lemmas.EzLoop
