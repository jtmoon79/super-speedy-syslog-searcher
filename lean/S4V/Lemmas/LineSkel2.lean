/-
Lemmas for `S4V.Props.LineSkel2Spec`: the interpreter of the regenerated `find_line_in_block`
(`S4V.Model.LineSkel2` on `S4V.Gen.Lines2`) against the hand models. The proofs unfold every generated
section, so a source edit that regenerates a different statement breaks them.
-/
import S4V.Lemmas.LineSkel
import S4V.Model.LineSkel2

namespace S4V.Lemmas.LineSkel2
open S4V.Gen.Blocks S4V.Model.Lines S4V.Model.LinesCached S4V.Model.LineSkel S4V.Gen.Lines S4V.Lemmas.Lines
  S4V.Lemmas.Blocks S4V.Lemmas.LineSkel S4V.Model.LineSkel2 S4V.Gen.Lines2

open Lean.Parser.Tactic in
/-- run both interpreters on the sections named (the sections not yet named stay folded, so a pass does not
walk through them), with extra facts -/
local macro "ibs" "[" ts:simpLemma,* "]" : tactic =>
  `(tactic| interp [List.cons_append, List.nil_append, execIBL, execIB, BExprIB.eval,
    Bool.and_true, Bool.and_false, Bool.xor_true, Bool.xor_false,
    Bool.true_xor, Bool.false_xor, $ts,*])

/-- a test decided both ways at once: as the interpreter's `==` and as the hand model's `=`, each a rewrite rule -/
theorem split_eq (a b : Nat) :
    ((a == b) = true ∧ (a = b) = True) ∨ ((a == b) = false ∧ (a = b) = False) := by
  by_cases h : a = b
  · exact Or.inl ⟨by simpa using h, eq_true h⟩
  · exact Or.inr ⟨by simpa using h, eq_false h⟩

/-- `findLineInBlockCached` once nothing is cached and B1 has answered `(foundB, foNlB, biMEnd)` -/
def partAIBCached (bs : Nat) (d : Bytes) (s : Store) (fo : Nat) (foundB : Bool) (foNlB biMEnd : Nat) :
    GResIB × Store :=
  if fo = 0 ∨ (foundB = true ∧ ((linesGet s.lines (fo - 1)).isSome = true ∨ (getLinep s (fo - 1)).isSome = true)) then
    let line := [ofPart bs ⟨fo / bs, fo % bs, biMEnd + 1⟩]
    if foundB = false then (.part line, s)
    else
      let beg := gLineFoBeg line
      let fin := gLineFoEnd line
      let s1 := insertLine s beg fin
      (.res (.found (foNlB + 1) beg fin line), { s1 with lru := lruPut s1.lru fo (.found (foNlB + 1) beg fin) })
  else (liftIB bs (partAIB d bs fo foundB foNlB biMEnd), s)

theorem execIBL_retFound_twice (env : Env) (c : BExpr) (e : Expr) (S : StIB) :
    execIBL env [.s (.ite c [.retFound e] []), .s (.retFound e)] S = execIBL env [.s (.retFound e)] S := by
  by_cases h : c.eval env S.base = true <;>
    simp only [execIBL, execIB, exec, execL, h, ↓reduceIte, Bool.false_eq_true]

theorem exec_partA2D (env : Env) (S : StIB) (fo : Nat) (hfo : fo < env.d.length) (hz : fo ≠ 0)
    (hf : S.base.fileoffset = fo) (h1f : S.base.charszFo = 1) (h1b : S.base.charszBi = 1)
    (hnA : S.base.foundNlA = false) (hline : S.base.line = [])
    (hbo : S.base.boMiddle = fo / env.bs) (hbm : S.base.bMiddle = fo / env.bs)
    (hp : S.partialLine = !S.base.foundNlB) :
    (match execIBL env (S4V.Gen.Lines2.partA2 ++ S4V.Gen.Lines2.partD) S with
      | .ret r st => (r, st.base.store)
      | .norm st => (.res .fell, st.base.store)) =
      (liftIB env.bs (partAIB env.d env.bs fo S.base.foundNlB S.base.foNlB S.base.biMiddleEnd), S.base.store) := by
  have hzp := eq_false hz
  have hmax : max fo 1 = fo := Nat.max_eq_left (by omega)
  have hbw : (fo - 1) % env.bs < env.d.length + 1 := by have := Nat.mod_le (fo - 1) env.bs; omega
  rcases split_eq ((fo - 1) / env.bs) (fo / env.bs) with ⟨hb, hbp⟩ | ⟨hb, hbp⟩
  · ibs [S4V.Gen.Lines2.partA2, S4V.Gen.Lines2.partD, ↓execIBL_retFound_twice, partAIB, liftIB, ofPart, ne_eq,
      not_true_eq_false, not_false_eq_true,
      hf, h1f, h1b, hnA, hbo, hbm, hp, hline, hzp, hmax, bne, hb, hbp]
    simp only [scanBwdG_eq _ _ _ hbw]
    rcases hsb : scanBwd (blockAt env.d env.bs (fo / env.bs)) ((fo - 1) % env.bs) with _ | i
    · -- no newline before `fo` in its block: the line begins here only in block 0
      rcases split_eq ((fo - 1) / env.bs) 0 with ⟨hb0, hb0p⟩ | ⟨hb0, hb0p⟩
      · have hq0 : fo / env.bs = 0 := (of_eq_true hbp).symm.trans (of_eq_true hb0p)
        rcases Bool.eq_false_or_eq_true S.base.foundNlB with hB | hB
        all_goals (
          simp only [hb0, hb0p, hB, ↓reduceIte, Bool.false_eq_true, Bool.not_false, Bool.not_true,
            Bool.and_self]
          simp [ofPart, fileOffsetAtBlockOffsetIndex_eq, hq0])
      · simp only [hb0, hb0p, ↓reduceIte, Bool.false_eq_true, Bool.not_false, Bool.and_false]
    · rcases split_eq ((fo - 1) / env.bs) 0 with ⟨hb0, hb0p⟩ | ⟨hb0, hb0p⟩
      all_goals (
        rcases Bool.eq_false_or_eq_true S.base.foundNlB with hB | hB
        all_goals (
          simp only [hb0, hB, ↓reduceIte, Bool.false_eq_true, Bool.not_false, Bool.not_true,
            Bool.and_true, Bool.and_self]
          simp [ofPart, fileOffsetAtBlockOffsetIndex_eq, Nat.add_assoc]))
  · ibs [S4V.Gen.Lines2.partA2, partAIB, liftIB, ne_eq, not_true_eq_false, not_false_eq_true,
      hf, h1f, h1b, hnA, hbo, hbm, hzp, hmax, bne, hb, hbp]

/-- the registers as B1 leaves them for offset `fo`, whatever it found -/
structure AfterB1 (env : Env) (fo : Nat) (S : StIB) : Prop where
  hf : S.base.fileoffset = fo
  h1f : S.base.charszFo = 1
  h1b : S.base.charszBi = 1
  hfA : S.base.foNlA = fo
  hnA : S.base.foundNlA = (fo == 0)
  hline : S.base.line = []
  hbo : S.base.boMiddle = fo / env.bs
  hbm : S.base.bMiddle = fo / env.bs
  hp : S.partialLine = !S.base.foundNlB

theorem exec_partA (env : Env) (S : StIB) (fo : Nat) (hlru : env.lruOn = true)
    (hfo : fo < env.d.length) (hS : AfterB1 env fo S) :
    (match execIBL env (S4V.Gen.Lines2.partA0 ++ (S4V.Gen.Lines2.asserts ++ (S4V.Gen.Lines2.partA1 ++
        (S4V.Gen.Lines2.partA2 ++ S4V.Gen.Lines2.partD)))) S with
      | .ret r st => (r, st.base.store)
      | .norm st => (.res .fell, st.base.store)) =
      partAIBCached env.bs env.d S.base.store fo S.base.foundNlB S.base.foNlB S.base.biMiddleEnd := by
  obtain ⟨hf, h1f, h1b, hfA, hnA, hline, hbo, hbm, hp⟩ := hS
  by_cases hz : fo = 0
  · subst hz
    have hzb : ((0 : Nat) == 0) = true := rfl
    rcases Bool.eq_false_or_eq_true S.base.foundNlB with hB | hB
    all_goals (
      ibs [S4V.Gen.Lines2.partA0, partAIBCached, hp, hB, hnA, hzb, hf, hfA, h1f, hbm, hline, hlru, ite_self,
        lruPutG_eq, ofPart]
      simp [fileOffsetAtBlockOffsetIndex_eq])
  · have hzb : (fo == 0) = false := by simpa using hz
    have hzp := eq_false hz
    have hge : fo ≥ 1 := by omega
    rcases Bool.eq_false_or_eq_true S.base.foundNlB with hB | hB
    · -- newline B is known: the quick checks A1a / A1b
      rcases Bool.eq_false_or_eq_true ((linesGet S.base.store.lines (fo - 1)).isSome) with hA | hA
      · rcases Bool.eq_false_or_eq_true S.base.nlBEof with hE | hE
        all_goals (
          ibs [S4V.Gen.Lines2.partA0, S4V.Gen.Lines2.asserts, S4V.Gen.Lines2.partA1, partAIBCached,
            hp, hB, hnA, hzb, hzp, hge, hf, h1f, hbm, hline, hlru, hA, hE, lruPutG_eq, ofPart]
          simp [fileOffsetAtBlockOffsetIndex_div_mod])
      · rcases Bool.eq_false_or_eq_true ((getLinep S.base.store (fo - 1)).isSome) with hA2 | hA2
        · rcases Bool.eq_false_or_eq_true S.base.nlBEof with hE | hE
          all_goals (
            ibs [S4V.Gen.Lines2.partA0, S4V.Gen.Lines2.asserts, S4V.Gen.Lines2.partA1, partAIBCached,
              hp, hB, hnA, hzb, hzp, hge, hf, h1f, hbm, hline, hlru, hA, hA2, hE, lruPutG_eq, ofPart]
            simp [fileOffsetAtBlockOffsetIndex_div_mod])
        · ibs [S4V.Gen.Lines2.partA0, S4V.Gen.Lines2.asserts, S4V.Gen.Lines2.partA1, partAIBCached,
            hp, hB, hnA, hzb, hzp, hge, hf, h1f, hA, hA2, or_self, and_false]
          exact exec_partA2D env _ fo hfo hz rfl rfl h1b rfl hline hbo hbm rfl
    · -- a partial line: the quick checks are skipped
      ibs [S4V.Gen.Lines2.partA0, S4V.Gen.Lines2.asserts, S4V.Gen.Lines2.partA1, partAIBCached,
        hp, hB, hnA, hzb, hzp, hge, hf, h1f, false_and, or_self]
      exact exec_partA2D env _ fo hfo hz rfl rfl h1b rfl hline hbo hbm rfl

theorem execIBL_append (env : Env) (a b : List StmtIB) (S : StIB) :
    execIBL env (a ++ b) S = (match execIBL env a S with
      | .norm S' => execIBL env b S'
      | o => o) := by
  induction a generalizing S with
  | nil => simp [execIBL]
  | cons s r ih =>
    simp only [List.cons_append, execIBL]
    cases execIB env s S with
    | norm S' => simp only [ih]
    | ret r' S' => rfl

theorem exec_partB1 (env : Env) (s : Store) (fo : Nat) (hbs : 1 ≤ env.bs) (hfo : fo < env.d.length)
    (hcs : env.checkStore = S4V.Gen.Lines.checkStore) (helru : env.lruOn = true)
    (hlru : lruGet s.lru fo = none) (hl1 : linesGet s.lines fo = none) (hl2 : getLinep s fo = none) :
    ∃ S, execIBL env (S4V.Gen.Lines2.prologue ++ S4V.Gen.Lines2.init ++ S4V.Gen.Lines2.partB1)
        { base := { fileoffset := fo, store := s } } = .norm S ∧ S.base.store = s ∧
      (S.base.foundNlB, S.base.foNlB, S.base.biMiddleEnd) =
        partB1IB env.d env.bs (blockOffsetLast env.d.length env.bs) fo ∧ AfterB1 env fo S := by
  have hn : 0 < env.d.length := by omega
  have hq := Nat.div_add_mod' fo env.bs
  have hr : fo % env.bs < env.bs := Nat.mod_lt _ (by omega)
  have hqlast : fo / env.bs ≤ blockOffsetLast env.d.length env.bs := by
    rw [le_blockOffsetLast_iff _ _ _ hbs hn]; omega
  have hlen := blockAt_length env.d env.bs (fo / env.bs)
  have hi : fo % env.bs < (blockAt env.d env.bs (fo / env.bs)).length := by rw [hlen]; omega
  have hrd : ¬ (fo / env.bs > blockOffsetLast env.d.length env.bs) := by omega
  have h0 : (env.d.length == 0) = false := by simpa using (by omega : env.d.length ≠ 0)
  have hgt : ¬ (fo > env.d.length) := by omega
  have heq : (fo == env.d.length) = false := by simpa using (by omega : fo ≠ env.d.length)
  have hinit : execIBL env (S4V.Gen.Lines2.prologue ++ S4V.Gen.Lines2.init)
      { base := { fileoffset := fo, store := s } } =
      .norm { base := {
        fileoffset := fo, store := s, filesz := env.d.length, charszFo := 1, charszBi := 1,
        boLast := blockOffsetLast env.d.length env.bs, foundNlA := (fo == 0), foNlA := fo, foNlB := fo,
        boMiddle := fo / env.bs, biMiddle := fo % env.bs, biMiddleEnd := fo % env.bs, bMiddle := fo / env.bs,
        reads := [fo / env.bs] } } := by
    rcases Bool.eq_false_or_eq_true (fo == 0) with hzb | hzb
    all_goals ibs [S4V.Gen.Lines2.prologue, S4V.Gen.Lines2.init, CHARSZ, storeCheckG, lookupG, hcs,
      S4V.Gen.Lines.checkStore, helru, hlru, h0, hgt, heq, hrd, hl1, hl2, hzb]
  rw [execIBL_append, hinit]
  ibs [S4V.Gen.Lines2.partB1, partB1IB]
  rw [scanFwdG_blockAt _ _ _ _ hi]
  rcases hscan : scanFwd (blockAt env.d env.bs (fo / env.bs)) (fo % env.bs) with _ | j
  case' none => rcases split_eq (fo / env.bs) (blockOffsetLast env.d.length env.bs) with ⟨hB, hBp⟩ | ⟨hB, hBp⟩
  -- with newline B found, B1 goes on to test whether it is the last byte of the file (the flag `nlBEof`)
  case' some =>
    rcases split_eq (env.d.length - 1) (fileOffsetAtBlockOffsetIndex (fo / env.bs) env.bs j) with ⟨hB, hBp⟩ | ⟨hB, hBp⟩
  all_goals (
    ibs [hB, hBp]
    exact ⟨_, rfl, rfl, rfl, rfl, rfl, rfl, rfl, rfl, rfl, rfl, rfl, rfl⟩)

theorem findLineInBlockCached_walk (bs : Nat) (d : Bytes) (s : Store) (fo : Nat) (hfo : fo < d.length)
    (hlru : lruGet s.lru fo = none) (hl1 : linesGet s.lines fo = none) (hl2 : getLinep s fo = none) :
    findLineInBlockCached bs d s fo = partAIBCached bs d s fo
      (partB1IB d bs (blockOffsetLast d.length bs) fo).1 (partB1IB d bs (blockOffsetLast d.length bs) fo).2.1
      (partB1IB d bs (blockOffsetLast d.length bs) fo).2.2 := by
  have hnot : ¬ (d.length = 0 ∨ fo ≥ d.length) := by omega
  simp only [findLineInBlockCached, partAIBCached, hlru, hl1, hl2, hnot, ↓reduceIte]

theorem findLineInBlockG_walk (bs : Nat) (d : Bytes) (s : Store) (fo : Nat) (hbs : 1 ≤ bs) (hfo : fo < d.length)
    (hlru : lruGet s.lru fo = none) (hl1 : linesGet s.lines fo = none) (hl2 : getLinep s fo = none) :
    (findLineInBlockG bs d s fo).1 = (findLineInBlockCached bs d s fo).1 ∧
      (findLineInBlockG bs d s fo).2.1 = (findLineInBlockCached bs d s fo).2 := by
  obtain ⟨S, hS, hst, hB1, hreg⟩ :=
    exec_partB1 { bs := bs, d := d, checkStore := S4V.Gen.Lines.checkStore } s fo hbs hfo rfl rfl hlru hl1 hl2
  have hA := exec_partA _ S fo rfl hfo hreg
  have hprog : S4V.Gen.Lines2.findLineInBlock = (S4V.Gen.Lines2.prologue ++ S4V.Gen.Lines2.init ++
      S4V.Gen.Lines2.partB1) ++ (S4V.Gen.Lines2.partA0 ++ (S4V.Gen.Lines2.asserts ++ (S4V.Gen.Lines2.partA1 ++
      (S4V.Gen.Lines2.partA2 ++ S4V.Gen.Lines2.partD)))) := by
    simp only [S4V.Gen.Lines2.findLineInBlock, List.append_assoc]
  unfold findLineInBlockG runFindIB
  rw [hprog, execIBL_append, hS, findLineInBlockCached_walk bs d s fo hfo hlru hl1 hl2, ← hB1, ← hst, ← hA]
  simp only []
  cases execIBL _ _ S <;> exact ⟨rfl, rfl⟩

theorem findLineInBlockG_nowalk (bs : Nat) (d : Bytes) (s : Store) (fo : Nat)
    (h : lruGet s.lru fo ≠ none ∨ d.length = 0 ∨ fo ≥ d.length ∨ linesGet s.lines fo ≠ none ∨ getLinep s fo ≠ none) :
    findLineInBlockG bs d s fo = ((findLineInBlockCached bs d s fo).1, (findLineInBlockCached bs d s fo).2, []) := by
  unfold findLineInBlockG runFindIB findLineInBlockCached
  ibs [S4V.Gen.Lines2.findLineInBlock, S4V.Gen.Lines2.prologue, S4V.Gen.Lines.checkStore, storeCheckG, lookupG, CHARSZ,
    lruPutG_eq]
  rcases hl : lruGet s.lru fo with _ | r
  · simp only []
    by_cases hd0 : d.length = 0
    · simp only [hd0, beq_self_eq_true, true_or, ↓reduceIte]
    · have h0 : (d.length == 0) = false := by simpa using hd0
      by_cases hgt : fo > d.length
      · simp only [h0, hgt, hd0, Nat.le_of_lt hgt, or_true, decide_true, Bool.false_eq_true, ↓reduceIte]
      · by_cases heq' : fo = d.length
        · simp only [h0, hd0, heq', Nat.lt_irrefl, Nat.le_refl, ge_iff_le, or_true, decide_false, beq_self_eq_true,
            Bool.false_eq_true, ↓reduceIte]
        · have heq : (fo == d.length) = false := by simpa using heq'
          have hnot : ¬ (d.length = 0 ∨ fo ≥ d.length) := by omega
          simp only [h0, hgt, heq, hnot, decide_false, Bool.false_eq_true, ↓reduceIte]
          rcases hl1 : linesGet s.lines fo with _ | ⟨b, e⟩
          · rcases hl2 : getLinep s fo with _ | ⟨b, e⟩
            · exfalso
              rcases h with h | h | h | h | h
              · exact h hl
              · exact hd0 h
              · omega
              · exact h hl1
              · exact h hl2
            · rfl
          · rfl
  · rfl

theorem findLineInBlockG_eq (bs : Nat) (d : Bytes) (s : Store) (fo : Nat) (hbs : 1 ≤ bs) :
    (findLineInBlockG bs d s fo).1 = (findLineInBlockCached bs d s fo).1 ∧
      (findLineInBlockG bs d s fo).2.1 = (findLineInBlockCached bs d s fo).2 := by
  by_cases hw : lruGet s.lru fo ≠ none ∨ d.length = 0 ∨ fo ≥ d.length ∨ linesGet s.lines fo ≠ none ∨
      getLinep s fo ≠ none
  · rw [findLineInBlockG_nowalk bs d s fo hw]; exact ⟨rfl, rfl⟩
  · simp only [not_or, ne_eq, Decidable.not_not] at hw
    obtain ⟨hlru, hd0, hfo, hl, hg⟩ := hw
    exact findLineInBlockG_walk bs d s fo hbs (by omega) hlru hl hg

theorem findLineInBlockCached_empty (bs : Nat) (d : Bytes) (fo : Nat) :
    (findLineInBlockCached bs d empty fo).1 = liftIB bs (Model.Lines.findLineInBlock bs d fo) := by
  unfold findLineInBlockCached Model.Lines.findLineInBlock
  have h1 : lruGet empty.lru fo = none := rfl
  have h2 : linesGet empty.lines fo = none := rfl
  have h3 : getLinep empty fo = none := rfl
  have h4 : (linesGet empty.lines (fo - 1)).isSome = false := rfl
  have h5 : (getLinep empty (fo - 1)).isSome = false := rfl
  simp only [h1, h2, h3, h4, h5]
  by_cases hd : d.length = 0 ∨ fo ≥ d.length
  · simp only [hd, ↓reduceIte, liftIB]
  · simp only [hd, ↓reduceIte]
    by_cases hz : fo = 0
    · subst hz
      simp only [partAIB, liftIB, ↓reduceIte, true_or, blockOffsetAtFileOffset_eq, blockIndexAtFileOffset_eq]
      rcases hb : (partB1IB d bs (blockOffsetLast d.length bs) 0).1 <;> simp
    · simp [hz]

end S4V.Lemmas.LineSkel2
