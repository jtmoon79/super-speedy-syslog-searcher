/-
General lemmas about the render-program interpreter `S4V.Model.FixedRender` (no generated table is
unfolded here; the per-layout facts are decided in `S4V.Props.FixedRenderSpec`).
-/
import S4V.Model.FixedRender

namespace S4V.Lemmas.FixedRender
open S4V.Gen.Fixed (Prim)
open S4V.Gen.FixedRender
open S4V.Model.Fixed (Bytes leNat ofStored slice)
open S4V.Model.FixedRender

/-- ranges are `(offset, size)` -/
def opReads : Op → List (Nat × Nat)
  | .utType f _ => [(f.off, f.prim.bytes)]
  | .num f _ => [(f.off, f.prim.bytes)]
  | .f32 _ _ off => [(off, 4)]
  | .bin4 f => [(f.off, 1)]
  | .flagNames f _ _ _ => [(f.off, 1)]
  | .cstrn _ _ off len _ => [(off, len)]
  | .addr _ _ off _ _ _ => [(off, 16)]
  | _ => []

def opTops : Op → List Nat
  | .utType f _ => [f.top]
  | .num f _ => [f.top]
  | .f32 _ top _ => [top]
  | .bin4 f => [f.top]
  | .flagNames f _ _ _ => [f.top]
  | .cstrn _ top _ _ _ => [top]
  | .addr _ top _ _ _ _ => [top]
  | _ => []

def AgreeOn (ranges : List (Nat × Nat)) (r r' : Bytes) : Prop :=
  ∀ p ∈ ranges, ∀ i, p.1 ≤ i → i < p.1 + p.2 → r[i]? = r'[i]?

theorem getElem?_slice (r : Bytes) (off n i : Nat) :
    (slice r off n)[i]? = if i < n then r[off + i]? else none := by
  unfold slice
  rw [List.getElem?_take]
  split
  · rw [List.getElem?_drop]
  · rfl

theorem slice_congr {r r' : Bytes} {off n : Nat}
    (h : ∀ i, off ≤ i → i < off + n → r[i]? = r'[i]?) : slice r off n = slice r' off n := by
  apply List.ext_getElem?
  intro i
  rw [getElem?_slice, getElem?_slice]
  split
  · exact h (off + i) (by omega) (by omega)
  · rfl

theorem slice_congr_sub {r r' : Bytes} {a n b m : Nat}
    (h : ∀ i, a ≤ i → i < a + n → r[i]? = r'[i]?) (h1 : a ≤ b) (h2 : b + m ≤ a + n) :
    slice r b m = slice r' b m :=
  slice_congr fun i hi hj => h i (by omega) (by omega)

theorem storedAt_congr {r r' : Bytes} {off n : Nat} (h : slice r off n = slice r' off n) :
    storedAt r off n = storedAt r' off n := by
  unfold storedAt; rw [h]

theorem emit_congr {r r' : Bytes} (op : Op) (h : AgreeOn (opReads op) r r') : emit r op = emit r' op := by
  cases op
  case addr p t off w l4 l6 =>
    -- the four bytes and the four words all lie inside the 16 bytes read
    have e : ∀ b m, off ≤ b → b + m ≤ off + 16 → slice r b m = slice r' b m :=
      fun b m h1 h2 => slice_congr_sub (h (off, 16) (List.mem_singleton.mpr rfl)) h1 h2
    simp (disch := omega) only [emit, addrIsV4, ipv4Text, ipv6Text, storedAt, e]
    rfl
  case str | byte | dtBeg | dtEnd => rfl
  -- the other ops read one range
  all_goals simp only [emit, fieldInt, storedAt, cstrText, slice_congr (h _ (List.mem_singleton.mpr rfl))]

theorem agreeOn_append {a b : List (Nat × Nat)} {r r' : Bytes} (h : AgreeOn (a ++ b) r r') :
    AgreeOn a r r' ∧ AgreeOn b r r' :=
  ⟨fun p hp => h p (List.mem_append_left _ hp), fun p hp => h p (List.mem_append_right _ hp)⟩

theorem progText_cons (r : Bytes) (op : Op) (ops : List Op) : progText r (op :: ops) = emit r op ++ progText r ops := rfl

theorem progText_congr {r r' : Bytes} (ops : List Op) (h : AgreeOn (ops.flatMap opReads) r r') :
    progText r ops = progText r' ops := by
  induction ops with
  | nil => rfl
  | cons op rest ih =>
    rw [List.flatMap_cons] at h
    rw [progText_cons, progText_cons, emit_congr op (agreeOn_append h).1, ih (agreeOn_append h).2]

theorem render_congr {r r' : Bytes} (l : LayoutR) (h : AgreeOn (l.prog.flatMap opReads) r r') :
    render l r = render l r' := by
  unfold render; rw [progText_congr l.prog h]

def covers (big small : List (Nat × Nat)) : Bool :=
  small.all fun s => big.any fun b => decide (b.1 ≤ s.1) && decide (s.1 + s.2 ≤ b.1 + b.2)

theorem agreeOn_of_covers {big small : List (Nat × Nat)} {r r' : Bytes}
    (hc : covers big small = true) (h : AgreeOn big r r') : AgreeOn small r r' := by
  intro p hp i h1 h2
  have := List.all_eq_true.mp hc p hp
  obtain ⟨b, hb, hbb⟩ := List.any_eq_true.mp this
  simp only [Bool.and_eq_true, decide_eq_true_eq] at hbb
  exact h b hb i (by omega) (by omega)

inductive Kind
  /-- a fixed string of the program -/
  | lit
  /-- the text of a field's value -/
  | val
  /-- continuation of the preceding value (the flag names after the `0b…` bits of the same byte) -/
  | cont
  deriving DecidableEq, Repr

def kinds : Op → List Kind
  | .str _ => [.lit]
  | .byte _ => [.lit]
  | .dtBeg => []
  | .dtEnd => []
  | .flagNames _ _ _ _ => [.cont]
  | .addr _ _ _ _ _ _ => [.lit, .val]
  | _ => [.val]

def pieces (r : Bytes) : Op → List (Kind × Bytes)
  | .str s => [(.lit, s)]
  | .byte b => [(.lit, [b])]
  | .dtBeg => []
  | .dtEnd => []
  | .flagNames f o n c => [(.cont, emit r (.flagNames f o n c))]
  | .addr _ _ off _ l4 l6 =>
    if addrIsV4 r off then [(.lit, l4), (.val, ipv4Text r off)] else [(.lit, l6), (.val, ipv6Text r off)]
  | op => [(.val, emit r op)]

theorem pieces_text (r : Bytes) (op : Op) : (pieces r op).flatMap (·.2) = emit r op := by
  cases op <;> simp [pieces, emit]
  case addr p t off w l4 l6 => split <;> simp

theorem pieces_kinds (r : Bytes) (op : Op) : (pieces r op).map (·.1) = kinds op := by
  cases op <;> simp [pieces, kinds]
  case addr p t off w l4 l6 => split <;> simp

def progPieces (r : Bytes) (ops : List Op) : List (Kind × Bytes) := ops.flatMap (pieces r)

theorem progPieces_text (r : Bytes) (ops : List Op) : (progPieces r ops).flatMap (·.2) = progText r ops := by
  induction ops with
  | nil => rfl
  | cons op rest ih =>
    simp only [progPieces, progText, List.flatMap_cons, List.flatMap_append] at ih ⊢
    rw [pieces_text, ih]

theorem progPieces_kinds (r : Bytes) (ops : List Op) : (progPieces r ops).map (·.1) = ops.flatMap kinds := by
  induction ops with
  | nil => rfl
  | cons op rest ih =>
    simp only [progPieces, List.flatMap_cons, List.map_append] at ih ⊢
    rw [pieces_kinds, ih]

def wellLabelled : Option Kind → List Kind → Bool
  | _, [] => true
  | _, .lit :: ks => wellLabelled (some .lit) ks
  | prev, .val :: ks => (prev == some .lit) && wellLabelled (some .val) ks
  | prev, .cont :: ks => (prev == some .val) && wellLabelled (some .cont) ks

/-- a label is a maximal run of literal ops, merged; an address block has two, of which a record shows one -/
def labelsAux : Bytes → List Op → List Bytes
  | cur, [] => if cur = [] then [] else [cur]
  | cur, .str s :: r => labelsAux (cur ++ s) r
  | cur, .byte b :: r => labelsAux (cur ++ [b]) r
  | cur, .dtBeg :: r => labelsAux cur r
  | cur, .dtEnd :: r => labelsAux cur r
  | cur, .addr _ _ _ _ l4 l6 :: r => (if cur = [] then [] else [cur]) ++ [l4, l6] ++ labelsAux [] r
  | cur, _ :: r => (if cur = [] then [] else [cur]) ++ labelsAux [] r

def labels (ops : List Op) : List Bytes := labelsAux [] ops

def litsNonEmpty (ops : List Op) : Bool :=
  ops.all fun
    | .str s => !s.isEmpty
    | .addr _ _ _ _ l4 l6 => !l4.isEmpty && !l6.isEmpty
    | _ => true

theorem lit_pieces_ne_nil {r : Bytes} {ops : List Op} (h : litsNonEmpty ops = true) :
    ∀ p ∈ progPieces r ops, p.1 = .lit → p.2 ≠ [] := by
  intro p hp hk
  obtain ⟨op, hop, hpo⟩ := List.mem_flatMap.mp hp
  have hne := List.all_eq_true.mp h op hop
  cases op <;> simp [pieces] at hpo
  case str s => subst hpo; simpa using hne
  case byte => subst hpo; exact List.cons_ne_nil _ _
  case addr =>
    simp only [Bool.and_eq_true, Bool.not_eq_true', List.isEmpty_eq_false_iff] at hne
    split at hpo <;> simp at hpo
    · rcases hpo with rfl | rfl
      · exact hne.1
      · cases hk
    · rcases hpo with rfl | rfl
      · exact hne.2
      · cases hk
  -- the pieces of the other ops are values
  all_goals subst hpo; cases hk

theorem digitChar_toNat : ∀ d, d < 10 → (digitChar d).toNat = 48 + d := by decide

def valOf (bs : Bytes) : Nat := bs.foldl (fun a b => 10 * a + (b.toNat - 48)) 0

theorem valOf_append_single (xs : Bytes) (b : UInt8) : valOf (xs ++ [b]) = 10 * valOf xs + (b.toNat - 48) := by
  simp [valOf, List.foldl_append]

theorem valOf_decFuel : ∀ (fuel n : Nat), n < fuel → valOf (decFuel fuel n) = n := by
  intro fuel
  induction fuel with
  | zero => intro n h; omega
  | succ f ih =>
    intro n h
    unfold decFuel
    split
    · next h10 => simp [valOf, digitChar_toNat n h10]
    · next h10 =>
      rw [valOf_append_single, ih (n / 10) (by omega), digitChar_toNat _ (Nat.mod_lt _ (by omega))]
      omega

theorem valOf_decNat (n : Nat) : valOf (decNat n) = n := valOf_decFuel (n + 1) n (by omega)

theorem decNat_injective {a b : Nat} (h : decNat a = decNat b) : a = b := by
  have := congrArg valOf h
  rwa [valOf_decNat, valOf_decNat] at this

theorem decFuel_digits : ∀ (fuel n : Nat), ∀ c ∈ decFuel fuel n, 48 ≤ c.toNat ∧ c.toNat ≤ 57 := by
  intro fuel
  induction fuel with
  | zero => intro n c h; simp [decFuel] at h
  | succ f ih =>
    intro n c h
    unfold decFuel at h
    split at h
    · next h10 =>
      simp only [List.mem_singleton] at h
      subst h; rw [digitChar_toNat n h10]; omega
    · next h10 =>
      rcases List.mem_append.mp h with h | h
      · exact ih _ c h
      · simp only [List.mem_singleton] at h
        subst h; rw [digitChar_toNat _ (Nat.mod_lt _ (by omega))]
        have := Nat.mod_lt n (show 10 > 0 by omega); omega

theorem decNat_ne_nil (n : Nat) : decNat n ≠ [] := by
  unfold decNat decFuel
  split
  · simp
  · simp

theorem decNat_head_ne_minus (n : Nat) : ∀ t, decNat n ≠ 45 :: t := by
  intro t h
  have := decFuel_digits (n + 1) n 45 (by unfold decNat at h; rw [h]; simp)
  simp at this

theorem decInt_injective {a b : Int} (h : decInt a = decInt b) : a = b := by
  unfold decInt at h
  split at h <;> split at h
  · have := decNat_injective (List.cons.inj h).2; omega
  · exact absurd h.symm (decNat_head_ne_minus _ _)
  · exact absurd h (decNat_head_ne_minus _ _)
  · have := decNat_injective h; omega

theorem leNat_lt : ∀ (bs : Bytes), leNat bs < 256 ^ bs.length := by
  intro bs
  induction bs with
  | nil => simp [leNat]
  | cons b r ih =>
    simp only [leNat, List.length_cons, Nat.pow_succ]
    have := b.toNat_lt
    omega

theorem leNat_injective : ∀ (a b : Bytes), a.length = b.length → leNat a = leNat b → a = b := by
  intro a
  induction a with
  | nil => intro b hl _; cases b with
    | nil => rfl
    | cons _ _ => simp at hl
  | cons x xs ih =>
    intro b hl h
    cases b with
    | nil => simp at hl
    | cons y ys =>
      simp only [leNat] at h
      have hx := x.toNat_lt
      have hy := y.toNat_lt
      have h1 : x.toNat = y.toNat := by omega
      have h2 : leNat xs = leNat ys := by omega
      have := ih ys (by simpa using hl) h2
      rw [this, UInt8.toNat_inj.mp h1]

theorem progText_append (r : Bytes) (a b : List Op) : progText r (a ++ b) = progText r a ++ progText r b := by
  simp [progText, List.flatMap_append]

theorem render_ne_of_mid {l : LayoutR} {pre post : List Op} {op : Op} {r r' : Bytes}
    (hp : l.prog = pre ++ op :: post)
    (hpre : AgreeOn (pre.flatMap opReads) r r') (hpost : AgreeOn (post.flatMap opReads) r r')
    (hne : emit r op ≠ emit r' op) : render l r ≠ render l r' := by
  intro h
  unfold render at h
  rw [hp, progText_append, progText_append, progText_cons, progText_cons, progText_congr pre hpre,
    progText_congr post hpost] at h
  exact hne (List.append_cancel_right (List.append_cancel_left (List.append_cancel_right h)))

end S4V.Lemmas.FixedRender
