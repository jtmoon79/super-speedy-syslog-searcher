/-
Lemmas about the acceptance gate model (`S4V.Model.Gate`). The line search and the sysline search are related
to two counts taken on the file itself, `lc` (lines starting inside block zero) and `acc` (`P`-accepted lines
lying inside block zero): each answer of a search says how the count moves, each loop returns the count up to
its threshold, hence the verdict is `gateSpec`. Also: a parser that accepts nothing, fuel sufficiency of the
loops, block sizes that hold the whole file.
Every round of every loop moves its offset forward by at least one byte (`findLineInBlock_found_lt`) and none goes
on past `|d|`, so a loop at offset `fo` needs at most `|d| + 1 - fo` rounds: this is the side condition
`d.length + 1 ≤ fuel + fo` of the statements below, which the model's own fuel `|d| + 1` meets from offset 0.
-/
import S4V.Lemmas.Lines
import S4V.Model.Gate

namespace S4V.Lemmas.Gate
open S4V.Gen.Blocks S4V.Model.Lines S4V.Model.Gate S4V.Lemmas.Blocks S4V.Lemmas.Lines

/-- the bytes of the line that starts at offset `s` (newline included) -/
def lineFrom (d : Bytes) (s : Nat) : Bytes := (d.drop s).take (lineEnd d s + 1 - s)

theorem take_min_length (d : Bytes) (a b : Nat) : d.take (min a (min b d.length)) = d.take (min a b) := by
  rw [List.take_eq_take_min, List.take_eq_take_min (i := min a b)]
  simp only [Nat.min_assoc, Nat.min_self]

theorem blockAt_zero (d : Bytes) (bs : Nat) : blockAt d bs 0 = d.take bs := by
  simp only [blockAt, Nat.zero_mul, List.drop_zero]

theorem bo_eq_zero_iff {fo bs : Nat} (hbs : 1 ≤ bs) : blockOffsetAtFileOffset fo bs = 0 ↔ fo < bs := by
  rw [blockOffsetAtFileOffset_eq, Nat.div_eq_zero_iff]; omega

theorem findLineInBlock_found_lt (bs : Nat) (d : Bytes) (fo n : Nat) (parts : List Part)
    (hbs : 1 ≤ bs) (h : findLineInBlock bs d fo = .found n parts) :
    fo < d.length ∧ fo < n ∧ n ≤ d.length ∧ n = lineEnd d fo + 1 := by
  have hf := findLineInBlock_found bs d fo n parts hbs h
  obtain ⟨e1, e2, _⟩ := isLineEnd_lineEnd d fo hf.inFile
  exact ⟨hf.inFile, by have := hf.next; omega, by have := hf.next; omega, hf.next⟩

theorem findLineInBlock_block0 (bs : Nat) (d : Bytes) (fo : Nat) (hbs : 1 ≤ bs)
    (hfo : fo < d.length) (hE : lineEnd d fo < bs) :
    ∃ parts, findLineInBlock bs d fo = .found (lineEnd d fo + 1) parts ∧
      partsBytes d bs parts
        = (d.drop (lineStart d fo)).take (lineEnd d fo + 1 - lineStart d fo) := by
  have hle := (isLineEnd_lineEnd d fo hfo).le
  have hq : fo / bs = 0 := Nat.div_eq_of_lt (by omega)
  have h := findLineInBlock_eq bs d fo hbs hfo
  rw [if_neg (fun h => h.1 hq), hq, if_pos (by omega)] at h
  exact ⟨_, h, (findLineInBlock_found bs d fo _ _ hbs h).chain.bytes⟩

theorem sibPartB_ne_done (P : Bytes → Option Int) (bs : Nat) (d : Bytes) (fin0 : Nat)
    (hbs : 1 ≤ bs) :
    ∀ fuel fo1 fin, 1 ≤ fuel → d.length + 1 ≤ fuel + fo1 →
      sibPartB P bs d fin0 fuel fo1 fin ≠ .done := by
  intro fuel
  induction fuel with
  | zero => intro _ _ h; omega
  | succ fuel ih =>
    intro fo1 fin _ hf
    simp only [sibPartB]
    rcases h : findLineInBlock bs d fo1 with _ | ⟨fo2, ps⟩ | ps
    · dsimp only; split <;> simp
    · dsimp only
      obtain ⟨h1, h2, h3, _⟩ := findLineInBlock_found_lt bs d fo1 fo2 ps hbs h
      split
      · simp
      · exact ih fo2 (fo2 - 1) (by omega) (by omega)
    · dsimp only; split <;> simp

theorem findSyslineInBlock_none (P : Bytes → Option Int) (bs : Nat) (d : Bytes)
    (hP : ∀ l, P l = none) : ∀ fuel fo, findSyslineInBlock P bs d fuel fo = .done := by
  intro fuel
  induction fuel with
  | zero => intro fo; rfl
  | succ fuel ih =>
    intro fo
    simp only [findSyslineInBlock, hP]
    split
    · exact ih _
    · rfl
    · rfl

theorem gateSyslinesLoop_none (P : Bytes → Option Int) (bs : Nat) (d : Bytes) (m : Nat)
    (hP : ∀ l, P l = none) : ∀ fuel fo found, gateSyslinesLoop P bs d m fuel fo found = found := by
  intro fuel fo found
  cases fuel with
  | zero => rfl
  | succ fuel =>
    simp only [gateSyslinesLoop, findSyslineInBlock_none P bs d hP]
    split <;> rfl

theorem gateWith_none (th : Thresholds) (P : Bytes → Option Int) (bs : Nat) (d : Bytes)
    (hP : ∀ l, P l = none) : gateWith th P bs d ≠ .ok := by
  unfold gateWith
  -- the sysline count stays 0, and every verdict on the way to that test is a refusal
  simp only [gateSyslinesLoop_none P bs d _ hP, true_or, ↓reduceIte]
  repeat' split
  all_goals decide

/-- number of `P`-accepted lines lying entirely inside the first `bs` bytes,
among the lines starting at line start `fo` or later -/
def accCount (P : Bytes → Option Int) (bs : Nat) (d : Bytes) : Nat → Nat → Nat
  | 0, _ => 0
  | fuel + 1, fo =>
    if fo < d.length ∧ lineEnd d fo < bs then
      (if (P (lineFrom d fo)).isSome then 1 else 0) + accCount P bs d fuel (lineEnd d fo + 1)
    else 0

/-- number of lines that start inside the first `bs` bytes, from line start `fo` on -/
def lineCount (bs : Nat) (d : Bytes) : Nat → Nat → Nat
  | 0, _ => 0
  | fuel + 1, fo =>
    if fo < d.length ∧ fo < bs then 1 + lineCount bs d fuel (lineEnd d fo + 1) else 0

theorem accCount_fuel (P : Bytes → Option Int) (bs : Nat) (d : Bytes) (k : Nat) :
    ∀ fuel fo, d.length ≤ fuel + fo →
      accCount P bs d (fuel + k) fo = accCount P bs d fuel fo := by
  intro fuel
  induction fuel with
  | zero =>
    intro fo hf
    cases k with
    | zero => rfl
    | succ k =>
      rw [Nat.zero_add]
      simp only [accCount]
      rw [if_neg (by omega)]
  | succ fuel ih =>
    intro fo hf
    rw [Nat.add_right_comm]
    simp only [accCount]
    split
    · rename_i h
      have := (isLineEnd_lineEnd d fo h.1).le
      rw [ih _ (by omega)]
    · rfl

theorem lineCount_fuel (bs : Nat) (d : Bytes) (k : Nat) :
    ∀ fuel fo, d.length ≤ fuel + fo →
      lineCount bs d (fuel + k) fo = lineCount bs d fuel fo := by
  intro fuel
  induction fuel with
  | zero =>
    intro fo hf
    cases k with
    | zero => rfl
    | succ k =>
      rw [Nat.zero_add]
      simp only [lineCount]
      rw [if_neg (by omega)]
  | succ fuel ih =>
    intro fo hf
    rw [Nat.add_right_comm]
    simp only [lineCount]
    split
    · rename_i h
      have := (isLineEnd_lineEnd d fo h.1).le
      rw [ih _ (by omega)]
    · rfl

/-- `accCount` with the fuel of the model -/
def acc (P : Bytes → Option Int) (bs : Nat) (d : Bytes) (fo : Nat) : Nat :=
  accCount P bs d (d.length + 1) fo

/-- `lineCount` with the fuel of the model -/
def lc (bs : Nat) (d : Bytes) (fo : Nat) : Nat := lineCount bs d (d.length + 1) fo

theorem acc_eq (P : Bytes → Option Int) (bs : Nat) (d : Bytes) (fo : Nat) :
    acc P bs d fo =
      if fo < d.length ∧ lineEnd d fo < bs then
        (if (P (lineFrom d fo)).isSome then 1 else 0) + acc P bs d (lineEnd d fo + 1)
      else 0 := by
  unfold acc
  rw [accCount]
  split
  · rw [accCount_fuel P bs d 1 d.length (lineEnd d fo + 1) (by omega)]
  · rfl

theorem lc_eq (bs : Nat) (d : Bytes) (fo : Nat) :
    lc bs d fo = if fo < d.length ∧ fo < bs then 1 + lc bs d (lineEnd d fo + 1) else 0 := by
  unfold lc
  rw [lineCount]
  split
  · rw [lineCount_fuel bs d 1 d.length (lineEnd d fo + 1) (by omega)]
  · rfl

theorem acc_zero_of_not (P : Bytes → Option Int) (bs : Nat) (d : Bytes) (fo : Nat)
    (h : ¬ (fo < d.length ∧ lineEnd d fo < bs)) : acc P bs d fo = 0 := by
  rw [acc_eq, if_neg h]

theorem lc_zero_of_not (bs : Nat) (d : Bytes) (fo : Nat) (h : ¬ (fo < d.length ∧ fo < bs)) :
    lc bs d fo = 0 := by
  rw [lc_eq, if_neg h]

theorem acc_zero_of_ge (P : Bytes → Option Int) (bs : Nat) (d : Bytes) (fo : Nat) (h : bs ≤ fo) :
    acc P bs d fo = 0 := by
  apply acc_zero_of_not
  rintro ⟨h1, h2⟩
  have := (isLineEnd_lineEnd d fo h1).le
  omega

theorem acc_zero_of_not_found (P : Bytes → Option Int) (bs : Nat) (d : Bytes) (fo : Nat)
    (hbs : 1 ≤ bs) (h : ∀ n ps, findLineInBlock bs d fo ≠ .found n ps) : acc P bs d fo = 0 := by
  apply acc_zero_of_not
  rintro ⟨h1, h2⟩
  obtain ⟨ps, hf, _⟩ := findLineInBlock_block0 bs d fo hbs h1 h2
  exact h _ _ hf

/-- the parser accepts no input of one byte or less (in particular not the
partial line, cut at the start offset, of a line that leaves block zero) -/
def RejectsShort (P : Bytes → Option Int) : Prop := ∀ l : Bytes, l.length ≤ 1 → P l = none

theorem findLineInBlock_blockstart (bs : Nat) (d : Bytes) (fo : Nat) (hbs : 1 ≤ bs) (h0 : fo ≠ 0)
    (hm : fo % bs = 0) : findLineInBlock bs d fo = .done := by
  have hq := Nat.div_add_mod' fo bs
  have hS := (isLineStart_lineStart d fo).le
  exact (findLineInBlock_done_iff bs d fo hbs).mpr
    (.inr ⟨fun e => by rw [e] at hq; omega, by omega⟩)

theorem findLineInBlock_part_len (bs : Nat) (d : Bytes) (fo : Nat) (ps : List Part)
    (hbs : 1 ≤ bs) (hst : IsStart d fo) (h : findLineInBlock bs d fo = .part ps) :
    (lineBytes d bs ps).length ≤ 1 := by
  obtain ⟨_, rfl⟩ := S4V.Lemmas.Lines.findLineInBlock_part bs d fo ps hbs h
  have hq := Nat.div_add_mod' fo bs
  simp only [lineBytes, partsBytes, List.foldr_cons, List.foldr_nil, List.append_nil, Part.bytes,
    List.length_take, lineStart_of_isStart hst]
  omega

theorem acc_skip (P : Bytes → Option Int) (bs : Nat) (d : Bytes) (fo : Nat) (hfo : fo < d.length)
    (hp : P (lineFrom d fo) = none) : acc P bs d fo = acc P bs d (lineEnd d fo + 1) := by
  rw [acc_eq P bs d fo]
  split
  · simp only [hp, Option.isSome_none, Bool.false_eq_true, ↓reduceIte, Nat.zero_add]
  · rw [acc_zero_of_ge P bs d _ (by omega)]

theorem found_at_start (bs : Nat) (d : Bytes) (fo fo2 : Nat) (ps : List Part) (hbs : 1 ≤ bs)
    (hst : Boundary d fo) (h : findLineInBlock bs d fo = .found fo2 ps) :
    fo < d.length ∧ fo < fo2 ∧ fo2 = lineEnd d fo + 1 ∧ Boundary d fo2 ∧
      lineBytes d bs ps = lineFrom d fo ∧ (fo ≤ bs → fo2 ≤ bs) := by
  obtain ⟨g1, g2, g3, g4⟩ := findLineInBlock_found_lt bs d fo fo2 ps hbs h
  have hf := S4V.Lemmas.Lines.findLineInBlock_found bs d fo fo2 ps hbs h
  refine ⟨g1, g2, g4, by rw [g4]; exact boundary_next g1, ?_, fun hle => ?_⟩
  · have := hf.chain.bytes
    rwa [lineStart_of_isStart (hst.2.resolve_left (by omega))] at this
  · rcases Nat.lt_or_ge fo bs with c | c
    · have hE := hf.end_lt
      rw [Nat.div_eq_of_lt c] at hE
      omega
    · have e : fo = bs := by omega
      rw [findLineInBlock_blockstart bs d fo hbs (by omega) (by rw [e]; exact Nat.mod_self _)] at h
      cases h

theorem sibPartB_acc (P : Bytes → Option Int) (bs : Nat) (d : Bytes) (fin0 : Nat) (hbs : 1 ≤ bs) :
    ∀ fuel fo1 fin, Boundary d fo1 → fin + 1 = fo1 →
      match sibPartB P bs d fin0 fuel fo1 fin with
      | .found n => fo1 ≤ n ∧ Boundary d n ∧ acc P bs d n = acc P bs d fo1
      | .donePartial => acc P bs d fo1 = 0
      | .done => True := by
  intro fuel
  induction fuel with
  | zero => intro _ _ _ _; simp only [sibPartB]
  | succ fuel ih =>
    intro fo1 fin hb hfin
    -- no whole line at `fo1`: the count from there is 0, and the walk ends
    have hstop : (∀ n ps, findLineInBlock bs d fo1 ≠ .found n ps) →
        match (if fo1 < d.length - 1 then SIB.donePartial else SIB.found (fin + 1)) with
        | .found n => fo1 ≤ n ∧ Boundary d n ∧ acc P bs d n = acc P bs d fo1
        | .donePartial => acc P bs d fo1 = 0
        | .done => True := by
      intro hnf
      by_cases hlt : fo1 < d.length - 1
      · rw [if_pos hlt]; exact acc_zero_of_not_found P bs d fo1 hbs hnf
      · rw [if_neg hlt, hfin]; exact ⟨Nat.le_refl _, hb, rfl⟩
    simp only [sibPartB]
    rcases h : findLineInBlock bs d fo1 with _ | ⟨fo2, ps⟩ | ps
    · exact hstop (by rw [h]; intro _ _ e; cases e)
    · obtain ⟨g1, g2, g3, g4, g5, _⟩ := found_at_start bs d fo1 fo2 ps hbs hb h
      dsimp only
      rw [g5]
      rcases hp : P (lineFrom d fo1) with _ | v
      · dsimp only
        rw [acc_skip P bs d fo1 g1 hp, ← g3]
        have := ih fo2 (fo2 - 1) g4 (by omega)
        -- splitting the call after `revert` also reduces the `match` in what was proved about it to the arm that applies
        revert this
        rcases sibPartB P bs d fin0 fuel fo2 (fo2 - 1) with n | _ | _
        · exact fun ⟨a1, a2, a3⟩ => ⟨by omega, a2, a3⟩
        · exact id
        · exact id
      · exact ⟨Nat.le_refl _, hb, rfl⟩
    · exact hstop (by rw [h]; intro _ _ e; cases e)

theorem findSyslineInBlock_acc (P : Bytes → Option Int) (bs : Nat) (d : Bytes) (hbs : 1 ≤ bs) :
    ∀ fuel fo, Boundary d fo →
      match findSyslineInBlock P bs d fuel fo with
      | .found n => fo < n ∧ Boundary d n ∧ acc P bs d fo ≤ acc P bs d n + 1 ∧
          (fo ≤ bs → acc P bs d n + 1 ≤ acc P bs d fo)
      | .donePartial => acc P bs d fo ≤ 1 ∧ (RejectsShort P → fo ≤ bs → 1 ≤ acc P bs d fo)
      | .done => d.length + 1 ≤ fuel + fo → acc P bs d fo = 0 := by
  intro fuel
  induction fuel with
  | zero => intro fo hb hf; have := hb.1; omega
  | succ fuel ih =>
    intro fo hb
    simp only [findSyslineInBlock]
    rcases h : findLineInBlock bs d fo with _ | ⟨fo2, ps⟩ | ps
    · exact fun _ => acc_zero_of_not_found P bs d fo hbs (by rw [h]; intro _ _ e; cases e)
    · obtain ⟨g1, g2, g3, g4, g5, g6⟩ := found_at_start bs d fo fo2 ps hbs hb h
      dsimp only
      rw [g5]
      rcases hp : P (lineFrom d fo) with _ | v
      · -- no message: the search goes on from the next line, with the same count
        dsimp only
        rw [acc_skip P bs d fo g1 hp, ← g3]
        have := ih fo2 g4
        revert this
        rcases findSyslineInBlock P bs d fuel fo2 with n | _ | _
        · exact fun ⟨a1, a2, a3, a4⟩ => ⟨by omega, a2, a3, fun hle => a4 (g6 hle)⟩
        · exact fun ⟨a1, a2⟩ => ⟨a1, fun hr hle => a2 hr (g6 hle)⟩
        · exact fun a hf => a (by omega)
      · -- a message: it counts one if it lies inside block zero; part B then skips to the next one
        have hacc : acc P bs d fo ≤ acc P bs d fo2 + 1 ∧ (fo ≤ bs → acc P bs d fo2 + 1 ≤ acc P bs d fo) := by
          rw [acc_eq P bs d fo, hp, ← g3]
          split
          · simp only [Option.isSome_some, ↓reduceIte]; omega
          · exact ⟨Nat.zero_le _, fun hle => by have := g6 hle; omega⟩
        dsimp only
        by_cases hlast : fo2 - 1 + 1 = d.length
        · rw [if_pos hlast]; exact ⟨g2, g4, hacc⟩
        · rw [if_neg hlast]
          have hnd := sibPartB_ne_done P bs d (fo2 - 1) hbs (d.length + 1) fo2 (fo2 - 1) (by omega) (by omega)
          have := sibPartB_acc P bs d (fo2 - 1) hbs (d.length + 1) fo2 (fo2 - 1) g4 (by omega)
          revert this hnd
          rcases sibPartB P bs d (fo2 - 1) (d.length + 1) fo2 (fo2 - 1) with n | _ | _
          · exact fun _ ⟨a1, a2, a3⟩ => ⟨by omega, a2, by omega, fun hle => by have := hacc.2 hle; omega⟩
          · exact fun _ a => ⟨by omega, fun _ hle => by have := hacc.2 hle; omega⟩
          · exact fun hnd _ => absurd rfl hnd
    · have h0 := acc_zero_of_not_found P bs d fo hbs (by rw [h]; intro _ _ e; cases e)
      dsimp only
      rcases hp : P (lineBytes d bs ps) with _ | v
      · exact fun _ => h0
      · refine ⟨by omega, fun hr _ => ?_⟩
        have hfo := findLineInBlock_part_lt h
        rw [hr _ (findLineInBlock_part_len bs d fo ps hbs (hb.2.resolve_left (by omega)) h)] at hp
        cases hp

theorem gateSyslinesLoop_acc (P : Bytes → Option Int) (bs : Nat) (d : Bytes) (m : Nat) (hbs : 1 ≤ bs) :
    ∀ fuel fo found, Boundary d fo →
      (d.length + 1 ≤ fuel + fo → min m (found + acc P bs d fo) ≤ gateSyslinesLoop P bs d m fuel fo found) ∧
      (RejectsShort P → gateSyslinesLoop P bs d m fuel fo found ≤ found + acc P bs d fo) := by
  intro fuel
  induction fuel with
  | zero => intro fo found hb; exact ⟨fun hf => by have := hb.1; omega, fun _ => Nat.le_add_right _ _⟩
  | succ fuel ih =>
    intro fo found hb
    simp only [gateSyslinesLoop]
    split
    · rename_i hc
      refine ⟨fun _ => ?_, fun _ => Nat.le_add_right _ _⟩
      rcases hc with hc | hc
      · omega
      · rw [acc_zero_of_ge P bs d fo (by rw [ne_eq, bo_eq_zero_iff hbs] at hc; omega)]
        omega
    · rename_i hc
      rw [not_or, ne_eq, Decidable.not_not, bo_eq_zero_iff hbs] at hc
      have := findSyslineInBlock_acc P bs d hbs (d.length + 1) fo hb
      revert this
      rcases findSyslineInBlock P bs d (d.length + 1) fo with n | _ | _
      · dsimp only
        rintro ⟨a1, a2, a3, a4⟩
        obtain ⟨i1, i2⟩ := ih n (found + 1) a2
        exact ⟨fun hf => by have := i1 (by omega); omega,
          fun hr => by have := i2 hr; have := a4 (by omega); omega⟩
      · dsimp only
        exact fun ⟨a1, a2⟩ => ⟨fun _ => by omega, fun hr => by have := a2 hr (by omega); omega⟩
      · dsimp only
        exact fun a => ⟨fun _ => by have := a (by omega); omega, fun _ => Nat.le_add_right _ _⟩

theorem gateLinesLoop_lc (bs : Nat) (d : Bytes) (m : Nat) (hbs : 1 ≤ bs) :
    ∀ fuel fo found,
      (d.length + 1 ≤ fuel + fo → fo ≤ d.length →
        min m (found + lc bs d fo) ≤ gateLinesLoop bs d m fuel fo found) ∧
      (fo < bs → gateLinesLoop bs d m fuel fo found ≤ found + lc bs d fo) := by
  intro fuel
  induction fuel with
  | zero => intro fo found; exact ⟨fun _ _ => by omega, fun _ => Nat.le_add_right _ _⟩
  | succ fuel ih =>
    intro fo found
    simp only [gateLinesLoop]
    split
    · exact ⟨fun _ _ => by omega, fun _ => Nat.le_add_right _ _⟩
    · rcases h : findLineInBlock bs d fo with _ | ⟨fo2, ps⟩ | ps
      · -- nothing found: `fo` is past the end or outside block zero
        dsimp only
        refine ⟨fun _ _ => ?_, fun _ => Nat.le_add_right _ _⟩
        rw [lc_zero_of_not bs d fo]
        · omega
        · rintro ⟨c1, c2⟩
          rcases (findLineInBlock_done_iff bs d fo hbs).mp h with c | ⟨c, _⟩
          · omega
          · exact c (Nat.div_eq_of_lt c2)
      · obtain ⟨g1, g2, g3, g4⟩ := findLineInBlock_found_lt bs d fo fo2 ps hbs h
        have hlc := lc_eq bs d fo
        rw [← g4] at hlc
        dsimp only
        split
        · rename_i hc
          rw [ne_eq, bo_eq_zero_iff hbs] at hc
          rw [lc_zero_of_not bs d fo2 (by omega)] at hlc
          exact ⟨fun _ _ => by split at hlc <;> omega, fun hlt => by rw [if_pos ⟨g1, hlt⟩] at hlc; omega⟩
        · rename_i hc
          rw [ne_eq, Decidable.not_not, bo_eq_zero_iff hbs] at hc
          obtain ⟨i1, i2⟩ := ih fo2 (found + 1)
          exact ⟨fun hf _ => by have := i1 (by omega) g3; split at hlc <;> omega,
            fun hlt => by have := i2 hc; rw [if_pos ⟨g1, hlt⟩] at hlc; omega⟩
      · -- a partial line: the last line that starts inside the block of `fo`
        have hfo := findLineInBlock_part_lt h
        have hp := (S4V.Lemmas.Lines.findLineInBlock_part bs d fo ps hbs h).1
        have hq : bs ≤ (fo / bs + 1) * bs := by rw [Nat.add_one_mul]; omega
        have hlc := lc_eq bs d fo
        rw [lc_zero_of_not bs d (lineEnd d fo + 1) (by omega)] at hlc
        dsimp only
        exact ⟨fun _ _ => by split at hlc <;> omega, fun hlt => by rw [if_pos ⟨hfo, hlt⟩] at hlc; omega⟩

theorem gateWith_ok_counts (th : Thresholds) (P : Bytes → Option Int) (bs : Nat) (d : Bytes)
    (hbs : 1 ≤ bs)
    (h1 : min th.bytesMin bs ≤ min bs d.length)
    (h2 : (d.take (min th.nullMax bs)).all (· == 0) = false)
    (hl : th.lineMin (min bs d.length) ≤ lc bs d 0)
    (hs1 : 1 ≤ th.syslineMin (min bs d.length))
    (hs : th.syslineMin (min bs d.length) ≤ acc P bs d 0) :
    gateWith th P bs d = .ok := by
  have hlines := (gateLinesLoop_lc bs d (th.lineMin (min bs d.length)) hbs (d.length + 1) 0 0).1
    (by omega) (Nat.zero_le _)
  have hsys := (gateSyslinesLoop_acc P bs d (th.syslineMin (min bs d.length)) hbs
    (d.length + 1) 0 0 (boundary_zero d)).1 (by omega)
  unfold gateWith
  simp only [blockAt_zero, List.length_take, List.take_take]
  have hd : d.length ≠ 0 := by
    intro e
    have : acc P bs d 0 = 0 := acc_zero_of_not P bs d 0 (by omega)
    omega
  rw [if_neg hd, if_neg (by omega), h2]
  simp only [Bool.false_eq_true, ↓reduceIte]
  rw [if_neg (by omega), if_neg (by omega)]

theorem acc_pos (P : Bytes → Option Int) (bs : Nat) (d : Bytes) (s : Nat) (hs : s < d.length)
    (hst : IsStart d s) (hE : lineEnd d s < bs) (hP : P (lineFrom d s) ≠ none) :
    ∀ n fo, s - fo ≤ n → fo ≤ s → IsStart d fo → 1 ≤ acc P bs d fo := by
  intro n
  induction n with
  | zero =>
    intro fo hn hle _
    have : fo = s := by omega
    subst this
    rw [acc_eq, if_pos ⟨hs, hE⟩, if_pos (Option.isSome_iff_ne_none.mpr hP)]
    omega
  | succ n ih =>
    intro fo hn hle hfo
    rcases Nat.eq_or_lt_of_le hle with rfl | hlt
    · exact ih fo (by omega) hle hfo
    · have h1 := lineEnd_lt_of_isStart hlt hst hs
      have h2 := (isLineEnd_lineEnd d fo (by omega)).le
      have h3 := (isLineEnd_lineEnd d s hs).le
      rw [acc_eq, if_pos ⟨by omega, by omega⟩]
      have := ih (lineEnd d fo + 1) (by omega) (by omega) (isStart_next (by omega) (by omega))
      omega

theorem gateWith_ok (th : Thresholds) (P : Bytes → Option Int) (bs : Nat) (d : Bytes) (s : Nat)
    (hbs : 1 ≤ bs)
    (h1 : min th.bytesMin bs ≤ min bs d.length)
    (h2 : (d.take (min th.nullMax bs)).all (· == 0) = false)
    (hl : th.lineMin (min bs d.length) ≤ 1) (hsl : th.syslineMin (min bs d.length) = 1)
    (hs : s < d.length) (hst : IsStart d s) (hE : lineEnd d s < bs)
    (hP : P (lineFrom d s) ≠ none) :
    gateWith th P bs d = .ok := by
  have hlc : 1 ≤ lc bs d 0 := by
    rw [lc_eq, if_pos ⟨by omega, by omega⟩]; omega
  have hacc := acc_pos P bs d s hs hst hE hP s 0 (by omega) (Nat.zero_le _) (Or.inl rfl)
  exact gateWith_ok_counts th P bs d hbs h1 h2 (by omega) (by omega) (by omega)

/-- the gate, computed from the two counts: no block walk, no fuel -/
def gateSpec (th : Thresholds) (P : Bytes → Option Int) (bs : Nat) (d : Bytes) : Verdict :=
  if d.length = 0 then .empty
  else if min bs d.length < min th.bytesMin bs then .tooSmall
  else if (d.take (min th.nullMax bs)).all (· == 0) then .nullBytes
  else if lc bs d 0 < th.lineMin (min bs d.length) then .noLines
  else if acc P bs d 0 < th.syslineMin (min bs d.length) then .noSyslines
  else .ok

theorem gateWith_eq_spec (th : Thresholds) (P : Bytes → Option Int) (bs : Nat) (d : Bytes)
    (hbs : 1 ≤ bs) (hP : RejectsShort P) (hs1 : 1 ≤ th.syslineMin (min bs d.length)) :
    gateWith th P bs d = gateSpec th P bs d := by
  obtain ⟨hl1, hl2⟩ := gateLinesLoop_lc bs d (th.lineMin (min bs d.length)) hbs (d.length + 1) 0 0
  have hl1 := hl1 (by omega) (Nat.zero_le _)
  have hl2 := hl2 (by omega)
  obtain ⟨hy1, hy2⟩ := gateSyslinesLoop_acc P bs d (th.syslineMin (min bs d.length)) hbs
    (d.length + 1) 0 0 (boundary_zero d)
  have hy1 := hy1 (by omega)
  have hy2 := hy2 hP
  -- each loop's value stands on the same side of its threshold as the count it bounds
  have e1 : gateLinesLoop bs d (th.lineMin (min bs d.length)) (d.length + 1) 0 0 < th.lineMin (min bs d.length) ↔
      lc bs d 0 < th.lineMin (min bs d.length) := by omega
  have e2 : (gateSyslinesLoop P bs d (th.syslineMin (min bs d.length)) (d.length + 1) 0 0 = 0 ∨
      gateSyslinesLoop P bs d (th.syslineMin (min bs d.length)) (d.length + 1) 0 0 < th.syslineMin (min bs d.length)) ↔
      acc P bs d 0 < th.syslineMin (min bs d.length) := by omega
  unfold gateWith gateSpec
  simp only [blockAt_zero, List.length_take, List.take_take, e1, e2]

theorem findSyslineInBlock_ge (P : Bytes → Option Int) (bs : Nat) (d : Bytes) (fuel fo : Nat)
    (h : d.length ≤ fo) : findSyslineInBlock P bs d fuel fo = .done := by
  cases fuel with
  | zero => rfl
  | succ fuel => simp only [findSyslineInBlock, findLineInBlock_ge bs d fo h]

theorem sibPartB_fuel (P : Bytes → Option Int) (bs : Nat) (d : Bytes) (fin0 : Nat)
    (hbs : 1 ≤ bs) (k : Nat) :
    ∀ fuel fo1 fin, 1 ≤ fuel → d.length + 1 ≤ fuel + fo1 →
      sibPartB P bs d fin0 (fuel + k) fo1 fin = sibPartB P bs d fin0 fuel fo1 fin := by
  intro fuel
  induction fuel with
  | zero => intro _ _ h; omega
  | succ fuel ih =>
    intro fo1 fin _ hf
    rw [Nat.add_right_comm]
    simp only [sibPartB]
    rcases h : findLineInBlock bs d fo1 with _ | ⟨fo2, ps⟩ | ps
    · rfl
    · dsimp only
      obtain ⟨h1, h2, h3, _⟩ := findLineInBlock_found_lt bs d fo1 fo2 ps hbs h
      split
      · rfl
      · exact ih fo2 (fo2 - 1) (by omega) (by omega)
    · rfl

theorem findSyslineInBlock_fuel (P : Bytes → Option Int) (bs : Nat) (d : Bytes)
    (hbs : 1 ≤ bs) (k : Nat) :
    ∀ fuel fo, d.length + 1 ≤ fuel + fo →
      findSyslineInBlock P bs d (fuel + k) fo = findSyslineInBlock P bs d fuel fo := by
  intro fuel
  induction fuel with
  | zero =>
    intro fo hf
    rw [findSyslineInBlock_ge P bs d _ fo (by omega), findSyslineInBlock_ge P bs d _ fo (by omega)]
  | succ fuel ih =>
    intro fo hf
    rw [Nat.add_right_comm]
    simp only [findSyslineInBlock]
    rcases h : findLineInBlock bs d fo with _ | ⟨fo2, ps⟩ | ps
    · rfl
    · dsimp only
      obtain ⟨h1, h2, h3, _⟩ := findLineInBlock_found_lt bs d fo fo2 ps hbs h
      split
      · rfl
      · exact ih fo2 (by omega)
    · rfl

theorem gateSyslinesLoop_fuel (P : Bytes → Option Int) (bs : Nat) (d : Bytes) (m : Nat)
    (hbs : 1 ≤ bs) (k : Nat) :
    ∀ fuel fo found, d.length + 1 ≤ fuel + fo → Boundary d fo →
      gateSyslinesLoop P bs d m (fuel + k) fo found = gateSyslinesLoop P bs d m fuel fo found := by
  intro fuel
  induction fuel with
  | zero =>
    intro fo found hf _
    cases k with
    | zero => rfl
    | succ k =>
      rw [Nat.zero_add]
      simp only [gateSyslinesLoop, findSyslineInBlock_ge P bs d _ fo (by omega)]
      split <;> rfl
  | succ fuel ih =>
    intro fo found hf hb
    rw [Nat.add_right_comm]
    simp only [gateSyslinesLoop]
    split
    · rfl
    · have := findSyslineInBlock_acc P bs d hbs (d.length + 1) fo hb
      revert this
      rcases findSyslineInBlock P bs d (d.length + 1) fo with n | _ | _
      · exact fun ⟨a1, a2, _⟩ => ih n (found + 1) (by omega) a2
      · exact fun _ => rfl
      · exact fun _ => rfl

theorem gateLinesLoop_fuel (bs : Nat) (d : Bytes) (m : Nat) (hbs : 1 ≤ bs) (k : Nat) :
    ∀ fuel fo found, d.length + 1 ≤ fuel + fo →
      gateLinesLoop bs d m (fuel + k) fo found = gateLinesLoop bs d m fuel fo found := by
  intro fuel
  induction fuel with
  | zero =>
    intro fo found hf
    cases k with
    | zero => rfl
    | succ k =>
      rw [Nat.zero_add]
      simp only [gateLinesLoop, findLineInBlock_ge bs d fo (by omega)]
      split <;> rfl
  | succ fuel ih =>
    intro fo found hf
    rw [Nat.add_right_comm]
    simp only [gateLinesLoop]
    split
    · rfl
    · rcases h : findLineInBlock bs d fo with _ | ⟨fo2, ps⟩ | ps
      · rfl
      · dsimp only
        obtain ⟨g1, g2, g3, _⟩ := findLineInBlock_found_lt bs d fo fo2 ps hbs h
        split
        · rfl
        · exact ih fo2 (found + 1) (by omega)
      · rfl

/-! Copies of the searches and of the verdict in which every loop gets `k` more
units of fuel than in the model; they compute the same thing. -/

def findSyslineInBlockF (k : Nat) (P : Bytes → Option Int) (bs : Nat) (d : Bytes) :
    Nat → Nat → SIB
  | 0, _ => .done
  | fuel + 1, fo1 =>
    match findLineInBlock bs d fo1 with
    | .found fo2 ps =>
      match P (lineBytes d bs ps) with
      | some _ =>
        let fin := fo2 - 1
        if fin + 1 = d.length then .found fo2
        else sibPartB P bs d fin (d.length + 1 + k) fo2 fin
      | none => findSyslineInBlockF k P bs d fuel fo2
    | .part ps =>
      match P (lineBytes d bs ps) with
      | some _ => .donePartial
      | none => .done
    | .done => .done

def gateSyslinesLoopF (k : Nat) (P : Bytes → Option Int) (bs : Nat) (d : Bytes) (foundMin : Nat) :
    Nat → Nat → Nat → Nat
  | 0, _, found => found
  | fuel + 1, fo, found =>
    if found ≥ foundMin ∨ blockOffsetAtFileOffset fo bs ≠ 0 then found
    else
      match findSyslineInBlockF k P bs d (d.length + 1 + k) fo with
      | .found foNext => gateSyslinesLoopF k P bs d foundMin fuel foNext (found + 1)
      | .donePartial => found + 1
      | .done => found

def gateWithF (k : Nat) (th : Thresholds) (P : Bytes → Option Int) (bs : Nat) (d : Bytes) :
    Verdict :=
  if d.length = 0 then .empty
  else
    let b0 := blockAt d bs 0
    let sz0 := b0.length
    if sz0 < min th.bytesMin bs then .tooSmall
    else if (b0.take th.nullMax).all (· == 0) then .nullBytes
    else
      let lmin := th.lineMin sz0
      if gateLinesLoop bs d lmin (d.length + 1 + k) 0 0 < lmin then .noLines
      else
        let smin := th.syslineMin sz0
        let found := gateSyslinesLoopF k P bs d smin (d.length + 1 + k) 0 0
        if found = 0 ∨ found < smin then .noSyslines else .ok

theorem findSyslineInBlockF_eq (k : Nat) (P : Bytes → Option Int) (bs : Nat) (d : Bytes)
    (hbs : 1 ≤ bs) :
    ∀ fuel fo, findSyslineInBlockF k P bs d fuel fo = findSyslineInBlock P bs d fuel fo := by
  intro fuel
  induction fuel with
  | zero => intro fo; rfl
  | succ fuel ih =>
    intro fo
    simp only [findSyslineInBlockF, findSyslineInBlock]
    rcases h : findLineInBlock bs d fo with _ | ⟨fo2, ps⟩ | ps
    · rfl
    · dsimp only
      obtain ⟨h1, h2, h3, _⟩ := findLineInBlock_found_lt bs d fo fo2 ps hbs h
      rcases P (lineBytes d bs ps) with _ | v
      · exact ih fo2
      · dsimp only
        rw [sibPartB_fuel P bs d _ hbs k (d.length + 1) fo2 _ (by omega) (by omega)]
    · rfl

theorem gateSyslinesLoopF_eq (k : Nat) (P : Bytes → Option Int) (bs : Nat) (d : Bytes) (m : Nat)
    (hbs : 1 ≤ bs) :
    ∀ fuel fo found,
      gateSyslinesLoopF k P bs d m fuel fo found = gateSyslinesLoop P bs d m fuel fo found := by
  intro fuel
  induction fuel with
  | zero => intro fo found; rfl
  | succ fuel ih =>
    intro fo found
    simp only [gateSyslinesLoopF, gateSyslinesLoop]
    rw [findSyslineInBlockF_eq k P bs d hbs,
      findSyslineInBlock_fuel P bs d hbs k (d.length + 1) fo (by omega)]
    split
    · rfl
    · rcases findSyslineInBlock P bs d (d.length + 1) fo with n | _ | _
      · exact ih _ _
      · rfl
      · rfl

theorem gateWithF_eq (k : Nat) (th : Thresholds) (P : Bytes → Option Int) (bs : Nat) (d : Bytes)
    (hbs : 1 ≤ bs) : gateWithF k th P bs d = gateWith th P bs d := by
  unfold gateWithF gateWith
  simp only [gateSyslinesLoopF_eq k P bs d _ hbs,
    gateSyslinesLoop_fuel P bs d _ hbs k (d.length + 1) 0 0 (by omega) (boundary_zero d),
    gateLinesLoop_fuel bs d _ hbs k (d.length + 1) 0 0 (by omega)]

theorem accCount_whole (P : Bytes → Option Int) (bs : Nat) (d : Bytes) (hbs : d.length ≤ bs) :
    ∀ fuel fo, accCount P bs d fuel fo = accCount P d.length d fuel fo := by
  intro fuel
  induction fuel with
  | zero => intro fo; rfl
  | succ fuel ih =>
    intro fo
    rw [accCount, accCount, ih]
    exact ite_congr (propext ⟨fun h => ⟨h.1, (isLineEnd_lineEnd d fo h.1).lt⟩, fun h => ⟨h.1, by omega⟩⟩)
      (fun _ => rfl) (fun _ => rfl)

theorem lineCount_whole (bs : Nat) (d : Bytes) (hbs : d.length ≤ bs) :
    ∀ fuel fo, lineCount bs d fuel fo = lineCount d.length d fuel fo := by
  intro fuel
  induction fuel with
  | zero => intro fo; rfl
  | succ fuel ih =>
    intro fo
    rw [lineCount, lineCount, ih]
    exact ite_congr (propext ⟨fun h => ⟨h.1, h.1⟩, fun h => ⟨h.1, by omega⟩⟩) (fun _ => rfl) (fun _ => rfl)

theorem gateSpec_whole (th : Thresholds) (P : Bytes → Option Int) (bs : Nat) (d : Bytes)
    (hlen : th.bytesMin ≤ d.length) (hbs : d.length ≤ bs) :
    gateSpec th P bs d = gateSpec th P d.length d := by
  unfold gateSpec
  have e1 : min bs d.length = d.length := by omega
  have e2 : d.take (min th.nullMax bs) = d.take (min th.nullMax d.length) := by
    rw [← take_min_length, e1]
  have e3 : lc bs d 0 = lc d.length d 0 := lineCount_whole bs d hbs _ _
  have e4 : acc P bs d 0 = acc P d.length d 0 := accCount_whole P bs d hbs _ _
  have c1 : ¬ d.length < min th.bytesMin bs := by omega
  have c2 : ¬ d.length < th.bytesMin := by omega
  simp only [e1, e2, e3, e4, Nat.min_self, c1, c2, ↓reduceIte, Nat.lt_min, Nat.lt_irrefl, and_false]

end S4V.Lemmas.Gate
