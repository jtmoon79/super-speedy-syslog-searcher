/-
Calendar lemmas over `S4V.Model.Time` (proleptic Gregorian calendar, Hinnant's `days_from_civil` / `civil_from_days` over
unbounded `Int`, floor division): a closed form of `daysFromCivil`, its strict monotonicity in lexicographic `(y, m, d)`, and
the two round trips with `civilFromDays` for every `Int` date. `daysBeforeMonth` is the month table a reader expects,
`monthStart` the same quantity as a formula; every order argument goes through the formula, which `omega` can compare.
The arithmetic is left to `omega` once the era / century / 4-year-cycle decomposition is exposed; nothing is decided over a
sample.
-/
import S4V.Model.Time

namespace S4V.Lemmas.Time
open S4V.Model.Time

def Leap (y : Int) : Prop := y % 4 = 0 ∧ (y % 100 ≠ 0 ∨ y % 400 = 0)

instance (y : Int) : Decidable (Leap y) := by unfold Leap; exact inferInstance

theorem isLeap_iff (y : Int) : isLeap y = true ↔ Leap y := by
  simp [isLeap, Leap]
  omega

theorem validDate_iff (y m d : Int) :
    validDate y m d = true ↔
      1 ≤ m ∧ m ≤ 12 ∧ 1 ≤ d ∧
        d ≤ (if m = 2 then (if Leap y then 29 else 28)
             else if m = 4 ∨ m = 6 ∨ m = 9 ∨ m = 11 then 30 else 31) := by
  have hl : isLeap y = decide (Leap y) := by
    rw [Bool.eq_iff_iff, isLeap_iff, decide_eq_true_iff]
  simp [validDate, daysInMonth, hl, and_assoc, or_assoc]

theorem month_cases {m : Int} (h0 : 1 ≤ m) (h1 : m ≤ 12) :
    m = 1 ∨ m = 2 ∨ m = 3 ∨ m = 4 ∨ m = 5 ∨ m = 6 ∨ m = 7 ∨ m = 8 ∨ m = 9 ∨ m = 10 ∨ m = 11 ∨ m = 12 := by
  omega

/-- days from 1970-01-01 to 1 January of year `y`; 0001-01-01 is day `-719162` -/
def jan1 (y : Int) : Int := 365 * (y - 1) + (y - 1) / 4 - (y - 1) / 100 + (y - 1) / 400 - 719162

def daysBeforeMonth (y m : Int) : Int :=
  (if m = 1 then 0 else if m = 2 then 31 else if m = 3 then 59 else if m = 4 then 90
   else if m = 5 then 120 else if m = 6 then 151 else if m = 7 then 181 else if m = 8 then 212
   else if m = 9 then 243 else if m = 10 then 273 else if m = 11 then 304 else 334)
  + (if 3 ≤ m ∧ Leap y then 1 else 0)

theorem jan1_succ (y : Int) : jan1 (y + 1) = jan1 y + 365 + (if Leap y then 1 else 0) := by
  unfold jan1 Leap
  rw [Int.add_sub_cancel]
  omega

theorem jan1_mono {a b : Int} (h : a ≤ b) : jan1 a ≤ jan1 b := by
  unfold jan1
  omega

/-- `daysFromCivil` counts in years that begin on 1 March (`y - 1` for January and February):
the era and year-of-era terms add up to `jan1` of the next civil year, `306` days after that
1 March. -/
theorem daysFromCivil_march (y m d : Int) :
    daysFromCivil y m d =
      jan1 ((if m ≤ 2 then y - 1 else y) + 1) + (153 * ((m + 9) % 12) + 2) / 5 + d - 307 := by
  simp only [daysFromCivil, jan1, Int.add_sub_cancel]
  generalize (if m ≤ 2 then y - 1 else y) = y'
  generalize (153 * ((m + 9) % 12) + 2) / 5 = t
  omega

/-- `daysBeforeMonth` without the table, and with a value at `m = 13`: the length of the year -/
def monthStart (y m : Int) : Int :=
  (367 * m - 362) / 12 - (if m ≤ 2 then 0 else 2) + (if 3 ≤ m ∧ Leap y then 1 else 0)

theorem daysBeforeMonth_formula (y m : Int) (hm0 : 1 ≤ m) (hm1 : m ≤ 12) :
    daysBeforeMonth y m = monthStart y m := by
  unfold daysBeforeMonth monthStart
  rcases month_cases hm0 hm1 with rfl | rfl | rfl | rfl | rfl | rfl | rfl | rfl | rfl | rfl | rfl | rfl <;>
    simp <;> omega

/-- Hinnant's month term, counted from 1 March, against the one counted from 1 January -/
theorem march_start {m : Int} (h0 : 1 ≤ m) (h1 : m ≤ 12) :
    (153 * ((m + 9) % 12) + 2) / 5 = (367 * m - 362) / 12 + (if m ≤ 2 then 306 else -61) := by
  rcases month_cases h0 h1 with rfl | rfl | rfl | rfl | rfl | rfl | rfl | rfl | rfl | rfl | rfl | rfl <;> decide

theorem daysFromCivil_closed (y m d : Int) (hm0 : 1 ≤ m) (hm1 : m ≤ 12) :
    daysFromCivil y m d = jan1 y + daysBeforeMonth y m + d - 1 := by
  rw [daysFromCivil_march, march_start hm0 hm1, daysBeforeMonth_formula y m hm0 hm1, monthStart]
  by_cases h : m ≤ 2
  · rw [if_pos h, if_pos h, if_pos h, if_neg (by omega), Int.sub_add_cancel]
    omega
  · rw [if_neg h, if_neg h, if_neg h, jan1_succ]
    simp only [show 3 ≤ m by omega, true_and]
    omega

theorem daysFromCivil_epoch : daysFromCivil 1970 1 1 = 0 := by decide

theorem monthStart_mono (y : Int) {a b : Int} (h : a ≤ b) : monthStart y a ≤ monthStart y b := by
  unfold monthStart
  by_cases hL : Leap y <;> simp only [hL, and_true, and_false] <;> omega

theorem monthStart_succ (y m d : Int) (h : validDate y m d = true) :
    monthStart y m + d ≤ monthStart y (m + 1) := by
  obtain ⟨hm0, hm1, -, hd⟩ := (validDate_iff y m d).mp h
  unfold monthStart
  by_cases hL : Leap y <;>
    rcases month_cases hm0 hm1 with rfl | rfl | rfl | rfl | rfl | rfl | rfl | rfl | rfl | rfl | rfl | rfl <;>
    simp [hL] at hd ⊢ <;> omega

theorem ordinal_bounds (y m d : Int) (h : validDate y m d = true) :
    0 ≤ daysBeforeMonth y m + d - 1 ∧
      daysBeforeMonth y m + d - 1 < 365 + (if Leap y then 1 else 0) := by
  obtain ⟨hm0, hm1, hd0, -⟩ := (validDate_iff y m d).mp h
  rw [daysBeforeMonth_formula y m hm0 hm1]
  have h1 := monthStart_mono y hm0
  have h2 := monthStart_succ y m d h
  have h3 := monthStart_mono y (show m + 1 ≤ 13 by omega)
  have e1 : monthStart y 1 = 0 := by simp [monthStart]
  have e13 : monthStart y 13 = 365 + (if Leap y then 1 else 0) := by simp [monthStart]
  omega

theorem daysBeforeMonth_step (y m₁ m₂ d₁ : Int) (h₁ : validDate y m₁ d₁ = true)
    (hm : m₁ < m₂) (hm2 : m₂ ≤ 12) : daysBeforeMonth y m₁ + d₁ ≤ daysBeforeMonth y m₂ := by
  obtain ⟨hm0, hm1, -, -⟩ := (validDate_iff y m₁ d₁).mp h₁
  rw [daysBeforeMonth_formula y m₁ hm0 hm1, daysBeforeMonth_formula y m₂ (by omega) hm2]
  exact Int.le_trans (monthStart_succ y m₁ d₁ h₁) (monthStart_mono y hm)

def LexLt (y₁ m₁ d₁ y₂ m₂ d₂ : Int) : Prop :=
  y₁ < y₂ ∨ (y₁ = y₂ ∧ (m₁ < m₂ ∨ (m₁ = m₂ ∧ d₁ < d₂)))

theorem daysFromCivil_strictMono (y₁ m₁ d₁ y₂ m₂ d₂ : Int)
    (h₁ : validDate y₁ m₁ d₁ = true) (h₂ : validDate y₂ m₂ d₂ = true)
    (hlt : LexLt y₁ m₁ d₁ y₂ m₂ d₂) : daysFromCivil y₁ m₁ d₁ < daysFromCivil y₂ m₂ d₂ := by
  have v₁ := (validDate_iff _ _ _).mp h₁
  have v₂ := (validDate_iff _ _ _).mp h₂
  rw [daysFromCivil_closed y₁ m₁ d₁ v₁.1 v₁.2.1, daysFromCivil_closed y₂ m₂ d₂ v₂.1 v₂.2.1]
  have o₁ := ordinal_bounds y₁ m₁ d₁ h₁
  have o₂ := ordinal_bounds y₂ m₂ d₂ h₂
  rcases hlt with hy | ⟨hy, hm | ⟨hm, hd⟩⟩
  · have hs := jan1_succ y₁
    have hmono := jan1_mono (show y₁ + 1 ≤ y₂ by omega)
    omega
  · subst hy
    have := daysBeforeMonth_step y₁ m₁ m₂ d₁ h₁ hm v₂.2.1
    omega
  · subst hy; subst hm; omega

theorem lex_trichotomy (y₁ m₁ d₁ y₂ m₂ d₂ : Int) :
    LexLt y₁ m₁ d₁ y₂ m₂ d₂ ∨ (y₁ = y₂ ∧ m₁ = m₂ ∧ d₁ = d₂) ∨ LexLt y₂ m₂ d₂ y₁ m₁ d₁ := by
  unfold LexLt
  omega

theorem daysFromCivil_lt_iff_lex (y₁ m₁ d₁ y₂ m₂ d₂ : Int)
    (h₁ : validDate y₁ m₁ d₁ = true) (h₂ : validDate y₂ m₂ d₂ = true) :
    daysFromCivil y₁ m₁ d₁ < daysFromCivil y₂ m₂ d₂ ↔ LexLt y₁ m₁ d₁ y₂ m₂ d₂ := by
  refine ⟨fun hlt => ?_, daysFromCivil_strictMono _ _ _ _ _ _ h₁ h₂⟩
  rcases lex_trichotomy y₁ m₁ d₁ y₂ m₂ d₂ with hl | ⟨rfl, rfl, rfl⟩ | hl
  · exact hl
  · omega
  · have := daysFromCivil_strictMono _ _ _ _ _ _ h₂ h₁ hl
    omega

theorem daysFromCivil_injective (y₁ m₁ d₁ y₂ m₂ d₂ : Int)
    (h₁ : validDate y₁ m₁ d₁ = true) (h₂ : validDate y₂ m₂ d₂ = true)
    (h : daysFromCivil y₁ m₁ d₁ = daysFromCivil y₂ m₂ d₂) : (y₁, m₁, d₁) = (y₂, m₂, d₂) := by
  rcases lex_trichotomy y₁ m₁ d₁ y₂ m₂ d₂ with hl | ⟨rfl, rfl, rfl⟩ | hl
  · have := daysFromCivil_strictMono _ _ _ _ _ _ h₁ h₂ hl
    omega
  · rfl
  · have := daysFromCivil_strictMono _ _ _ _ _ _ h₂ h₁ hl
    omega

/-- A day-of-era `D` written out by century `c`, 4-year cycle `q`, year `r` of the cycle and day `doy` of that
(March-based) year. Day `365` exists only in the last year of a cycle, and the last cycle of a century lacks it unless
the century is the last of the era. -/
structure Cycle (D c q r doy : Int) : Prop where
  c0 : 0 ≤ c
  c3 : c ≤ 3
  q0 : 0 ≤ q
  q24 : q ≤ 24
  r0 : 0 ≤ r
  r3 : r ≤ 3
  d0 : 0 ≤ doy
  d365 : doy ≤ 365
  leap : doy = 365 → r = 3 ∧ (q ≠ 24 ∨ c = 3)
  eq : D = 36524 * c + 1461 * q + 365 * r + doy

/-- Hinnant's formula finds the year of the era -/
theorem cycle_formula {D c q r doy : Int} (h : Cycle D c q r doy) :
    (D - D / 1460 + D / 36524 - D / 146096) / 365 = 100 * c + 4 * q + r := by
  obtain ⟨hc0, hc3, hq0, hq24, hr0, hr3, hd0, hd1, hl, hD⟩ := h
  by_cases hlast : D = 146096
  · omega
  · have h : D / 36524 = c ∧ D / 146096 = 0 := by omega
    omega

/-- Every day-of-era is of that form: at each level the last part is one day longer (century, year) or shorter (cycle)
than the others. -/
theorem cycle_split (D : Int) (h0 : 0 ≤ D) (h1 : D ≤ 146096) : ∃ c q r doy : Int, Cycle D c q r doy := by
  obtain ⟨c, R, hc, hR⟩ : ∃ c R : Int, c = D / 36524 - D / 146096 ∧ R = D - 36524 * c := ⟨_, _, rfl, rfl⟩
  have hcR : 0 ≤ c ∧ c ≤ 3 ∧ 0 ≤ R ∧ R ≤ 36524 ∧ (R = 36524 → c = 3) := by omega
  clear hc
  obtain ⟨q, S, hq, hS⟩ : ∃ q S : Int, q = R / 1461 ∧ S = R - 1461 * q := ⟨_, _, rfl, rfl⟩
  have hqS : 0 ≤ q ∧ q ≤ 24 ∧ 0 ≤ S ∧ S ≤ 1460 ∧ (q = 24 → S = 1460 → R = 36524) := by omega
  clear hq
  obtain ⟨r, doy, hr, hdoy⟩ : ∃ r doy : Int, r = S / 365 - S / 1460 ∧ doy = S - 365 * r := ⟨_, _, rfl, rfl⟩
  have hrd : 0 ≤ r ∧ r ≤ 3 ∧ 0 ≤ doy ∧ doy ≤ 365 ∧ (doy = 365 → r = 3 ∧ S = 1460) := by omega
  clear hr
  exact ⟨c, q, r, doy, by constructor <;> omega⟩

/-- Within an era `civilFromDays` finds the year-of-era `yoe ∈ [0,399]` (March-based years) and
the day of that year; day `365` is a 29 February, so the civil year `yoe + 1` is a leap year. -/
theorem year_of_doe (D : Int) (h0 : 0 ≤ D) (h1 : D ≤ 146096) :
    ∃ yoe doy : Int, (D - D / 1460 + D / 36524 - D / 146096) / 365 = yoe ∧
      D = 365 * yoe + yoe / 4 - yoe / 100 + doy ∧ 0 ≤ yoe ∧ yoe ≤ 399 ∧ 0 ≤ doy ∧ doy ≤ 365 ∧
      (doy = 365 → (yoe + 1) % 4 = 0 ∧ ((yoe + 1) % 100 ≠ 0 ∨ yoe = 399)) := by
  obtain ⟨c, q, r, doy, h⟩ := cycle_split D h0 h1
  refine ⟨100 * c + 4 * q + r, doy, cycle_formula h, ?_⟩
  obtain ⟨hc0, hc3, hq0, hq24, hr0, hr3, hd0, hd1, hl, hD⟩ := h
  clear h0 h1
  omega

/-- `mp = (5 * doy + 2) / 153` inverts `doy = (153 * mp + 2) / 5 + d - 1` for the March-based
months `mp` (0 = March … 11 = February); February ends at day `365` if there is one. -/
theorem month_of_doy (doy : Int) (h0 : 0 ≤ doy) (h1 : doy ≤ 365) :
    let mp := (5 * doy + 2) / 153
    let d := doy - (153 * mp + 2) / 5 + 1
    let m := if mp < 10 then mp + 3 else mp - 9
    1 ≤ m ∧ m ≤ 12 ∧ (m + 9) % 12 = mp ∧ 1 ≤ d ∧
      d ≤ (if m = 2 then (if doy = 365 then 29 else 28)
           else if m = 4 ∨ m = 6 ∨ m = 9 ∨ m = 11 then 30 else 31) := by
  intro mp d m
  have hmp : 153 * mp ≤ 5 * doy + 2 ∧ 5 * doy + 2 < 153 * mp + 153 := by omega
  have hd : d = doy - (153 * mp + 2) / 5 + 1 := rfl
  have hm : m = if mp < 10 then mp + 3 else mp - 9 := rfl
  clear_value mp d m
  refine ⟨by omega, by omega, by omega, by omega, ?_⟩
  split
  · split <;> omega
  · split <;> omega

theorem civil_roundtrip₂ (z : Int) :
    validDate (civilFromDays z).1 (civilFromDays z).2.1 (civilFromDays z).2.2 = true ∧
      daysFromCivil (civilFromDays z).1 (civilFromDays z).2.1 (civilFromDays z).2.2 = z := by
  simp only [civilFromDays]
  generalize hera : (z + 719468) / 146097 = era
  generalize hdoe : z + 719468 - era * 146097 = doe
  obtain ⟨yoe, doy, hyoe, hD, hy0, hy1, hd0, hd1, hleap⟩ := year_of_doe doe (by omega) (by omega)
  rw [hyoe, show doe - (365 * yoe + yoe / 4 - yoe / 100) = doy by omega]
  clear hyoe
  obtain ⟨hm0, hm1, hmp, hdd0, hdd1⟩ := month_of_doy doy hd0 hd1
  generalize (5 * doy + 2) / 153 = mp at *
  generalize hd : doy - (153 * mp + 2) / 5 + 1 = d at *
  generalize (if mp < 10 then mp + 3 else mp - 9) = m at *
  constructor
  · rw [validDate_iff]
    refine ⟨hm0, hm1, hdd0, ?_⟩
    by_cases h2 : m = 2
    · subst h2
      rw [if_pos rfl] at hdd1 ⊢
      rw [if_pos (show (2 : Int) ≤ 2 by decide)]
      by_cases h365 : doy = 365
      · -- day 365 is 29 February of the civil year `yoe + 1`
        have hL : Leap (yoe + era * 400 + 1) := by
          have := hleap h365
          unfold Leap
          omega
        rw [if_pos hL]
        rw [if_pos h365] at hdd1
        exact hdd1
      · rw [if_neg h365] at hdd1
        split <;> omega
    · rw [if_neg h2] at hdd1 ⊢
      exact hdd1
  · generalize hy : (if m ≤ 2 then yoe + era * 400 + 1 else yoe + era * 400) = y
    have hy' : (if m ≤ 2 then y - 1 else y) = yoe + era * 400 := by
      rw [← hy]
      split <;> omega
    have he : (yoe + era * 400) / 400 = era := by omega
    simp only [daysFromCivil, hy', he, hmp, Int.add_sub_cancel]
    omega

/-- `civilFromDays` is a right inverse (`civil_roundtrip₂`) of a map that is injective on valid
dates, hence a left inverse there. -/
theorem civil_roundtrip₁ (y m d : Int) (h : validDate y m d = true) :
    civilFromDays (daysFromCivil y m d) = (y, m, d) := by
  obtain ⟨hv, hz⟩ := civil_roundtrip₂ (daysFromCivil y m d)
  exact daysFromCivil_injective _ _ _ _ _ _ hv h hz

/-- a time of day without the leap second: `23:59:60` has the `epochSeconds` of the next day's `00:00:00` -/
def ValidTime (hh mm ss : Int) : Prop := 0 ≤ hh ∧ hh ≤ 23 ∧ 0 ≤ mm ∧ mm ≤ 59 ∧ 0 ≤ ss ∧ ss ≤ 59

theorem epochSeconds_strictMono (y₁ m₁ d₁ hh₁ mm₁ ss₁ y₂ m₂ d₂ hh₂ mm₂ ss₂ off : Int)
    (h₁ : validDate y₁ m₁ d₁ = true) (h₂ : validDate y₂ m₂ d₂ = true)
    (t₁ : ValidTime hh₁ mm₁ ss₁) (t₂ : ValidTime hh₂ mm₂ ss₂)
    (hlt : LexLt y₁ m₁ d₁ y₂ m₂ d₂ ∨
      ((y₁, m₁, d₁) = (y₂, m₂, d₂) ∧ (hh₁ < hh₂ ∨ (hh₁ = hh₂ ∧ (mm₁ < mm₂ ∨ (mm₁ = mm₂ ∧ ss₁ < ss₂)))))) :
    epochSeconds y₁ m₁ d₁ hh₁ mm₁ ss₁ off < epochSeconds y₂ m₂ d₂ hh₂ mm₂ ss₂ off := by
  unfold epochSeconds
  unfold ValidTime at t₁ t₂
  rcases hlt with hl | ⟨he, ht⟩
  · have := daysFromCivil_strictMono _ _ _ _ _ _ h₁ h₂ hl
    omega
  · cases he
    omega

/-- weak form, any seconds-of-day in `[0, 86400]` (admits the leap second `ss = 60`) -/
theorem epochSeconds_mono_days (y₁ m₁ d₁ y₂ m₂ d₂ s₁ s₂ : Int)
    (h₁ : validDate y₁ m₁ d₁ = true) (h₂ : validDate y₂ m₂ d₂ = true)
    (hs₁ : s₁ ≤ 86400) (hs₂ : 0 ≤ s₂) (hl : LexLt y₁ m₁ d₁ y₂ m₂ d₂) :
    daysFromCivil y₁ m₁ d₁ * 86400 + s₁ ≤ daysFromCivil y₂ m₂ d₂ * 86400 + s₂ := by
  have := daysFromCivil_strictMono _ _ _ _ _ _ h₁ h₂ hl
  omega

end S4V.Lemmas.Time
