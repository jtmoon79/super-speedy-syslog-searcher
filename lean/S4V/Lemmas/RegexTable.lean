/-
C04, regex slice — the certificate of a row, and the certificates of a TABLE of rows in one evaluation.

What the kernel reads off a row by evaluation is held by a record of literals, `RowFacts`; `RowFacts.Cert` says what they certify,
in the terms of the specification (the catalogue `rowBodyE` / `rowBodyP`, `catOK`, the side condition `headROk` of the row
theorem `S4V.Lemmas.RegexAuto.auto_E`), and `Cert.e2e` / `.e2e_end` are the generic end-to-end statements with `shapeOK` and
`rangeOK` replaced by the certificate and `calendarOK` (what the generated per-row files apply). `RowFacts.check` is the same
list of conditions as a Boolean over equal forms that are cheap to evaluate (`bodyF`, `catOKF`, `headROkF` below, over `pruneF`,
`rawBodyAuxF` of `S4V.Lemmas.RegexEval`). A generated file holds a list of records and ONE evaluation for the whole
list (`certs_of_all`): rows of one file share most of their items (the same month names, day forms, clock fields, often with the
same follow sets), and the kernel's cache shares what is equal within one declaration, not across declarations; a list of ten
neighbouring rows costs about 60 % of the ten rows evaluated one by one.

A generated proof unfolds its table and rewrites every test line with `toUTF8_toList_ofList` before the evaluation (one `rw` per
line: `simp` does not see a string literal as `String.ofList _`), so that the kernel reads the characters of the literal and not
`ByteArray.toList` (`S4V.Lemmas.Utf8`).
-/
import S4V.Lemmas.RegexE2EShape
import S4V.Lemmas.RegexEval
import S4V.Lemmas.Utf8

namespace S4V.Lemmas.RegexE2E
open S4V.Model.Regex S4V.Lemmas.RegexSym S4V.Lemmas.RegexRows S4V.Lemmas.RegexAuto
open S4V.Gen.TimeTables S4V.Model.DtParse S4V.Props.TimeSpec

/-- the regex ends in `(?P<g>[class]|$)`: the catalogue is `rowBodyE`, else `rowBodyP` -/
def endsInGroup (re : Re) : Bool :=
  match (itemsOf re).getLast? with
  | some (.group _ (.alt (.cls _) .eol)) => true
  | _ => false

structure RowFacts where
  row : RRow
  counts : List (Nat × Nat)
  digest : Nat
  /-- a test line of the row that splits along the catalogue (the hypotheses of the row theorems are satisfiable on it); for a
  row whose test lines do not, `none`: then the witness is the catalogue's own first rendering -/
  line : Option (List UInt8)
  /-- the longest rendering of the catalogue ends at or before `range_regex.end` -/
  fits : Bool

namespace RowFacts
variable {f : RowFacts}

def body (f : RowFacts) : List Piece :=
  match endsInGroup f.row.re with
  | true => rowBodyE f.row.re (headSkip f.row.re)
  | false => rowBodyP f.row.re (headSkip f.row.re)

/-- A definition over `line`, not a function-valued field: when the statement of a `factsN` is matched against `Cert.facts`, the
unifier unfolds the later definition first, and that is this one; with `fun b => inhabitedB b` in a field it unfolds
`inhabitedB` and runs the catalogue. -/
def witness (f : RowFacts) (b : List Piece) : Bool :=
  match f.line with
  | some l => splitsL b l
  | none => inhabitedB b

/-- What the literals certify: the (kept, total) entry counts per item and the digest fix the catalogue the row theorems are about (a
changed pattern breaks them); the witness shows that their hypotheses are satisfiable; `catOK`; what the end-to-end join needs of the row itself (its field set is
one of the generated ones and has no epoch field; the `range_regex` slice starts at 0); the length fact; the side condition of
`auto_E` for a head `([class]|^)`. -/
structure Cert (f : RowFacts) : Prop where
  counts : keptCounts f.body = f.counts
  digest : catDigest f.body = f.digest
  witness : f.witness f.body = true
  shaped : catOK f.row f.body = true
  known : f.row.dtfs ∈ allDTFSS.map Prod.snd
  noEpoch : f.row.dtfs.epoch = .none_
  fromZero : f.row.rangeStart = 0
  /-- no named field is the group of the head or the final group (`endG` is group 0 where there is none) -/
  freeHead : headFree f.row (headCaps f.row.re) = true
  freeEnd : f.row.names.all (fun p => p.2 != (endG f.row.re).1) = true
  len : f.fits = true → maxLen f.body ≤ f.row.rangeEnd
  headOk : headROk f.row.re = true

namespace Cert

theorem facts (c : f.Cert) : keptCounts f.body = f.counts ∧ catDigest f.body = f.digest ∧ f.witness f.body = true :=
  ⟨c.counts, c.digest, c.witness⟩

theorem flat_le (c : f.Cert) (hf : f.fits = true) {sel : Sel} (hv : Valid f.body sel) : (flat sel).length ≤ f.row.rangeEnd :=
  Nat.le_trans (flat_le_maxLen hv) (c.len hf)

/-- End to end from the certificate: the capture result of the row on the `range_regex` slice, joined with
`C04_words_denote`; the certificate supplies the word shapes and the catalogue-guaranteed ranges -/
theorem e2e (c : f.Cert) {sel : Sel} (hv : Valid f.body sel) {tail : Bytes} (hlen : (flat sel).length ≤ f.row.rangeEnd) {stop : Nat}
    (hres : RowResult f.row.re (flat sel ++ tail.take (f.row.rangeEnd - (flat sel).length)) stop (headCaps f.row.re) sel)
    (fbOff : Int) (hfb : FbOK' fbOff) (fill : Option Int) (hfill : fillOK f.row.dtfs.year fill = true)
    (hc : calendarOK f.row.dtfs (selFields f.row sel) fill = true) :
    rowPipeline f.row (flat sel ++ tail) fbOff fill = some (fieldsOf f.row.dtfs (selFields f.row sel) fbOff fill).instant := by
  obtain ⟨⟨name, _⟩, hmem, rfl⟩ := List.mem_map.mp c.known
  obtain ⟨hs, hr⟩ := catOK_sound c.shaped sel hv fill hfill
  rw [pipeline_eq f.row c.fromZero _ _ hlen]
  exact e2e_of_result f.row name hmem c.noEpoch hres c.freeHead fbOff hfb fill hs (hr hc)

/-- the same for rows with a final `(?P<g>[class]|$)` -/
theorem e2e_end (c : f.Cert) {sel : Sel} (hv : Valid f.body sel) {tail : Bytes} (hlen : (flat sel).length ≤ f.row.rangeEnd)
    {stop : Nat} {s : Sym} {t : Bytes}
    (hres : RowResult f.row.re (flat sel ++ tail.take (f.row.rangeEnd - (flat sel).length)) stop (headCaps f.row.re)
      (sel ++ [endEw (endG f.row.re).1 s t]))
    (fbOff : Int) (hfb : FbOK' fbOff) (fill : Option Int) (hfill : fillOK f.row.dtfs.year fill = true)
    (hc : calendarOK f.row.dtfs (selFields f.row sel) fill = true) :
    rowPipeline f.row (flat sel ++ tail) fbOff fill = some (fieldsOf f.row.dtfs (selFields f.row sel) fbOff fill).instant := by
  obtain ⟨⟨name, _⟩, hmem, rfl⟩ := List.mem_map.mp c.known
  obtain ⟨hs, hr⟩ := catOK_sound c.shaped sel hv fill hfill
  rw [pipeline_eq f.row c.fromZero _ _ hlen]
  exact S4V.Lemmas.RegexE2E.e2e_end f.row name hmem c.noEpoch hres c.freeHead c.freeEnd fbOff hfb fill hs (hr hc)

end Cert

end RowFacts

/-- over `rawBodyAuxF`, so that within one evaluation the kernel shares the raw catalogue with `bodyF` -/
def headROkF (re : Re) : Bool :=
  match headKind re with
  | .softR => follFails (follow (rawBodyAuxF [] (midItems re 1)) (endFollow (endG re).1 (endG re).2)) (headParts re).2.2
  | _ => true

theorem headROkF_eq (re : Re) : headROkF re = headROk re := by rw [headROkF, rawBodyAuxF_eq]; rfl

def monthWordsS : List (List Sym) := monthNamesB.map (fun kv => cw kv.1)

/-- The test of the month field (`catChecks`) looks every name up twice, byte by byte (a `UInt8` comparison costs the kernel 700–900
heartbeats): for the 105 name forms of a row that is most of what `catOK` costs. A symbolic word that IS a key of the month-name
table needs no look-up of its bytes. -/
def monthFast (mk : DTFS_Month) (o : Option (List Sym)) : Bool :=
  ((mk == .b || mk == .B) &&
    (match o with
      | some (s :: ss) => (monthWordsS.filter (fun w => w.head? == some s)).contains (s :: ss)
      | _ => false)) || both (monthOKs mk) (valS 16 (monthIn mk)) o

theorem wordCount_cw (k : Bytes) : wordCount (cw k) = 1 := by
  suffices ∀ a, (cw k).foldl (fun a s => a * symSize s) a = a from this 1
  induction k with
  | nil => intro a; rfl
  | cons b k ih => intro a; simpa [cw, symSize] using ih a

theorem enumAll_cw : ∀ (k : Bytes) (P : Bytes → Bool), enumAll (cw k) P = P k
  | [], _ => rfl
  | b :: k, P => by simpa [cw, enumAll, allIn] using enumAll_cw k (fun w => P (b :: w))

theorem lookup_isSome_of_mem {kv : Bytes × Bytes} : ∀ {t : List (Bytes × Bytes)}, kv ∈ t → (lookup t kv.1).isSome = true
  | (a, v) :: r, h => by
    simp only [lookup]
    split
    · rfl
    · next hne =>
      rcases List.mem_cons.mp h with rfl | h
      · exact absurd rfl hne
      · exact lookup_isSome_of_mem h

theorem monthOfName_key {kv : Bytes × Bytes} (h : kv ∈ monthNamesB) : ∃ m, monthOfName kv.1 = some m ∧ 1 ≤ m ∧ m ≤ 12 := by
  have := List.all_eq_true.mp C04_month_table kv h
  unfold monthEntryOK at this
  split at this
  · next m hm =>
    refine ⟨m, hm, ?_⟩
    obtain ⟨p, hp, rfl⟩ := Option.map_eq_some_iff.mp hm
    have hs : ∀ p ∈ monthSpec, 1 ≤ p.2 ∧ p.2 ≤ 12 := by decide
    exact hs p (List.mem_of_find?_eq_some hp)
  · cases this

/-- the shortcut only answers what the test itself would: a key of the table is found by the look-up and denotes a month -/
theorem monthFast_eq (mk : DTFS_Month) : monthFast mk = both (monthOKs mk) (valS 16 (monthIn mk)) := by
  funext o
  refine Bool.or_eq_right_iff_imp.mpr fun h => ?_
  simp only [Bool.or_eq_true, Bool.and_eq_true, beq_iff_eq] at h
  obtain ⟨hk, hs⟩ := h
  split at hs
  case h_2 => cases hs
  obtain ⟨kv, hkv, hw⟩ := List.mem_map.mp (List.mem_filter.mp (List.contains_iff_mem.mp hs)).1
  rw [← hw]
  obtain ⟨m, hm, hm1, hm2⟩ := monthOfName_key hkv
  rcases hk with rfl | rfl <;>
    simp [both, monthOKs, valS, enumOK, wordCount_cw, enumAll_cw, isMonthName, lookup_isSome_of_mem hkv, monthIn, monthVal, hm,
      hm1, hm2]

def catOKF (row : RRow) (body : List Piece) : Bool :=
  catOKWith ((catChecks row).set 1 ("month", monthFast row.dtfs.month)) row body

theorem catOKF_eq (row : RRow) (body : List Piece) : catOKF row body = catOK row body := by
  rw [catOKF, monthFast_eq]; rfl

namespace RowFacts
variable {f : RowFacts}

def bodyF (f : RowFacts) : List Piece :=
  match endsInGroup f.row.re with
  | true => pruneF (rawBodyAuxF [] (midItems f.row.re (headSkip f.row.re))) (endFollow (endG f.row.re).1 (endG f.row.re).2)
  | false => pruneF (rawBodyAuxF [] ((itemsOf f.row.re).drop (headSkip f.row.re))) (autoTail f.row.re)

theorem bodyF_eq (f : RowFacts) : f.bodyF = f.body := by
  unfold bodyF body
  cases endsInGroup f.row.re <;> simp only [rowBodyE_eq, rowBodyP_eq]

def check (f : RowFacts) : Bool :=
  decide (keptCounts f.bodyF = f.counts ∧ catDigest f.bodyF = f.digest ∧ f.witness f.bodyF = true ∧
    catOKF f.row f.bodyF = true ∧ f.row.dtfs ∈ allDTFSS.map Prod.snd ∧ f.row.dtfs.epoch = .none_ ∧ f.row.rangeStart = 0 ∧
    headFree f.row (headCaps f.row.re) = true ∧ f.row.names.all (fun p => p.2 != (endG f.row.re).1) = true ∧
    (f.fits = true → maxLen f.bodyF ≤ f.row.rangeEnd) ∧ headROkF f.row.re = true)

theorem cert_of_check (h : f.check = true) : f.Cert := by
  rw [check, bodyF_eq, catOKF_eq, headROkF_eq] at h
  obtain ⟨h1, h2, h3, h4, h5, h6, h7, h8, h9, h10, h11⟩ := of_decide_eq_true h
  exact ⟨h1, h2, h3, h4, h5, h6, h7, h8, h9, h10, h11⟩

theorem certs_of_all {rows : List RowFacts} (h : rows.all check = true) (i : Nat) (hi : i < rows.length) : rows[i].Cert :=
  cert_of_check (List.all_eq_true.mp h _ (List.getElem_mem hi))

end RowFacts
end S4V.Lemmas.RegexE2E
