/-
The `BTreeMap` model of `S4V.Model.SortDrain` (`insert` into a key-sorted association list, an
equal key replaced; `build` folds the inserts) against the specification sort (`insSorted`,
`stableSort`): `insert` puts a key that is not yet present where `insSorted` puts it, so with
pairwise distinct keys nothing is replaced and `build xs = stableSort (·.1) xs`.
Nothing here depends on the generated constants.
-/
import S4V.Model.SortDrain
import S4V.Lemmas.Lists

namespace S4V.Lemmas.SortDrain
open S4V.Model.SortDrain
open S4V.Lemmas.Lists (snoc_ind)

theorem klt_iff (a b : Key) :
    klt a b = true ↔
      a.1 < b.1 ∨ (a.1 = b.1 ∧ (a.2.1 < b.2.1 ∨ (a.2.1 = b.2.1 ∧ a.2.2 < b.2.2))) := by
  simp [klt]

theorem klt_false_iff (a b : Key) :
    klt a b = false ↔
      ¬ (a.1 < b.1 ∨ (a.1 = b.1 ∧ (a.2.1 < b.2.1 ∨ (a.2.1 = b.2.1 ∧ a.2.2 < b.2.2)))) := by
  rw [← klt_iff]; simp

theorem klt_irrefl (a : Key) : klt a a = false := by
  rw [klt_false_iff]; omega

theorem klt_trans {a b c : Key} (h1 : klt a b = true) (h2 : klt b c = true) : klt a c = true := by
  rw [klt_iff] at *; omega

theorem klt_asymm {a b : Key} (h : klt a b = true) : klt b a = false :=
  Bool.eq_false_iff.2 fun h' => Bool.false_ne_true ((klt_irrefl a).symm.trans (klt_trans h h'))

theorem klt_total {a b : Key} (h1 : klt a b = false) (h2 : a ≠ b) : klt b a = true := by
  obtain ⟨a1, a2, a3⟩ := a
  obtain ⟨b1, b2, b3⟩ := b
  rw [klt_false_iff] at h1
  rw [klt_iff]
  simp only [ne_eq, Prod.mk.injEq, not_and] at h2
  simp only at h1 ⊢
  omega

theorem klt_ne {a b : Key} (h : klt a b = true) : a ≠ b := by
  intro e; subst e; rw [klt_irrefl] at h; cases h

theorem klt_of_klt_of_not_klt {a b c : Key} (h1 : klt a b = true) (h2 : klt c b = false) :
    klt a c = true := by
  by_cases e : c = b
  · exact e ▸ h1
  · exact klt_trans h1 (klt_total h2 e)

theorem klt_of_not_klt_of_klt {a b c : Key} (h1 : klt b a = false) (h2 : klt b c = true) :
    klt a c = true := by
  by_cases e : b = a
  · exact e ▸ h2
  · exact klt_trans (klt_total h1 e) h2

theorem not_klt_trans {a b c : Key} (h1 : klt b a = false) (h2 : klt c b = false) :
    klt c a = false :=
  Bool.eq_false_iff.2 fun h => Bool.false_ne_true (h2.symm.trans (klt_of_klt_of_not_klt h h1))

def KSorted (m : List (Key × Nat)) : Prop := m.Pairwise (fun x y => klt x.1 y.1 = true)

instance (m : List (Key × Nat)) : Decidable (KSorted m) := by unfold KSorted; infer_instance

theorem mem_insert {m : List (Key × Nat)} {k : Key} {v : Nat} {y : Key × Nat}
    (h : y ∈ Model.SortDrain.insert m k v) : y = (k, v) ∨ y ∈ m := by
  induction m with
  | nil => simpa [Model.SortDrain.insert] using h
  | cons x r ih =>
    simp only [Model.SortDrain.insert] at h
    split at h
    · simpa using h
    · split at h <;> rcases List.mem_cons.1 h with h | h
      · simp [h]
      · simp [h]
      · simp [h]
      · rcases ih h with h | h <;> simp [h]

theorem insert_sorted {m : List (Key × Nat)} (k : Key) (v : Nat) (hm : KSorted m) :
    KSorted (Model.SortDrain.insert m k v) := by
  induction m with
  | nil => simp [Model.SortDrain.insert, KSorted]
  | cons x r ih =>
    obtain ⟨k', v'⟩ := x
    unfold KSorted at hm ih ⊢
    rw [List.pairwise_cons] at hm
    simp only [Model.SortDrain.insert]
    split
    · rename_i hlt
      refine List.pairwise_cons.2 ⟨?_, List.pairwise_cons.2 hm⟩
      intro y hy
      rcases List.mem_cons.1 hy with hy | hy
      · subst hy; exact hlt
      · exact klt_trans hlt (hm.1 y hy)
    · split
      · rename_i _ heq
        subst heq
        exact List.pairwise_cons.2 hm
      · rename_i hnlt hne
        refine List.pairwise_cons.2 ⟨?_, ih hm.2⟩
        intro y hy
        rcases mem_insert hy with hy | hy
        · subst hy
          exact klt_total (by simpa using hnlt) hne
        · exact hm.1 y hy

-- `build` and `stableSort` fold over their input from the left: the facts about them are inductions from the right
-- (`snoc_ind`) through `build_snoc` / `stableSort_snoc`
theorem build_snoc (l : List (Key × Nat)) (x : Key × Nat) :
    build (l ++ [x]) = Model.SortDrain.insert (build l) x.1 x.2 := by
  simp [build, List.foldl_append]

theorem build_ksorted (xs : List (Key × Nat)) : KSorted (build xs) := by
  induction xs using snoc_ind with
  | nil => exact .nil
  | snoc l x ih => rw [build_snoc]; exact insert_sorted _ _ ih

section spec
variable {α : Type _} {β : Type _}

theorem mem_insSorted {key : α → Key} {x y : α} {l : List α} :
    y ∈ insSorted key x l ↔ y = x ∨ y ∈ l := by
  induction l with
  | nil => simp [insSorted]
  | cons z r ih =>
    simp only [insSorted]
    split
    · simp
    · simp only [List.mem_cons, ih]
      exact or_left_comm

theorem insSorted_perm (key : α → Key) (x : α) (l : List α) :
    (insSorted key x l).Perm (x :: l) := by
  induction l with
  | nil => simp [insSorted]
  | cons z r ih =>
    simp only [insSorted]
    split
    · exact List.Perm.refl _
    · exact ((List.Perm.cons z ih).trans (List.Perm.swap x z r))

theorem stableSort_snoc (key : α → Key) (l : List α) (x : α) :
    stableSort key (l ++ [x]) = insSorted key x (stableSort key l) := by
  simp [stableSort, List.foldl_append]

theorem stableSort_perm (key : α → Key) (xs : List α) : (stableSort key xs).Perm xs := by
  induction xs using snoc_ind with
  | nil => exact .refl _
  | snoc l x ih =>
    rw [stableSort_snoc]
    exact (insSorted_perm key x _).trans ((ih.cons x).trans (List.perm_append_singleton x l).symm)

theorem mem_stableSort {key : α → Key} {xs : List α} {x : α} :
    x ∈ stableSort key xs ↔ x ∈ xs := (stableSort_perm key xs).mem_iff

def KLe (key : α → Key) (l : List α) : Prop :=
  l.Pairwise (fun x y => klt (key y) (key x) = false)

theorem insSorted_kle {key : α → Key} (x : α) {l : List α} (h : KLe key l) :
    KLe key (insSorted key x l) := by
  induction l with
  | nil => simp [insSorted, KLe]
  | cons z r ih =>
    unfold KLe at h ih ⊢
    rw [List.pairwise_cons] at h
    simp only [insSorted]
    split
    · rename_i hlt
      refine List.pairwise_cons.2 ⟨?_, List.pairwise_cons.2 h⟩
      intro y hy
      rcases List.mem_cons.1 hy with hy | hy
      · subst hy; exact klt_asymm hlt
      · exact klt_asymm (klt_of_klt_of_not_klt hlt (h.1 y hy))
    · rename_i hnlt
      refine List.pairwise_cons.2 ⟨?_, ih h.2⟩
      intro y hy
      rcases mem_insSorted.1 hy with hy | hy
      · subst hy; simpa using hnlt
      · exact h.1 y hy

theorem stableSort_kle (key : α → Key) (xs : List α) : KLe key (stableSort key xs) := by
  induction xs using snoc_ind with
  | nil => exact .nil
  | snoc l x ih => rw [stableSort_snoc]; exact insSorted_kle x ih

/-- `R a b` is read "`a` comes before `b` in the input". `insSorted` compares strictly, so `x` goes
in after every element of equal key and only `R y x` is asked of it. -/
theorem insSorted_stable {key : α → Key} {R : α → α → Prop} (x : α) {l : List α}
    (hs : KLe key l)
    (h : l.Pairwise (fun a b => key a = key b → R a b)) (hx : ∀ y ∈ l, R y x) :
    (insSorted key x l).Pairwise (fun a b => key a = key b → R a b) := by
  induction l with
  | nil => simp [insSorted]
  | cons z r ih =>
    unfold KLe at hs ih
    rw [List.pairwise_cons] at h hs
    simp only [insSorted]
    split
    · rename_i hlt
      refine List.pairwise_cons.2 ⟨?_, List.pairwise_cons.2 h⟩
      intro y hy heq
      exfalso
      rcases List.mem_cons.1 hy with hy | hy
      · subst hy; rw [heq, klt_irrefl] at hlt; cases hlt
      · have := klt_of_klt_of_not_klt hlt (hs.1 y hy)
        rw [heq, klt_irrefl] at this; cases this
    · refine List.pairwise_cons.2 ⟨?_, ih hs.2 h.2 (fun y hy => hx y (List.mem_cons_of_mem _ hy))⟩
      intro y hy heq
      rcases mem_insSorted.1 hy with hy | hy
      · subst hy; exact hx z List.mem_cons_self
      · exact h.1 y hy heq

theorem rel_of_mem_sorted {key : α → Key} {R : α → α → Prop} {l : List α} {x : α} (h : (l ++ [x]).Pairwise R) :
    ∀ y ∈ stableSort key l, R y x :=
  fun y hy => (List.pairwise_append.1 h).2.2 y (mem_stableSort.1 hy) x List.mem_cons_self

theorem stableSort_stable (key : α → Key) {R : α → α → Prop} {xs : List α}
    (h : xs.Pairwise R) :
    (stableSort key xs).Pairwise (fun a b => key a = key b → R a b) := by
  induction xs using snoc_ind with
  | nil => exact .nil
  | snoc l x ih =>
    rw [stableSort_snoc]
    exact insSorted_stable x (stableSort_kle key l) (ih (List.pairwise_append.1 h).1) (rel_of_mem_sorted h)

theorem insSorted_map (key : β → Key) (g : α → β) (x : α) (l : List α) :
    insSorted key (g x) (l.map g) = (insSorted (fun a => key (g a)) x l).map g := by
  induction l with
  | nil => simp [insSorted]
  | cons z r ih =>
    simp only [List.map_cons, insSorted]
    split
    · simp
    · simp [ih]

theorem stableSort_map (key : β → Key) (g : α → β) (xs : List α) :
    stableSort key (xs.map g) = (stableSort (fun a => key (g a)) xs).map g := by
  induction xs using snoc_ind with
  | nil => rfl
  | snoc l x ih => rw [List.map_append, List.map_singleton, stableSort_snoc, stableSort_snoc, ih, insSorted_map]

theorem insSorted_congr {k1 k2 : α → Key} {x : α} {l : List α}
    (h : ∀ y ∈ l, klt (k1 x) (k1 y) = klt (k2 x) (k2 y)) :
    insSorted k1 x l = insSorted k2 x l := by
  induction l with
  | nil => rfl
  | cons z r ih =>
    simp only [insSorted]
    rw [h z List.mem_cons_self, ih (fun y hy => h y (List.mem_cons_of_mem _ hy))]

theorem stableSort_congr {k1 k2 : α → Key} {R : α → α → Prop} {xs : List α}
    (hR : ∀ y x, R y x → klt (k1 x) (k1 y) = klt (k2 x) (k2 y))
    (h : xs.Pairwise R) : stableSort k1 xs = stableSort k2 xs := by
  induction xs using snoc_ind with
  | nil => rfl
  | snoc l x ih =>
    rw [stableSort_snoc, stableSort_snoc, ← ih (List.pairwise_append.1 h).1]
    exact insSorted_congr fun y hy => hR y x (rel_of_mem_sorted h y hy)

end spec

theorem insert_eq_insSorted {m : List (Key × Nat)} {k : Key} {v : Nat}
    (h : k ∉ m.map (·.1)) :
    Model.SortDrain.insert m k v = insSorted (·.1) (k, v) m := by
  induction m with
  | nil => rfl
  | cons x r ih =>
    obtain ⟨k', v'⟩ := x
    simp only [List.map_cons, List.mem_cons, not_or] at h
    simp only [Model.SortDrain.insert, insSorted]
    split
    · rfl
    · rw [if_neg h.1, ih h.2]

theorem build_eq_stableSort {xs : List (Key × Nat)} (h : (xs.map (·.1)).Nodup) :
    build xs = stableSort (·.1) xs := by
  induction xs using snoc_ind with
  | nil => rfl
  | snoc l x ih =>
    obtain ⟨hl, -, hx⟩ := List.nodup_append.1 (List.map_append ▸ h)
    rw [build_snoc, stableSort_snoc, ih hl, insert_eq_insSorted]
    intro hm
    obtain ⟨y, hy, e⟩ := List.mem_map.1 hm
    exact hx _ (List.mem_map_of_mem (mem_stableSort.1 hy)) x.1 (by simp) e

-- `insert_sorted`: inserting below, between, at an existing key (replace) and above
example :
    let m : List (Key × Nat) := [((1, 0, 0), 10), ((1, 5, 0), 11), ((2, 0, 3), 12)]
    KSorted m
    ∧ Model.SortDrain.insert m (0, 9, 9) 7 = ((0, 9, 9), 7) :: m
    ∧ Model.SortDrain.insert m (1, 5, 0) 7 = [((1, 0, 0), 10), ((1, 5, 0), 7), ((2, 0, 3), 12)]
    ∧ Model.SortDrain.insert m (2, 0, 2) 7
        = [((1, 0, 0), 10), ((1, 5, 0), 11), ((2, 0, 2), 7), ((2, 0, 3), 12)]
    ∧ KSorted (Model.SortDrain.insert m (2, 0, 2) 7)
    ∧ KSorted (Model.SortDrain.insert m (1, 5, 0) 7) := by decide +kernel

-- `insert_eq_insSorted` / `build_eq_stableSort`: a fresh key is placed the same way by both;
-- a present key is not (the hypothesis is needed)
example :
    let m : List (Key × Nat) := [((1, 0, 0), 10), ((1, 5, 0), 11), ((2, 0, 3), 12)]
    (2, 0, 2) ∉ m.map (·.1)
    ∧ Model.SortDrain.insert m (2, 0, 2) 7 = insSorted (·.1) ((2, 0, 2), 7) m
    ∧ (1, 5, 0) ∈ m.map (·.1)
    ∧ Model.SortDrain.insert m (1, 5, 0) 7 ≠ insSorted (·.1) ((1, 5, 0), 7) m := by decide +kernel

-- `stableSort_kle` / `stableSort_stable` / `stableSort_perm`: sorting by the first component
-- only, `R` = "smaller second component" (= earlier in the input here)
example :
    let key : Int × Nat → Key := fun p => (p.1, 0, 0)
    let xs : List (Int × Nat) := [(5, 0), (3, 1), (5, 2), (-1, 3), (3, 4), (5, 5)]
    xs.Pairwise (fun a b => a.2 < b.2)
    ∧ stableSort key xs = [(-1, 3), (3, 1), (3, 4), (5, 0), (5, 2), (5, 5)]
    ∧ (stableSort key xs).Pairwise (fun a b => key a = key b → a.2 < b.2) := by decide +kernel

-- `stableSort_congr`: adding the (increasing) position as a tie-breaker to the key changes nothing
example :
    let k1 : Int × Nat → Key := fun p => (p.1, Int.ofNat p.2, 0)
    let k2 : Int × Nat → Key := fun p => (p.1, 0, 0)
    let xs : List (Int × Nat) := [(5, 0), (3, 1), (5, 2), (-1, 3), (3, 4), (5, 5)]
    xs.Pairwise (fun a b => a.2 < b.2) ∧ stableSort k1 xs = stableSort k2 xs := by decide +kernel

example :
    let g : Nat → Key × Nat := fun n => ((Int.ofNat (n % 3), 0, 0), n)
    stableSort (·.1) ([4, 2, 0, 3, 1].map g) = (stableSort (fun n => (g n).1) [4, 2, 0, 3, 1]).map g
    ∧ stableSort (fun n => (g n).1) [4, 2, 0, 3, 1] = [0, 3, 4, 1, 2] := by decide +kernel

end S4V.Lemmas.SortDrain
