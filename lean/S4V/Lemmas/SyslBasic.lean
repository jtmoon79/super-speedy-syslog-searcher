/-
What the message layer (`S4V.Model.Syslines`) starts from: the filter functions
of `S4V.Gen.Filter` as plain comparisons, and line lists that tile the file
(`WFLines`), which is all the layer assumes of the lines and what `linesFrom P d`
provides.
-/
import S4V.Model.Syslines
import S4V.Lemmas.Lines

namespace S4V.Lemmas.Syslines
open S4V.Model.Lines S4V.Model.Syslines S4V.Gen.Filter

@[simp] theorem dtAfterOrBefore_none (t : Int) : dtAfterOrBefore t none = .Pass := rfl

theorem dtAfterOrBefore_some (t a : Int) :
    dtAfterOrBefore t (some a) = if t < a then .OccursBefore else .OccursAtOrAfter := by
  by_cases h : t < a <;> simp [dtAfterOrBefore, unwrapD, h]

theorem dtAfterOrBefore_some_lt {t a : Int} (h : t < a) :
    dtAfterOrBefore t (some a) = .OccursBefore := by
  simp [dtAfterOrBefore_some, h]

theorem dtAfterOrBefore_some_ge {t a : Int} (h : a ≤ t) :
    dtAfterOrBefore t (some a) = .OccursAtOrAfter := by
  have : ¬ t < a := by omega
  simp [dtAfterOrBefore_some, this]

def geA (a : Option Int) (t : Int) : Prop := ∀ x, a = some x → x ≤ t
def leB (b : Option Int) (t : Int) : Prop := ∀ y, b = some y → t ≤ y

instance (a : Option Int) (t : Int) : Decidable (geA a t) :=
  match a with
  | none => isTrue (by intro x h; cases h)
  | some x => if h : x ≤ t then isTrue (by intro y hy; cases hy; exact h)
              else isFalse (fun hh => h (hh x rfl))

instance (b : Option Int) (t : Int) : Decidable (leB b t) :=
  match b with
  | none => isTrue (by intro x h; cases h)
  | some x => if h : t ≤ x then isTrue (by intro y hy; cases hy; exact h)
              else isFalse (fun hh => h (hh x rfl))

@[simp] theorem geA_none (t : Int) : geA none t := by intro x h; cases h
@[simp] theorem leB_none (t : Int) : leB none t := by intro x h; cases h
@[simp] theorem geA_some (a t : Int) : geA (some a) t ↔ a ≤ t := by
  constructor
  · intro h; exact h a rfl
  · intro h x hx; cases hx; exact h
@[simp] theorem leB_some (b t : Int) : leB (some b) t ↔ t ≤ b := by
  constructor
  · intro h; exact h b rfl
  · intro h x hx; cases hx; exact h

theorem dtPassFilters_eq (t : Int) (a b : Option Int) :
    dtPassFilters t a b = if ¬ geA a t then .BeforeRange else if ¬ leB b t then .AfterRange else .InRange := by
  cases a <;> cases b <;> simp [dtPassFilters]

theorem dtPassFilters_inRange_iff (t : Int) (a b : Option Int) :
    dtPassFilters t a b = .InRange ↔
      (∀ x, a = some x → x ≤ t) ∧ (∀ y, b = some y → t ≤ y) := by
  show _ ↔ geA a t ∧ leB b t
  rw [dtPassFilters_eq]
  by_cases ha : geA a t <;> by_cases hb : leB b t <;> simp [ha, hb]

theorem dtPassFilters_beforeRange_iff (t : Int) (a b : Option Int) :
    dtPassFilters t a b = .BeforeRange ↔ ∃ x, a = some x ∧ t < x := by
  rw [dtPassFilters_eq]
  cases a <;> by_cases hb : leB b t <;> simp [hb]

theorem dtPassFilters_afterRange_iff (t : Int) (a b : Option Int) :
    dtPassFilters t a b = .AfterRange ↔ geA a t ∧ ∃ y, b = some y ∧ y < t := by
  rw [dtPassFilters_eq]
  by_cases ha : geA a t <;> cases b <;> simp [ha]

theorem dtAfterOrBefore_ne_before_iff (t : Int) (a : Option Int) :
    dtAfterOrBefore t a ≠ .OccursBefore ↔ geA a t := by
  cases a with
  | none => simp
  | some x => by_cases h : t < x <;> simp [dtAfterOrBefore_some, h] <;> omega

/-- the lines tile an interval starting at `s`: non-empty, consecutive -/
def WFFrom : Nat → List LineInfo → Prop
  | _, [] => True
  | s, l :: r => l.beg = s ∧ l.beg ≤ l.fin ∧ WFFrom (l.fin + 1) r

/-- what the message layer assumes of the line layer: the lines tile
`[0, fileSz ls)`; `linesFrom_wf` has it for the lines of any data and parser -/
def WFLines (ls : List LineInfo) : Prop := WFFrom 0 ls

instance decWFFrom : (s : Nat) → (ls : List LineInfo) → Decidable (WFFrom s ls)
  | _, [] => isTrue trivial
  | s, l :: r =>
    have := decWFFrom (l.fin + 1) r
    inferInstanceAs (Decidable (l.beg = s ∧ l.beg ≤ l.fin ∧ WFFrom (l.fin + 1) r))

instance (ls : List LineInfo) : Decidable (WFLines ls) := decWFFrom 0 ls

def endOf : Nat → List LineInfo → Nat
  | s, [] => s
  | _, l :: r => endOf (l.fin + 1) r

@[simp] theorem endOf_nil (s : Nat) : endOf s [] = s := rfl
@[simp] theorem endOf_cons (s : Nat) (l : LineInfo) (r : List LineInfo) :
    endOf s (l :: r) = endOf (l.fin + 1) r := rfl
@[simp] theorem WFFrom_nil (s : Nat) : WFFrom s [] := trivial
@[simp] theorem WFFrom_cons (s : Nat) (l : LineInfo) (r : List LineInfo) :
    WFFrom s (l :: r) ↔ l.beg = s ∧ l.beg ≤ l.fin ∧ WFFrom (l.fin + 1) r := Iff.rfl

theorem WFFrom_iff (s : Nat) (ls : List LineInfo) :
    WFFrom s ls ↔ (∀ l ∈ ls, l.beg ≤ l.fin) ∧ (∀ l, ls.head? = some l → l.beg = s) ∧
      (∀ k (h : k + 1 < ls.length), ls[k + 1].beg = ls[k].fin + 1) := by
  induction ls generalizing s with
  | nil => simp
  | cons l r ih =>
    rw [WFFrom_cons, ih]
    constructor
    · rintro ⟨h1, h2, h3, h4, h5⟩
      refine ⟨?_, ?_, ?_⟩
      · intro x hx
        rcases List.mem_cons.1 hx with rfl | hx
        · exact h2
        · exact h3 x hx
      · intro x hx; simp at hx; subst hx; exact h1
      · intro k hk
        cases k with
        | zero =>
          cases r with
          | nil => simp at hk
          | cons l' r' => simpa using h4 l' rfl
        | succ k =>
          simp at hk
          simpa using h5 k (by omega)
    · rintro ⟨h1, h2, h3⟩
      refine ⟨h2 l rfl, h1 l (by simp), fun x hx => h1 x (by simp [hx]), ?_, ?_⟩
      · intro x hx
        cases r with
        | nil => simp at hx
        | cons l' r' =>
          simp at hx; subst hx
          simpa using h3 0 (by simp)
      · intro k hk
        have := h3 (k + 1) (by simp; omega)
        simp only [List.getElem_cons_succ] at this
        exact this

theorem WFLines_iff (ls : List LineInfo) :
    WFLines ls ↔ (∀ l ∈ ls, l.beg ≤ l.fin) ∧ (∀ l, ls.head? = some l → l.beg = 0) ∧
      (∀ k (h : k + 1 < ls.length), ls[k + 1].beg = ls[k].fin + 1) := WFFrom_iff 0 ls

theorem endOf_append (s : Nat) (a b : List LineInfo) :
    endOf s (a ++ b) = endOf (endOf s a) b := by
  induction a generalizing s with
  | nil => rfl
  | cons l r ih => simp [ih]

theorem WFFrom_append (s : Nat) (a b : List LineInfo) :
    WFFrom s (a ++ b) ↔ WFFrom s a ∧ WFFrom (endOf s a) b := by
  induction a generalizing s with
  | nil => simp
  | cons l r ih => simp [ih, and_assoc]

theorem fileSz_eq_endOf (ls : List LineInfo) : fileSz ls = endOf 0 ls := by
  rcases List.eq_nil_or_concat ls with rfl | ⟨xs, l, rfl⟩
  · rfl
  · rw [List.concat_eq_append, fileSz, List.getLast?_concat, endOf_append]; rfl

theorem length_le_endOf {s : Nat} {ls : List LineInfo} (h : WFFrom s ls) :
    s + ls.length ≤ endOf s ls := by
  induction ls generalizing s with
  | nil => simp
  | cons l r ih =>
    obtain ⟨h1, h2, h3⟩ := h
    have := ih h3
    simp; omega

theorem le_endOf {s : Nat} {ls : List LineInfo} (h : WFFrom s ls) : s ≤ endOf s ls :=
  Nat.le_trans (Nat.le_add_right ..) (length_le_endOf h)

theorem lt_endOf_of_ne_nil {s : Nat} {ls : List LineInfo} (h : WFFrom s ls) (hne : ls ≠ []) :
    s < endOf s ls :=
  Nat.lt_of_lt_of_le (Nat.lt_add_of_pos_right (List.length_pos_iff.2 hne)) (length_le_endOf h)

theorem mem_bounds {s : Nat} {ls : List LineInfo} (h : WFFrom s ls) {x : LineInfo} (hx : x ∈ ls) :
    s ≤ x.beg ∧ x.beg ≤ x.fin ∧ x.fin < endOf s ls := by
  induction ls generalizing s with
  | nil => cases hx
  | cons l r ih =>
    obtain ⟨h1, h2, h3⟩ := h
    rcases List.mem_cons.1 hx with rfl | hx
    · have := le_endOf h3
      simp; omega
    · have := ih h3 hx
      simp; omega

theorem exists_line {s : Nat} {ls : List LineInfo} (h : WFFrom s ls) {fo : Nat}
    (h1 : s ≤ fo) (h2 : fo < endOf s ls) : ∃ l ∈ ls, l.beg ≤ fo ∧ fo ≤ l.fin := by
  induction ls generalizing s with
  | nil => simp at h2; omega
  | cons l r ih =>
    obtain ⟨e1, e2, e3⟩ := h
    by_cases hc : fo ≤ l.fin
    · exact ⟨l, by simp, by omega, hc⟩
    · obtain ⟨x, hx, hb⟩ := ih e3 (by omega) (by simpa using h2)
      exact ⟨x, by simp [hx], hb⟩

theorem lineAt_mid {X Y : List LineInfo} {l : LineInfo} (h : WFLines (X ++ l :: Y)) {fo : Nat}
    (h1 : l.beg ≤ fo) (h2 : fo ≤ l.fin) : lineAt (X ++ l :: Y) fo = some l := by
  unfold lineAt
  rw [List.find?_eq_some_iff_append]
  refine ⟨by simp [h1, h2], X, Y, rfl, ?_⟩
  intro a ha
  obtain ⟨hX, hl, _, _⟩ := (WFFrom_append 0 X (l :: Y)).1 h
  have := mem_bounds hX ha
  simp; omega

theorem lineAt_none {ls : List LineInfo} (h : WFLines ls) {fo : Nat} (h1 : fileSz ls ≤ fo) :
    lineAt ls fo = none := by
  unfold lineAt
  rw [List.find?_eq_none]
  intro x hx
  have := mem_bounds h hx
  rw [fileSz_eq_endOf] at h1
  simp; omega

theorem lineAt_some_iff {ls : List LineInfo} (h : WFLines ls) (fo : Nat) (l : LineInfo) :
    lineAt ls fo = some l ↔ l ∈ ls ∧ l.beg ≤ fo ∧ fo ≤ l.fin := by
  constructor
  · intro hl
    unfold lineAt at hl
    have h1 := List.find?_some hl
    have h2 := List.mem_of_find?_eq_some hl
    simp at h1
    exact ⟨h2, h1⟩
  · rintro ⟨hm, h1, h2⟩
    obtain ⟨X, Y, rfl⟩ := List.mem_iff_append.1 hm
    exact lineAt_mid h h1 h2

theorem lineAt_none_iff {ls : List LineInfo} (h : WFLines ls) (fo : Nat) :
    lineAt ls fo = none ↔ fileSz ls ≤ fo := by
  constructor
  · intro hn
    apply Decidable.byContradiction
    intro hc
    rw [fileSz_eq_endOf] at hc
    obtain ⟨l, hl, hb⟩ := exists_line h (Nat.zero_le fo) (by omega)
    rw [((lineAt_some_iff h fo l).2 ⟨hl, hb⟩)] at hn
    cases hn
  · exact lineAt_none h

theorem linesFromAux_wf (P : Bytes → Option Int) (d : Bytes) (fuel fo : Nat) :
    WFFrom fo (linesFromAux P d fuel fo) := by
  induction fuel generalizing fo with
  | zero => simp [linesFromAux]
  | succ n ih =>
    simp only [linesFromAux]
    split
    · simp
    · next hlt =>
      exact ⟨rfl, (Lines.isLineEnd_lineEnd d fo (by omega)).1, ih _⟩

theorem linesFromAux_endOf (P : Bytes → Option Int) (d : Bytes) (fuel fo : Nat)
    (hfo : fo ≤ d.length) (hfuel : d.length ≤ fo + fuel) :
    endOf fo (linesFromAux P d fuel fo) = d.length := by
  induction fuel generalizing fo with
  | zero => simp [linesFromAux]; omega
  | succ n ih =>
    simp only [linesFromAux]
    split
    · simp; omega
    · next hlt =>
      obtain ⟨h1, h2, -⟩ := Lines.isLineEnd_lineEnd d fo (by omega)
      simp only [endOf_cons]
      exact ih _ (by omega) (by omega)

theorem linesFromAux_mem (P : Bytes → Option Int) (d : Bytes) (fuel fo : Nat) (l : LineInfo)
    (h : l ∈ linesFromAux P d fuel fo) :
    l.beg < d.length ∧ l.fin = lineEnd d l.beg ∧
      l.dt = P ((d.drop l.beg).take (l.fin + 1 - l.beg)) := by
  induction fuel generalizing fo with
  | zero => simp [linesFromAux] at h
  | succ n ih =>
    simp only [linesFromAux] at h
    split at h
    · cases h
    · next hlt =>
      rcases List.mem_cons.1 h with rfl | h
      · exact ⟨by simp; omega, rfl, rfl⟩
      · exact ih _ h

theorem linesFrom_wf (P : Bytes → Option Int) (d : Bytes) : WFLines (linesFrom P d) :=
  linesFromAux_wf P d d.length 0

theorem linesFrom_fileSz (P : Bytes → Option Int) (d : Bytes) :
    fileSz (linesFrom P d) = d.length := by
  rw [fileSz_eq_endOf]
  exact linesFromAux_endOf P d d.length 0 (Nat.zero_le _) (by omega)

theorem linesFrom_mem (P : Bytes → Option Int) (d : Bytes) (l : LineInfo)
    (h : l ∈ linesFrom P d) :
    l.beg < d.length ∧ l.fin = lineEnd d l.beg ∧
      l.dt = P ((d.drop l.beg).take (l.fin + 1 - l.beg)) :=
  linesFromAux_mem P d d.length 0 l h

end S4V.Lemmas.Syslines
