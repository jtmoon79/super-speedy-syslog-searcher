/-
Zone strings that scan: every `±HH:MM` / `±HHMM`, for all digits with a minute tens digit up to `5` (`tzScan_hm`); hence the fallback-zone string `offString`
of a whole-minute offset within ±24 h is `±HH:MM`, scans, has no blank and at most 9 bytes (`fb_piece`) — what zone-less rows
need in `C04_normalise_parse`.
-/
import S4V.Lemmas.DtParse

namespace S4V.Lemmas.RegexZones
open S4V.Gen.TimeTables S4V.Model.DtParse S4V.Lemmas.DtParse

def notBlankB (l : List UInt8) : Bool := l.all (fun b => b != 32 && b != 9 && b != 10 && b != 13)

theorem allNotBlank_of_notBlankB {l : List UInt8} (h : notBlankB l = true) : AllNotBlank l := by
  intro b hb
  have := List.all_eq_true.mp h b hb
  simp only [Bool.and_eq_true, bne_iff_ne, ne_eq, and_assoc] at this
  exact this

theorem skipColonWs_digit {m : UInt8} (r : Bytes) (h : isDigit m = true) : skipColonWs (m :: r) = m :: r := by
  have h58 : m ≠ 58 := by rintro rfl; exact absurd h (by decide)
  simp [skipColonWs, h58, isWs_of_isDigit m h]

/-- `±HHMM` and `±HH:MM` with a minute tens digit up to `5` (what chrono accepts) scan, under `%z`/`%:z` and under `%#z`,
to sign·(HH·3600 + MM·60) -/
theorem tzScan_hm (perm : Bool) {s h1 h2 m1 m2 : UInt8} (hs : s = 43 ∨ s = 45) (d1 : isDigit h1 = true)
    (d2 : isDigit h2 = true) (d3 : isDigit m1 = true) (d4 : isDigit m2 = true) (hm : m1 ≤ 53) :
    tzScan perm [s, h1, h2, m1, m2] =
      some (if s = 45 then -(numVal [h1, h2] * 3600 + numVal [m1, m2] * 60) else numVal [h1, h2] * 3600 + numVal [m1, m2] * 60, []) ∧
    tzScan perm [s, h1, h2, 58, m1, m2] =
      some (if s = 45 then -(numVal [h1, h2] * 3600 + numVal [m1, m2] * 60) else numVal [h1, h2] * 3600 + numVal [m1, m2] * 60, []) := by
  have h48 : 48 ≤ m1 := by simp only [isDigit, Bool.and_eq_true, decide_eq_true_eq] at d3; exact d3.1
  have hc : skipColonWs [58, m1, m2] = [m1, m2] := by rw [skipColonWs, if_pos (by decide), skipColonWs_digit _ d3]
  rcases hs with rfl | rfl <;>
    simp [tzScan, skipWs, isWs, hc, skipColonWs_digit _ d3, d1, d2, d4, h48, hm]

theorem dchar_tens_le {m : Nat} (hm : m < 60) : dchar (m / 10) ≤ 53 := by
  have : m / 10 = 0 ∨ m / 10 = 1 ∨ m / 10 = 2 ∨ m / 10 = 3 ∨ m / 10 = 4 ∨ m / 10 = 5 := by omega
  rcases this with e | e | e | e | e | e <;> rw [e] <;> decide

/-- whole-minute fallback offsets within ±24 h, the ends included (what `--tz-offset` can denote): enough where the fallback
string only has to SCAN, the naive date-time being placed in the fallback zone (`fb_piece`, the `_fill` and zone-less sets).
Where the string's own value is used as a zone (`RegexE2E.fb_scan`) chrono wants it strictly inside: `RegexE2E.FbOK'` -/
def FbOK (fbOff : Int) : Prop := ∃ k : Nat, k ≤ 2880 ∧ fbOff = ((k : Int) - 1440) * 60

/-- a whole-minute offset renders as `±HH:MM` (no seconds part) -/
theorem fb_piece {fbOff : Int} (h : FbOK fbOff) (perm : Bool) :
    (offString fbOff).length ≤ 9 ∧ TzPieceOK .fill perm (offString fbOff) fbOff fbOff := by
  obtain ⟨k, _, rfl⟩ := h
  generalize hoff : ((k : Int) - 1440) * 60 = off
  have hss : off.natAbs % 60 = 0 := by omega
  have hsh : offString off = [if off < 0 then 45 else 43, dchar (off.natAbs / 3600 / 10), dchar (off.natAbs / 3600),
      58, dchar (off.natAbs / 60 % 60 / 10), dchar (off.natAbs / 60 % 60)] := by
    simp [offString, hss]
  rw [hsh]
  refine ⟨by simp, ⟨_, (tzScan_hm perm (by split <;> simp) (isDigit_dchar _) (isDigit_dchar _) (isDigit_dchar _) (isDigit_dchar _)
    (dchar_tens_le (Nat.mod_lt _ (by decide)))).2⟩, ?_, rfl⟩
  intro b hb
  simp only [List.mem_cons, List.not_mem_nil, or_false] at hb
  rcases hb with rfl | rfl | rfl | rfl | rfl | rfl
  · split <;> (unfold NotBlank; decide)
  all_goals first | exact notBlank_dchar _ | (unfold NotBlank; decide)

end S4V.Lemmas.RegexZones
