/-
A symbolic run of the backtracking matcher `S4V.Model.Regex.m` on inputs of a known SHAPE.

* `Sym`            a set of bytes (inclusive ranges of `toNat`); a symbolic word `List Sym` stands for
                   every byte string whose i-th byte lies in the i-th set (`Conc`)
* `am F a …`       the matcher `m` re-run on a symbolic word that is followed by an UNKNOWN rest of
                   which only the first byte is constrained (`TailF F`: the rest is empty or starts with
                   a byte of `F`). Three-valued: `.done` (the first-priority complete path ends where the
                   top continuation accepts), `.fail` (no path can complete, whatever the rest), `.unk`
                   (the outcome depends on bytes the shape does not determine — never trusted; also `^`, positions
                   being relative: the row theorems of `S4V.Lemmas.RegexAuto` take a head `^` apart)
* `am_sound`       `am` simulates `m` for every concretisation of the word and every admissible rest
* `step_of_am`     hence a `Step` of the calculus of `S4V.Lemmas.RegexStep`, for any start position and
                   any capture slots already present (positions are relative: `shc` shifts them)
* `Piece`/`rowOk`/`row_step`   a row = concatenation of pieces, each with a finite catalogue of
                   symbolic words; ONE Boolean check (`rowOk`: evaluated in the kernel for a catalogue written by
                   hand, true by construction for a pruned one, `RegexAuto.rowOkA_prune`) gives the `Step` through
                   the whole concatenation for EVERY choice of words: the follow set of a piece is computed from
                   the first bytes of the pieces after it
-/
import S4V.Model.Regex
import S4V.Lemmas.RegexStep

namespace S4V.Lemmas.RegexSym
open S4V.Model.Regex S4V.Lemmas.RegexStep

abbrev Sym := List (Nat × Nat)

def symHas (s : Sym) (b : UInt8) : Bool := inRanges s b.toNat

inductive R where
  | fail | unk | done
deriving DecidableEq, Repr

abbrev AK := Nat → List Sym → Caps → R

def asciiOnly (s : List (Nat × Nat)) : Bool := s.all (fun r => decide (r.2 < 128))

def subCls (s : Sym) (rs : List (Nat × Nat)) : Bool :=
  asciiOnly s && (List.range 128).all (fun n => !inRanges s n || inRanges rs n)

def disjCls (s : Sym) (rs : List (Nat × Nat)) : Bool :=
  asciiOnly s && (List.range 128).all (fun n => !(inRanges s n && inRanges rs n))

/-- no byte of the follow set can begin the UTF-8 encoding of a member of the class: the two share no ASCII point, and one of
them is ASCII only (a byte from 128 on begins no ASCII scalar, an ASCII byte no other) -/
def follFails (F : Sym) (rs : List (Nat × Nat)) : Bool :=
  (List.range 128).all (fun n => !(inRanges F n && inRanges rs n)) && (asciiOnly F || asciiOnly rs)

inductive LitR where
  | ok (rest : List Sym) | fail | unk

def amLit (F : Sym) : List UInt8 → List Sym → LitR
  | [], rest => .ok rest
  | b :: _, [] => if symHas F b then .unk else .fail
  | b :: bs, s :: rest =>
    if s == [(b.toNat, b.toNat)] then amLit F bs rest
    else if symHas s b then .unk else .fail

def amRep (body : Nat → List Sym → Caps → AK → R) (bounded : Bool) :
    Nat → Nat → Nat → List Sym → Caps → AK → R
  | 0, need, pos, rest, caps, k =>
    if bounded then (if need = 0 then k pos rest caps else .fail) else .unk
  | f + 1, need, pos, rest, caps, k =>
    if need = 0 then
      match body pos rest caps (fun p r c => amRep body bounded f 0 p r c k) with
      | .fail => k pos rest caps
      | .unk => .unk
      | .done => .done
    else body pos rest caps (fun p r c => amRep body bounded f (need - 1) p r c k)

def am (F : Sym) : Re → Nat → List Sym → Caps → AK → R
  | .eps, pos, rest, caps, k => k pos rest caps
  | .lit bs, pos, rest, caps, k =>
    match amLit F bs rest with
    | .ok rest' => k (pos + bs.length) rest' caps
    | .fail => .fail
    | .unk => .unk
  | .cls rs, pos, rest, caps, k =>
    match rest with
    | [] => if follFails F rs then .fail else .unk
    | s :: rest' =>
      if subCls s rs then k (pos + 1) rest' caps
      else if disjCls s rs then .fail else .unk
  | .cat a b, pos, rest, caps, k => am F a pos rest caps (fun p r c => am F b p r c k)
  | .alt a b, pos, rest, caps, k =>
    match am F a pos rest caps k with
    | .fail => am F b pos rest caps k
    | .unk => .unk
    | .done => .done
  | .rep r lo hi, pos, rest, caps, k =>
    amRep (fun p r' c k' => am F r p r' c k') hi.isSome
      (match hi with | some h => h | none => lo + rest.length + 1) lo pos rest caps k
  | .group i r, pos, rest, caps, k => am F r pos rest caps (fun p r' c => k p r' ((i, pos, p) :: c))
  | .bol, _, _, _, _ => .unk
  | .eol, pos, rest, caps, k =>
    match rest with
    | [] => if F.isEmpty then k pos rest caps else .unk
    | _ :: _ => .fail

/-- shift relative capture positions by `p0` -/
def shc (p0 : Nat) (c : Caps) : Caps := c.map (fun e => (e.1, p0 + e.2.1, p0 + e.2.2))

def Conc : List Sym → List UInt8 → Prop
  | [], [] => True
  | s :: ss, b :: w => symHas s b = true ∧ Conc ss w
  | [], _ :: _ => False
  | _ :: _, [] => False

def TailF (F : Sym) (r : List UInt8) : Prop := ∀ x t, r = x :: t → symHas F x = true

theorem conc_nil {w : List UInt8} (h : Conc [] w) : w = [] := by
  cases w with
  | nil => rfl
  | cons _ _ => exact absurd h (by simp [Conc])

theorem conc_cons {s : Sym} {ss : List Sym} {w : List UInt8} (h : Conc (s :: ss) w) :
    ∃ b w', w = b :: w' ∧ symHas s b = true ∧ Conc ss w' := by
  cases w with
  | nil => exact absurd h (by simp [Conc])
  | cons b w' => exact ⟨b, w', rfl, h.1, h.2⟩

theorem conc_length : ∀ {syms : List Sym} {w : List UInt8}, Conc syms w → syms.length = w.length
  | [], [], _ => rfl
  | _ :: _, _ :: _, h => congrArg (· + 1) (conc_length h.2)

def Sim (p0 : Nat) (c0 : Caps) (r : List UInt8) (res : Res) (ka : AK) (k : K) : Prop :=
  ∀ p syms c w, Conc syms w →
    (ka p syms c = .fail → k (p0 + p) (w ++ r) (shc p0 c ++ c0) = none) ∧
    (ka p syms c = .done → k (p0 + p) (w ++ r) (shc p0 c ++ c0) = some res)

theorem inRanges_asciiOnly {s : List (Nat × Nat)} {n : Nat} (ha : asciiOnly s = true) (h : inRanges s n = true) :
    n < 128 := by
  simp only [inRanges, List.any_eq_true, Bool.and_eq_true, decide_eq_true_eq] at h
  obtain ⟨e, he, _, h2⟩ := h
  have := List.all_eq_true.mp ha e he
  simp only [decide_eq_true_eq] at this
  omega

theorem all_range {f : Nat → Bool} {n k : Nat} (h : (List.range n).all f = true) (hk : k < n) : f k = true :=
  List.all_eq_true.mp h k (List.mem_range.mpr hk)

theorem cls_follFails {F : Sym} {rs : List (Nat × Nat)} {r : List UInt8} (hr : TailF F r)
    (h : follFails F rs = true) (p : Nat) (c : Caps) (k : K) : m (.cls rs) p r c k = none := by
  simp only [follFails, Bool.and_eq_true, Bool.or_eq_true] at h
  obtain ⟨h1, h2⟩ := h
  cases r with
  | nil => exact fails_cls_nil k
  | cons x t =>
    have hx := hr x t rfl
    unfold symHas at hx
    by_cases hlt : x.toNat < 128
    · have := all_range h1 hlt
      simp only [hx, Bool.true_and, Bool.not_eq_true'] at this
      exact fails_cls hlt this k
    · rcases h2 with h2 | h2
      · exact absurd (inRanges_asciiOnly h2 hx) hlt
      · simp only [m]
        cases hd : decode (x :: t) with
        | none => rfl
        | some cn =>
          obtain ⟨cc, n⟩ := cn
          -- a scalar of an ASCII-only class would have been decoded from one ASCII byte
          have : inRanges rs cc = false := Bool.eq_false_iff.mpr fun hin => by
            have hcc := inRanges_asciiOnly h2 hin
            obtain ⟨_, _, e, hb, _⟩ := (decode_some hd).2.2 hcc
            cases e; omega
          simp [this]

theorem symHas_range {lo hi : Nat} {b : UInt8} : symHas [(lo, hi)] b = true ↔ lo ≤ b.toNat ∧ b.toNat ≤ hi := by
  simp [symHas, inRanges]

theorem symHas_single {b x : UInt8} (h : symHas [(b.toNat, b.toNat)] x = true) : x = b :=
  UInt8.toNat_inj.mp (by have := symHas_range.mp h; omega)

theorem isPrefix_of_not_symHas {S : Sym} {b x : UInt8} (h1 : ¬ symHas S b = true) (h2 : symHas S x = true)
    (bs t : List UInt8) : isPrefix (b :: bs) (x :: t) = false := by
  simp [isPrefix, show b ≠ x from fun e => h1 (e ▸ h2)]

theorem amLit_sound {F : Sym} {r : List UInt8} (hr : TailF F r) :
    ∀ (bs : List UInt8) (syms : List Sym) (w : List UInt8), Conc syms w →
      (∀ rest', amLit F bs syms = .ok rest' → ∃ w', w = bs ++ w' ∧ Conc rest' w') ∧
      (amLit F bs syms = .fail → isPrefix bs (w ++ r) = false)
  | [], _, w, hw => ⟨fun _ h => ⟨w, rfl, by cases h; exact hw⟩, fun h => (nomatch h)⟩
  | b :: bs, [], [], _ => by
    simp only [amLit]
    split
    · exact ⟨fun _ h => (nomatch h), fun h => (nomatch h)⟩
    · next hF =>
      refine ⟨fun _ h => (nomatch h), fun _ => ?_⟩
      cases r with
      | nil => rfl
      | cons x t => exact isPrefix_of_not_symHas hF (hr x t rfl) bs t
  | b :: bs, s :: ss, x :: w', ⟨hsx, hw'⟩ => by
    simp only [amLit]
    split
    · next hs =>
      obtain rfl : s = [(b.toNat, b.toNat)] := by simpa using hs
      obtain rfl := symHas_single hsx
      obtain ⟨i1, i2⟩ := amLit_sound hr bs ss w' hw'
      exact ⟨fun rest' h => let ⟨w'', e, hc⟩ := i1 rest' h; ⟨w'', by simp [e], hc⟩,
        fun h => by simpa [isPrefix] using i2 h⟩
    · split
      · exact ⟨fun _ h => (nomatch h), fun h => (nomatch h)⟩
      · next hsb => exact ⟨fun _ h => (nomatch h), fun _ => isPrefix_of_not_symHas hsb hsx bs _⟩

theorem isPrefix_append_self (bs t : List UInt8) : isPrefix bs (bs ++ t) = true := isPrefix_self_append bs t

section sound
variable {F : Sym} {r : List UInt8} {p0 : Nat} {c0 : Caps} {res : Res}

/-- what `am_sound` says of one regex (or loop): it turns simulating continuations into simulating runs -/
def Lifts (p0 : Nat) (c0 : Caps) (r : List UInt8) (res : Res)
    (fa : Nat → List Sym → Caps → AK → R) (f : Nat → List UInt8 → Caps → K → Option Res) : Prop :=
  ∀ (ka : AK) (k : K), Sim p0 c0 r res ka k →
    Sim p0 c0 r res (fun p s c => fa p s c ka) (fun p i c => f p i c k)

/-- `f` is the fuel of the symbolic loop, `f2` that of the matcher's. An unbounded repetition takes its fuel from the length of
the input, of which the symbolic run knows only its word: it has no more fuel than the matcher and answers `.unk` where its
own ends. -/
theorem amRep_sound {ba : Nat → List Sym → Caps → AK → R} {body : Nat → List UInt8 → Caps → K → Option Res}
    (hb : Lifts p0 c0 r res ba body) (bounded : Bool) (ka : AK) (k : K) (hk : Sim p0 c0 r res ka k) :
    ∀ (f f2 need : Nat), (bounded = true → f2 = f) → f ≤ f2 →
      Sim p0 c0 r res (fun p s c => amRep ba bounded f need p s c ka) (fun p i c => repLoop body f2 need p i c k)
  | 0, f2, need, hbd, _ => fun p syms c w hw => by
    cases bounded with
    | false => simp [amRep]
    | true =>
      obtain rfl : f2 = 0 := hbd rfl
      simp only [amRep, ↓reduceIte, repLoop]
      split
      · exact hk p syms c w hw
      · simp
  | f + 1, f2 + 1, need, hbd, hle => fun p syms c w hw => by
    have ih := fun need => amRep_sound hb bounded ka k hk f f2 need (fun h => Nat.succ.inj (hbd h)) (Nat.le_of_succ_le_succ hle)
    simp only [amRep, repLoop]
    split
    · have inner := hb _ _ (ih 0) p syms c w hw
      simp only at inner
      cases hres : ba p syms c (fun p r c => amRep ba bounded f 0 p r c ka) with
      | fail =>
        rw [inner.1 hres]
        exact hk p syms c w hw
      | unk => simp
      | done =>
        rw [inner.2 hres]
        simp
    · exact hb _ _ (ih (need - 1)) p syms c w hw

theorem am_sound (hr : TailF F r) (a : Re) : Lifts p0 c0 r res (am F a) (m a) := by
  intro ka k hk p syms c w hw
  induction a generalizing ka k p syms c w with
  | eps => simpa [am, m] using hk p syms c w hw
  | lit bs =>
    obtain ⟨l1, l2⟩ := amLit_sound hr bs syms w hw
    simp only [am, m]
    cases hl : amLit F bs syms with
    | ok rest' =>
      obtain ⟨w', rfl, hc⟩ := l1 rest' hl
      simpa [isPrefix_self_append, Nat.add_assoc] using hk (p + bs.length) rest' c w' hc
    | fail => simp [l2 hl]
    | unk => simp
  | cls rs =>
    match syms, w, hw with
    | [], [], _ =>
      simp only [am]
      split
      · next hf => simp [cls_follFails hr hf]
      · simp
    | s :: ss, x :: w', ⟨hsx, hw'⟩ =>
      unfold symHas at hsx
      simp only [am]
      split
      · next hsub =>
        simp only [subCls, Bool.and_eq_true] at hsub
        have hlt := inRanges_asciiOnly hsub.1 hsx
        have hin := all_range hsub.2 hlt
        simp only [hsx, Bool.not_true, Bool.false_or] at hin
        simpa [m, decode_ascii_cons hlt, hin, Nat.add_assoc] using hk (p + 1) ss c w' hw'
      · split
        · next hdis =>
          simp only [disjCls, Bool.and_eq_true] at hdis
          have hlt := inRanges_asciiOnly hdis.1 hsx
          have hin := all_range hdis.2 hlt
          simp only [hsx, Bool.true_and, Bool.not_eq_true'] at hin
          simp [m, decode_ascii_cons hlt, hin]
        · simp
  | cat a b iha ihb =>
    simp only [am, m]
    exact iha _ _ (fun p syms c w hw => ihb ka k hk p syms c w hw) p syms c w hw
  | alt a b iha ihb =>
    have ha := iha ka k hk p syms c w hw
    simp only at ha
    simp only [am, m]
    cases hres : am F a p syms c ka with
    | fail => rw [ha.1 hres]; exact ihb ka k hk p syms c w hw
    | unk => simp
    | done => rw [ha.2 hres]; simp
  | rep a lo hi ih =>
    simp only [am, m]
    cases hi with
    | none => exact amRep_sound ih false ka k hk _ _ lo (by simp) (by simp [conc_length hw]) p syms c w hw
    | some h => exact amRep_sound ih true ka k hk _ _ lo (by simp) (by simp) p syms c w hw
  | group i a ih =>
    simp only [am, m]
    refine ih _ _ (fun p' syms' c' w' hw' => ?_) p syms c w hw
    simpa [shc] using hk p' syms' ((i, p, p') :: c') w' hw'
  | bol => simp [am]
  | eol =>
    match syms, w, hw with
    | [], [], _ =>
      simp only [am]
      split
      · next hF =>
        obtain rfl : F = [] := by simpa using hF
        obtain rfl : r = [] := by
          cases r with
          | nil => rfl
          | cons x t => simpa [symHas, inRanges] using hr x t rfl
        simpa [m] using hk p [] c [] trivial
      · simp
    | _ :: _, _ :: _, _ => simp [am, m]
end sound

/-- the top continuation: accept exactly "word used up, at relative position `pe`, with relative slots `ce`" -/
def topK (pe : Nat) (ce : Caps) : AK :=
  fun p s c => if s.isEmpty && p == pe && c == ce then .done else .unk

theorem step_of_am {F : Sym} {a : Re} {syms : List Sym} {w r : List UInt8} {p0 pe : Nat} {c0 ce : Caps}
    (h : am F a 0 syms [] (topK pe ce) = .done) (hw : Conc syms w) (hr : TailF F r) :
    Step a p0 (w ++ r) c0 (p0 + pe) r (shc p0 ce ++ c0) := by
  intro k res hk
  have hsim : Sim p0 c0 r res (topK pe ce) k := by
    intro p s c w' hw'
    unfold topK
    split
    · next hc =>
      simp only [Bool.and_eq_true, List.isEmpty_iff, beq_iff_eq] at hc
      obtain ⟨⟨rfl, rfl⟩, rfl⟩ := hc
      obtain rfl := conc_nil hw'
      exact ⟨fun hf => (nomatch hf), fun _ => by simpa using hk⟩
    · exact ⟨fun hf => (nomatch hf), fun hd => (nomatch hd)⟩
  have := (am_sound hr a (topK pe ce) k hsim 0 syms [] w hw).2 h
  simpa [shc] using this

theorem fails_of_am {F : Sym} {a : Re} {syms : List Sym} {w r : List UInt8} {p0 : Nat} {c0 : Caps}
    (h : am F a 0 syms [] (fun _ _ _ => .unk) = .fail) (hw : Conc syms w) (hr : TailF F r) :
    Fails a p0 (w ++ r) c0 := by
  intro k
  have hsim : Sim p0 c0 r ⟨0, 0, []⟩ (fun _ _ _ => .unk) k := by
    intro p s c w' _
    exact ⟨fun hf => (by cases hf), fun hd => (by cases hd)⟩
  have := (am_sound hr a _ k hsim 0 syms [] w hw).1 h
  simpa [shc] using this

/-- one item of a row's top-level concatenation together with the catalogue of symbolic words it is
meant to consume; each word carries the capture slots (relative to the start of the piece, most
recent first) that the item records while consuming it -/
structure Piece where
  item : Re
  dom : List (List Sym × Caps)

def firsts (dom : List (List Sym × Caps)) : Sym :=
  dom.flatMap (fun e => match e.1 with | [] => [] | s :: _ => s)

def nullable (dom : List (List Sym × Caps)) : Bool := dom.any (fun e => e.1.isEmpty)

/-- bytes that can follow a piece: first bytes of the words of the next piece(s), or of the tail -/
def follow : List Piece → Sym → Sym
  | [], tF => tF
  | q :: qs, tF => firsts q.dom ++ (if nullable q.dom then follow qs tF else [])

def pieceOk (F : Sym) (q : Piece) : Bool :=
  q.dom.all (fun e => am F q.item 0 e.1 [] (topK e.1.length e.2) == .done)

def rowOk : List Piece → Sym → Bool
  | [], _ => true
  | q :: qs, tF => pieceOk (follow qs tF) q && rowOk qs tF

/-- a choice of one catalogue entry and one concrete word of it per piece -/
def Valid : List Piece → List ((List Sym × Caps) × List UInt8) → Prop
  | [], [] => True
  | q :: qs, ew :: sel => ew.1 ∈ q.dom ∧ Conc ew.1.1 ew.2 ∧ Valid qs sel
  | [], _ :: _ => False
  | _ :: _, [] => False

def flat : List ((List Sym × Caps) × List UInt8) → List UInt8
  | [] => []
  | ew :: sel => ew.2 ++ flat sel

/-- the capture slots after the chosen words, starting at position `p` with slots `c` -/
def capsAt (p : Nat) (c : Caps) : List ((List Sym × Caps) × List UInt8) → Caps
  | [] => c
  | ew :: sel => capsAt (p + ew.2.length) (shc p ew.1.2 ++ c) sel

theorem follow_append (qs ps : List Piece) (tF : Sym) : follow (qs ++ ps) tF = follow qs (follow ps tF) := by
  induction qs with
  | nil => rfl
  | cons q qs ih => simp [follow, ih]

/-- a prefix of a row is checked against what can follow it: rows with a common prefix and the same follow set share its check -/
theorem rowOk_append (qs ps : List Piece) (tF : Sym) :
    rowOk (qs ++ ps) tF = (rowOk qs (follow ps tF) && rowOk ps tF) := by
  induction qs with
  | nil => simp [rowOk]
  | cons q qs ih => simp [rowOk, ih, follow_append, Bool.and_assoc]

theorem rowOk_split (n : Nat) {qs : List Piece} {tF : Sym}
    (h1 : rowOk (qs.take n) (follow (qs.drop n) tF) = true) (h2 : rowOk (qs.drop n) tF = true) : rowOk qs tF = true := by
  rw [← List.take_append_drop n qs, rowOk_append, h1, h2]
  rfl

theorem inRanges_append (a b : List (Nat × Nat)) (n : Nat) : inRanges (a ++ b) n = (inRanges a n || inRanges b n) := by
  simp [inRanges, List.any_append]

/-- what follows a valid selection starts with a byte of the follow set: the first byte of the first non-empty word,
all pieces before it being nullable -/
theorem tailF_follow {tF : Sym} {tail : List UInt8} (ht : TailF tF tail) :
    ∀ (qs : List Piece) (sel : List ((List Sym × Caps) × List UInt8)), Valid qs sel →
      TailF (follow qs tF) (flat sel ++ tail)
  | [], [], _ => ht
  | q :: qs, (([], _), []) :: sel, ⟨hmem, _, hv⟩ => fun x t hx => by
    have hn : nullable q.dom = true := List.any_eq_true.mpr ⟨_, hmem, rfl⟩
    simp only [follow, hn, symHas, inRanges_append]
    exact Bool.or_eq_true_iff.mpr (.inr (tailF_follow ht qs sel hv x t hx))
  | q :: qs, ((_ :: _, _), b :: _) :: sel, ⟨hmem, hc, _⟩ => fun x t hx => by
    obtain rfl : b = x := (List.cons.inj hx).1
    obtain ⟨e, he, h⟩ := List.any_eq_true.mp hc.1
    simp only [follow, symHas, inRanges_append]
    exact Bool.or_eq_true_iff.mpr (.inl (List.any_eq_true.mpr ⟨e, List.mem_flatMap.mpr ⟨_, hmem, he⟩, h⟩))

theorem piece_step {F : Sym} {q : Piece} {e : List Sym × Caps} {w r : List UInt8} {p0 : Nat} {c0 : Caps}
    (hq : pieceOk F q = true) (he : e ∈ q.dom) (hw : Conc e.1 w) (hr : TailF F r) :
    Step q.item p0 (w ++ r) c0 (p0 + w.length) r (shc p0 e.2 ++ c0) := by
  have h := List.all_eq_true.mp hq e he
  rw [beq_iff_eq, conc_length hw] at h
  exact step_of_am h hw hr

theorem row_step {tF : Sym} {tail : List UInt8} (ht : TailF tF tail) :
    ∀ (qs : List Piece) (sel : List ((List Sym × Caps) × List UInt8)) (p : Nat) (c : Caps),
      rowOk qs tF = true → Valid qs sel →
      Step (catL (qs.map Piece.item)) p (flat sel ++ tail) c (p + (flat sel).length) tail (capsAt p c sel)
  | [], [], _, _, _, _ => step_eps
  | q :: qs, ew :: sel, p, c, hok, ⟨hmem, hc, hv⟩ => by
    simp only [rowOk, Bool.and_eq_true] at hok
    have s1 := piece_step (p0 := p) (c0 := c) hok.1 hmem hc (tailF_follow ht qs sel hv)
    match qs, sel, hv with
    | [], [], _ => simpa [catL, flat, capsAt] using s1
    | q2 :: qs2, sel, hv =>
      simpa [catL, flat, capsAt, Nat.add_assoc] using
        step_cat s1 (row_step ht (q2 :: qs2) sel (p + ew.2.length) (shc p ew.1.2 ++ c) hok.2 hv)

/-- the symbolic word of a concrete byte string -/
def cw (w : List UInt8) : List Sym := w.map (fun b => [(b.toNat, b.toNat)])

theorem conc_cw : ∀ (w : List UInt8), Conc (cw w) w
  | [] => trivial
  | _ :: t => ⟨symHas_range.mpr ⟨Nat.le_refl _, Nat.le_refl _⟩, conc_cw t⟩

theorem conc_append : ∀ {s1 s2 : List Sym} {w1 w2 : List UInt8}, Conc s1 w1 → Conc s2 w2 → Conc (s1 ++ s2) (w1 ++ w2)
  | [], _, [], _, _, h2 => h2
  | _ :: _, _, _ :: _, _, h1, h2 => ⟨h1.1, conc_append h1.2 h2⟩

end S4V.Lemmas.RegexSym
