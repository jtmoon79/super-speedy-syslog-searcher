/-
Lemmas for `S4V.Props.LineSkelSpec`: the interpreter of the regenerated `find_line` (`S4V.Model.LineSkel` on
`S4V.Gen.Lines`) section by section against the hand models (`S4V.Model.Lines`, `S4V.Model.LinesCached`).
Each section lemma unfolds the generated section (`interp [S4V.Gen.Lines.<section>, …]`), so a source edit
that regenerates a different statement breaks it.
-/
import S4V.Lemmas.LinesCached
import S4V.Model.LineSkel

namespace S4V.Lemmas.LineSkel
open S4V.Gen.Blocks S4V.Model.Lines S4V.Model.LinesCached S4V.Model.LineSkel S4V.Gen.Lines S4V.Lemmas.Lines
  S4V.Lemmas.Blocks S4V.Lemmas.LinesCached

open Lean.Parser.Tactic in
/-- run the interpreter on the statements in the goal: unfold `exec` / `execL`, the evaluators and the
accessors of the state, and decide every test the listed facts decide -/
macro "interp" "[" ts:simpLemma,* "]" : tactic =>
  `(tactic| simp only [execL, exec, Expr.eval, BExpr.eval, Cmp.eval, St.get, St.set, St.setFlag, St.getFlag,
    St.setBlk, St.getBlk, blockOf, blockOffsetAtFileOffset_eq, blockIndexAtFileOffset_eq, ↓reduceIte,
    Bool.false_eq_true, Bool.not_true, Bool.not_false, Bool.true_and, Bool.false_and, Bool.and_self,
    decide_eq_true_eq, $ts,*])

theorem nlByte_eq : nlByte = NL := rfl

theorem isNL_iff (x : Option UInt8) : (x == some nlByte) = true ↔ x = some NL := by
  rw [nlByte_eq]; exact beq_iff_eq

/-! The two scans with the arguments the generated sections give them (step `charsz = 1`; forward: leave at
`i >= len`; backward: leave at `i == 0`) are the scans of the hand model. -/

theorem scanFwdG_eq (blk : Bytes) : ∀ fuel i, i < blk.length → blk.length - i ≤ fuel →
    scanFwdG blk 1 .ge blk.length fuel i =
      (match scanFwd blk i with
        | some j => (true, j)
        | none => (false, blk.length)) := by
  intro fuel
  induction fuel with
  | zero => intro i h1 h2; omega
  | succ fuel ih =>
    intro i h1 h2
    simp only [scanFwdG, scanFwd]
    by_cases hb : blk[i]? = some NL
    · rw [if_pos ((isNL_iff _).mpr hb)]
      have : nlAtOrAfter blk i = some i :=
        (nlAtOrAfter_eq_some blk i i).mpr ⟨Nat.le_refl _, hb, fun k hk1 hk2 => by omega⟩
      rw [this]
    · rw [if_neg (fun h => hb ((isNL_iff _).mp h))]
      rw [nlAtOrAfter_step blk i hb]
      by_cases hlen : i + 1 ≥ blk.length
      · have hc : Cmp.ge.eval (i + 1) blk.length = true := by simp [Cmp.eval, hlen]
        rw [if_pos hc]
        have : nlAtOrAfter blk (i + 1) = none := by
          rw [nlAtOrAfter_eq_none]
          intro k hk
          rw [List.getElem?_eq_none (by omega)]
          simp
        rw [this]
        have : i + 1 = blk.length := by omega
        rw [this]
      · have hc : Cmp.ge.eval (i + 1) blk.length = false := by simp [Cmp.eval]; omega
        rw [hc]
        simp only [Bool.false_eq_true, ↓reduceIte]
        exact ih (i + 1) (by omega) (by omega)

/-- on a block of `d` the interpreter's fuel `|d| + 1` is enough -/
theorem scanFwdG_blockAt (d : Bytes) (bs k i : Nat) (hi : i < (blockAt d bs k).length) :
    scanFwdG (blockAt d bs k) 1 .ge (blockAt d bs k).length (d.length + 1) i =
      (match scanFwd (blockAt d bs k) i with
        | some j => (true, j)
        | none => (false, (blockAt d bs k).length)) :=
  scanFwdG_eq _ _ _ hi (by have := blockAt_length d bs k; omega)

theorem scanBwdG_eq (blk : Bytes) : ∀ i fuel, i < fuel →
    scanBwdG blk 1 .eq 0 fuel i =
      (match scanBwd blk i with
        | some j => (true, j)
        | none => (false, 0)) := by
  intro i
  induction i with
  | zero =>
    intro fuel h
    cases fuel with
    | zero => omega
    | succ fuel =>
      simp only [scanBwdG, scanBwd]
      by_cases hb : blk[0]? = some NL
      · rw [if_pos ((isNL_iff _).mpr hb), if_pos hb]
      · rw [if_neg (fun h => hb ((isNL_iff _).mp h)), if_neg hb]
        simp [Cmp.eval]
  | succ i ih =>
    intro fuel h
    cases fuel with
    | zero => omega
    | succ fuel =>
      simp only [scanBwdG, scanBwd]
      by_cases hb : blk[i + 1]? = some NL
      · rw [if_pos ((isNL_iff _).mpr hb), if_pos hb]
      · rw [if_neg (fun h => hb ((isNL_iff _).mp h)), if_neg hb]
        have hc : Cmp.eq.eval (i + 1) 0 = false := by simp [Cmp.eval]
        rw [hc]
        simp only [Bool.false_eq_true, ↓reduceIte, Nat.add_sub_cancel]
        exact ih fuel (by omega)

theorem execL_append (env : Env) (a b : List Stmt) (st : St) :
    execL env (a ++ b) st = (match execL env a st with
      | .norm st' => execL env b st'
      | o => o) := by
  induction a generalizing st with
  | nil => simp [execL]
  | cons s r ih =>
    simp only [List.cons_append, execL]
    cases exec env s st with
    | norm st' => simp only [ih]
    | brk st' => rfl
    | ret r' st' => rfl

theorem St.eta_foundNlB (st : St) (h : st.foundNlB = false) : st = { st with foundNlB := false } := by
  cases st; simp only [] at h; subst h; rfl

/-- The `while` of part B2 is `walkFwd`. The loop's condition and body enter as variables `c`, `body` (here and in
`while_A4`), so that `interp` cannot unfold them inside the call of `whileG` that is left over for the induction
hypothesis. -/
theorem while_B2 (env : Env) (hbs : 1 ≤ env.bs) (hn : 0 < env.d.length) (c : St → Bool) (body : St → Out)
    (hcond : ∀ s, c s = partB2LoopCond.eval env s) (hbody : ∀ s, body s = execL env partB2LoopBody s) :
    ∀ f (st : St), st.charszBi = 1 → st.boLast = blockOffsetLast env.d.length env.bs →
      st.foundNlB = false → st.foNlBInMiddle = false → st.boLast + 1 - st.bof ≤ f → f ≤ env.d.length + 1 →
      ∃ bof biBeg biEnd bCur,
        whileG c body (f + 1) st =
          .norm { st with
            line := st.line ++ (walkFwd env.d env.bs st.boLast f st.bof).1.map (ofPart env.bs),
            foundNlB := (walkFwd env.d env.bs st.boLast f st.bof).2.isSome,
            foNlB := (walkFwd env.d env.bs st.boLast f st.bof).2.getD st.foNlB,
            reads := st.reads ++ (walkFwd env.d env.bs st.boLast f st.bof).1.map (·.bo),
            bof := bof, biBeg := biBeg, biEnd := biEnd, bCur := bCur } ∧
        ((walkFwd env.d env.bs st.boLast f st.bof).2 = none →
          (st.bof ≤ st.boLast → bof = st.boLast + 1 ∧ biBeg = (blockAt env.d env.bs st.boLast).length) ∧
          (st.bof > st.boLast → bof = st.bof ∧ biBeg = st.biBeg)) := by
  intro f
  induction f with
  | zero =>
    intro st h1 hlast hnb hmid hf _
    have hgt : st.bof > st.boLast := by omega
    have hc : ¬ (st.bof ≤ st.boLast) := by omega
    refine ⟨st.bof, st.biBeg, st.biEnd, st.bCur, ?_, ?_⟩
    · interp [whileG, hcond, partB2LoopCond, hnb, hc, walkFwd, List.map_nil, List.append_nil, Option.isSome_none,
        Option.getD_none]
      conv => lhs; rw [St.eta_foundNlB st hnb]
    · intro _; exact ⟨fun h => by omega, fun _ => ⟨rfl, rfl⟩⟩
  | succ f ih =>
    intro st h1 hlast hnb hmid hf hfd
    by_cases hgt : st.bof > st.boLast
    · have hc : ¬ (st.bof ≤ st.boLast) := by omega
      refine ⟨st.bof, st.biBeg, st.biEnd, st.bCur, ?_, ?_⟩
      · rw [walkFwd_gt _ _ _ _ _ hgt, whileG, hcond]
        interp [partB2LoopCond, hnb, hc, List.map_nil, List.append_nil, Option.isSome_none, Option.getD_none]
        conv => lhs; rw [St.eta_foundNlB st hnb]
      · intro _; exact ⟨fun h => by omega, fun _ => ⟨rfl, rfl⟩⟩
    · have hle : st.bof ≤ st.boLast := by omega
      have hlt : st.bof * env.bs < env.d.length := by
        rw [← le_blockOffsetLast_iff _ _ _ hbs hn, ← hlast]; exact hle
      have hlen := blockAt_length env.d env.bs st.bof
      have hpos : 0 < (blockAt env.d env.bs st.bof).length := by rw [hlen]; omega
      have hrd : ¬ (st.bof > blockOffsetLast env.d.length env.bs) := by rw [← hlast]; omega
      rw [whileG, hcond, hbody]
      interp [partB2LoopCond, partB2LoopBody, hnb, hle, h1, hrd]
      rw [scanFwdG_blockAt _ _ _ _ hpos]
      simp only [walkFwd, if_neg hgt]
      unfold scanFwd
      rcases hscan : nlAtOrAfter (blockAt env.d env.bs st.bof) 0 with _ | j
      · -- no newline in this block: next iteration
        interp [hnb]
        obtain ⟨bof', biBeg', biEnd', bCur', ihe, ihn⟩ := ih
          { st with charszBi := 1, foundNlB := false, bCur := st.bof, reads := st.reads ++ [st.bof], biBeg := (blockAt env.d env.bs st.bof).length,
                    biEnd := (blockAt env.d env.bs st.bof).length,
                    line := st.line ++ [⟨st.bof, st.bof, 0, (blockAt env.d env.bs st.bof).length,
                      fileOffsetAtBlockOffsetIndex st.bof env.bs 0⟩],
                    bof := st.bof + 1 } rfl hlast rfl hmid (by simp only; omega) (by omega)
        refine ⟨bof', biBeg', biEnd', bCur', ?_, ?_⟩
        · simp only [] at ihe
          rw [ihe]
          simp only [List.map_cons, List.append_assoc, List.cons_append, List.nil_append, ofPart]
        · intro hw
          have := ihn hw
          simp only [] at this
          refine ⟨fun _ => ?_, fun h => by omega⟩
          by_cases h2 : st.bof + 1 ≤ st.boLast
          · exact this.1 h2
          · have := this.2 (by omega)
            have he : st.bof = st.boLast := by omega
            rw [← he]
            exact this
      · -- newline found: `break`
        interp [hmid]
        refine ⟨st.bof, j, (blockAt env.d env.bs st.bof).length, st.bof, ?_, fun h => by simp at h⟩
        simp only [List.map_cons, List.map_nil, ofPart, Option.isSome_some, Option.getD_some]

/-- `18446744073709551615` is the source's `BI_UNINIT: BlockIndex = usize::MAX`, as generated into `partB2` -/
theorem exec_partB2_walk (env : Env) (st : St) (hbs : 1 ≤ env.bs) (hn : 0 < env.d.length)
    (h1 : st.charszBi = 1) (hlast : st.boLast = blockOffsetLast env.d.length env.bs)
    (hnb : st.foundNlB = false) (hmid : st.foNlBInMiddle = false) (hbo : st.boMiddle + 1 ≤ st.boLast) :
    ∃ bof biBeg biEnd bCur biU nlBEof,
      execL env S4V.Gen.Lines.partB2 st = .norm { st with
        cBiUninit := 18446744073709551615,
        foundNlB := true,
        foNlB := (Model.Lines.partB2 env.d env.bs st.boLast st.boMiddle false st.foNlB).2,
        line := st.line ++ (Model.Lines.partB2 env.d env.bs st.boLast st.boMiddle false st.foNlB).1.map (ofPart env.bs),
        reads := st.reads ++ (Model.Lines.partB2 env.d env.bs st.boLast st.boMiddle false st.foNlB).1.map (·.bo),
        bof := bof, biBeg := biBeg, biEnd := biEnd, bCur := bCur, biU := biU, nlBEof := nlBEof } := by
  have hlastlt : st.boLast * env.bs < env.d.length := by
    rw [hlast]; exact (blockOffsetLast_bounds env.d.length env.bs hbs hn).1
  have hll : st.boLast < env.d.length := by
    have : st.boLast * 1 ≤ st.boLast * env.bs := Nat.mul_le_mul_left _ hbs
    omega
  obtain ⟨bof, biBeg, biEnd, bCur, hw, hwn⟩ := while_B2 env hbs hn
    (fun s => partB2LoopCond.eval env s) (fun s => execL env partB2LoopBody s) (fun _ => rfl) (fun _ => rfl)
    (env.d.length + 1)
    { st with foundNlB := false, cBiUninit := 18446744073709551615, biBeg := 18446744073709551615, biEnd := 18446744073709551615,
              bof := st.boMiddle + 1 } h1 hlast rfl hmid (by simp only; omega) (Nat.le_refl _)
  simp only [] at hw hwn
  rw [walkFwd_fuel env.d env.bs st.boLast (env.d.length + 1) (st.boLast + 1 - st.boMiddle) (st.boMiddle + 1)
    (by omega) (by omega)] at hw hwn
  interp [S4V.Gen.Lines.partB2, hnb]
  rw [show env.d.length + 2 = env.d.length + 1 + 1 from rfl, hw]
  simp only [Model.Lines.partB2, Bool.false_eq_true, ↓reduceIte]
  rcases hres : (walkFwd env.d env.bs st.boLast (st.boLast + 1 - st.boMiddle) (st.boMiddle + 1)).2 with _ | f
  · obtain ⟨hb1, hb2⟩ := (hwn hres).1 hbo
    subst hb1 hb2
    have hgt : st.boLast + 1 > st.boLast := by omega
    interp [Option.isSome_none, hgt, Option.getD_none, h1]
    exact ⟨_, _, _, _, _, _, rfl⟩
  · interp [Option.isSome_some, Option.getD_some]
    exact ⟨_, _, _, _, _, _, rfl⟩

theorem any_ofPart (bs : Nat) (ps : List Part) (bo : Nat) :
    (ps.map (ofPart bs)).any (·.bo == bo) = storesBo ps bo := by
  simp [storesBo, List.any_map, ofPart, Function.comp_def]

theorem while_A4 (env : Env) (hbs : 1 ≤ env.bs) (c : St → Bool) (body : St → Out)
    (hcond : ∀ s, c s = partA4LoopCond.eval env s) (hbody : ∀ s, body s = execL env partA4LoopBody s) :
    ∀ f (st : St) (e : Nat) (rest : List Part), st.charszBi = 1 → st.charszFo = 1 →
      st.foundNlA = false → st.begof = false →
      st.line = (⟨st.bof + 1, 0, e⟩ :: rest).map (ofPart env.bs) →
      (st.bof + 1) * env.bs ≤ env.d.length → st.bof + 1 ≤ f →
      ∃ st', whileG c body (f + 1) st = .norm st' ∧
        st'.line = (walkBwd env.d env.bs f st.bof st.biStart (⟨st.bof + 1, 0, e⟩ :: rest)).map (ofPart env.bs) ∧
        st'.fileoffset = st.fileoffset ∧ st'.store = st.store := by
  intro f
  induction f with
  | zero => intro st e rest _ _ _ _ _ _ h; omega
  | succ f ih =>
    intro st e rest h1 h1f hna hbeg hline hlt hf
    rw [Nat.add_one_mul] at hlt
    have hn : 0 < env.d.length := by omega
    have hlen : (blockAt env.d env.bs st.bof).length = env.bs := by rw [blockAt_length]; omega
    have hrd : ¬ (st.bof > blockOffsetLast env.d.length env.bs) := by
      have := (le_blockOffsetLast_iff env.d.length env.bs st.bof hbs hn).mpr (by omega)
      omega
    have hfuel : env.bs - 1 < env.d.length + 1 := by omega
    rw [whileG, hcond, hbody]
    interp [partA4LoopCond, partA4LoopBody, hna, hbeg, h1, h1f, hrd, hlen]
    rw [scanBwdG_eq _ _ _ hfuel]
    simp only [walkBwd, hlen]
    rcases hscan : scanBwd (blockAt env.d env.bs st.bof) (env.bs - 1) with _ | i
    · -- no newline in this block
      interp [hna]
      cases hb : st.bof with
      | zero =>
        interp [bne_self_eq_false, ne_eq, not_true_eq_false]
        rw [whileG, hcond]
        interp [partA4LoopCond]
        refine ⟨_, rfl, ?_, rfl, rfl⟩
        simp only [hline, hb, List.map_cons, ofPart, Nat.sub_add_cancel hbs]
      | succ b =>
        have hne : (b + 1 != 0) = true := by simp
        interp [hne, Nat.add_sub_cancel, ne_eq, Nat.add_one_ne_zero, not_false_eq_true]
        rw [hb] at hline hlt hf
        obtain ⟨st', ih1, ih2, ih3, ih4⟩ := ih
          { st with charszBi := 1, charszFo := 1, foundNlA := false, begof := false, bPrior := st.bCur,
                    reads := st.reads ++ [b + 1],
                    bCur := b + 1, blen := env.bs, biStartPrior := st.biStart, biStart := env.bs - 1,
                    biAt := 0, cBiStop := 0,
                    line := ⟨b + 1, b + 1, 0, env.bs - 1 + 1, fileOffsetAtBlockOffsetIndex (b + 1) env.bs 0⟩ :: st.line,
                    bof := b }
          (env.bs - 1 + 1) (⟨b + 1 + 1, 0, e⟩ :: rest) rfl rfl rfl rfl
          (by simp only [hline, List.map_cons, ofPart]) (by simp only; omega) (by simp only; omega)
        simp only [] at ih1 ih2 ih3 ih4
        exact ⟨st', ih1, ih2, ih3, ih4⟩
    · -- newline found
      obtain ⟨b1, b2, b3⟩ := (scanBwd_eq_some _ _ _).mp hscan
      interp [fileOffsetAtBlockOffsetIndex_eq, hline, any_ofPart]
      rcases Nat.lt_or_ge (i + 1) env.bs with hi | hi
      · have hdiv : (st.bof * env.bs + i + 1) / env.bs = st.bof := div_eq_of_bounds (by omega) (by omega)
        interp [hdiv, beq_self_eq_true]
        refine ⟨_, rfl, ?_, rfl, rfl⟩
        simp only [List.map_cons, ofPart, fileOffsetAtBlockOffsetIndex_eq, Nat.add_assoc]
      · -- it is the last byte of the block: the line starts with block `bof + 1`, which the line already stores
        have hdiv : (st.bof * env.bs + i + 1) / env.bs = st.bof + 1 :=
          div_eq_of_bounds (by rw [Nat.add_one_mul]; omega) (by rw [Nat.add_one_mul]; omega)
        have hst : storesBo (⟨st.bof + 1, 0, e⟩ :: rest) (st.bof + 1) = true := by simp [storesBo]
        have hne : (st.bof + 1 == st.bof) = false := by simp
        have hne' : ¬ (st.bof + 1 = st.bof) := by omega
        interp [hdiv, hne, hne', hst]
        exact ⟨_, rfl, rfl, rfl, rfl⟩

/-- the caches after `insert_line(line)` and the LRU put of `Found((n, linep))` under `key` -/
def storeAfter (s : Store) (key n : Nat) (line : List GPart) : Store :=
  { insertLine s (gLineFoBeg line) (gLineFoEnd line) with
    lru := lruPutG (insertLine s (gLineFoBeg line) (gLineFoEnd line)).lru key
      (.found n (gLineFoBeg line) (gLineFoEnd line)) }

def retOf (n : Nat) (line : List GPart) : GRes := .found n (gLineFoBeg line) (gLineFoEnd line) line

theorem exec_partCD (env : Env) (st : St) (hlru : env.lruOn = true) (hne : st.line ≠ []) :
    ∃ st', execL env S4V.Gen.Lines.partCD st = .ret (retOf (gLineFoEnd st.line + 1) st.line) st' ∧
      st'.store = storeAfter st.store st.fileoffset (gLineFoEnd st.line + 1) st.line := by
  have hlen : (st.line.length == 0) = false := by
    cases hl : st.line with
    | nil => exact absurd hl hne
    | cons _ _ => simp
  interp [S4V.Gen.Lines.partCD, hlru, hlen]
  exact ⟨_, rfl, rfl⟩

theorem exec_A3A4CD_done (env : Env) (s : St) (hlru : env.lruOn = true) (ps : List Part)
    (hl : s.line = ps.map (ofPart env.bs)) (hne : ps ≠ []) (h : s.foundNlA = true ∨ s.begof = true) :
    ∃ st', execL env (S4V.Gen.Lines.partA3 ++ (S4V.Gen.Lines.partA4 ++ S4V.Gen.Lines.partCD)) s =
        .ret (retOf (gLineFoEnd (ps.map (ofPart env.bs)) + 1) (ps.map (ofPart env.bs))) st' ∧
      st'.store = storeAfter s.store s.fileoffset (gLineFoEnd (ps.map (ofPart env.bs)) + 1)
        (ps.map (ofPart env.bs)) := by
  have hne' : s.line ≠ [] := by rw [hl]; simpa using hne
  rw [← hl]
  rcases Bool.eq_false_or_eq_true s.foundNlA with hA | hA
  · interp [execL_append, S4V.Gen.Lines.partA3, S4V.Gen.Lines.partA4, hA]
    exact exec_partCD env _ hlru hne'
  · have hB : s.begof = true := h.resolve_left (by simp [hA])
    interp [execL_append, S4V.Gen.Lines.partA3, S4V.Gen.Lines.partA4, hA, hB]
    exact exec_partCD env _ hlru hne'

theorem exec_A3A4CD_walk (env : Env) (s : St) (hbs : 1 ≤ env.bs) (hlru : env.lruOn = true)
    (h1b : s.charszBi = 1) (h1f : s.charszFo = 1) (hna : s.foundNlA = false) (hbeg : s.begof = false)
    (e : Nat) (rest : List Part) (hl : s.line = (⟨s.bof + 1, 0, e⟩ :: rest).map (ofPart env.bs))
    (hlt : (s.bof + 1) * env.bs ≤ env.d.length) (ps : List Part)
    (hp : walkBwd env.d env.bs (s.bof + 1) s.bof s.biMiddle (⟨s.bof + 1, 0, e⟩ :: rest) = ps) :
    ∃ st', execL env (S4V.Gen.Lines.partA3 ++ (S4V.Gen.Lines.partA4 ++ S4V.Gen.Lines.partCD)) s =
        .ret (retOf (gLineFoEnd (ps.map (ofPart env.bs)) + 1) (ps.map (ofPart env.bs))) st' ∧
      st'.store = storeAfter s.store s.fileoffset (gLineFoEnd (ps.map (ofPart env.bs)) + 1)
        (ps.map (ofPart env.bs)) := by
  have hf : s.bof + 1 ≤ env.d.length + 1 := by
    have := Nat.le_mul_of_pos_right (s.bof + 1) hbs; omega
  obtain ⟨st2, w1, w2, w3, w4⟩ := while_A4 env hbs
    (fun s => partA4LoopCond.eval env s) (fun s => execL env partA4LoopBody s) (fun _ => rfl) (fun _ => rfl)
    (env.d.length + 1) { s with foundNlA := false, begof := false, bCur := s.bMiddle, biStart := s.biMiddle }
    e rest h1b h1f rfl rfl hl hlt hf
  rw [walkBwd_fuel env.d env.bs (env.d.length + 1) (s.bof + 1) s.bof _ _ hf (Nat.le_refl _), hp] at w2
  obtain ⟨st', e1, e2⟩ := exec_partCD env st2 hlru (by
    rw [w2, ← hp]; simpa using walkBwd_ne_nil _ _ _ _ _ _ (List.cons_ne_nil _ _))
  interp [execL_append, S4V.Gen.Lines.partA3, S4V.Gen.Lines.partA4, hna, hbeg]
  rw [show env.d.length + 2 = env.d.length + 1 + 1 from rfl, w1]
  simp only []
  rw [w2] at e1 e2
  rw [w3, w4] at e2
  exact ⟨st', e1, e2⟩

theorem exec_partA_walk (env : Env) (st : St) (hbs : 1 ≤ env.bs) (hlru : env.lruOn = true)
    (h1f : st.charszFo = 1) (h1b : st.charszBi = 1) (h0 : 1 ≤ st.fileoffset) (hfo : st.fileoffset < env.d.length)
    (hna : st.foundNlA = false) (hbo : st.boMiddle = st.fileoffset / env.bs)
    (hbi : st.biMiddle = st.fileoffset % env.bs) (hbm : st.bMiddle = st.fileoffset / env.bs)
    (tail : List Part) (hline : st.line = tail.map (ofPart env.bs)) (x n : Nat) (parts : List Part)
    (hp : partA env.d env.bs st.fileoffset st.biMiddleEnd tail x = .found n parts) :
    ∃ st', execL env (S4V.Gen.Lines.partA2 ++ S4V.Gen.Lines.partA3 ++ S4V.Gen.Lines.partA4 ++ S4V.Gen.Lines.partCD) st =
        .ret (retOf (gLineFoEnd (parts.map (ofPart env.bs)) + 1) (parts.map (ofPart env.bs))) st' ∧
      st'.store = storeAfter st.store st.fileoffset (gLineFoEnd (parts.map (ofPart env.bs)) + 1)
        (parts.map (ofPart env.bs)) := by
  have hne0 : st.fileoffset ≠ 0 := by omega
  have hmax : max st.fileoffset 1 - 1 = st.fileoffset - 1 := by
    rw [Nat.max_eq_left h0]
  have hq := Nat.div_add_mod' st.fileoffset env.bs
  simp only [partA, if_neg hne0, blockOffsetAtFileOffset_eq, blockIndexAtFileOffset_eq] at hp
  rw [List.append_assoc, List.append_assoc, execL_append]
  rcases pred_block st.fileoffset env.bs hbs hne0 with ⟨hb, hr'⟩ | ⟨hr0, hb, hr'⟩
  · -- A2a: `fileoffset - 1` is in the middle block
    rw [if_pos hb] at hp
    have hfuel : (st.fileoffset - 1) % env.bs < env.d.length + 1 := by
      have := Nat.mod_le (st.fileoffset - 1) env.bs; omega
    have hbeq : ((st.fileoffset - 1) / env.bs == st.fileoffset / env.bs) = true := by simp [hb]
    interp [S4V.Gen.Lines.partA2, h1f, h1b, hbo, hbi, hbm, hmax, hbeq]
    rw [scanBwdG_eq _ _ _ hfuel]
    rcases hscan : scanBwd (blockAt env.d env.bs (st.fileoffset / env.bs)) ((st.fileoffset - 1) % env.bs) with _ | i
    · -- newline A is not in the middle block
      rw [hscan] at hp
      simp only [] at hp
      interp [hna, hbm, hb]
      rcases hq0 : st.fileoffset / env.bs with _ | q
      · -- the middle block is block 0: beginning of file
        rw [hb, hq0] at hp
        simp only [ne_eq, not_true_eq_false, ↓reduceIte] at hp
        injection hp with _ hp
        interp [bne_self_eq_false]
        refine exec_A3A4CD_done env _ hlru parts ?_ (by rw [← hp]; simp) (Or.inr rfl)
        simp only [← hp, hline, List.map_cons, ofPart, fileOffsetAtBlockOffsetIndex_eq]
      · -- walk back through the preceding blocks
        rw [hb, hq0] at hp
        simp only [ne_eq, Nat.add_one_ne_zero, not_false_eq_true, ↓reduceIte, Nat.add_sub_cancel] at hp
        injection hp with _ hp
        have hne : (q + 1 != 0) = true := by simp
        interp [hne, Nat.add_sub_cancel]
        exact exec_A3A4CD_walk env _ hbs hlru rfl rfl rfl rfl (st.biMiddleEnd + 1) tail
          (by simp only [hline, List.map_cons, ofPart]) (by simp only; rw [hq0] at hq; omega) parts hp
    · -- newline A is in the middle block
      rw [hscan] at hp
      simp only [] at hp
      injection hp with _ hp
      interp [hbm, hb]
      have hl : (⟨st.fileoffset / env.bs, st.fileoffset / env.bs, i + 1, st.biMiddleEnd + 1,
          fileOffsetAtBlockOffsetIndex (st.fileoffset / env.bs) env.bs i + 1⟩ : GPart) :: st.line =
          parts.map (ofPart env.bs) := by
        simp only [← hp, hline, List.map_cons, ofPart, fileOffsetAtBlockOffsetIndex_eq, Nat.add_assoc]
      by_cases hz : (st.fileoffset / env.bs != 0) = true
      · simp only [hz, ↓reduceIte]
        exact exec_A3A4CD_done env _ hlru parts hl (by rw [← hp]; simp) (Or.inl rfl)
      · simp only [hz, Bool.false_eq_true, ↓reduceIte]
        exact exec_A3A4CD_done env _ hlru parts hl (by rw [← hp]; simp) (Or.inl rfl)
  · -- A2b: `fileoffset` is the first byte of its block
    have hnb : ¬ ((st.fileoffset - 1) / env.bs = st.fileoffset / env.bs) := by omega
    rw [if_neg hnb] at hp
    injection hp with _ hp
    have hbeq : ((st.fileoffset - 1) / env.bs == st.fileoffset / env.bs) = false := by simpa using hnb
    interp [S4V.Gen.Lines.partA2, h1f, h1b, hbo, hbi, hbm, hmax, hbeq]
    rw [hb] at hp
    exact exec_A3A4CD_walk env _ hbs hlru rfl rfl (by exact hna) rfl (st.biMiddleEnd + 1) tail
      (by simp only [hline, List.map_cons, ofPart, hb]) (by simp only; rw [← hb]; omega) parts hp

theorem lruPutG_eq (l : List (Nat × R)) (fo : Nat) (r : R) : lruPutG l fo r = lruPut l fo r := rfl

/-- the state in which part B starts when nothing is cached -/
def startSt (env : Env) (s : Store) (fo : Nat) : St :=
  { fileoffset := fo, store := s, charszFo := 1, charszBi := 1, filesz := env.d.length,
    boLast := blockOffsetLast env.d.length env.bs, foundNlA := (fo == 0), foNlA := fo, foNlB := fo,
    boMiddle := fo / env.bs, biMiddle := fo % env.bs, biMiddleEnd := fo % env.bs }

theorem exec_start (env : Env) (s : Store) (fo : Nat) (helru : env.lruOn = true)
    (hcs : env.checkStore = S4V.Gen.Lines.checkStore) (hfo : fo < env.d.length)
    (hlru : lruGet s.lru fo = none) (hl1 : linesGet s.lines fo = none) (hl2 : getLinep s fo = none) :
    execL env (S4V.Gen.Lines.prologue ++ S4V.Gen.Lines.init) { fileoffset := fo, store := s } =
      .norm (startSt env s fo) := by
  have h0 : (env.d.length == 0) = false := by simpa using (by omega : env.d.length ≠ 0)
  have hgt : ¬ (fo > env.d.length) := by omega
  have heq : (fo == env.d.length) = false := by simpa using (by omega : fo ≠ env.d.length)
  rcases Bool.eq_false_or_eq_true (fo == 0) with hzb | hzb
  all_goals interp [S4V.Gen.Lines.prologue, S4V.Gen.Lines.init, List.cons_append, List.nil_append, CHARSZ,
    storeCheckG, lookupG, hcs, S4V.Gen.Lines.checkStore, helru, hlru, h0, hgt, heq, hl1, hl2, hzb, startSt]

theorem exec_partB (env : Env) (s : Store) (fo : Nat) (hbs : 1 ≤ env.bs) (hfo : fo < env.d.length) :
    ∃ st', execL env (S4V.Gen.Lines.partB1 ++ S4V.Gen.Lines.partB2) (startSt env s fo) = .norm st' ∧
      st'.fileoffset = fo ∧ st'.charszFo = 1 ∧ st'.charszBi = 1 ∧ st'.foundNlA = (fo == 0) ∧ st'.foNlA = fo ∧
      st'.foundNlB = true ∧ st'.boMiddle = fo / env.bs ∧ st'.biMiddle = fo % env.bs ∧
      st'.bMiddle = fo / env.bs ∧ st'.store = s ∧
      st'.biMiddleEnd = (partB env.bs env.d fo).biMEnd ∧ st'.foNlB = (partB env.bs env.d fo).foNlB ∧
      st'.line = (partB env.bs env.d fo).tail.map (ofPart env.bs) ∧
      st'.reads = fo / env.bs :: (partB env.bs env.d fo).tail.map (·.bo) := by
  have hn : 0 < env.d.length := by omega
  have hq := Nat.div_add_mod' fo env.bs
  have hr : fo % env.bs < env.bs := Nat.mod_lt _ (by omega)
  have hqlast : fo / env.bs ≤ blockOffsetLast env.d.length env.bs := by
    rw [le_blockOffsetLast_iff _ _ _ hbs hn]; omega
  have hlen := blockAt_length env.d env.bs (fo / env.bs)
  have hi : fo % env.bs < (blockAt env.d env.bs (fo / env.bs)).length := by rw [hlen]; omega
  have hrd : ¬ (fo / env.bs > blockOffsetLast env.d.length env.bs) := by omega
  -- the scan of the middle block is decided first: where it settles newline B, B1 and B2 are one straight run
  rcases hscan : scanFwd (blockAt env.d env.bs (fo / env.bs)) (fo % env.bs) with _ | j
  · by_cases hl : fo / env.bs = blockOffsetLast env.d.length env.bs
    · -- the last block: the line ends with the file
      have hlb : (fo / env.bs == blockOffsetLast env.d.length env.bs) = true := by simpa using hl
      interp [S4V.Gen.Lines.partB1, S4V.Gen.Lines.partB2, List.cons_append, List.nil_append, startSt, hrd,
        scanFwdG_blockAt _ _ _ _ hi, hscan, eq_true hl, hlb, partB, Model.Lines.partB1, Model.Lines.partB2]
      exact ⟨_, rfl, rfl, rfl, rfl, rfl, rfl, rfl, rfl, rfl, rfl, rfl, rfl, rfl, rfl, rfl⟩
    · -- newline B is in a later block: B1 leaves the whole rest of the middle block, B2 walks on
      have hlb : (fo / env.bs == blockOffsetLast env.d.length env.bs) = false := by simpa using hl
      obtain ⟨S1, hS1⟩ : ∃ S1 : St, S1 = { startSt env s fo with
          bMiddle := fo / env.bs, reads := [fo / env.bs], biAt := (blockAt env.d env.bs (fo / env.bs)).length,
          biStop := (blockAt env.d env.bs (fo / env.bs)).length,
          biMiddleEnd := (blockAt env.d env.bs (fo / env.bs)).length - 1 } := ⟨_, rfl⟩
      have hB1 : execL env S4V.Gen.Lines.partB1 (startSt env s fo) = .norm S1 := by
        interp [S4V.Gen.Lines.partB1, startSt, hrd, scanFwdG_blockAt _ _ _ _ hi, hscan, hlb, hS1, List.nil_append]
      obtain ⟨b1, b2, b3, b4, b5, b6, hB2⟩ := exec_partB2_walk env S1 hbs hn (by rw [hS1]; rfl) (by rw [hS1]; rfl)
        (by rw [hS1]; rfl) (by rw [hS1]; rfl)
        (by rw [hS1]; show fo / env.bs + 1 ≤ blockOffsetLast env.d.length env.bs; omega)
      have hpB : partB env.bs env.d fo = ⟨(blockAt env.d env.bs (fo / env.bs)).length - 1,
          (Model.Lines.partB2 env.d env.bs (blockOffsetLast env.d.length env.bs) (fo / env.bs) false fo).1,
          (Model.Lines.partB2 env.d env.bs (blockOffsetLast env.d.length env.bs) (fo / env.bs) false fo).2⟩ := by
        simp only [partB, Model.Lines.partB1, blockOffsetAtFileOffset_eq, blockIndexAtFileOffset_eq, hscan,
          eq_false hl, ↓reduceIte]
      rw [execL_append, hB1]
      simp only []
      rw [hB2, hpB, hS1]
      exact ⟨_, rfl, rfl, rfl, rfl, rfl, rfl, rfl, rfl, rfl, rfl, rfl, rfl, rfl, rfl, rfl⟩
  · interp [S4V.Gen.Lines.partB1, S4V.Gen.Lines.partB2, List.cons_append, List.nil_append, startSt, hrd,
      scanFwdG_blockAt _ _ _ _ hi, hscan, partB, Model.Lines.partB1, Model.Lines.partB2]
    exact ⟨_, rfl, rfl, rfl, rfl, rfl, rfl, rfl, rfl, rfl, rfl, rfl, rfl, rfl, rfl, rfl⟩

theorem Chain.gBounds {bs n : Nat} : ∀ {ps : List Part} {a b : Nat}, Chain bs n a b ps → ps ≠ [] →
    gLineFoBeg (ps.map (ofPart bs)) = a ∧ gLineFoEnd (ps.map (ofPart bs)) + 1 = b
  | [], _, _, _, hne => absurd rfl hne
  | [p], a, b, h, _ => by
    simp only [Chain] at h
    simp only [gLineFoBeg, gLineFoEnd, List.map_cons, List.map_nil, List.head?_cons, List.getLast?_singleton, ofPart,
      fileOffsetAtBlockOffsetIndex_eq]
    omega
  | p :: q :: ps, a, b, h, _ => by
    have ih := Chain.gBounds h.rest (List.cons_ne_nil _ _)
    simp only [gLineFoBeg, gLineFoEnd, List.map_cons, List.head?_cons, List.getLast?_cons_cons, ofPart,
      fileOffsetAtBlockOffsetIndex_eq] at ih ⊢
    exact ⟨h.1, ih.2⟩

theorem findLineG_miss (bs : Nat) (d : Bytes) (s : Store) (fo : Nat) (hbs : 1 ≤ bs) (hfo : fo < d.length)
    (hlru : lruGet s.lru fo = none) (hl : linesGet s.lines fo = none) (hg : getLinep s fo = none) :
    ∃ (parts : List Part) (reads : List Nat),
      findLineG bs d s fo = (retOf (lineEnd d fo + 1) (parts.map (ofPart bs)),
        storeAfter s fo (lineEnd d fo + 1) (parts.map (ofPart bs)), reads) ∧
      Chain bs d.length (begChoice d s fo) (lineEnd d fo + 1) parts ∧
      ((linesGet s.lines (fo - 1)).isSome = true ∨ (getLinep s (fo - 1)).isSome = true →
        reads = parts.map (·.bo)) ∧
      ((linesGet s.lines (fo - 1)).isSome = false → (getLinep s (fo - 1)).isSome = false →
        findLine bs d fo = .found (lineEnd d fo + 1) parts) := by
  have hq := Nat.div_add_mod' fo bs
  obtain ⟨env, henv⟩ : ∃ env : Env, env = { bs := bs, d := d, checkStore := S4V.Gen.Lines.checkStore } := ⟨_, rfl⟩
  have hebs : env.bs = bs := by rw [henv]
  have hed : env.d = d := by rw [henv]
  have helru : env.lruOn = true := by rw [henv]
  have hbs' : 1 ≤ env.bs := by rw [hebs]; exact hbs
  have hstart := exec_start env s fo helru (by rw [henv]) (by rw [hed]; exact hfo) hlru hl hg
  obtain ⟨st4, hB, rFo, rCzF, rCzB, rFoundA, rNlA, rFoundB, rBo, rBi, rBm, rStore, rEnd, rNlB, rLine, rReads⟩ :=
    exec_partB env s fo hbs' (by rw [hed]; exact hfo)
  rw [hebs] at rBo rBi rBm
  rw [hebs, hed] at rEnd rNlB rLine rReads
  have hprog : S4V.Gen.Lines.findLine = (S4V.Gen.Lines.prologue ++ S4V.Gen.Lines.init) ++
      ((S4V.Gen.Lines.partB1 ++ S4V.Gen.Lines.partB2) ++ (S4V.Gen.Lines.partA0 ++ (S4V.Gen.Lines.asserts ++
      (S4V.Gen.Lines.partA1 ++ (S4V.Gen.Lines.partA2 ++ S4V.Gen.Lines.partA3 ++ S4V.Gen.Lines.partA4 ++
        S4V.Gen.Lines.partCD))))) := by
    simp only [S4V.Gen.Lines.findLine, List.append_assoc]
  unfold findLineG runFind
  rw [← henv, hprog, execL_append, hstart]
  simp only []
  rw [execL_append, hB]
  simp only []
  have hhead : ∀ m : Nat, (⟨fo / bs, fo / bs, fo % bs, m, fo⟩ : GPart) = ofPart bs ⟨fo / bs, fo % bs, m⟩ := by
    intro m; simp only [ofPart, fileOffsetAtBlockOffsetIndex_eq, hq]
  have hfl := findLine_eq_partA bs d fo hfo
  have hT := partB_spec d bs fo hbs hfo
  generalize partB bs d fo = T at *
  obtain ⟨t1, t2, t3, t4, t5⟩ := hT
  -- the line from `fo` on: what A0 and the quick checks build
  have hch : Chain bs d.length fo (lineEnd d fo + 1) (⟨fo / bs, fo % bs, T.biMEnd + 1⟩ :: T.tail) :=
    Chain.cons' hq (by omega) t3 (by omega) (by omega) t5
  by_cases h0 : fo = 0
  · -- A0
    have hA : st4.foundNlA = true := by rw [rFoundA]; simp [h0]
    interp [S4V.Gen.Lines.partA0, List.cons_append, List.nil_append, hA, rCzF, helru, ite_self]
    refine ⟨⟨fo / bs, fo % bs, T.biMEnd + 1⟩ :: T.tail, (⟨fo / bs, fo % bs, T.biMEnd + 1⟩ :: T.tail).map (·.bo), ?_,
      by rw [show begChoice d s fo = fo by simp [begChoice, h0]]; exact hch, fun _ => rfl, fun _ _ => ?_⟩
    · simp only [← t1, rNlA, rBm, rEnd, rNlB, rLine, rFo, rStore, rReads, hebs, hhead, List.map_cons]
      rfl
    · rw [hfl, ← t1]
      simp only [partA, h0, ↓reduceIte, blockOffsetAtFileOffset_eq, blockIndexAtFileOffset_eq]
  · have hA : st4.foundNlA = false := by rw [rFoundA]; simpa using h0
    have h1 : fo ≥ 1 := Nat.pos_of_ne_zero h0
    by_cases hquick : (linesGet s.lines (fo - 1)).isSome = true ∨ (getLinep s (fo - 1)).isSome = true
    · -- A1a / A1b
      have hbeg : begChoice d s fo = fo := by rcases hquick with h | h <;> simp [begChoice, h0, h]
      refine ⟨⟨fo / bs, fo % bs, T.biMEnd + 1⟩ :: T.tail, (⟨fo / bs, fo % bs, T.biMEnd + 1⟩ :: T.tail).map (·.bo), ?_,
        by rw [hbeg]; exact hch, fun _ => rfl, fun q1 q2 => by rcases hquick with h | h <;> simp_all⟩
      cases ha : (linesGet s.lines (fo - 1)).isSome
      · have hb := hquick.resolve_left (by simp [ha])
        interp [S4V.Gen.Lines.partA0, S4V.Gen.Lines.asserts, S4V.Gen.Lines.partA1, List.cons_append,
          List.nil_append, hA, rFoundB, rCzF, rFo, rStore, ha, hb, helru, h1]
        simp only [← t1, rBm, rEnd, rNlB, rLine, rReads, hebs, hhead, List.map_cons]
        rfl
      · interp [S4V.Gen.Lines.partA0, S4V.Gen.Lines.asserts, S4V.Gen.Lines.partA1, List.cons_append,
          List.nil_append, hA, rFoundB, rCzF, rFo, rStore, ha, helru, h1]
        simp only [← t1, rBm, rEnd, rNlB, rLine, rReads, hebs, hhead, List.map_cons]
        rfl
    · -- A2 … A5
      obtain ⟨hq1, hq2⟩ : (linesGet s.lines (fo - 1)).isSome = false ∧ (getLinep s (fo - 1)).isSome = false := by
        simpa using hquick
      obtain ⟨parts, hfind, hchain⟩ := findLine_chain bs d fo hbs hfo
      obtain ⟨st', e1, e2⟩ := exec_partA_walk env
        { st4 with fileoffset := fo, charszFo := 1, foundNlA := false, foundNlB := true, foU := fo - 1, store := s }
        hbs' helru rfl rCzB h1 (by rw [hed]; exact hfo) rfl (by simp only [rBo, hebs]) (by simp only [rBi, hebs])
        (by simp only [rBm, hebs]) T.tail (by simp only [rLine, hebs]) T.foNlB _ parts
        (by simp only [rEnd, hebs, hed]; rw [← hfl]; exact hfind)
      have hE := (Chain.gBounds hchain (hchain.ne_nil_of_line (isLineStart_lineStart d fo).le hfo)).2
      rw [hebs, hE] at e1 e2
      refine ⟨parts, st'.reads, ?_, ?_, fun h => absurd h hquick, fun _ _ => hfind⟩
      · interp [S4V.Gen.Lines.partA0, S4V.Gen.Lines.asserts, S4V.Gen.Lines.partA1, List.cons_append,
          List.nil_append, hA, rFoundB, rCzF, rFo, rStore, hq1, hq2, h1]
        rw [e1]
        simp only [e2]
      · rw [show begChoice d s fo = lineStart d fo by simp [begChoice, h0, hq1, hq2]]
        exact hchain

theorem findLineG_nowalk (bs : Nat) (d : Bytes) (s : Store) (fo : Nat)
    (h : lruGet s.lru fo ≠ none ∨ d.length = 0 ∨ fo ≥ d.length ∨ linesGet s.lines fo ≠ none ∨ getLinep s fo ≠ none) :
    findLineG bs d s fo = (ofR (findLineCached d s fo).1, (findLineCached d s fo).2, []) := by
  unfold findLineG runFind findLineCached
  interp [S4V.Gen.Lines.findLine, S4V.Gen.Lines.prologue, List.cons_append, List.nil_append,
    S4V.Gen.Lines.checkStore, storeCheckG, lookupG, CHARSZ, lruPutG_eq, ofR]
  rcases hl : lruGet s.lru fo with _ | r
  · simp only []
    by_cases hd0 : d.length = 0
    · simp only [hd0, beq_self_eq_true, true_or, ↓reduceIte]
    · have h0 : (d.length == 0) = false := by simpa using hd0
      by_cases hgt : fo > d.length
      · simp only [h0, hgt, hd0, Nat.le_of_lt hgt, or_true, decide_true, Bool.false_eq_true, ↓reduceIte]
      · by_cases heq' : fo = d.length
        · simp only [h0, hd0, heq', Nat.lt_irrefl, Nat.le_refl, ge_iff_le, or_true, decide_false, beq_self_eq_true,
            Bool.false_eq_true, ↓reduceIte]
        · have heq : (fo == d.length) = false := by simpa using heq'
          have hnot : ¬ (d.length = 0 ∨ fo ≥ d.length) := by omega
          simp only [h0, hgt, heq, hnot, decide_false, Bool.false_eq_true, ↓reduceIte]
          rcases hl1 : linesGet s.lines fo with _ | ⟨b, e⟩
          · rcases hl2 : getLinep s fo with _ | ⟨b, e⟩
            · exfalso
              rcases h with h | h | h | h | h
              · exact h hl
              · exact hd0 h
              · omega
              · exact h hl1
              · exact h hl2
            · rfl
          · rfl
  · rfl

end S4V.Lemmas.LineSkel
