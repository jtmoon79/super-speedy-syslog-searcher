/-
Lemmas about the relative-offset matcher of `S4V.Model.Cli` (the regex built
from the generated `CGP_DUR_OFFSET_*` pieces).
-/
import S4V.Model.Cli

namespace S4V.Lemmas.Cli
open S4V.Model.Cli S4V.Gen.CliTables

/-- one `N u` token of the relative grammar: a non-empty ASCII digit string and a unit letter -/
structure Tok where
  ds : List Char
  u : Char
  deriving DecidableEq, Repr

def Tok.WF (t : Tok) : Prop := t.ds ≠ [] ∧ (∀ c ∈ t.ds, isDig c = true) ∧ t.u ∈ ['s', 'm', 'h', 'd', 'w']

theorem Tok.WF.digits {t : Tok} (h : t.WF) : ∀ c ∈ t.ds, isDig c = true := h.2.1
theorem Tok.WF.unit {t : Tok} (h : t.WF) : t.u ∈ ['s', 'm', 'h', 'd', 'w'] := h.2.2

def renderToks : List Tok → List Char
  | [] => []
  | t :: ts => t.ds ++ t.u :: renderToks ts

theorem isNd_of_isDig {c : Char} (h : isDig c = true) : isNd c = true :=
  List.any_eq_true.mpr ⟨(48, 57), by decide, h⟩

theorem isNd_unit {u : Char} (h : u ∈ ['s', 'm', 'h', 'd', 'w']) : isNd u = false := by
  simp at h
  rcases h with h | h | h | h | h <;> subst h <;> decide

theorem isDig_unit {u : Char} (h : u ∈ ['s', 'm', 'h', 'd', 'w']) : isDig u = false := by
  simp at h
  rcases h with h | h | h | h | h <;> subst h <;> decide

theorem takeWhile_digits (ds : List Char) (u : Char) (r : List Char)
    (hd : ∀ c ∈ ds, isDig c = true) (hu : isNd u = false) :
    (ds ++ u :: r).takeWhile isNd = ds ∧ (ds ++ u :: r).dropWhile isNd = u :: r := by
  have h : ∀ c ∈ ds, isNd c = true := fun c hc => isNd_of_isDig (hd c hc)
  simp [List.takeWhile_append_of_pos h, List.dropWhile_append_of_pos h, hu]

theorem unitAt_render (t : Tok) (r : List Char) (h : t.WF) :
    unitAt (t.ds ++ t.u :: r) = some (t.ds, t.u, r) := by
  obtain ⟨hne, hd, hu⟩ := h
  have ⟨h1, h2⟩ := takeWhile_digits t.ds t.u r hd (isNd_unit hu)
  have hc : t.u ∈ durRegexAlternatives := hu
  simp [unitAt, h1, h2, hne, hc]

theorem unitsLoop_render (toks : List Tok) (wf : ∀ t ∈ toks, t.WF) :
    ∀ (fuel : Nat) (c : Caps), toks.length ≤ fuel →
      unitsLoop fuel (renderToks toks) c = (toks.foldl (fun c t => c.set t.u t.ds) c, []) := by
  induction toks with
  | nil =>
    intro fuel c _
    cases fuel with
    | zero => simp [unitsLoop, renderToks]
    | succ n => simp [unitsLoop, renderToks, unitAt]
  | cons t ts ih =>
    intro fuel c hf
    cases fuel with
    | zero => simp at hf
    | succ n =>
      have hwt : t.WF := wf t (by simp)
      simp only [renderToks, unitsLoop, unitAt_render t _ hwt, List.foldl_cons]
      exact ih (fun x hx => wf x (by simp [hx])) n _ (by simpa using hf)

theorem length_renderToks (toks : List Tok) : toks.length ≤ (renderToks toks).length := by
  induction toks with
  | nil => simp [renderToks]
  | cons t ts ih => simp [renderToks]; omega

/-- the opening `[@]?[+-]` -/
def relPrefix (other neg : Bool) : List Char :=
  (if other then ['@'] else []) ++ [if neg then '-' else '+']

theorem matchAt_render (other neg : Bool) (t : Tok) (ts : List Tok) (wf : ∀ x ∈ t :: ts, x.WF) :
    matchAt (relPrefix other neg ++ renderToks (t :: ts)) =
      some (ts.foldl (fun c t => c.set t.u t.ds) (Caps.set { other := other, neg := neg } t.u t.ds), []) := by
  have hwt : t.WF := wf t (by simp)
  have hl := unitsLoop_render ts (fun x hx => wf x (by simp [hx])) (renderToks ts).length
    (Caps.set { other := other, neg := neg } t.u t.ds) (length_renderToks ts)
  cases other <;> cases neg <;>
    simp [matchAt, relPrefix, renderToks, unitAt_render t _ hwt, hl]

theorem search_render (other neg : Bool) (t : Tok) (ts : List Tok) (wf : ∀ x ∈ t :: ts, x.WF) :
    search (relPrefix other neg ++ renderToks (t :: ts)) =
      some (ts.foldl (fun c t => c.set t.u t.ds) (Caps.set { other := other, neg := neg } t.u t.ds)) := by
  have hm := matchAt_render other neg t ts wf
  cases other <;> cases neg <;>
    simp only [relPrefix, List.cons_append, List.nil_append, Bool.false_eq_true, if_false, if_true] at hm ⊢ <;>
    simp [search, searchWith, hm, durRegexAnchoredEnd]

/-- the digit string the group of unit `u` holds after the repetitions `toks` -/
def lastOf (u : Char) (acc : Option (List Char)) (toks : List Tok) : Option (List Char) :=
  toks.foldl (fun acc t => if t.u = u then some t.ds else acc) acc

theorem set_eq (c : Caps) (u : Char) (ds : List Char) (h : u ∈ ['s', 'm', 'h', 'd', 'w']) :
    c.set u ds = { c with
      s := if u = 's' then some ds else c.s, m := if u = 'm' then some ds else c.m,
      h := if u = 'h' then some ds else c.h, d := if u = 'd' then some ds else c.d,
      w := if u = 'w' then some ds else c.w } := by
  simp only [List.mem_cons, List.not_mem_nil, or_false] at h
  rcases h with rfl | rfl | rfl | rfl | rfl <;> rfl

theorem fold_set (toks : List Tok) (wf : ∀ t ∈ toks, t.WF) (c : Caps) :
    toks.foldl (fun c t => c.set t.u t.ds) c = { c with
      s := lastOf 's' c.s toks, m := lastOf 'm' c.m toks, h := lastOf 'h' c.h toks,
      d := lastOf 'd' c.d toks, w := lastOf 'w' c.w toks } := by
  induction toks generalizing c with
  | nil => rfl
  | cons t ts ih =>
    rw [List.foldl_cons, ih (fun x hx => wf x (by simp [hx])), set_eq c t.u t.ds (wf t (by simp)).unit]
    rfl

def valOf (g : Option (List Char)) : Nat :=
  match g with
  | none => 0
  | some ds => numVal ds

def sumOf (u : Char) (toks : List Tok) : Nat :=
  ((toks.filter fun t => t.u = u).map fun t => numVal t.ds).sum

theorem lastOf_absent (u : Char) (toks : List Tok) (h : u ∉ toks.map (·.u)) (acc : Option (List Char)) :
    lastOf u acc toks = acc := by
  induction toks generalizing acc with
  | nil => simp [lastOf]
  | cons t ts ih =>
    simp at h
    have h1 : ¬ t.u = u := fun e => h.1 e.symm
    simp only [lastOf, List.foldl_cons, h1, if_false]
    exact ih (by simpa using h.2) acc

theorem sumOf_absent (u : Char) (toks : List Tok) (h : u ∉ toks.map (·.u)) : sumOf u toks = 0 := by
  induction toks with
  | nil => simp [sumOf]
  | cons t ts ih =>
    simp at h
    have h1 : ¬ t.u = u := fun e => h.1 e.symm
    have := ih (by simpa using h.2)
    simp [sumOf, h1] at this ⊢
    exact this

/-- with distinct units the last repetition is the only one -/
theorem valOf_lastOf_nodup (u : Char) (toks : List Tok) (nd : (toks.map (·.u)).Nodup) :
    valOf (lastOf u none toks) = sumOf u toks := by
  induction toks with
  | nil => simp [lastOf, valOf, sumOf]
  | cons t ts ih =>
    simp only [List.map_cons, List.nodup_cons] at nd
    by_cases h : t.u = u
    · have hab : u ∉ ts.map (·.u) := by rw [← h]; exact nd.1
      have h0 := sumOf_absent u ts hab
      have h1 : lastOf u none (t :: ts) = lastOf u (some t.ds) ts := by simp [lastOf, h]
      rw [h1, lastOf_absent u ts hab]
      simp [sumOf, h] at h0 ⊢
      simp [valOf, h0]
    · have h1 : lastOf u none (t :: ts) = lastOf u none ts := by simp [lastOf, h]
      rw [h1, ih nd.2]
      simp [sumOf, h]

theorem groupCount_of (g : Option (List Char)) (hd : ∀ ds, g = some ds → (∀ c ∈ ds, isDig c = true))
    (hb : valOf g ≤ i64Max) : groupCount g = some (valOf g) := by
  cases g with
  | none => simp [groupCount, valOf]
  | some ds =>
    have h1 : ds.all isDig = true := by simpa using hd ds rfl
    simp only [valOf] at hb
    simp [groupCount, parseI64, valOf, h1, hb]

theorem lastOf_some_P (P : List Char → Prop) (u : Char) (toks : List Tok) (hp : ∀ t ∈ toks, P t.ds)
    (acc : Option (List Char)) (hacc : ∀ ds, acc = some ds → P ds) :
    ∀ ds, lastOf u acc toks = some ds → P ds := by
  induction toks generalizing acc with
  | nil => simpa [lastOf] using hacc
  | cons t ts ih =>
    simp only [lastOf, List.foldl_cons]
    apply ih (fun x hx => hp x (by simp [hx]))
    intro ds hds
    by_cases h : t.u = u
    · simp [h] at hds; subst hds; exact hp t (by simp)
    · simp [h] at hds; exact hacc ds hds

theorem lastOf_some_wf (u : Char) (toks : List Tok) (wf : ∀ t ∈ toks, t.WF) (acc : Option (List Char))
    (hacc : ∀ ds, acc = some ds → (∀ c ∈ ds, isDig c = true)) :
    ∀ ds, lastOf u acc toks = some ds → (∀ c ∈ ds, isDig c = true) :=
  lastOf_some_P (fun ds => ∀ c ∈ ds, isDig c = true) u toks (fun t ht => (wf t ht).digits) acc hacc

theorem valOf_le (g : Option (List Char)) (n : Nat) (h : ∀ ds, g = some ds → numVal ds ≤ n) : valOf g ≤ n := by
  cases g with
  | none => simp [valOf]
  | some ds => simpa [valOf] using h ds rfl

/-- `10^9` is a convenient bound, not a sharp one: with it the five products and their sum stay far below
`durBound` (about `9.2 * 10^15`) -/
theorem durArith_small (neg other : Bool) (s m h d w : Nat)
    (hs : s ≤ 1000000000) (hm : m ≤ 1000000000) (hh : h ≤ 1000000000) (hd : d ≤ 1000000000) (hw : w ≤ 1000000000) :
    durArith neg other s m h d w =
      .ok ((if neg then -1 else 1) * ((s : Int) + m * 60 + h * 3600 + d * 86400 + w * 604800)) other := by
  cases neg <;>
    simp only [durArith, durBound, Bool.false_eq_true, if_false, if_true, Bool.and_eq_true, decide_eq_true_eq] <;>
    (rw [if_pos (by omega), if_pos (by omega)]; congr 1; omega)

/-- `string_wdhms_to_duration` on a string of the relative grammar: every group holds the LAST
count given for its unit -/
theorem durOf_render (other neg : Bool) (t : Tok) (ts : List Tok) (wf : ∀ x ∈ t :: ts, x.WF)
    (small : ∀ x ∈ t :: ts, numVal x.ds ≤ 1000000000) :
    durOf (relPrefix other neg ++ renderToks (t :: ts)) =
      .ok ((if neg then -1 else 1) *
        ((valOf (lastOf 's' none (t :: ts)) : Int) + valOf (lastOf 'm' none (t :: ts)) * 60 +
          valOf (lastOf 'h' none (t :: ts)) * 3600 + valOf (lastOf 'd' none (t :: ts)) * 86400 +
          valOf (lastOf 'w' none (t :: ts)) * 604800)) other := by
  have hne : (relPrefix other neg ++ renderToks (t :: ts)).isEmpty = false := by
    cases other <;> cases neg <;> rfl
  have hcaps : ts.foldl (fun c t => c.set t.u t.ds) (Caps.set { other := other, neg := neg } t.u t.ds) =
      { other := other, neg := neg, s := lastOf 's' none (t :: ts), m := lastOf 'm' none (t :: ts),
        h := lastOf 'h' none (t :: ts), d := lastOf 'd' none (t :: ts), w := lastOf 'w' none (t :: ts) } := by
    rw [fold_set ts (fun x hx => wf x (by simp [hx])), set_eq _ _ _ (wf t (by simp)).unit]
    rfl
  have hval : ∀ u, valOf (lastOf u none (t :: ts)) ≤ 1000000000 := fun u =>
    valOf_le _ _ (lastOf_some_P (fun ds => numVal ds ≤ 1000000000) u (t :: ts) small none (by simp))
  have hgc : ∀ u, groupCount (lastOf u none (t :: ts)) = some (valOf (lastOf u none (t :: ts))) := fun u =>
    groupCount_of _ (lastOf_some_wf u (t :: ts) wf none (by simp)) (Nat.le_trans (hval u) (by decide))
  rw [durOf, hne, search_render other neg t ts wf, hcaps]
  simp only [Bool.false_eq_true, if_false, durOfCaps, hgc]
  exact durArith_small neg other _ _ _ _ _ (hval 's') (hval 'm') (hval 'h') (hval 'd') (hval 'w')

/-- a token as the regex sees it: `\d` is Unicode Nd -/
def Tok.WFNd (t : Tok) : Prop := t.ds ≠ [] ∧ (∀ c ∈ t.ds, isNd c = true) ∧ t.u ∈ durRegexAlternatives

theorem unitAt_inv (s ds r : List Char) (u : Char) (h : unitAt s = some (ds, u, r)) :
    s = ds ++ u :: r ∧ Tok.WFNd ⟨ds, u⟩ := by
  unfold unitAt at h
  split at h
  · cases h
  · rename_i hne
    split at h
    · rename_i u' r' hdw
      split at h
      · rename_i hc
        simp only [Option.some.injEq, Prod.mk.injEq] at h
        obtain ⟨h1, h2, h3⟩ := h
        subst h1; subst h2; subst h3
        refine ⟨?_, ?_, ?_, ?_⟩
        · rw [← hdw]; exact (List.takeWhile_append_dropWhile).symm
        · intro e; apply hne; simp only at e; simp [e]
        · exact List.all_eq_true.mp List.all_takeWhile
        · simpa using hc
      · cases h
    · cases h

theorem unitsLoop_inv : ∀ (fuel : Nat) (s : List Char) (c c' : Caps), unitsLoop fuel s c = (c', []) →
    ∃ toks : List Tok, (∀ x ∈ toks, x.WFNd) ∧ s = renderToks toks := by
  intro fuel
  induction fuel with
  | zero =>
    intro s c c' h
    simp [unitsLoop] at h
    exact ⟨[], by simp, by simp [renderToks, h.2]⟩
  | succ n ih =>
    intro s c c' h
    unfold unitsLoop at h
    split at h
    · rename_i ds u r hu
      obtain ⟨e, wf⟩ := unitAt_inv s ds r u hu
      obtain ⟨toks, hw, hr⟩ := ih r _ c' h
      refine ⟨⟨ds, u⟩ :: toks, ?_, ?_⟩
      · exact List.forall_mem_cons.mpr ⟨wf, hw⟩
      · simp [renderToks, e, hr]
    · simp at h
      exact ⟨[], by simp, by simp [renderToks, h.2]⟩

/-- a string, split behind an optional leading `@` the way `matchAt` reads it -/
theorem at_split (s : List Char) :
    s = (if s.head? == some '@' then ['@'] else []) ++ (if s.head? == some '@' then s.drop 1 else s) := by
  cases s with
  | nil => rfl
  | cons a as => by_cases h : a = '@' <;> simp [h]

theorem matchAt_inv (s : List Char) (caps : Caps) (h : matchAt s = some (caps, [])) :
    ∃ other neg t ts, (∀ x ∈ t :: ts, Tok.WFNd x) ∧ s = relPrefix other neg ++ renderToks (t :: ts) := by
  unfold matchAt at h
  dsimp only at h
  split at h
  · rename_i c r hs1
    split at h
    · rename_i hsign
      split at h
      · rename_i ds u r' hu
        obtain ⟨e, wf⟩ := unitAt_inv r ds r' u hu
        simp only [Option.some.injEq] at h
        obtain ⟨toks, hw, hr⟩ := unitsLoop_inv _ _ _ _ h
        have hc : c = if c = '-' then '-' else '+' := by
          by_cases hm : c = '-'
          · simp [hm]
          · simpa [hm] using hsign
        refine ⟨s.head? == some '@', c == '-', ⟨ds, u⟩, toks, ?_, ?_⟩
        · exact List.forall_mem_cons.mpr ⟨wf, hw⟩
        · refine (at_split s).trans ?_
          rw [hs1, e, hr]
          simpa [relPrefix, renderToks] using hc
      · cases h
    · cases h
  · cases h

end S4V.Lemmas.Cli
