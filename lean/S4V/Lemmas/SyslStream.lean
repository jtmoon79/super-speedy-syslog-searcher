/-
`between` and the streaming loop `streamAll` (properties C02 / C03), from any start offset:
the loop started at `F` sends `(after F M).filter (inWindow a b)`, `M = messages ls`.
-/
import S4V.Lemmas.SyslSearch

namespace S4V.Lemmas.Syslines
open S4V.Model.Syslines S4V.Gen.Filter

def searchStep (ls : List LineInfo) (streamed : Bool) (fo : Nat) (a : Option Int) :
    S4V.Model.Syslines.Res :=
  if streamed then lsearch ls a (ls.length + 2) fo else bsearch ls fo a

theorem between_eq (ls : List LineInfo) (streamed : Bool) (fo : Nat) (a b : Option Int) :
    between ls streamed fo a b =
      match searchStep ls streamed fo a with
      | .found fo' s =>
        match dtPassFilters s.dt a b with
        | .InRange => .found fo' s
        | _ => .done
      | .done => .done
      | r => r := rfl

def inWindow (a b : Option Int) (m : Sysl) : Bool := decide (dtPassFilters m.dt a b = .InRange)

theorem inWindow_iff (a b : Option Int) (m : Sysl) :
    inWindow a b m = true ↔ geA a m.dt ∧ leB b m.dt := by
  simp [inWindow, dtPassFilters_inRange_iff, geA, leB]

theorem streamLoop_congr {ls : List LineInfo} {streamed : Bool} {a b : Option Int} {F F' : Nat}
    (h : between ls streamed F a b = between ls streamed F' a b) (fuel : Nat) :
    streamLoop ls streamed a b (fuel + 1) F = streamLoop ls streamed a b (fuel + 1) F' := by
  simp only [streamLoop, h]

section
variable {ls : List LineInfo} (hwf : WFLines ls)
include hwf

theorem searchStep_after (a : Option Int) {streamed : Bool}
    (h : streamed = false → SortedM (messages ls) ∧ TwoBytesM (messages ls)) (F : Nat) :
    searchStep ls streamed F a = firstGE a (after F (messages ls)) := by
  cases streamed with
  | true => exact lsearch_from hwf a F
  | false => exact bsearch_after hwf a F (h rfl).1 (h rfl).2

/-- The hypotheses are what the loop needs: a correct search step, and that a message past the upper
bound is followed by such messages only. For a sorted file `searchStep_after` and
`SortedM.past_stays_past` give them; without bounds every file has them (`streamAll_unfiltered`). -/
theorem streamLoop_after (streamed : Bool) (a b : Option Int)
    (hS : ∀ F, searchStep ls streamed F a = firstGE a (after F (messages ls))) :
    ∀ (S : List Sysl) (F fuel : Nat), after F (messages ls) = S → S.length + 1 ≤ fuel →
      S.Pairwise (fun x y => ¬ leB b x.dt → ¬ leB b y.dt) →
      streamLoop ls streamed a b fuel F = S.filter (inWindow a b) := by
  intro S
  induction S with
  | nil =>
    intro F fuel hF hf _
    obtain ⟨f, rfl⟩ := Nat.exists_eq_add_of_le' (Nat.le_of_add_left_le hf)
    simp [streamLoop, between_eq, hS, hF]
  | cons m r ih =>
    intro F fuel hF hf hp
    obtain ⟨f, rfl⟩ := Nat.exists_eq_add_of_le' (Nat.le_of_add_left_le hf)
    obtain ⟨hp1, hp2⟩ := List.pairwise_cons.1 hp
    have hnext := (messages_geom hwf).1.after_next hF
    by_cases hge : geA a m.dt
    · rw [streamLoop, between_eq, hS, hF, firstGE_cons_pos hge]
      by_cases hle : leB b m.dt
      · have hwin := (inWindow_iff a b m).2 ⟨hge, hle⟩
        simp only [(dtPassFilters_inRange_iff _ _ _).2 ⟨hge, hle⟩, List.filter_cons_of_pos hwin]
        -- `m` is the last message of the file iff nothing ends after it
        have hmM := (mem_after_of_eq hF).1
        have hlast : isSyslineLast ls m = true ↔ r = [] := by
          have := ((messages_geom hwf).1.mem_bounds hmM).2.2
          rw [isSyslineLast_iff, ← hnext, (messages_geom hwf).1.after_eq_nil_iff (List.ne_nil_of_mem hmM)]
          rw [(messages_geom hwf).2] at this ⊢
          omega
        cases r with
        | nil => simp [hlast.2 rfl]
        | cons y r' =>
          rw [if_neg (fun h => by cases hlast.1 h)]
          congr 1
          exact ih (m.fin + 1) f hnext (by simpa using hf) hp2
      · have hnin : dtPassFilters m.dt a b ≠ .InRange := by
          rw [Ne, dtPassFilters_inRange_iff]; exact fun h => hle h.2
        have hall : (m :: r).filter (inWindow a b) = [] :=
          List.filter_eq_nil_iff.2 fun x hx hw => by
            have h2 := ((inWindow_iff a b x).1 hw).2
            rcases List.mem_cons.1 hx with rfl | hx
            · exact hle h2
            · exact hp1 x hx hle h2
        rw [hall]
        cases hp : dtPassFilters m.dt a b with
        | InRange => exact absurd hp hnin
        | BeforeRange => simp only [hp]
        | AfterRange => simp only [hp]
    · -- `m` fails the lower bound: the search from `F` is the search from right after `m`
      have e : between ls streamed F a b = between ls streamed (m.fin + 1) a b := by
        rw [between_eq, between_eq, hS, hS, hF, hnext, firstGE_cons_neg hge]
      rw [streamLoop_congr e, List.filter_cons_of_neg (fun h => hge ((inWindow_iff a b m).1 h).1)]
      exact ih (m.fin + 1) (f + 1) hnext (Nat.le_of_succ_le hf) hp2

theorem streamAll_after (streamed : Bool) (a b : Option Int)
    (hS : ∀ F, searchStep ls streamed F a = firstGE a (after F (messages ls)))
    (hb : (messages ls).Pairwise (fun x y => ¬ leB b x.dt → ¬ leB b y.dt)) :
    streamAll ls streamed a b = (messages ls).filter (inWindow a b) :=
  streamLoop_after hwf streamed a b hS _ 0 _ (after_zero _) (after_zero (messages ls) ▸ after_length ls 0) hb

end

theorem SortedM.past_stays_past {M : List Sysl} (hs : SortedM M) (b : Option Int) :
    M.Pairwise (fun x y => ¬ leB b x.dt → ¬ leB b y.dt) :=
  hs.imp fun {x y} hxy => by cases b <;> simp <;> omega

end S4V.Lemmas.Syslines
