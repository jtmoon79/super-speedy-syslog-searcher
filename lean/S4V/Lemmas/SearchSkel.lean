/-
Equivalence of the skeleton interpreters (`S4V.Model.SearchSkel`) run on the skeletons regenerated
from the source (`S4V.Gen.Search`) with the hand models of `S4V.Model.Syslines`.

Every proof goes through the `sk_*` / `lk_*` / `wk_*` / `ak_*` / `pk_*` facts below, each of which states one field
of a generated skeleton LITERALLY and is proved by `rfl`: an edit of the Rust source that changes
an assignment, an operator, an assertion, the order of two tests or a row of the decision table
regenerates a different field and the corresponding `rfl` fails.
-/
import S4V.Model.SearchSkel
import S4V.Lemmas.Syslines

namespace S4V.Lemmas.SearchSkel
open S4V.Model.Syslines S4V.Gen.Filter S4V.Gen.Search S4V.Model.SearchSkel S4V.Lemmas.Syslines

/-- the generated skeleton of `find_sysline_at_datetime_filter_binary_search` -/
abbrev SK : BSkel := S4V.Gen.Search.bsearch
/-- … of `find_sysline_at_datetime_filter_linear_search` -/
abbrev LK : LSkel := S4V.Gen.Search.lsearch
/-- … of `find_sysline_between_datetime_filters` -/
abbrev WK : WSkel := S4V.Gen.Search.between

theorem sk_init : SK.init =
    [(.tryFo, .v .fileoffset), (.tryFoLast, .v (.cur .tryFo)), (.foA, .v .fileoffset), (.foB, .v .foEnd)] := rfl
theorem sk_probe : SK.probe = .v (.cur .tryFo) := rfl
theorem sk_pass : SK.pass = [.retFound] := rfl
theorem sk_atOrAfter : SK.atOrAfter =
    [.retFoundIf (.cmp .eq (.v (.cur .tryFo)) (.v .fileoffset)),
     .assign .tryFoLast (.v (.cur .tryFo)),
     .assign .foB (.min (.v .slBeg) (.v (.cur .tryFoLast))),
     .assert (.cmp .le (.v (.cur .foA)) (.v (.cur .foB))),
     .assign .tryFo (.add (.v (.cur .foA)) (.div (.sub (.v (.cur .foB)) (.v (.cur .foA))) (.lit 2)))] := rfl
theorem sk_before : SK.before =
    [.assign .tryFoLast (.v (.cur .tryFo)),
     .assert (.cmp .le (.v (.cur .tryFoLast)) (.v .slEnd)),
     .assign .foA (.min (.v .slEnd) (.v (.cur .foB))),
     .assign .tryFo (.add (.v (.cur .foA)) (.div (.sub (.v (.cur .foB)) (.v (.cur .foA))) (.lit 2)))] := rfl
theorem sk_setsLast : SK.setsLast = true := rfl
theorem sk_doneArm : SK.doneArm =
    [.assign .tryFoLast (.v (.cur .tryFo)),
     .assign .tryFo (.add (.v (.cur .foA)) (.div (.sub (.v (.cur .foB)) (.v (.cur .foA))) (.lit 2)))] := rfl
theorem sk_exits : SK.exits =
    [(.and .done (.cmp .eq (.v (.cur .tryFo)) (.v (.cur .tryFoLast))), .brk),
     (.cmp .ne (.v (.cur .tryFo)) (.v (.cur .tryFoLast)), .cont)] := rfl
theorem sk_convExits : SK.convExits =
    [(.and .isLast (.cmp .lt (.v .slBeg) (.v (.cur .tryFo))), .retDone)] := rfl
theorem sk_refindIf : SK.refindIf = .cmp .lt (.v .slBeg) (.v (.cur .tryFo)) := rfl
theorem sk_refindAt : SK.refindAt = .add (.v .slEnd) (.lit 1) := rfl
theorem sk_finalNext : SK.finalNext = .add (.v .slEnd) (.lit 1) := rfl
theorem sk_choose : SK.choose =
    [(none, some .Pass, .brk), (some .Pass, none, .brk),
     (some .OccursBefore, some .OccursBefore, .next),
     (some .OccursBefore, some .OccursAtOrAfter, .next),
     (some .OccursAtOrAfter, some .OccursAtOrAfter, .cur),
     (none, none, .brk)] := rfl

theorem chooseOf_sk (x y : Result_Filter_DateTime1) :
    chooseOf x y SK.choose =
      match x, y with
      | .OccursBefore, .OccursBefore => .next
      | .OccursBefore, .OccursAtOrAfter => .next
      | .OccursAtOrAfter, .OccursAtOrAfter => .cur
      | _, _ => .brk := by
  rw [sk_choose]; cases x <;> cases y <;> rfl

/-- the hand model's convergence handling: a copy of the last `match` of `bsearchLoop`, so that `converge_eq` can
be stated. `bsearchLoopG_eq` closes its goals, which are `bsearchLoop` unfolded, with `exits_eq` up to unfolding:
a copy that differed from the model would not typecheck there. -/
def convergeHand (ls : List LineInfo) (flt : Option Int) (st' : BS) : Res :=
  match st'.last with
  | none => .err
  | some s =>
    if isSyslineLast ls s && s.beg < st'.tryFo then .done
    else if s.beg < st'.tryFo then
      match findSysline ls (s.fin + 1) with
      | .found _ sn =>
        match dtAfterOrBefore s.dt flt, dtAfterOrBefore sn.dt flt with
        | .OccursBefore, .OccursBefore => .found (sn.fin + 1) sn
        | .OccursBefore, .OccursAtOrAfter => .found (sn.fin + 1) sn
        | .OccursAtOrAfter, .OccursAtOrAfter => .found (s.fin + 1) s
        | _, _ => .done
      | _ => .done
    else .found (s.fin + 1) s

theorem converge_eq (ls : List LineInfo) (fileoffset : Nat) (flt : Option Int) (st : BS) :
    converge SK ls fileoffset flt st = convergeHand ls flt st := by
  unfold converge convergeHand
  cases st.last with
  | none => rfl
  | some s =>
    simp only [sk_convExits, sk_refindIf, sk_refindAt, sk_finalNext, chooseOf_sk, firstJump, BExpr.eval, Cmp.eval,
      Expr.eval, Var.get, getCur]
    by_cases h2 : s.beg < st.tryFo
    · by_cases hL : isSyslineLast ls s = true
      · simp [hL, h2]
      · simp only [hL, h2, Bool.false_and, decide_true, Bool.false_eq_true, if_false, if_true]
        cases findSysline ls (s.fin + 1) with
        | found fo sn =>
          dsimp only; cases dtAfterOrBefore s.dt flt <;> cases dtAfterOrBefore sn.dt flt <;> rfl
        | _ => rfl
    · simp [h2]

/-- the hand model's loop-exit tests: likewise a copy, of the `if` chain that ends `bsearchLoop` -/
def exitsHand (ls : List LineInfo) (fileoffset : Nat) (flt : Option Int) (fuel : Nat) (done : Bool)
    (st' : BS) : Res :=
  if done && st'.tryFo = st'.tryFoLast then .done
  else if st'.tryFo ≠ st'.tryFoLast then bsearchLoop ls fileoffset flt fuel st'
  else convergeHand ls flt st'

theorem exits_eq (ls : List LineInfo) (fileoffset : Nat) (flt : Option Int) (fuel : Nat)
    (ih : ∀ st, bsearchLoopG SK ls fileoffset flt fuel st = bsearchLoop ls fileoffset flt fuel st)
    (env : Env) (done : Bool) (st' : BS) :
    (match firstJump ls env st' done SK.exits with
      | some .brk => .done
      | some .retDone => .done
      | some .cont => bsearchLoopG SK ls fileoffset flt fuel st'
      | none => converge SK ls fileoffset flt st') = exitsHand ls fileoffset flt fuel done st' := by
  simp only [sk_exits, firstJump, BExpr.eval, Cmp.eval, Expr.eval, Var.get, getCur, ih, converge_eq,
    exitsHand]
  cases done <;> by_cases h : st'.tryFo = st'.tryFoLast <;> simp [h]

theorem bsearchLoopG_eq {ls : List LineInfo} (hwf : WFLines ls) (fileoffset : Nat) (flt : Option Int) :
    ∀ (fuel : Nat) (st : BS),
      bsearchLoopG SK ls fileoffset flt fuel st = bsearchLoop ls fileoffset flt fuel st := by
  intro fuel
  induction fuel with
  | zero => intro st; rfl
  | succ n ih =>
    intro st
    unfold bsearchLoopG bsearchLoop
    simp only [sk_probe, Expr.eval, Var.get, getCur]
    cases hf : findSysline ls st.tryFo with
    | done =>
      simp only [sk_doneArm, execStmts, Expr.eval, Var.get, getCur, setCur]
      exact exits_eq ls fileoffset flt n ih _ true _
    | found fo s =>
      -- for the one assertion the hand model leaves out (`before` arm): a message found from `try_fo` ends at or after it
      have hge := (findSysline_found hwf hf).2.1
      dsimp only
      cases hd : dtAfterOrBefore s.dt flt with
      | Pass => simp only [armOf, sk_pass, execStmts]
      | OccursAtOrAfter =>
        simp only [armOf, sk_atOrAfter, sk_setsLast, execStmts, BExpr.eval, Cmp.eval, Expr.eval,
          Var.get, getCur, setCur]
        by_cases h0 : st.tryFo = fileoffset
        · simp [h0]
        · by_cases h1 : st.foA ≤ min s.beg st.tryFo
          · have h1' : ¬ st.foA > min s.beg st.tryFo := Nat.not_lt.2 h1
            simp only [h0, h1, h1', beq_iff_eq, decide_true, if_true, if_false]
            exact exits_eq ls fileoffset flt n ih _ false _
          · have h1' : st.foA > min s.beg st.tryFo := Nat.lt_of_not_le h1
            simp [h0, h1, h1']
      | OccursBefore =>
        simp only [armOf, sk_before, sk_setsLast, execStmts, BExpr.eval, Cmp.eval, Expr.eval,
          Var.get, getCur, setCur, hge, decide_true, if_true]
        exact exits_eq ls fileoffset flt n ih _ false _
    | err => rfl
    | nofuel => rfl

theorem bsearchG_eq {ls : List LineInfo} (hwf : WFLines ls) (fileoffset : Nat) (flt : Option Int) :
    bsearchG SK ls fileoffset flt = S4V.Model.Syslines.bsearch ls fileoffset flt := by
  unfold bsearchG S4V.Model.Syslines.bsearch
  rw [bsearchLoopG_eq hwf]
  rfl

theorem lk_init : LK.init = .v .fileoffset := rfl
theorem lk_probe : LK.probe = .v .foCursor := rfl
theorem lk_pass : LK.pass = .retFound := rfl
theorem lk_atOrAfter : LK.atOrAfter = .retFound := rfl
theorem lk_before : LK.before = .advance (.v .fo) := rfl

theorem lsearchLoopG_eq (ls : List LineInfo) (fileoffset : Nat) (flt : Option Int) :
    ∀ (fuel cursor : Nat), lsearchLoopG LK ls fileoffset flt fuel cursor = S4V.Model.Syslines.lsearch ls flt fuel cursor := by
  intro fuel
  induction fuel with
  | zero => intro c; rfl
  | succ n ih =>
    intro c
    unfold lsearchLoopG S4V.Model.Syslines.lsearch
    simp only [lk_probe, Expr.eval, Var.get]
    cases findSysline ls c with
    | found fo s =>
      dsimp only
      cases dtAfterOrBefore s.dt flt <;>
        simp only [larmOf, lk_pass, lk_atOrAfter, lk_before, Expr.eval, Var.get, ih]
    | _ => rfl

theorem lsearchG_eq (ls : List LineInfo) (flt : Option Int) (fuel fileoffset : Nat) :
    lsearchG LK ls flt fuel fileoffset = S4V.Model.Syslines.lsearch ls flt fuel fileoffset := by
  unfold lsearchG
  rw [lsearchLoopG_eq]
  rfl

theorem wk_whenStreamed : WK.whenStreamed = .linear := rfl
theorem wk_whenPlain : WK.whenPlain = .binary := rfl
theorem wk_searchWithAfter : WK.searchWithAfter = true := rfl
theorem wk_passInOrder : WK.passInOrder = true := rfl
theorem wk_inRange : WK.inRange = .retFound := rfl
theorem wk_beforeRange : WK.beforeRange = .retDone := rfl
theorem wk_afterRange : WK.afterRange = .retDone := rfl

theorem betweenG_eq {ls : List LineInfo} (hwf : WFLines ls) (streamed : Bool) (fo : Nat) (a b : Option Int) :
    betweenG SK LK WK ls streamed fo a b = S4V.Model.Syslines.between ls streamed fo a b := by
  unfold betweenG S4V.Model.Syslines.between
  simp only [wk_whenStreamed, wk_whenPlain, wk_searchWithAfter, wk_passInOrder, if_true]
  cases streamed
  · simp only [Bool.false_eq_true, if_false, bsearchG_eq hwf]
    cases S4V.Model.Syslines.bsearch ls fo a with
    | found fo' s =>
      dsimp only
      cases dtPassFilters s.dt a b <;> simp only [wactOf, wk_inRange, wk_beforeRange, wk_afterRange]
    | _ => rfl
  · simp only [if_true, lsearchG_eq]
    cases S4V.Model.Syslines.lsearch ls a (ls.length + 2) fo with
    | found fo' s =>
      dsimp only
      cases dtPassFilters s.dt a b <;> simp only [wactOf, wk_inRange, wk_beforeRange, wk_afterRange]
    | _ => rfl

theorem streamLoopG_eq {ls : List LineInfo} (hwf : WFLines ls) (streamed : Bool) (a b : Option Int) :
    ∀ (fuel fo : Nat), streamLoopG SK LK WK ls streamed a b fuel fo = streamLoop ls streamed a b fuel fo := by
  intro fuel
  induction fuel with
  | zero => intro fo; rfl
  | succ n ih =>
    intro fo
    unfold streamLoopG streamLoop
    rw [betweenG_eq hwf]
    cases S4V.Model.Syslines.between ls streamed fo a b with
    | found fo' s => simp only [ih]
    | _ => rfl

theorem streamAllG_eq {ls : List LineInfo} (hwf : WFLines ls) (streamed : Bool) (a b : Option Int) :
    streamAllG SK LK WK ls streamed a b = streamAll ls streamed a b := by
  unfold streamAllG streamAll
  exact streamLoopG_eq hwf streamed a b _ _

/-! ### `find_sysline_year`: part A and part B (empty store) -/

theorem ak_maxUpdate : findA.maxUpdate = .max (.v .foAMax) (.v .fo2) := rfl
theorem ak_foundNext : findA.foundNext = .add (.v .lineEnd) (.v .charsz) := rfl
theorem ak_chain : findA.chain =
    [(some .zeroTried, [.simple (.setFo1 (.v .foAMax))]),
     (some (.cmp .gt (.v .lineBeg) (.v .charsz)),
        [.simple (.setFo1 (.sub (.v .lineBeg) (.v .charsz))), .ifStored (.v .fo1) [.setZeroTried, .setFo1 (.v .foAMax)]]),
     (none, [.simple (.setFo1 (.lit 0)), .simple .setZeroTried])] := rfl
theorem pk_noDt : findB.noDt = [.push] := rfl
theorem pk_hasDt : findB.hasDt = [.setFoB (.v .fo1), .brk] := rfl
theorem pk_tail : findB.tail = [.setFo1 (.v .fo2), .setFoB (.v .fo1)] := rfl
theorem reader_charsz : READER_CHARSZ = 1 := rfl

theorem slPartAG_eq (ls : List LineInfo) (fileoffset : Nat) :
    ∀ (fuel fo1 : Nat) (z : Bool) (m : Nat),
      slPartAG findA (fun _ => false) ls fileoffset fuel ⟨fo1, z, m⟩
        = (slPartA ls fuel fo1 z m).map (fun l => (l, l.fin + 1)) := by
  intro fuel
  induction fuel with
  | zero => intros; rfl
  | succ n ih =>
    intro fo1 z m
    unfold slPartAG slPartA
    dsimp only
    cases lineAt ls fo1 with
    | none => rfl
    | some l =>
      dsimp only
      cases hdt : l.dt with
      | some t => simp [ak_maxUpdate, ak_foundNext, AExpr.eval, AVar.get, avalsA, reader_charsz]
      | none =>
        simp only [ak_maxUpdate, ak_chain, chainA, execA, execSimples, ACond.eval, Cmp.eval, AExpr.eval, AVar.get,
          avalsA, reader_charsz, Bool.false_eq_true, if_false]
        cases z
        · by_cases h : l.beg > 1 <;> simp [h, ih]
        · simp [ih]

theorem slPartBG_eq (ls : List LineInfo) :
    ∀ (fuel fin : Nat),
      slPartBG findB ls fuel ⟨fin + 1, fin + 1, fin⟩
        = ⟨slPartB ls fuel (fin + 1) fin + 1, slPartB ls fuel (fin + 1) fin + 1, slPartB ls fuel (fin + 1) fin⟩ := by
  intro fuel
  induction fuel with
  | zero => intro fin; rfl
  | succ n ih =>
    intro fin
    unfold slPartBG slPartB
    dsimp only
    cases lineAt ls (fin + 1) with
    | none => rfl
    | some l =>
      dsimp only
      cases hdt : l.dt with
      | some t => simp [pk_hasDt, execP, AExpr.eval, AVar.get, avalsB]
      | none => simp [pk_noDt, pk_tail, execP, AExpr.eval, AVar.get, avalsB, ih]

theorem findSyslineG_eq (ls : List LineInfo) (fo : Nat) :
    findSyslineG findA findB ls fo = findSysline ls fo := by
  unfold findSyslineG findSysline
  dsimp only
  rw [slPartAG_eq]
  cases slPartA ls (2 * ls.length + 2) fo false 0 with
  | none => rfl
  | some h => simp [slPartBG_eq]

end S4V.Lemmas.SearchSkel
