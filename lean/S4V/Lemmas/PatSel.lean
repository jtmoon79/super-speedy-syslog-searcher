/-
Lemmas for `S4V.Model.PatSel` (which datetime pattern a file is read with).
Everything that depends on a generated flag/constant unfolds it (`S4V.Gen.PatSel`, `S4V.Gen.Consts`).
-/
import S4V.Model.PatSel
import S4V.Lemmas.Lists

namespace S4V.Lemmas.PatSel
open S4V.Model.PatSel
open S4V.Gen.PatSel
open S4V.Gen.Consts (DATETIME_STR_MIN)

/-- counts are kept in ascending index order without repetition (a `BTreeMap`) -/
def KeysAsc (cs : Counts) : Prop := cs.Pairwise (fun a b => a.1 < b.1)

/-- specification of the try order: higher count first, equal counts in ascending index -/
def Before (a b : Nat × Nat) : Prop := b.2 < a.2 ∨ (a.2 = b.2 ∧ a.1 < b.1)

theorem strictlyBefore_iff {y x : Nat × Nat} : strictlyBefore y x = true ↔ x.2 < y.2 := by
  simp [strictlyBefore, TRY_ORDER_DESC]

theorem ins_perm (x : Nat × Nat) (l : Counts) : (ins x l).Perm (x :: l) := by
  induction l with
  | nil => simp [ins]
  | cons y ys ih =>
    unfold ins
    split
    · exact (List.Perm.cons y ih).trans (List.Perm.swap x y ys)
    · exact List.Perm.refl _

theorem sortCounts_perm (cs : Counts) : (sortCounts cs).Perm cs := by
  induction cs with
  | nil => simp [sortCounts]
  | cons x xs ih => exact (ins_perm x _).trans (List.Perm.cons x ih)

theorem mem_ins {x a : Nat × Nat} {l : Counts} : a ∈ ins x l ↔ a = x ∨ a ∈ l := by
  rw [(ins_perm x l).mem_iff]; simp

theorem mem_sortCounts {a : Nat × Nat} {cs : Counts} : a ∈ sortCounts cs ↔ a ∈ cs :=
  (sortCounts_perm cs).mem_iff

theorem ins_sorted (x : Nat × Nat) (l : Counts) (hl : l.Pairwise Before) (hx : ∀ a ∈ l, x.1 < a.1) :
    (ins x l).Pairwise Before := by
  induction l with
  | nil => simp [ins]
  | cons y ys ih =>
    obtain ⟨hy, hys⟩ := List.pairwise_cons.mp hl
    unfold ins
    split
    next h =>
      refine List.pairwise_cons.mpr ⟨fun a ha => ?_, ih hys fun a ha => hx a (List.mem_cons_of_mem _ ha)⟩
      rcases mem_ins.mp ha with rfl | ha
      · exact Or.inl (strictlyBefore_iff.mp h)
      · exact hy a ha
    next h =>
      -- `x` goes in front: nothing behind it has a larger count, and every index there is larger
      rw [strictlyBefore_iff] at h
      refine List.pairwise_cons.mpr ⟨fun a ha => ?_, hl⟩
      have hlt := hx a ha
      have : a.2 ≤ y.2 := by
        rcases List.mem_cons.mp ha with rfl | ha
        · exact Nat.le_refl _
        · have := hy a ha; unfold Before at this; omega
      unfold Before; omega

theorem sortCounts_sorted {cs : Counts} (h : KeysAsc cs) : (sortCounts cs).Pairwise Before := by
  induction cs with
  | nil => simp [sortCounts]
  | cons x xs ih =>
    obtain ⟨hx, hxs⟩ := List.pairwise_cons.mp h
    exact ins_sorted x _ (ih hxs) fun a ha => hx a (mem_sortCounts.mp ha)

theorem before_antisymm {a b : Nat × Nat} (h1 : Before a b) (h2 : Before b a) : a = b := by
  unfold Before at h1 h2; ext <;> omega

theorem sortCounts_unique {cs l : Counts} (h : KeysAsc cs) (hp : l.Perm cs) (hs : l.Pairwise Before) :
    l = sortCounts cs :=
  List.Perm.eq_of_pairwise (fun _ _ _ _ => before_antisymm) hs (sortCounts_sorted h)
    (hp.trans (sortCounts_perm cs).symm)

theorem sortCounts_id (cs : Counts) (h : cs.Pairwise (fun a b => b.2 ≤ a.2)) : sortCounts cs = cs := by
  induction cs with
  | nil => rfl
  | cons x xs ih =>
    obtain ⟨hx, hxs⟩ := List.pairwise_cons.mp h
    show ins x (sortCounts xs) = x :: xs
    rw [ih hxs]
    cases xs with
    | nil => rfl
    | cons y ys =>
      have : ¬ strictlyBefore y x = true := by
        rw [strictlyBefore_iff]; exact Nat.not_lt.mpr (hx y List.mem_cons_self)
      simp [ins, this]

theorem sortCounts_head (cs : Counts) (hk : KeysAsc cs) (x : Nat × Nat) (hx : x ∈ cs)
    (hmax : ∀ y ∈ cs, y ≠ x → y.2 < x.2) : ∃ tl, sortCounts cs = x :: tl := by
  have hs := sortCounts_sorted hk
  have hx' := mem_sortCounts.mpr hx
  cases hl : sortCounts cs with
  | nil => rw [hl] at hx'; cases hx'
  | cons y tl =>
    rw [hl] at hs hx'
    by_cases e : y = x
    · exact ⟨tl, by rw [e]⟩
    · have hy := hmax y (mem_sortCounts.mp (hl ▸ List.mem_cons_self)) e
      have := (List.pairwise_cons.mp hs).1 x ((List.mem_cons.mp hx').resolve_left (Ne.symm e))
      unfold Before at this; omega

def keys (cs : Counts) : List Nat := cs.map Prod.fst

theorem keysAsc_iff (cs : Counts) : KeysAsc cs ↔ (keys cs).Pairwise (· < ·) := by
  simp [KeysAsc, keys, List.pairwise_map]

theorem keys_bump (r : Nat) (cs : Counts) : keys (bump r cs) = keys cs := by
  induction cs with
  | nil => rfl
  | cons x xs ih =>
    unfold bump
    split
    · rfl
    · exact congrArg (x.1 :: ·) ih

theorem keysAsc_bump (r : Nat) (cs : Counts) (h : KeysAsc cs) : KeysAsc (bump r cs) := by
  rw [keysAsc_iff] at h ⊢; rw [keys_bump]; exact h

theorem bump_map (is : List Nat) (hn : is.Nodup) (p : Nat) (g : Nat → Nat) :
    bump p (is.map fun i => (i, g i)) = is.map fun i => (i, if i = p then g i + 1 else g i) := by
  induction is with
  | nil => rfl
  | cons i rest ih =>
    obtain ⟨hi, hrest⟩ := List.nodup_cons.mp hn
    simp only [List.map_cons, bump]
    split
    next h =>
      refine congrArg _ (List.map_congr_left fun j hj => ?_)
      rw [if_neg fun e : j = p => hi (h.trans e.symm ▸ hj)]
    next => rw [ih hrest]

theorem keys_fresh (n : Nat) : keys (fresh n).counts = List.range n := by
  simp [keys, fresh, List.map_map, Function.comp_def]

theorem keysAsc_fresh (n : Nat) : KeysAsc (fresh n).counts := by
  rw [keysAsc_iff, keys_fresh]; exact List.pairwise_lt_range

theorem tryOrder_perm (st : St) : (tryOrder st).Perm (keys st.counts) :=
  (sortCounts_perm st.counts).map Prod.fst

theorem mem_tryOrder {st : St} {r : Nat} : r ∈ tryOrder st ↔ r ∈ keys st.counts :=
  (tryOrder_perm st).mem_iff

theorem tryOrder_fresh (n : Nat) : tryOrder (fresh n) = List.range n := by
  unfold tryOrder
  rw [sortCounts_id]
  · exact keys_fresh n
  · simp only [fresh, List.pairwise_map]
    exact List.pairwise_lt_range.imp (fun _ => Nat.le_refl 0)

theorem firstMatch_eq_some {M : Matrix} {ℓ : Bytes} {rs : List Nat} {r : Nat} {t : Int} :
    firstMatch M ℓ rs = some (r, t) ↔ rs.find? (fun r => (M r ℓ).isSome) = some r ∧ M r ℓ = some t := by
  induction rs with
  | nil => simp [firstMatch]
  | cons x xs ih =>
    cases h : M x ℓ with
    | none => simp [firstMatch, h, ih]
    | some t' =>
      simp only [firstMatch, h, Option.some.injEq, Prod.mk.injEq, List.find?_cons, Option.isSome_some]
      constructor
      · rintro ⟨rfl, rfl⟩; exact ⟨rfl, h⟩
      · rintro ⟨rfl, h'⟩; exact ⟨rfl, Option.some.inj (h.symm.trans h')⟩

theorem firstMatch_none_iff {M : Matrix} {ℓ : Bytes} {rs : List Nat} :
    firstMatch M ℓ rs = none ↔ ∀ r ∈ rs, M r ℓ = none := by
  induction rs with
  | nil => simp [firstMatch]
  | cons x xs ih => cases h : M x ℓ <;> simp [firstMatch, h, ih]

theorem firstMatch_sound {M : Matrix} {ℓ : Bytes} {rs : List Nat} {r : Nat} {t : Int}
    (h : firstMatch M ℓ rs = some (r, t)) : r ∈ rs ∧ M r ℓ = some t :=
  ⟨List.mem_of_find?_eq_some (firstMatch_eq_some.mp h).1, (firstMatch_eq_some.mp h).2⟩

theorem firstMatch_range (M : Matrix) (ℓ : Bytes) (n r : Nat) (t : Int) :
    firstMatch M ℓ (List.range n) = some (r, t) ↔ r < n ∧ M r ℓ = some t ∧ ∀ r' < r, M r' ℓ = none := by
  rw [firstMatch_eq_some, List.find?_range_eq_some]
  simp only [List.mem_range, Bool.not_eq_true', Option.isSome_eq_false_iff, Option.isNone_iff_eq_none]
  constructor
  · rintro ⟨⟨_, h1, h2⟩, h3⟩; exact ⟨h1, h3, h2⟩
  · rintro ⟨h1, h2, h3⟩; exact ⟨⟨by rw [h2]; rfl, h1, h3⟩, h2⟩

theorem tooShort_iff (ℓ : Bytes) : tooShort ℓ = true ↔ ℓ.length < 8 := by
  simp only [tooShort, SHORT_TEST_STRICT, DATETIME_STR_MIN, if_true]
  exact decide_eq_true_iff

theorem parseLine_fst (M : Matrix) (st : St) (ℓ : Bytes) : (parseLine M st ℓ).1 = findDt M st ℓ := by
  unfold parseLine
  cases findDt M st ℓ <;> rfl

theorem keys_parseLine (M : Matrix) (st : St) (ℓ : Bytes) : keys (parseLine M st ℓ).2.counts = keys st.counts := by
  unfold parseLine
  split
  · rfl
  · exact keys_bump _ _

theorem parseLine_fresh (M : Matrix) (n : Nat) (ℓ : Bytes) :
    (parseLine M (fresh n) ℓ).1 = if tooShort ℓ then none else firstMatch M ℓ (List.range n) := by
  rw [parseLine_fst, findDt, tryOrder_fresh]

theorem maxCount_spec (cs : Counts) :
    (maxCount cs = 0 ∨ ∃ p ∈ cs, p.2 = maxCount cs) ∧ ∀ p ∈ cs, p.2 ≤ maxCount cs :=
  have ⟨hattained, _, hmax⟩ := Lists.foldl_maxBy_spec Prod.snd cs 0
  ⟨hattained, hmax⟩

theorem popDown_eq (cs : Counts) : popDown cs = cs.take 1 := by
  simp [popDown, TIE_KEEPS_LOWEST, DT_PATTERN_MAX]

theorem analysis_false_iff (st : St) : (analysis st).1 = false ↔ ∀ p ∈ st.counts, p.2 = 0 := by
  obtain ⟨hat, hle⟩ := maxCount_spec st.counts
  unfold analysis
  dsimp only
  split
  next h => exact ⟨fun _ p hp => Nat.le_zero.mp (h ▸ hle p hp), fun _ => rfl⟩
  next h =>
    obtain ⟨p, hp, he⟩ := hat.resolve_left h
    exact ⟨nofun, fun hall => absurd (he ▸ hall p hp) h⟩

theorem analysis_true {st : St} (hk : KeysAsc st.counts) (ht : (analysis st).1 = true) :
    ∃ p m, (analysis st).2 = ⟨[(p, m)], true⟩ ∧ 0 < m ∧ (p, m) ∈ st.counts ∧
      ∀ q ∈ st.counts, q.2 ≤ m ∧ (q.2 = m → p ≤ q.1) := by
  obtain ⟨hat, hle⟩ := maxCount_spec st.counts
  unfold analysis at ht ⊢
  dsimp only at ht ⊢
  have h : maxCount st.counts ≠ 0 := fun h => by rw [if_pos h] at ht; cases ht
  rw [if_neg h]
  -- `F`: the rows holding the maximum, in index order; its head is kept
  have hmemF : ∀ q, q ∈ st.counts.filter (fun p => p.2 ≥ maxCount st.counts) ↔
      q ∈ st.counts ∧ q.2 = maxCount st.counts := fun q => by
    simp only [List.mem_filter, ge_iff_le, decide_eq_true_eq, and_congr_right_iff]
    exact fun hq => ⟨Nat.le_antisymm (hle q hq), Nat.le_of_eq ∘ Eq.symm⟩
  have hasc : KeysAsc (st.counts.filter (fun p => p.2 ≥ maxCount st.counts)) := hk.sublist List.filter_sublist
  obtain ⟨q0, hq0⟩ := hat.resolve_left h
  cases hF : st.counts.filter (fun p => p.2 ≥ maxCount st.counts) with
  | nil => exact absurd ((hmemF q0).mpr hq0) (hF ▸ List.not_mem_nil)
  | cons f fs =>
    rw [hF] at hasc
    obtain ⟨hf, hfm⟩ := (hmemF f).mp (hF ▸ List.mem_cons_self)
    refine ⟨f.1, maxCount st.counts, by simp [popDown_eq, ← hfm], by omega, hfm ▸ hf, fun q hq => ⟨hle q hq, fun hqe => ?_⟩⟩
    rcases List.mem_cons.mp (hF ▸ (hmemF q).mpr ⟨hq, hqe⟩) with rfl | hqF
    · exact Nat.le_refl _
    · exact Nat.le_of_lt ((List.pairwise_cons.mp hasc).1 q hqF)

theorem parseAll_inv (M : Matrix) (I : St → Prop) (f : Bytes → Option (Nat × Int)) (ls : List Bytes)
    (step : ∀ st, I st → ∀ ℓ ∈ ls, (parseLine M st ℓ).1 = f ℓ ∧ I (parseLine M st ℓ).2) (st : St) (h : I st) :
    (parseAll M st ls).1 = ls.map f ∧ I (parseAll M st ls).2 := by
  induction ls generalizing st with
  | nil => exact ⟨rfl, h⟩
  | cons ℓ ls ih =>
    obtain ⟨h1, h2⟩ := step st h ℓ List.mem_cons_self
    obtain ⟨h3, h4⟩ := ih (fun st hst x hx => step st hst x (List.mem_cons_of_mem _ hx)) _ h2
    exact ⟨by rw [List.map_cons, ← h1, ← h3]; rfl, h4⟩

theorem parseAll_append (M : Matrix) (st : St) (xs ys : List Bytes) :
    parseAll M st (xs ++ ys) =
      ((parseAll M st xs).1 ++ (parseAll M (parseAll M st xs).2 ys).1, (parseAll M (parseAll M st xs).2 ys).2) := by
  induction xs generalizing st with
  | nil => rfl
  | cons x xs ih => simp only [List.cons_append, parseAll, ih]

/-- how row `p` alone dates a line -/
def dateP (M : Matrix) (p : Nat) (ℓ : Bytes) : Option (Nat × Int) :=
  if tooShort ℓ then none else (M p ℓ).map (fun t => (p, t))

def NoMatch (M : Matrix) (n : Nat) (ℓ : Bytes) : Prop := tooShort ℓ = true ∨ ∀ r < n, M r ℓ = none

theorem dateP_noMatch {M : Matrix} {n p : Nat} {ℓ : Bytes} (hp : p < n) (h : NoMatch M n ℓ) : dateP M p ℓ = none := by
  unfold dateP
  rcases h with h | h
  · simp [h]
  · simp [h p hp]

theorem findDt_noMatch {M : Matrix} {n : Nat} {st : St} {ℓ : Bytes} (hk : keys st.counts = List.range n)
    (h : NoMatch M n ℓ) : findDt M st ℓ = none := by
  unfold findDt
  rcases h with h | h
  · rw [if_pos h]
  · rw [firstMatch_none_iff.mpr fun r hr => h r (List.mem_range.mp (hk ▸ mem_tryOrder.mp hr))]
    exact ite_self _

theorem findDt_head {M : Matrix} {st : St} {ℓ : Bytes} {p : Nat} {tl : List Nat} (h : tryOrder st = p :: tl)
    (hb : (M p ℓ).isSome ∨ ∀ r ∈ tl, M r ℓ = none) : findDt M st ℓ = dateP M p ℓ := by
  unfold findDt dateP
  rw [h, firstMatch]
  cases hm : M p ℓ with
  | some t => rfl
  | none => rw [firstMatch_none_iff.mpr (hb.resolve_left (by simp [hm]))]; rfl

theorem parseLine_of_findDt {M : Matrix} {st : St} {ℓ : Bytes} {p : Nat} (h : findDt M st ℓ = dateP M p ℓ) :
    parseLine M st ℓ =
      (dateP M p ℓ, if (dateP M p ℓ).isSome then { st with counts := bump p st.counts } else st) := by
  unfold parseLine
  rw [h]
  unfold dateP
  by_cases hs : tooShort ℓ = true
  · simp [hs]
  · cases M p ℓ <;> simp [hs]

theorem parseLine_noMatch {M : Matrix} {n : Nat} {st : St} {ℓ : Bytes} (hk : keys st.counts = List.range n)
    (h : NoMatch M n ℓ) : parseLine M st ℓ = (none, st) := by
  unfold parseLine
  rw [findDt_noMatch hk h]

theorem parseAll_noMatch {M : Matrix} {n : Nat} {st : St} (hk : keys st.counts = List.range n) {ls : List Bytes}
    (h : ∀ ℓ ∈ ls, NoMatch M n ℓ) : parseAll M st ls = (ls.map (fun _ => none), st) :=
  Prod.ext_iff.mpr <| parseAll_inv M (· = st) _ ls
    (fun _ e ℓ hℓ => by rw [e, parseLine_noMatch hk (h ℓ hℓ)]; exact ⟨rfl, rfl⟩) st rfl

theorem tryOrder_single (p c : Nat) (a : Bool) : tryOrder ⟨[(p, c)], a⟩ = [p] := rfl

theorem parseLine_single (M : Matrix) (p c : Nat) (a : Bool) (ℓ : Bytes) :
    parseLine M ⟨[(p, c)], a⟩ ℓ =
      (dateP M p ℓ, ⟨[(p, if (dateP M p ℓ).isSome then c + 1 else c)], a⟩) := by
  rw [parseLine_of_findDt (findDt_head (tryOrder_single p c a) (Or.inr nofun))]
  split <;> simp [bump]

theorem parseAll_single (M : Matrix) (p : Nat) (a : Bool) (ls : List Bytes) (c : Nat) :
    (parseAll M ⟨[(p, c)], a⟩ ls).1 = ls.map (dateP M p) ∧ ∃ c', (parseAll M ⟨[(p, c)], a⟩ ls).2 = ⟨[(p, c')], a⟩ :=
  parseAll_inv M (fun st => ∃ c, st = ⟨[(p, c)], a⟩) _ ls
    (fun _ ⟨c, e⟩ ℓ _ => by rw [e, parseLine_single]; exact ⟨rfl, _, rfl⟩) _ ⟨c, rfl⟩

/-- the counts before analysis when only row `p` has been used (`c` times) -/
def solo (n p c : Nat) : Counts := (List.range n).map (fun i => (i, if i = p then c else 0))

theorem solo_zero (n p : Nat) : solo n p 0 = (fresh n).counts := by
  simp [solo, fresh]

theorem bump_solo (n p c : Nat) : bump p (solo n p c) = solo n p (c + 1) := by
  rw [solo, bump_map _ List.nodup_range]
  exact List.map_congr_left fun i _ => by split <;> simp [*]

theorem parseLine_fresh_first {M : Matrix} {n p : Nat} {t0 : Int} {ℓ0 : Bytes} (hs : tooShort ℓ0 = false)
    (hf : firstMatch M ℓ0 (List.range n) = some (p, t0)) :
    parseLine M (fresh n) ℓ0 = (some (p, t0), ⟨solo n p 1, false⟩) := by
  have hd : findDt M (fresh n) ℓ0 = some (p, t0) := by rw [findDt, tryOrder_fresh, hs, if_neg Bool.false_ne_true, hf]
  rw [parseLine, hd, ← bump_solo, solo_zero]
  rfl

theorem keys_solo (n p c : Nat) : keys (solo n p c) = List.range n := by
  simp [keys, solo, List.map_map, Function.comp_def]

theorem keysAsc_solo (n p c : Nat) : KeysAsc (solo n p c) := by
  rw [keysAsc_iff, keys_solo]; exact List.pairwise_lt_range

theorem mem_solo {n p c : Nat} {q : Nat × Nat} : q ∈ solo n p c ↔ q.1 < n ∧ q.2 = if q.1 = p then c else 0 := by
  simp only [solo, List.mem_map, List.mem_range]
  constructor
  · rintro ⟨i, hi, rfl⟩; exact ⟨hi, rfl⟩
  · rintro ⟨h1, h2⟩; exact ⟨q.1, h1, by rw [← h2]⟩

theorem tryOrder_solo (n p c : Nat) (a : Bool) (hp : p < n) (hc : 0 < c) :
    ∃ tl, tryOrder ⟨solo n p c, a⟩ = p :: tl := by
  obtain ⟨tl, h⟩ := sortCounts_head (solo n p c) (keysAsc_solo n p c) (p, c) (mem_solo.mpr ⟨hp, (if_pos rfl).symm⟩)
    fun y hy hne => by
      have hy2 := (mem_solo.mp hy).2
      split at hy2
      next e => exact absurd (Prod.ext e hy2) hne
      next => omega
  exact ⟨tl.map Prod.fst, by rw [tryOrder, h]; rfl⟩

theorem parseLine_solo (M : Matrix) (n p c : Nat) (a : Bool) (ℓ : Bytes) (hp : p < n) (hc : 0 < c)
    (hb : NoMatch M n ℓ ∨ (M p ℓ).isSome) :
    parseLine M ⟨solo n p c, a⟩ ℓ =
      (dateP M p ℓ, ⟨solo n p (if (dateP M p ℓ).isSome then c + 1 else c), a⟩) := by
  have hf : findDt M ⟨solo n p c, a⟩ ℓ = dateP M p ℓ := by
    rcases hb with hb | hb
    · rw [findDt_noMatch (keys_solo n p c) hb, dateP_noMatch hp hb]
    · obtain ⟨tl, htl⟩ := tryOrder_solo n p c a hp hc
      exact findDt_head htl (Or.inl hb)
  rw [parseLine_of_findDt hf]
  split <;> simp [bump_solo]

theorem parseAll_solo (M : Matrix) (n p : Nat) (a : Bool) (hp : p < n) (ls : List Bytes)
    (hb : ∀ ℓ ∈ ls, NoMatch M n ℓ ∨ (M p ℓ).isSome) (c : Nat) (hc : 0 < c) :
    (parseAll M ⟨solo n p c, a⟩ ls).1 = ls.map (dateP M p) ∧
      ∃ c', 0 < c' ∧ (parseAll M ⟨solo n p c, a⟩ ls).2 = ⟨solo n p c', a⟩ :=
  parseAll_inv M (fun st => ∃ c, 0 < c ∧ st = ⟨solo n p c, a⟩) _ ls
    (fun _ ⟨c, hc, e⟩ ℓ hℓ => by
      rw [e, parseLine_solo M n p c a ℓ hp hc (hb ℓ hℓ)]
      exact ⟨rfl, _, by split <;> omega, rfl⟩) _ ⟨c, hc, rfl⟩

theorem analysis_solo (n p c : Nat) (a : Bool) (hp : p < n) (hc : 0 < c) :
    analysis ⟨solo n p c, a⟩ = (true, ⟨[(p, c)], true⟩) := by
  have hpc : (p, c) ∈ solo n p c := mem_solo.mpr ⟨hp, (if_pos rfl).symm⟩
  have hne : (analysis ⟨solo n p c, a⟩).1 = true := by
    rw [← Bool.not_eq_false, analysis_false_iff]
    exact fun h => absurd (h _ hpc) (Nat.ne_of_gt hc)
  obtain ⟨q, m, h1, h2, h3, _⟩ := analysis_true (keysAsc_solo n p c) hne
  have h3' := (mem_solo.mp h3).2
  simp only at h3'
  by_cases e : q = p
  · rw [if_pos e] at h3'; exact Prod.ext hne (by rw [h1, e, h3'])
  · rw [if_neg e] at h3'; omega

/-- The counts add up to the number of lines recognised (`parseAll_total`), so `dt_patterns_analysis` fails exactly when
nothing was recognised. -/
def total (cs : Counts) : Nat := (cs.map Prod.snd).sum

theorem total_bump (r : Nat) (cs : Counts) (h : r ∈ keys cs) : total (bump r cs) = total cs + 1 := by
  induction cs with
  | nil => cases h
  | cons x xs ih =>
    unfold bump
    split
    next => simp [total]; omega
    next e =>
      have := ih ((List.mem_cons.mp h).resolve_left (Ne.symm e))
      simp only [total, List.map_cons, List.sum_cons] at this ⊢
      omega

theorem total_zero_iff (cs : Counts) : total cs = 0 ↔ ∀ p ∈ cs, p.2 = 0 := by
  simp only [total, List.sum_eq_zero_iff_forall_eq_nat, List.mem_map]
  constructor
  · exact fun h p hp => h _ ⟨p, hp, rfl⟩
  · rintro h _ ⟨p, hp, rfl⟩; exact h p hp

theorem total_fresh (n : Nat) : total (fresh n).counts = 0 := by
  simp [total_zero_iff, fresh]

theorem parseLine_total (M : Matrix) (st : St) (ℓ : Bytes) :
    total (parseLine M st ℓ).2.counts = total st.counts + if (parseLine M st ℓ).1.isSome then 1 else 0 := by
  unfold parseLine
  split
  · rfl
  next r t h =>
    have : r ∈ tryOrder st := by
      unfold findDt at h
      split at h
      · cases h
      · exact (firstMatch_sound h).1
    exact total_bump r st.counts (mem_tryOrder.mp this)

theorem parseAll_total (M : Matrix) (st : St) (ls : List Bytes) :
    total (parseAll M st ls).2.counts = total st.counts + (parseAll M st ls).1.countP Option.isSome := by
  induction ls generalizing st with
  | nil => rfl
  | cons ℓ ls ih =>
    simp only [parseAll, ih, parseLine_total, List.countP_cons]
    omega

theorem runK_ok (M : Matrix) (n k : Nat) (lines : List Bytes) :
    (runK M n k lines).ok = (analysis (parseAll M (fresh n) (lines.take k)).2).1 := by
  unfold runK
  dsimp only
  split <;> simp_all

theorem runK_before (M : Matrix) (n k : Nat) (lines : List Bytes) :
    (runK M n k lines).before = (parseAll M (fresh n) (lines.take k)).1 := by
  unfold runK
  dsimp only
  split <;> rfl

/-- after analysis: one row `p` is left and every cache entry is what `p` gives for the line that begins at
that key (`L` = the file: begin offset ↦ line) -/
def CacheOK (M : Matrix) (L : Nat → Bytes) (p : Nat) (rs : RSt) : Prop :=
  (∃ c, rs.st.counts = [(p, c)]) ∧ ∀ e ∈ rs.cache, dateP M p (L e.1) = some e.2

theorem mem_lruPut {k : Nat} {v : Nat × Int} {c : Cache} {e : Nat × (Nat × Int)} (h : e ∈ lruPut k v c) :
    e = (k, v) ∨ e ∈ c :=
  Lists.mem_take_cons_filter h

theorem parseLineCached_transparent (M : Matrix) (L : Nat → Bytes) (p : Nat) (rs : RSt) (k : Nat)
    (h : CacheOK M L p rs) :
    (parseLineCached M rs k (L k)).1 = (parseLine M rs.st (L k)).1 ∧
    (parseLineCached M rs k (L k)).1 = dateP M p (L k) ∧
    CacheOK M L p (parseLineCached M rs k (L k)).2 := by
  obtain ⟨⟨cs, a⟩, cache⟩ := rs
  obtain ⟨⟨c, rfl⟩, hcache⟩ := h
  simp only [parseLineCached, PARSE_CACHE_ENABLED, if_true, lruGet, parseLine_single]
  cases hl : cache.lookup k with
  | some v =>
    -- a hit: the entry is what `p` gives, and no count moves
    have hv : dateP M p (L k) = some v := hcache (k, v) (Lists.mem_of_lookup hl)
    refine ⟨hv.symm, hv.symm, ⟨c, rfl⟩, fun e he => ?_⟩
    rcases List.mem_cons.mp he with rfl | he
    · exact hv
    · exact hcache e (List.mem_filter.mp he).1
  | none =>
    cases hd : dateP M p (L k) with
    | none => exact ⟨rfl, rfl, ⟨_, rfl⟩, hcache⟩
    | some v => exact ⟨rfl, rfl, ⟨_, rfl⟩, fun e he => (mem_lruPut he).elim (fun e' => e' ▸ hd) (hcache e)⟩

theorem parseAllCached_single (M : Matrix) (L : Nat → Bytes) (p : Nat) (ks : List Nat) (rs : RSt)
    (h : CacheOK M L p rs) :
    (parseAllCached M rs (ks.map (fun k => (k, L k)))).1 = ks.map (fun k => dateP M p (L k)) ∧
    CacheOK M L p (parseAllCached M rs (ks.map (fun k => (k, L k)))).2 := by
  induction ks generalizing rs with
  | nil => exact ⟨rfl, h⟩
  | cons k ks ih =>
    obtain ⟨_, h2, h3⟩ := parseLineCached_transparent M L p rs k h
    obtain ⟨h4, h5⟩ := ih _ h3
    exact ⟨by simp only [List.map_cons, parseAllCached, h2, h4], h5⟩

end S4V.Lemmas.PatSel
