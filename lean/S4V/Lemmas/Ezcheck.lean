/-
Lemmas about the EZCHECK byte tests (`S4V.Model.Ezcheck`): the modelled functions equal their
specifications for every input; list facts used by the transparency proof.
-/
import S4V.Model.Ezcheck

namespace S4V.Lemmas.Ezcheck
open S4V.Model.Ezcheck

def startsDb : List UInt8 → Bool
  | b :: _ => isDigit b
  | [] => false

def endsDb (s : List UInt8) : Bool :=
  match s.getLast? with
  | some b => isDigit b
  | none => false

theorem hasByte_append (p : UInt8 → Bool) (a b : List UInt8) :
    hasByte p (a ++ b) = (hasByte p a || hasByte p b) := by
  simp [hasByte, List.any_append]

theorem hasD2_cons (x : UInt8) (t : List UInt8) :
    hasD2 (x :: t) = ((isDigit x && startsDb t) || hasD2 t) := by
  cases t with
  | nil => simp [hasD2, startsDb]
  | cons y t => simp [hasD2, startsDb]

theorem hasD2_append (a b : List UInt8) :
    hasD2 (a ++ b) = (hasD2 a || hasD2 b || (endsDb a && startsDb b)) := by
  induction a with
  | nil => simp [hasD2, endsDb]
  | cons x t ih =>
    rw [List.cons_append, hasD2_cons, ih, hasD2_cons]
    cases t with
    | nil => simp [hasD2, startsDb, endsDb, Bool.or_comm]
    | cons y t => simp [startsDb, endsDb, List.getLast?_cons_cons, Bool.or_assoc]

theorem hasD2_append_left {a : List UInt8} (b : List UInt8) (h : hasD2 a = true) : hasD2 (a ++ b) = true := by
  simp [hasD2_append, h]

theorem hasD2_append_right (a : List UInt8) {b : List UInt8} (h : hasD2 b = true) : hasD2 (a ++ b) = true := by
  simp [hasD2_append, h]

theorem hasD2_boundary {a b : List UInt8} (ha : endsDb a = true) (hb : startsDb b = true) :
    hasD2 (a ++ b) = true := by
  simp [hasD2_append, ha, hb]

theorem startsDb_append_left {a : List UInt8} (b : List UInt8) (h : startsDb a = true) : startsDb (a ++ b) = true := by
  cases a with
  | nil => simp [startsDb] at h
  | cons x t => simpa [startsDb] using h

theorem endsDb_append_right (a : List UInt8) {b : List UInt8} (h : endsDb b = true) : endsDb (a ++ b) = true := by
  cases hb : b.getLast? with
  | none => simp [endsDb, hb] at h
  | some x =>
    simp only [endsDb, hb] at h
    simp [endsDb, List.getLast?_append, hb, h]

theorem sliceContainsX2_eq (s : List UInt8) (a b : UInt8) :
    sliceContainsX2 s a b = s.any (fun x => x == a || x == b) := by
  unfold sliceContainsX2 sliceContainsX2Memchr
  induction s with
  | nil => simp
  | cons x t ih =>
    simp only [List.findIdx?_cons, List.any_cons]
    by_cases hx : (x == a || x == b) = true
    · simp [hx]
    · have hx' : (x == a || x == b) = false := by simpa using hx
      rw [hx']
      simp only [Bool.false_eq_true, ↓reduceIte, Bool.false_or]
      rw [← ih]
      cases List.findIdx? (fun x => x == a || x == b) t <;> simp

theorem sliceContainsX2_12 (s : List UInt8) : sliceContainsX2 s 49 50 = has12 s := by
  rw [sliceContainsX2_eq]; rfl

theorem sliceContainsN2_eq (s : List UInt8) (a b : UInt8) :
    sliceContainsN2 s a b = s.any (fun x => x == a || x == b) := by
  induction s with
  | nil => simp [sliceContainsN2]
  | cons x t ih =>
    simp only [sliceContainsN2, List.any_cons, ih]
    by_cases hx : (x == a || x == b) = true <;> simp [hx]

theorem contains_or_eq_any (s : List UInt8) (a b : UInt8) :
    (s.contains a || s.contains b) = s.any (fun x => x == a || x == b) := by
  induction s with
  | nil => simp
  | cons x t ih =>
    simp only [List.contains_cons, List.any_cons, ← ih]
    rw [show (a == x) = (x == a) from BEq.comm, show (b == x) = (x == b) from BEq.comm]
    generalize (x == a) = p
    generalize (x == b) = q
    generalize t.contains a = r
    generalize t.contains b = u
    cases p <;> cases q <;> cases r <;> cases u <;> rfl

theorem sliceContainsX2Unroll_eq (s : List UInt8) (a b : UInt8) :
    sliceContainsX2Unroll s a b = sliceContainsX2 s a b := by
  rw [sliceContainsX2_eq]
  unfold sliceContainsX2Unroll
  split
  · exact sliceContainsN2_eq s a b
  · exact contains_or_eq_any s a b

theorem sliceContainsD2Go_eq (last : Bool) (s : List UInt8) :
    sliceContainsD2Go last s = ((last && startsDb s) || hasD2 s) := by
  induction s generalizing last with
  | nil => simp [sliceContainsD2Go, startsDb, hasD2]
  | cons x t ih =>
    rw [sliceContainsD2Go, hasD2_cons]
    by_cases hx : isDigit x = true
    · cases last <;> simp [hx, ih, startsDb]
    · have hx' : isDigit x = false := by simpa using hx
      simp [hx', ih, startsDb]

theorem sliceContainsD2_eq (s : List UInt8) : sliceContainsD2 s = hasD2 s := by
  simp [sliceContainsD2, sliceContainsD2Go_eq]

theorem is12_isDigit {x : UInt8} (h : is12 x = true) : isDigit x = true := by
  simp only [is12, Bool.or_eq_true, beq_iff_eq] at h
  rcases h with h | h <;> subst h <;> decide

theorem sliceContains12D2Go_eq (last : Bool) (s : List UInt8) :
    sliceContains12D2Go last s = (has12 s || (last && startsDb s) || hasD2 s) := by
  induction s generalizing last with
  | nil => simp [sliceContains12D2Go, startsDb, hasD2, has12, hasByte]
  | cons x t ih =>
    rw [sliceContains12D2Go, hasD2_cons]
    have h12 : has12 (x :: t) = (is12 x || has12 t) := by simp [has12, hasByte]
    rw [h12]
    by_cases h1 : (x == 49 || x == 50) = true
    · have : is12 x = true := h1
      simp [h1, this]
    · have h1' : (x == 49 || x == 50) = false := by simpa using h1
      have h1'' : is12 x = false := h1'
      rw [h1', h1'']
      by_cases hx : isDigit x = true
      · have hs : startsDb (x :: t) = true := hx
        cases last <;> simp [hx, ih, hs, Bool.or_assoc]
      · have hx' : isDigit x = false := by simpa using hx
        have hs : startsDb (x :: t) = false := hx'
        simp [hx', ih, hs]

theorem sliceContains12D2_eq (s : List UInt8) : sliceContains12D2 s = (has12 s || hasD2 s) := by
  simp [sliceContains12D2, sliceContains12D2Go_eq]

theorem hasByte_take_le (p : UInt8 → Bool) (l : List UInt8) (n : Nat) (h : hasByte p l = false) :
    hasByte p (l.take n) = false := by
  have : l = l.take n ++ l.drop n := (List.take_append_drop n l).symm
  rw [this, hasByte_append] at h
  simp only [Bool.or_eq_false_iff] at h
  exact h.1

theorem hasD2_take_le (l : List UInt8) (n : Nat) (h : hasD2 l = false) : hasD2 (l.take n) = false := by
  cases hh : hasD2 (l.take n) with
  | false => rfl
  | true =>
    have := hasD2_append_left (l.drop n) hh
    rw [List.take_append_drop] at this
    rw [this] at h; cases h

theorem hasByte_take_mono (p : UInt8 → Bool) (l : List UInt8) {a b : Nat} (hab : b ≤ a)
    (h : hasByte p (l.take a) = false) : hasByte p (l.take b) = false := by
  have := hasByte_take_le p (l.take a) b h
  rwa [List.take_take, Nat.min_eq_left hab] at this

theorem hasD2_take_mono (l : List UInt8) {a b : Nat} (hab : b ≤ a)
    (h : hasD2 (l.take a) = false) : hasD2 (l.take b) = false := by
  have := hasD2_take_le (l.take a) b h
  rwa [List.take_take, Nat.min_eq_left hab] at this

theorem hasByte_split (p : UInt8 → Bool) (l : List UInt8) (k : Nat)
    (h1 : hasByte p (l.take k) = false) (h2 : hasByte p (l.drop k) = false) : hasByte p l = false := by
  have : l = l.take k ++ l.drop k := (List.take_append_drop k l).symm
  rw [this, hasByte_append, h1, h2]; rfl

theorem startsDb_take_succ (l : List UInt8) (k : Nat) : startsDb (l.take (k + 1)) = startsDb l := by
  cases l <;> simp [startsDb]

theorem hasD2_split (l : List UInt8) (k : Nat)
    (h1 : hasD2 (l.take (k + 1)) = false) (h2 : hasD2 (l.drop k) = false) : hasD2 l = false := by
  -- the first `k + 1` bytes are the first `k` and the head of the rest: `h1` covers the seam at `k`
  rw [List.take_add, hasD2_append, startsDb_take_succ (l.drop k) 0] at h1
  simp only [Bool.or_eq_false_iff] at h1
  obtain ⟨⟨hk, -⟩, hseam⟩ := h1
  rw [← List.take_append_drop k l, hasD2_append, hk, hseam, h2]
  rfl

end S4V.Lemmas.Ezcheck
