/-
Catalogues for the rows of `DATETIME_PARSE_DATAS`, over the symbolic run of `S4V.Lemmas.RegexSym`.

* `groupText_capsAt`   what `Captures::get(g)` spans after a `row_step`: the word of the piece that
                       recorded group `g` (proved once for every row)
* field catalogues     written by hand for the rows of `S4V.Props.RegexCapture2`: `yearWords`, `monthWords`, `day2Words`,
                       `minuteWord`, `secondWords`, `fracWords`, … and the selectors (`wSel`, `symSel`, `ySel`, `sSel`) that
                       pick the catalogue entry of a value
* `endEw`, `lastEw`    the entry and word a final `(class|$)` group (together with the zone group before it) takes of a given tail;
                       the row theorem that uses `endEw` is `rowResult_end` of `S4V.Lemmas.RegexAuto`
* `symEntriesOf` …     catalogues derived from the regex itself
-/
import S4V.Lemmas.RegexSym
import S4V.Lemmas.DtParse

namespace S4V.Lemmas.RegexRows
open S4V.Model.Regex S4V.Lemmas.RegexStep S4V.Lemmas.RegexSym
open S4V.Model.DtParse (dchar)
open S4V.Lemmas.DtParse (dec2 dec4 dchar_toNat)

abbrev Entry := List Sym × Caps
abbrev Sel := List (Entry × List UInt8)

/-- `match_.as_bytes()` of a slot -/
def sliceOf (line : List UInt8) (ab : Nat × Nat) : List UInt8 := (line.drop ab.1).take (ab.2 - ab.1)

/-- `captures.get(g).map(|m| m.as_bytes())` -/
def groupText (line : List UInt8) (caps : Caps) (g : Nat) : Option (List UInt8) :=
  (capGet caps g).map (sliceOf line)

/-- the text group `g` spans according to the chosen catalogue entries (the last piece recording it) -/
def selText (g : Nat) : Sel → Option (List UInt8)
  | [] => none
  | ew :: sel =>
    match selText g sel with
    | some t => some t
    | none => (capGet ew.1.2 g).map (sliceOf ew.2)

/-- every slot of every chosen entry lies inside its word -/
def SlotsIn (sel : Sel) : Prop := ∀ ew ∈ sel, ∀ e ∈ ew.1.2, e.2.1 ≤ e.2.2 ∧ e.2.2 ≤ ew.2.length

theorem capGet_append (a b : Caps) (g : Nat) :
    capGet (a ++ b) g = match capGet a g with | some x => some x | none => capGet b g := by
  unfold capGet
  rw [List.find?_append]
  cases List.find? (fun e => e.1 == g) a <;> simp

theorem capGet_shc (p : Nat) (c : Caps) (g : Nat) :
    capGet (shc p c) g = (capGet c g).map (fun ab => (p + ab.1, p + ab.2)) := by
  simp only [capGet, shc, List.find?_map, Function.comp_def]
  cases List.find? (fun e => e.1 == g) c <;> rfl

theorem capGet_mem {c : Caps} {g : Nat} {ab : Nat × Nat} (h : capGet c g = some ab) : (g, ab) ∈ c := by
  unfold capGet at h
  split at h
  · next e hf =>
    cases h
    have hg := List.find?_some hf
    obtain rfl : e.1 = g := eq_of_beq hg
    exact List.mem_of_find?_eq_some hf
  · cases h

theorem sliceOf_shift (pre w post : List UInt8) {a b : Nat} (hab : a ≤ b) (hb : b ≤ w.length) :
    sliceOf (pre ++ (w ++ post)) (pre.length + a, pre.length + b) = sliceOf w (a, b) := by
  simp only [sliceOf]
  rw [List.drop_append, List.drop_eq_nil_of_le (by omega)]
  simp only [List.nil_append, Nat.add_sub_cancel_left, Nat.add_sub_add_left]
  rw [List.drop_append_of_le_length (by omega), List.take_append_of_le_length (by simp; omega)]

theorem groupText_capsAt (g : Nat) (tail : List UInt8) :
    ∀ (sel : Sel) (pre : List UInt8) (c : Caps), SlotsIn sel →
      groupText (pre ++ (flat sel ++ tail)) (capsAt pre.length c sel) g =
        match selText g sel with
        | some t => some t
        | none => groupText (pre ++ (flat sel ++ tail)) c g
  | [], _, _, _ => rfl
  | ew :: sel, pre, c, hs => by
    obtain ⟨hew, hs'⟩ := List.forall_mem_cons.mp hs
    have := groupText_capsAt g tail sel (pre ++ ew.2) (shc pre.length ew.1.2 ++ c) hs'
    simp only [List.length_append, List.append_assoc] at this
    simp only [capsAt, flat, List.append_assoc, selText]
    rw [this]
    cases selText g sel with
    | some t => rfl
    | none =>
      simp only [groupText, capGet_append, capGet_shc]
      cases hc : capGet ew.1.2 g with
      | none => rfl
      | some ab =>
        have hin := hew (g, ab) (capGet_mem hc)
        exact congrArg some (sliceOf_shift pre ew.2 (flat sel ++ tail) hin.1 hin.2)

theorem groupText_row (g : Nat) (sel : Sel) (tail : List UInt8) (hs : SlotsIn sel) :
    groupText (flat sel ++ tail) (capsAt 0 [] sel) g = selText g sel := by
  have := groupText_capsAt g tail sel [] [] hs
  simp only [List.nil_append, List.length_nil] at this
  rw [this]
  cases selText g sel <;> simp [groupText, capGet]

def D : Sym := [(48, 57)]
def b1 (n : Nat) : Sym := [(n, n)]

/-- catalogue of a capture group over plain words: the group spans the whole word -/
def grp (g : Nat) (ws : List (List Sym)) : List Entry := ws.map (fun w => (w, [(g, 0, w.length)]))
/-- catalogue of an item without groups -/
def plain (ws : List (List Sym)) : List Entry := ws.map (fun w => (w, []))

def y19 : List Sym := [b1 49, b1 57, [(55, 57)], D]
def y20 : List Sym := [b1 50, b1 48, D, D]
/-- years 1970–2099 -/
def yearWords : List (List Sym) := [y19, y20]

def monthWords : List (List UInt8) := (List.range' 1 12).map dec2
def day2Words : List (List UInt8) := (List.range' 1 31).map dec2
def day1Words : List (List UInt8) := (List.range' 1 9).map (fun d => [dchar d])
def daySpWords : List (List UInt8) := (List.range' 1 9).map (fun d => [32, dchar d])
def hourWords : List (List UInt8) := (List.range' 0 25).map dec2
def minuteWord : List Sym := [[(48, 53)], D]
def secondWords : List (List Sym) := [minuteWord, cw [54, 48]]
def fracWords : List (List Sym) := (List.range' 1 9).map (fun n => List.replicate n D)

/-- ASCII bytes that are not digits -/
def nonDigit : Sym := [(0, 47), (58, 127)]
/-- ASCII bytes that are neither digits nor letters -/
def nonAlnum : Sym := [(0, 47), (58, 64), (91, 96), (123, 127)]
/-- ASCII bytes that are not letters -/
def nonAlpha : Sym := [(0, 64), (91, 96), (123, 127)]
def anyByte : Sym := [(0, 255)]

/-! ### selectors: the catalogue entry and concrete word of a value -/

def wSel (g : Option Nat) (w : List UInt8) : Entry × List UInt8 :=
  ((cw w, match g with | some i => [(i, 0, (cw w).length)] | none => []), w)

def symSel (g : Option Nat) (s : List Sym) (w : List UInt8) : Entry × List UInt8 :=
  ((s, match g with | some i => [(i, 0, s.length)] | none => []), w)

def ySel (g : Nat) (Y : Nat) : Entry × List UInt8 := symSel (some g) (if Y < 2000 then y19 else y20) (dec4 Y)

theorem symHas_dchar {lo hi n : Nat} (h : lo ≤ 48 + n % 10 ∧ 48 + n % 10 ≤ hi) : symHas [(lo, hi)] (dchar n) = true :=
  symHas_range.mpr (by rwa [dchar_toNat])

theorem symHas_D (n : Nat) : symHas D (dchar n) = true := symHas_dchar (by omega)

theorem symHas_b1 (n : Nat) (b : UInt8) (h : b.toNat = n) : symHas (b1 n) b = true :=
  symHas_range.mpr (by omega)

theorem conc_year {Y : Nat} (h : 1970 ≤ Y ∧ Y ≤ 2099) : Conc (if Y < 2000 then y19 else y20) (dec4 Y) := by
  split
  · exact ⟨symHas_dchar (by omega), symHas_dchar (by omega), symHas_dchar (by omega), symHas_D _, trivial⟩
  · exact ⟨symHas_dchar (by omega), symHas_dchar (by omega), symHas_D _, symHas_D _, trivial⟩

theorem conc_minute {N : Nat} (h : N ≤ 59) : Conc minuteWord (dec2 N) :=
  ⟨symHas_dchar (by omega), symHas_D _, trivial⟩

/-- a second is a word of `minuteWord` (`00`–`59`) or the leap second `60` -/
def sSel (g : Nat) (S : Nat) : Entry × List UInt8 :=
  if S = 60 then wSel (some g) [54, 48] else symSel (some g) minuteWord (dec2 S)

def isDb (b : UInt8) : Bool := 48 ≤ b.toNat && b.toNat ≤ 57

theorem conc_digits : ∀ (f : List UInt8), (∀ b ∈ f, isDb b = true) → Conc (List.replicate f.length D) f := by
  intro f
  induction f with
  | nil => intro _; simp [Conc]
  | cons b t ih =>
    intro h
    exact ⟨symHas_range.mpr (by simpa [isDb] using h b (by simp)), ih (fun x hx => h x (by simp [hx]))⟩

def cws (ws : List (List UInt8)) : List (List Sym) := ws.map cw

theorem cw_length (w : List UInt8) : (cw w).length = w.length := by simp [cw]

theorem sliceOf_full (w : List UInt8) : sliceOf w (0, w.length) = w := by simp [sliceOf]

/-- what `Valid` and `SlotsIn` ask of one piece and the entry and word chosen for it -/
def EwOK (dom : List Entry) (ew : Entry × List UInt8) : Prop :=
  ew.1 ∈ dom ∧ Conc ew.1.1 ew.2 ∧ ∀ e ∈ ew.1.2, e.2.1 ≤ e.2.2 ∧ e.2.2 ≤ ew.2.length

def AllOK : List Piece → Sel → Prop
  | [], [] => True
  | q :: qs, ew :: sel => EwOK q.dom ew ∧ AllOK qs sel
  | [], _ :: _ => False
  | _ :: _, [] => False

theorem allOK_valid : ∀ {qs : List Piece} {sel : Sel}, AllOK qs sel → Valid qs sel
  | [], [], _ => trivial
  | _ :: _, _ :: _, h => ⟨h.1.1, h.1.2.1, allOK_valid h.2⟩

theorem allOK_slots : ∀ {qs : List Piece} {sel : Sel}, AllOK qs sel → SlotsIn sel
  | [], [], _ => fun _ hx => nomatch hx
  | _ :: _, _ :: _, h => List.forall_mem_cons.mpr ⟨h.1.2.2, allOK_slots h.2⟩

theorem ewOK_sym_grp {g : Nat} {ss : List (List Sym)} {s : List Sym} {w : List UInt8} (h : s ∈ ss) (hc : Conc s w) :
    EwOK (grp g ss) (symSel (some g) s w) := by
  refine ⟨List.mem_map.mpr ⟨s, h, rfl⟩, hc, ?_⟩
  simp [conc_length hc, symSel]

theorem ewOK_sym_plain {ss : List (List Sym)} {s : List Sym} {w : List UInt8} (h : s ∈ ss) (hc : Conc s w) :
    EwOK (plain ss) (symSel none s w) := by
  refine ⟨List.mem_map.mpr ⟨s, h, rfl⟩, hc, ?_⟩
  simp [symSel]

theorem ewOK_w_grp {g : Nat} {ws : List (List UInt8)} {w : List UInt8} (h : w ∈ ws) :
    EwOK (grp g (cws ws)) (wSel (some g) w) :=
  ewOK_sym_grp (List.mem_map_of_mem h) (conc_cw w)

theorem ewOK_w_plain {ws : List (List UInt8)} {w : List UInt8} (h : w ∈ ws) :
    EwOK (plain (cws ws)) (wSel none w) :=
  ewOK_sym_plain (List.mem_map_of_mem h) (conc_cw w)

theorem ewOK_year {g : Nat} {Y : Nat} (h : 1970 ≤ Y ∧ Y ≤ 2099) : EwOK (grp g yearWords) (ySel g Y) := by
  unfold ySel
  refine ewOK_sym_grp ?_ (conc_year h)
  split <;> simp [yearWords]

theorem ewOK_second {g : Nat} {S : Nat} (h : S ≤ 60) : EwOK (grp g secondWords) (sSel g S) := by
  unfold sSel
  split
  · exact ewOK_sym_grp (s := cw [54, 48]) (by simp [secondWords]) (conc_cw _)
  · exact ewOK_sym_grp (by simp [secondWords]) (conc_minute (by omega))

theorem tailF_any (tail : List UInt8) : TailF anyByte tail := by
  intro x t _
  have := x.toNat_lt
  exact symHas_range.mpr (by omega)

theorem tailF_nil : TailF [] [] := by
  intro x t h; cases h

theorem flat_append (a b : Sel) : flat (a ++ b) = flat a ++ flat b := by
  induction a with
  | nil => simp [flat]
  | cons e t ih => simp [flat, ih]

theorem allOK_append : ∀ {q1 q2 : List Piece} {s1 s2 : Sel}, AllOK q1 s1 → AllOK q2 s2 → AllOK (q1 ++ q2) (s1 ++ s2)
  | [], _, [], _, _, h2 => h2
  | _ :: _, _, _ :: _, _, h1, h2 => ⟨h1.1, allOK_append h1.2 h2⟩

theorem selText_append (g : Nat) (a b : Sel) :
    selText g (a ++ b) = match selText g b with | some t => some t | none => selText g a := by
  induction a with
  | nil => cases h : selText g b <;> simp [h, selText]
  | cons e t ih =>
    simp only [List.cons_append, selText, ih]
    cases selText g b <;> simp

/-- the tail after the stamp is empty or starts with a byte of `s` (the predicate `RegexSym.TailF`, under the name the
statements about a final class use) -/
def TailIn (s : Sym) (tail : List UInt8) : Prop := ∀ x t, tail = x :: t → symHas s x = true

/-- bytes of the tail that the final `(class|$)` group takes -/
def tailLen : List UInt8 → Nat
  | [] => 0
  | _ :: _ => 1

def tailSym (e : Bool) : Sym := if e then anyByte else []

/-- the catalogue of a final `(class|$)` group `g`: one byte of the class (`e = true`: non-empty tail)
or nothing at the end of the slice (`e = false`) -/
def endDom (g : Nat) (s : Sym) (e : Bool) : List Entry := if e then [([s], [(g, 0, 1)])] else [([], [(g, 0, 0)])]

def endEw (g : Nat) (s : Sym) : List UInt8 → Entry × List UInt8
  | [] => (([], [(g, 0, 0)]), [])
  | x :: _ => (([s], [(g, 0, 1)]), [x])

/-- the slots and the text of a zone group `gz` on `w` and the final `(class|$)` group `ge` after it, written as ONE entry and
word (the two items are checked as two pieces; see `Props.RegexCapture2.iso_zone_search`) -/
def lastEw (gz ge : Nat) (syms : List Sym) (w : List UInt8) (s : Sym) : List UInt8 → Entry × List UInt8
  | [] => ((syms, [(ge, syms.length, syms.length), (gz, 0, syms.length)]), w)
  | x :: _ => ((syms ++ [s], [(ge, syms.length, syms.length + 1), (gz, 0, syms.length)]), w ++ [x])

theorem endEw_word (g : Nat) (s : Sym) (tail : List UInt8) : (endEw g s tail).2 ++ tail.drop (tailLen tail) = tail := by
  cases tail <;> simp [endEw, tailLen]

theorem lastEw_word (gz ge : Nat) (syms : List Sym) (w : List UInt8) (s : Sym) (tail : List UInt8) :
    (lastEw gz ge syms w s tail).2 ++ tail.drop (tailLen tail) = w ++ tail := by
  cases tail <;> simp [lastEw, tailLen]

theorem search_row_last {re : Re} {body : List Piece} {lastItem : Re} {dom : List Entry} {tF : Sym}
    (hre : re = catL ((body ++ [Piece.mk lastItem dom]).map Piece.item))
    (hok : rowOk (body ++ [Piece.mk lastItem dom]) tF = true) {selB : Sel} (hv : AllOK body selB)
    {last : Entry × List UInt8} (hl : EwOK dom last) {tail : List UInt8} (ht : TailF tF tail) :
    search re (flat selB ++ (last.2 ++ tail)) =
      some ⟨0, (flat selB).length + last.2.length, capsAt 0 [] (selB ++ [last])⟩ := by
  have := search_of_step (row_step ht _ _ 0 [] hok
    (allOK_valid (allOK_append hv (show AllOK [Piece.mk lastItem dom] [last] from ⟨hl, trivial⟩))))
  subst hre
  simpa [flat_append, flat] using this

theorem capsAt_append (a b : Sel) : ∀ (p : Nat) (c : Caps),
    capsAt p c (a ++ b) = capsAt (p + (flat a).length) (capsAt p c a) b := by
  induction a with
  | nil => intro p c; simp [capsAt, flat]
  | cons e t ih => intro p c; simp [capsAt, flat, ih, Nat.add_assoc]

theorem ewOK_endEw {g : Nat} {s : Sym} {tail : List UInt8} (ht : TailIn s tail) :
    EwOK (endDom g s (!tail.isEmpty)) (endEw g s tail) := by
  cases tail with
  | nil => simp [EwOK, endDom, endEw, Conc]
  | cons x t => simp [EwOK, endDom, endEw, Conc, ht x t rfl]

theorem tailF_rest (tail : List UInt8) : TailF (tailSym (!tail.isEmpty)) (tail.drop (tailLen tail)) := by
  cases tail with
  | nil => simpa [tailSym, tailLen] using tailF_nil
  | cons x t => simpa [tailSym, tailLen] using tailF_any t

theorem slotsIn_lastEw (gz ge : Nat) {syms : List Sym} {w : List UInt8} (s : Sym) (tail : List UInt8) (hc : Conc syms w) :
    SlotsIn [lastEw gz ge syms w s tail] := by
  intro ew hew e he
  obtain rfl := List.mem_singleton.mp hew
  cases tail <;> simp only [lastEw, List.mem_cons, List.not_mem_nil, or_false] at he ⊢ <;>
    rcases he with rfl | rfl <;> simp [conc_length hc]

theorem selText_endEw (g g' : Nat) (s : Sym) (tail : List UInt8) (h : g' ≠ g) : selText g' [endEw g s tail] = none := by
  cases tail <;> simp [selText, endEw, capGet, h.symm]

theorem selText_lastEw_zone (gz ge : Nat) {syms : List Sym} {w : List UInt8} (s : Sym) (tail : List UInt8)
    (hc : Conc syms w) (h : gz ≠ ge) : selText gz [lastEw gz ge syms w s tail] = some w := by
  have hlen := conc_length hc
  cases tail <;> simp [selText, lastEw, capGet, h.symm, sliceOf, hlen]

theorem selText_lastEw_other (gz ge g' : Nat) (syms : List Sym) (w : List UInt8) (s : Sym) (tail : List UInt8)
    (h1 : g' ≠ gz) (h2 : g' ≠ ge) : selText g' [lastEw gz ge syms w s tail] = none := by
  cases tail <;> simp [selText, lastEw, capGet, h1.symm, h2.symm]

theorem slotsIn_append {a b : Sel} (ha : SlotsIn a) (hb : SlotsIn b) : SlotsIn (a ++ b) := by
  intro ew hew
  rcases List.mem_append.mp hew with h | h
  · exact ha ew h
  · exact hb ew h

theorem slotsIn_endEw (g : Nat) (s : Sym) (tail : List UInt8) : SlotsIn [endEw g s tail] := by
  intro ew hew e he
  simp only [List.mem_singleton] at hew
  subst hew
  cases tail <;> simp_all [endEw]

theorem groupText_end (g' g : Nat) (s : Sym) (selB : Sel) (tail : List UInt8) (hs : SlotsIn selB) :
    groupText (flat selB ++ tail) (capsAt 0 [] (selB ++ [endEw g s tail])) g' = selText g' (selB ++ [endEw g s tail]) := by
  simpa [flat_append, flat, endEw_word] using
    groupText_row g' (selB ++ [endEw g s tail]) (tail.drop (tailLen tail)) (slotsIn_append hs (slotsIn_endEw g s tail))

theorem groupText_zone (g' gz ge : Nat) {syms : List Sym} {w : List UInt8} (s : Sym) (selB : Sel) (tail : List UInt8)
    (hs : SlotsIn selB) (hc : Conc syms w) :
    groupText (flat selB ++ (w ++ tail)) (capsAt 0 [] (selB ++ [lastEw gz ge syms w s tail])) g' =
      selText g' (selB ++ [lastEw gz ge syms w s tail]) := by
  simpa [flat_append, flat, lastEw_word] using
    groupText_row g' (selB ++ [lastEw gz ge syms w s tail]) (tail.drop (tailLen tail))
      (slotsIn_append hs (slotsIn_lastEw gz ge s tail hc))

@[simp] theorem wSel_caps (g : Nat) (w : List UInt8) : (wSel (some g) w).1.2 = [(g, 0, w.length)] := by simp [wSel, cw_length]
@[simp] theorem wSel_caps_none (w : List UInt8) : (wSel none w).1.2 = [] := rfl
@[simp] theorem wSel_word (g : Option Nat) (w : List UInt8) : (wSel g w).2 = w := rfl
@[simp] theorem ySel_caps (g Y : Nat) : (ySel g Y).1.2 = [(g, 0, 4)] := by unfold ySel; split <;> rfl
@[simp] theorem ySel_word (g Y : Nat) : (ySel g Y).2 = dec4 Y := rfl
@[simp] theorem sSel_caps (g S : Nat) : (sSel g S).1.2 = [(g, 0, 2)] := by unfold sSel; split <;> rfl
@[simp] theorem sSel_word (g S : Nat) : (sSel g S).2 = dec2 S := by
  unfold sSel
  split
  · next h => subst h; rfl
  · rfl
@[simp] theorem symSel_caps (g : Nat) (s : List Sym) (w : List UInt8) : (symSel (some g) s w).1.2 = [(g, 0, s.length)] := rfl
@[simp] theorem symSel_caps_none (s : List Sym) (w : List UInt8) : (symSel none s w).1.2 = [] := rfl
@[simp] theorem symSel_word (g : Option Nat) (s : List Sym) (w : List UInt8) : (symSel g s w).2 = w := rfl

/-! ### catalogues derived from the regex itself

`symEntriesOf a` enumerates symbolic words (with the slots `a` records on them) that `a` can consume:
every literal, the ASCII part of every class, every alternative, every repetition count (unbounded
repetitions: the minimum and one more). No correctness proof is needed: every entry is checked again by the symbolic run
(`rowOk`, `RegexAuto.pruneA`). -/

def asciiPart (rs : List (Nat × Nat)) : Sym :=
  rs.filterMap (fun r => if r.1 < 128 then some (r.1, min r.2 127) else none)

def prodE (xs ys : List Entry) : List Entry :=
  xs.flatMap (fun x => ys.map (fun y => (x.1 ++ y.1, shc x.1.length y.2 ++ x.2)))

def powE (xs : List Entry) : Nat → List Entry
  | 0 => [([], [])]
  | k + 1 => prodE xs (powE xs k)

def symEntriesOf : Re → List Entry
  | .eps => [([], [])]
  | .lit bs => [(cw bs, [])]
  | .cls rs => if (asciiPart rs).isEmpty then [] else [([asciiPart rs], [])]
  | .cat a b => prodE (symEntriesOf a) (symEntriesOf b)
  | .alt a b => symEntriesOf a ++ symEntriesOf b
  | .rep a lo hi =>
    let n := match hi with | some h => h | none => lo + 1
    (List.range' lo (n + 1 - lo)).flatMap (fun k => powE (symEntriesOf a) k)
  | .group i a => (symEntriesOf a).map (fun e => (e.1, (i, 0, e.1.length) :: e.2))
  | .bol => []
  | .eol => []

/-- items of a right-nested concatenation -/
def itemsOf : Re → List Re
  | .cat a b => a :: itemsOf b
  | r => [r]

/-- the last two items taken as one -/
def mergeLast : List Re → List Re
  | [] => []
  | [a] => [a]
  | [a, b] => [.cat a b]
  | a :: b :: c :: t => a :: mergeLast (b :: c :: t)

def mkPieces (items : List Re) (doms : List (List Entry)) : List Piece := List.zipWith Piece.mk items doms

/-- slots lie inside the words, for a whole catalogue (decidable) -/
def domSlotsOk (dom : List Entry) : Bool :=
  dom.all (fun e => e.2.all (fun c => decide (c.2.1 ≤ c.2.2) && decide (c.2.2 ≤ e.1.length)))

theorem ewOK_of_mem {dom : List Entry} {e : Entry} {w : List UInt8} (hs : domSlotsOk dom = true) (hm : e ∈ dom)
    (hc : Conc e.1 w) : EwOK dom (e, w) := by
  refine ⟨hm, hc, ?_⟩
  intro c hcm
  have := List.all_eq_true.mp (List.all_eq_true.mp hs e hm) c hcm
  simp only [Bool.and_eq_true, decide_eq_true_eq] at this
  rw [← conc_length hc]
  exact this

/-- pieces of a list of items: the derived catalogue, unless overridden (by item index) -/
def autoPieces (items : List Re) (ov : List (Nat × List Entry)) : List Piece :=
  items.zipIdx.map (fun x => Piece.mk x.1 ((ov.lookup x.2).getD (symEntriesOf x.1)))

/-- the items between `^` and the final group -/
def bodyItems (re : Re) : List Re := ((itemsOf re).drop 1).dropLast
def lastItem (re : Re) : Re := ((itemsOf re).getLast?).getD .eps

def nonNull (d : List Entry) : List Entry := d.filter (fun e => !e.1.isEmpty)

def rowSlotsOk (qs : List Piece) : Bool := qs.all (fun q => domSlotsOk q.dom)

theorem allOK_of_valid : ∀ {qs : List Piece} {sel : Sel}, rowSlotsOk qs = true → Valid qs sel → AllOK qs sel
  | [], [], _, _ => trivial
  | _ :: _, _ :: _, hs, hv => by
    simp only [rowSlotsOk, List.all_cons, Bool.and_eq_true] at hs
    exact ⟨ewOK_of_mem hs.1 hv.1 hv.2.1, allOK_of_valid hs.2 hv.2.2⟩

def concB : List Sym → List UInt8 → Bool
  | [], [] => true
  | s :: ss, b :: w => symHas s b && concB ss w
  | [], _ :: _ => false
  | _ :: _, [] => false

theorem conc_of_concB : ∀ {syms : List Sym} {w : List UInt8}, concB syms w = true → Conc syms w
  | [], [], _ => trivial
  | _ :: _, _ :: _, h =>
    have h := Bool.and_eq_true_iff.mp h
    ⟨h.1, conc_of_concB h.2⟩

def validB : List Piece → Sel → Bool
  | [], [] => true
  | q :: qs, ew :: sel => q.dom.contains ew.1 && concB ew.1.1 ew.2 && validB qs sel
  | [], _ :: _ => false
  | _ :: _, [] => false

theorem valid_of_validB : ∀ {qs : List Piece} {sel : Sel}, validB qs sel = true → Valid qs sel
  | [], [], _ => trivial
  | _ :: _, _ :: _, h => by
    simp only [validB, Bool.and_eq_true, List.contains_iff_mem] at h
    exact ⟨h.1.1, conc_of_concB h.1.2, valid_of_validB h.2⟩

/-- split a line along the catalogues: for each piece the first entry (longest first is NOT required)
whose symbolic word fits a prefix of the rest and lets the remaining pieces fit too -/
def chooseSel : List Piece → List UInt8 → Option (Sel × List UInt8)
  | [], rest => some ([], rest)
  | q :: qs, rest =>
    q.dom.findSome? (fun e =>
      if concB e.1 (rest.take e.1.length) && e.1.length ≤ rest.length then
        match chooseSel qs (rest.drop e.1.length) with
        | some (sel, r) => some ((e, rest.take e.1.length) :: sel, r)
        | none => none
      else none)

end S4V.Lemmas.RegexRows
