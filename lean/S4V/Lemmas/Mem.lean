/-
Lemmas about the stage-3 counting model `S4V.Model.Mem`: what `readUpTo`, `addLine`, `findMsg` and
`dropTryG` do to each component of the state (and which they leave alone: `SameB`, `SameL`, `SameS`,
`Shrunk`), the shape the loops share (`IsLoop`), the `blocks` bound of a streamed reader and the lower
bound for the short-circuit `drop_lines`.  The loop invariant behind the upper bounds is in
`S4V.Lemmas.MemGeneral`.
-/
import S4V.Model.Mem
import S4V.Lemmas.Lists

namespace S4V.Lemmas.Mem
open S4V.Model.Mem S4V.Gen.Consts S4V.Gen.Stream S4V.Gen.Blocks S4V.Lemmas.Lists

theorem desc_length_le : ∀ (l : List Nat) (lo hi : Nat), l.Pairwise (· > ·) →
    (∀ c ∈ l, lo ≤ c ∧ c < hi) → l.length ≤ hi - lo
  | [], _, _, _, _ => by simp
  | a :: l, lo, hi, hp, hm => by
    have ha := hm a List.mem_cons_self
    rw [List.pairwise_cons] at hp
    have := desc_length_le l lo a hp.2 (fun c hc => ⟨(hm c (List.mem_cons_of_mem _ hc)).1, hp.1 c hc⟩)
    simp only [List.length_cons]
    omega

theorem desc_length_le_window (l : List Nat) (hi n : Nat) (hp : l.Pairwise (· > ·))
    (hm : ∀ c ∈ l, c < hi ∧ hi ≤ c + n) : l.length ≤ n := by
  have := desc_length_le l (hi - n) hi hp fun c hc => ⟨Nat.sub_le_iff_le_add.2 (hm c hc).2, (hm c hc).1⟩
  omega

theorem le_length_of_range {l : List Nat} {n : Nat} (h : ∀ j, j < n → j ∈ l) : n ≤ l.length := by
  have := List.Nodup.length_le_of_subset List.nodup_range fun j hj => h j (List.mem_range.1 hj)
  rwa [List.length_range] at this

theorem foldl_inv {α β : Type} (P : β → Prop) (f : β → α → β) :
    ∀ (xs : List α) (s : β), (∀ s x, x ∈ xs → P s → P (f s x)) → P s → P (xs.foldl f s)
  | [], _, _, h => h
  | x :: xs, s, hf, h => by
    simp only [List.foldl_cons]
    exact foldl_inv P f xs (f s x) (fun s y hy => hf s y (List.mem_cons_of_mem _ hy)) (hf s x List.mem_cons_self h)

theorem pairs_count (M : Nat) (L : List Nat) (q : Nat × Nat) (l : List (Nat × Nat)) (hn : l.Nodup)
    (h : ∀ p ∈ l, (p.2 < M ∧ p.1 ∈ L) ∨ p = q) : l.length ≤ M * L.length + 1 := by
  have hsub : l ⊆ q :: L.flatMap fun j => (List.range M).map fun i => (j, i) := fun p hp =>
    (h p hp).elim
      (fun h1 => List.mem_cons_of_mem _ (List.mem_flatMap.2 ⟨p.1, h1.2, List.mem_map.2 ⟨p.2, List.mem_range.2 h1.1, rfl⟩⟩))
      fun h1 => h1 ▸ List.mem_cons_self
  have := List.Nodup.length_le_of_subset hn hsub
  simpa [List.length_flatMap, List.map_const', Nat.mul_comm] using this

/-! ### what a step leaves alone -/

structure SameB (s s' : St) : Prop where
  blocks : s'.blocks = s.blocks
  nread : s'.nread = s.nread
  bHigh : s'.bHigh = s.bHigh

structure SameL (s s' : St) : Prop where
  lines : s'.lines = s.lines
  lHigh : s'.lHigh = s.lHigh

structure SameS (s s' : St) : Prop where
  syslines : s'.syslines = s.syslines
  sHigh : s'.sHigh = s.sHigh
  nread : s.nread ≤ s'.nread

theorem SameS.trans {a b c : St} (h : SameS a b) (g : SameS b c) : SameS a c :=
  ⟨g.syslines.trans h.syslines, g.sHigh.trans h.sHigh, Nat.le_trans h.nread g.nread⟩

structure Shrunk (s s' : St) : Prop where
  nread : s'.nread = s.nread
  bHigh : s'.bHigh = s.bHigh
  lHigh : s'.lHigh = s.lHigh
  sHigh : s'.sHigh = s.sHigh
  syslines : s'.syslines.Sublist s.syslines
  lines : s'.lines.Sublist s.lines
  blocks : s'.blocks.Sublist s.blocks

def readOne (streamed : Bool) (st : St) : St :=
  { st with
    blocks := if streamed && READ_BLOCK_LOOKBACK_DROP && decide (0 < st.nread) then
        (st.nread :: st.blocks).filter (· != st.nread - 1) else st.nread :: st.blocks,
    nread := st.nread + 1, bHigh := max st.bHigh (st.nread :: st.blocks).length }

theorem readUpTo_succ (streamed : Bool) (fuel : Nat) (st : St) (b : Nat) :
    readUpTo streamed (fuel + 1) st b =
      if st.nread ≤ b then readUpTo streamed fuel (readOne streamed st) b else st := rfl

theorem readOne_plain (st : St) : readOne false st =
    { st with blocks := st.nread :: st.blocks, nread := st.nread + 1,
              bHigh := max st.bHigh (st.blocks.length + 1) } := rfl

theorem readUpTo_induct {P : St → Prop} {streamed : Bool} {b : Nat}
    (hstep : ∀ st, st.nread ≤ b → P st → P (readOne streamed st)) :
    ∀ (fuel : Nat) (st : St), P st → P (readUpTo streamed fuel st b)
  | 0, _, h => h
  | fuel + 1, st, h => by
    rw [readUpTo_succ]
    split
    · exact readUpTo_induct hstep fuel _ (hstep st ‹_› h)
    · exact h

theorem readUpTo_frame (streamed : Bool) (b fuel : Nat) (st : St) :
    SameL st (readUpTo streamed fuel st b) ∧ SameS st (readUpTo streamed fuel st b) :=
  readUpTo_induct (P := fun s => SameL st s ∧ SameS st s)
    (fun _ _ ⟨hl, hs⟩ => ⟨⟨hl.lines, hl.lHigh⟩, hs.syslines, hs.sHigh, Nat.le_succ_of_le hs.nread⟩) fuel st
    ⟨⟨rfl, rfl⟩, rfl, rfl, Nat.le_refl _⟩

theorem readUpTo_nread_ge (streamed : Bool) (b : Nat) : ∀ (fuel : Nat) (st : St),
    b + 1 ≤ st.nread + fuel → b + 1 ≤ (readUpTo streamed fuel st b).nread
  | 0, st, h => h
  | fuel + 1, st, h => by
    rw [readUpTo_succ]
    split
    · exact readUpTo_nread_ge streamed b fuel _ (by show b + 1 ≤ st.nread + 1 + fuel; omega)
    · exact Nat.lt_of_not_le ‹_›

/-- the `blocks` map of a plain file while reads stay inside the window `[lo, hi)`.  `Q` is whatever is wanted of the stored
blocks: `unread` asks it of every block not read yet, which keeps it true of the blocks a read adds -/
structure BOk (Q : Nat → Prop) (lo hi B : Nat) (st : St) : Prop where
  desc : st.blocks.Pairwise (· > ·)
  ge : ∀ c ∈ st.blocks, lo ≤ c
  lt : ∀ c ∈ st.blocks, c < st.nread
  q : ∀ c ∈ st.blocks, Q c
  unread : ∀ c, st.nread ≤ c → Q c
  lo_le : lo ≤ st.nread
  le_hi : st.nread ≤ hi
  high : st.bHigh ≤ B

theorem BOk.congr {Q : Nat → Prop} {lo hi B : Nat} {s s' : St} (h : BOk Q lo hi B s) (e : SameB s s') : BOk Q lo hi B s' :=
  ⟨e.blocks ▸ h.desc, e.blocks ▸ h.ge, by rw [e.blocks, e.nread]; exact h.lt, e.blocks ▸ h.q, by rw [e.nread]; exact h.unread,
    e.nread ▸ h.lo_le, e.nread ▸ h.le_hi, e.bHigh ▸ h.high⟩

theorem readUpTo_plain_BOk {Q : Nat → Prop} {lo hi B b : Nat} (hB : hi ≤ lo + B) (hb : b + 1 ≤ hi) :
    ∀ (fuel : Nat) (st : St), BOk Q lo hi B st → BOk Q lo hi B (readUpTo false fuel st b) := by
  refine readUpTo_induct fun st hle h => ?_
  rw [readOne_plain]
  -- the keys descend inside `[lo, nread)`, so there are at most `nread - lo` of them
  have hl := desc_length_le st.blocks lo st.nread h.desc fun c hc => ⟨h.ge c hc, h.lt c hc⟩
  have := h.lo_le
  have := h.high
  exact
    { desc := List.pairwise_cons.2 ⟨h.lt, h.desc⟩
      ge := List.forall_mem_cons.2 ⟨h.lo_le, h.ge⟩
      lt := List.forall_mem_cons.2 ⟨Nat.lt_succ_self _, fun c hc => Nat.lt_succ_of_lt (h.lt c hc)⟩
      q := List.forall_mem_cons.2 ⟨h.unread _ (Nat.le_refl _), h.q⟩
      unread := fun c hc => h.unread c (Nat.le_of_succ_le hc)
      lo_le := Nat.le_succ_of_le h.lo_le
      le_hi := Nat.le_trans (Nat.succ_le_succ hle) hb
      high := by show max st.bHigh (st.blocks.length + 1) ≤ B; omega }

/-- a streamed reader: at most the block read last is stored -/
structure BStr (st : St) : Prop where
  len : st.blocks.length ≤ 1
  mem : ∀ c ∈ st.blocks, c + 1 = st.nread
  high : st.bHigh ≤ 2

theorem BStr.congr {s s' : St} (h : BStr s) (e : SameB s s') : BStr s' :=
  ⟨e.blocks ▸ h.len, by rw [e.blocks, e.nread]; exact h.mem, e.bHigh ▸ h.high⟩

/-- the look-back drop removes the one block that can be there -/
theorem readOne_streamed_blocks {st : St} (h : ∀ c ∈ st.blocks, c + 1 = st.nread) :
    (readOne true st).blocks = [st.nread] := by
  simp only [readOne, READ_BLOCK_LOOKBACK_DROP, Bool.true_and, decide_eq_true_eq]
  split
  · rw [List.filter_cons_of_pos (by simp; omega), List.filter_eq_nil_iff.2]
    intro c hc
    have := h c hc
    simp; omega
  · cases hb : st.blocks with
    | nil => rfl
    | cons c _ => have := h c (by simp [hb]); omega

theorem readUpTo_streamed_BStr (b : Nat) : ∀ (fuel : Nat) (st : St), BStr st → BStr (readUpTo true fuel st b) := by
  refine readUpTo_induct fun st _ h => ?_
  have hl := h.len
  have hh := h.high
  refine ⟨?_, ?_, by show max st.bHigh (st.blocks.length + 1) ≤ 2; omega⟩
  · rw [readOne_streamed_blocks h.mem]; exact Nat.le_refl _
  · rw [readOne_streamed_blocks h.mem]
    intro c hc
    rw [List.mem_singleton.1 hc]
    rfl

theorem addLine_frame (st : St) (key : Nat × Nat) : SameB st (addLine st key) ∧ SameS st (addLine st key) := by
  unfold addLine
  split <;> exact ⟨⟨rfl, rfl, rfl⟩, rfl, rfl, Nat.le_refl _⟩

structure LOk (A : Nat × Nat → Prop) (Lb : Nat) (st : St) : Prop where
  nodup : st.lines.Nodup
  mem : ∀ p ∈ st.lines, A p
  high : st.lHigh ≤ Lb

/-- what a sequence of `addLine`s does to the `lines` map and `lines high`: from `(ls, hi)` to `(ls', hi')`, adding `keys` -/
structure LGrow (keys ls : List (Nat × Nat)) (hi : Nat) (ls' : List (Nat × Nat)) (hi' : Nat) : Prop where
  mem : ∀ p, p ∈ ls' ↔ p ∈ ls ∨ p ∈ keys
  nodup : ls.Nodup → ls'.Nodup
  len : ls.length ≤ ls'.length
  high : hi' ≤ max hi ls'.length
  cover : ls.length ≤ hi → ls'.length ≤ hi'

theorem LGrow.refl (ls : List (Nat × Nat)) (hi : Nat) : LGrow [] ls hi ls hi :=
  ⟨fun p => by simp, id, Nat.le_refl _, Nat.le_max_left _ _, id⟩

theorem LGrow.trans {k1 k2 l1 l2 l3 : List (Nat × Nat)} {h1 h2 h3 : Nat} (a : LGrow k1 l1 h1 l2 h2)
    (b : LGrow k2 l2 h2 l3 h3) : LGrow (k1 ++ k2) l1 h1 l3 h3 :=
  ⟨fun p => by rw [b.mem, a.mem, List.mem_append, or_assoc], fun h => b.nodup (a.nodup h), Nat.le_trans a.len b.len,
    by have := a.high; have := b.high; have := b.len; omega, fun h => b.cover (a.cover h)⟩

theorem addLine_LGrow (st : St) (key : Nat × Nat) :
    LGrow [key] st.lines st.lHigh (addLine st key).lines (addLine st key).lHigh := by
  unfold addLine
  split
  · exact ⟨fun p => by simp; rintro rfl; assumption, id, Nat.le_refl _, Nat.le_max_left _ _, id⟩
  · exact ⟨fun p => by simp [or_comm], fun h => List.nodup_cons.2 ⟨‹_›, h⟩, Nat.le_succ _, Nat.le_refl _,
      fun _ => Nat.le_max_right _ _⟩

/-- one step of the fold inside `findMsg` -/
def findStep (streamed : Bool) (st : St) (x : Nat × Nat × Ln) : St :=
  addLine (readUpTo streamed (x.2.2.l + 1) st x.2.2.l) (x.1, x.2.1)

/-- the list `findMsg` walks -/
def look (msgs : List Msg) (k : Nat) : List (Nat × Nat × Ln) :=
  ((msgs.getD k []).zipIdx.map fun (ln, i) => (k, i, ln)) ++
    (match (msgs.getD (k + 1) []).head? with
     | some ln => [(k + 1, 0, ln)]
     | none => [])

theorem findMsg_eq (streamed : Bool) (msgs : List Msg) (st : St) (k : Nat) :
    findMsg streamed msgs st k =
      { (look msgs k).foldl (findStep streamed) st with
        syslines := k :: ((look msgs k).foldl (findStep streamed) st).syslines,
        sHigh := max ((look msgs k).foldl (findStep streamed) st).sHigh
                  (k :: ((look msgs k).foldl (findStep streamed) st).syslines).length } := by
  rfl

theorem head_mem_lt {msgs : List Msg} {j : Nat} {ln : Ln} (h : (msgs.getD j []).head? = some ln) :
    j < msgs.length ∧ ln ∈ msgs.getD j [] := by
  refine ⟨?_, List.mem_of_mem_head? (by rw [h]; rfl)⟩
  apply Classical.byContradiction
  intro hn
  rw [getD_of_le msgs j [] (Nat.le_of_not_lt hn)] at h
  simp at h

theorem mem_look {msgs : List Msg} {k : Nat} {x : Nat × Nat × Ln} (h : x ∈ look msgs k) :
    (x.1 = k ∧ x.2.1 < (msgs.getD k []).length ∧ x.2.2 ∈ msgs.getD k [])
    ∨ (x.1 = k + 1 ∧ x.2.1 = 0 ∧ (msgs.getD (k + 1) []).head? = some x.2.2) := by
  unfold look at h
  rcases List.mem_append.1 h with h | h
  · left
    obtain ⟨⟨ln, i⟩, hm, rfl⟩ := List.mem_map.1 h
    have := List.mem_zipIdx hm
    simp only at this ⊢
    refine ⟨trivial, by omega, ?_⟩
    rw [this.2.2]
    exact List.getElem_mem _
  · right
    split at h
    next ln hl =>
      simp only [List.mem_singleton] at h
      subst h
      exact ⟨rfl, rfl, hl⟩
    next => simp at h

theorem look_of_idx {msgs : List Msg} {k i : Nat} (hi : i < (msgs.getD k []).length) :
    (k, i, (msgs.getD k [])[i]) ∈ look msgs k := by
  unfold look
  apply List.mem_append_left
  refine List.mem_map.2 ⟨((msgs.getD k [])[i], i), ?_, rfl⟩
  exact List.mem_zipIdx_iff_getElem?.2 (by simp)

theorem foldStep_frame (streamed : Bool) (xs : List (Nat × Nat × Ln)) (st : St) :
    SameS st (xs.foldl (findStep streamed) st) :=
  foldl_inv (SameS st) (findStep streamed) xs st
    (fun s x _ h => (h.trans (readUpTo_frame streamed x.2.2.l (x.2.2.l + 1) s).2).trans (addLine_frame _ _).2)
    ⟨rfl, rfl, Nat.le_refl _⟩

theorem findMsg_syslines (streamed : Bool) (msgs : List Msg) (st : St) (k : Nat) :
    (findMsg streamed msgs st k).syslines = k :: st.syslines
    ∧ (findMsg streamed msgs st k).sHigh = max st.sHigh (st.syslines.length + 1) := by
  have h := foldStep_frame streamed (look msgs k) st
  rw [findMsg_eq]
  exact ⟨by rw [h.syslines], by simp only [h.syslines, h.sHigh, List.length_cons]⟩

theorem findMsg_nread_ge (streamed : Bool) {msgs : List Msg} (st : St) {k : Nat} {ln : Ln}
    (h : ln ∈ msgs.getD k []) : ln.l + 1 ≤ (findMsg streamed msgs st k).nread := by
  obtain ⟨i, hi, rfl⟩ := List.getElem_of_mem h
  obtain ⟨pre, post, e⟩ := List.append_of_mem (look_of_idx hi)
  rw [findMsg_eq, e, List.foldl_append, List.foldl_cons]
  refine Nat.le_trans ?_ (foldStep_frame streamed post _).nread
  unfold findStep
  rw [(addLine_frame _ _).1.nread]
  exact readUpTo_nread_ge streamed _ _ _ (Nat.le_add_left _ _)

theorem foldStep_LGrow (streamed : Bool) : ∀ (xs : List (Nat × Nat × Ln)) (st : St),
    LGrow (xs.map fun x => (x.1, x.2.1)) st.lines st.lHigh
      (xs.foldl (findStep streamed) st).lines (xs.foldl (findStep streamed) st).lHigh
  | [], st => LGrow.refl _ _
  | y :: xs, st => by
    have hfr := (readUpTo_frame streamed y.2.2.l (y.2.2.l + 1) st).1
    have h1 := addLine_LGrow (readUpTo streamed (y.2.2.l + 1) st y.2.2.l) (y.1, y.2.1)
    rw [hfr.lines, hfr.lHigh] at h1
    exact h1.trans (foldStep_LGrow streamed xs _)

theorem findMsg_LGrow (streamed : Bool) (msgs : List Msg) (st : St) (k : Nat) :
    LGrow ((look msgs k).map fun x => (x.1, x.2.1)) st.lines st.lHigh
      (findMsg streamed msgs st k).lines (findMsg streamed msgs st k).lHigh :=
  foldStep_LGrow streamed (look msgs k) st

/-- as far as `blocks`, `nread` and `blocks high` go, `findMsg` is a sequence of `readUpTo`s -/
theorem findMsg_blocksInv {P : St → Prop} {streamed : Bool} {msgs : List Msg} {k : Nat} {st : St}
    (hcongr : ∀ {s s'}, P s → SameB s s' → P s')
    (hread : ∀ s x, x ∈ look msgs k → P s → P (readUpTo streamed (x.2.2.l + 1) s x.2.2.l)) (h : P st) :
    P (findMsg streamed msgs st k) := by
  rw [findMsg_eq]
  -- what `findMsg` adds to the fold, and `addLine` to the read, lies in the other maps
  exact hcongr (foldl_inv P (findStep streamed) (look msgs k) st
    (fun s x hx hs => hcongr (hread s x hx hs) (addLine_frame _ _).1) h) ⟨rfl, rfl, rfl⟩

theorem findMsg_BOk {Q : Nat → Prop} {msgs : List Msg} {k lo hi Bd : Nat} {st : St} (hB : hi ≤ lo + Bd)
    (hhi : ∀ x ∈ look msgs k, x.2.2.l + 1 ≤ hi) (h : BOk Q lo hi Bd st) : BOk Q lo hi Bd (findMsg false msgs st k) :=
  findMsg_blocksInv BOk.congr (fun s x hx => readUpTo_plain_BOk hB (hhi x hx) _ s) h

/-- the keys the `lines` map may hold while the messages `S` are stored and message `n` is the next to be found: lines of the
stored messages, and the first line of message `n` (read to see where message `n - 1` ends) -/
def Allowed (msgs : List Msg) (S : List Nat) (n : Nat) (p : Nat × Nat) : Prop :=
  p.2 < (msgs.getD p.1 []).length ∧ (p.1 ∈ S ∨ (p.1 = n ∧ p.2 = 0))

theorem findMsg_LOk {streamed : Bool} {msgs : List Msg} {M k S : Nat} {st : St}
    (hM : ∀ j, (msgs.getD j []).length ≤ M) (hS : (k :: st.syslines).length ≤ S)
    (h : LOk (Allowed msgs st.syslines k) (M * S + 1) st) :
    LOk (Allowed msgs (k :: st.syslines) (k + 1)) (M * S + 1) (findMsg streamed msgs st k) := by
  have g := findMsg_LGrow streamed msgs st k
  have hmem : ∀ p ∈ (findMsg streamed msgs st k).lines, Allowed msgs (k :: st.syslines) (k + 1) p := by
    intro p hp
    rcases (g.mem p).1 hp with hp | hp
    · have hA := h.mem p hp
      exact ⟨hA.1, Or.inl (hA.2.elim (List.mem_cons_of_mem _) fun h2 => h2.1 ▸ List.mem_cons_self)⟩
    · obtain ⟨x, hx, rfl⟩ := List.mem_map.1 hp
      rcases mem_look hx with ⟨h1, h2, _⟩ | ⟨h1, h2, h3⟩
      · exact ⟨by simp only [h1]; exact h2, Or.inl (h1 ▸ List.mem_cons_self)⟩
      · exact ⟨by simp only [h1, h2]; exact List.length_pos_of_mem (head_mem_lt h3).2, Or.inr ⟨h1, h2⟩⟩
  -- the stored lines are lines of the stored messages or the one line of message `k + 1`: count them
  have hcount := Nat.le_trans
    (pairs_count M (k :: st.syslines) (k + 1, 0) _ (g.nodup h.nodup) fun p hp =>
      (hmem p hp).2.imp (fun h2 => ⟨Nat.lt_of_lt_of_le (hmem p hp).1 (hM p.1), h2⟩) fun h2 => Prod.ext h2.1 h2.2)
    (Nat.succ_le_succ (Nat.mul_le_mul_left M hS))
  exact ⟨g.nodup h.nodup, hmem, Nat.le_trans g.high (Nat.max_le.2 ⟨h.high, hcount⟩)⟩

/-- message `j` lies in blocks `j` and `j + 1`: it starts in block `j`, ends in block `j + 1`, has at
most `M` lines, and (so) one of its lines crosses the boundary between the two blocks -/
def Straddling (M : Nat) (msgs : List Msg) : Prop :=
  ∀ j, j < msgs.length →
    (msgs.getD j []).length ≤ M ∧ (msgs.getD j []).first = j ∧ (msgs.getD j []).last = j + 1
    ∧ (∀ ln ∈ msgs.getD j [], j ≤ ln.f ∧ ln.f ≤ ln.l ∧ ln.l ≤ j + 1) ∧ (⟨j, j + 1⟩ : Ln) ∈ msgs.getD j []

instance (M : Nat) (msgs : List Msg) : Decidable (Straddling M msgs) := by
  unfold Straddling; infer_instance

theorem getD_map_range (n j : Nat) (f : Nat → Msg) (h : j < n) : ((List.range n).map f).getD j [] = f j := by
  simp [List.getD, h]

theorem straddle_Straddling (n : Nat) : Straddling 1 (straddle n) := by
  intro j hj
  have hj' : j < n := by simpa [straddle] using hj
  unfold straddle
  rw [getD_map_range n j _ hj']
  simp [Msg.first, Msg.last]

theorem cross3_Straddling (n : Nat) : Straddling 3 (cross3 n) := by
  intro j hj
  have hj' : j < n := by simpa [cross3] using hj
  unfold cross3
  rw [getD_map_range n j _ hj']
  simp [Msg.first, Msg.last]

theorem mem_dropParts (ln : Ln) (c : Nat) : c ∈ dropParts ln ↔ ln.f ≤ c ∧ c < ln.l := by
  unfold dropParts
  simp only [List.mem_map, List.mem_range]
  constructor
  · rintro ⟨x, hx, rfl⟩; omega
  · intro h; exact ⟨c - ln.f, Nat.sub_lt_sub_right h.1 h.2, Nat.sub_add_cancel h.1⟩

theorem dropVisited_all (m : Msg) : dropVisited true m = m.length := rfl

/-- `drop_data_try(message prev)` selects message `j`: its guard holds, `j` is stored and ends at or
before the target block -/
def Victim (msgs : List Msg) (st : St) (prev j : Nat) : Prop :=
  (msgs.getD prev []).first > DROP_TRY_GUARD ∧ j ∈ st.syslines
    ∧ (msgs.getD j []).last ≤ (msgs.getD prev []).first - DROP_TRY_BACK

section drop
variable (v : Bool) (msgs : List Msg) (held : Nat → Bool) (st : St) (prev : Nat)

theorem dropTryG_frame : Shrunk st (dropTryG v msgs held st prev) := by
  unfold dropTryG
  simp only []
  split
  · exact ⟨rfl, rfl, rfl, rfl, List.filter_sublist, List.filter_sublist, List.filter_sublist⟩
  · exact ⟨rfl, rfl, rfl, rfl, .refl _, .refl _, .refl _⟩

variable {v msgs held st prev}

/-- the selected messages leave `syslines`, held or not -/
theorem mem_dropTryG_syslines {j : Nat} :
    j ∈ (dropTryG v msgs held st prev).syslines ↔ j ∈ st.syslines ∧ ¬ Victim msgs st prev j := by
  unfold dropTryG Victim
  by_cases hg : (msgs.getD prev []).first > DROP_TRY_GUARD
  · simp only [List.mem_filter, Bool.not_eq_true', decide_eq_false_iff_not, hg, true_and, not_and, if_true]
    exact ⟨fun h => ⟨h.1, fun _ => h.2⟩, fun h => ⟨h.1, h.2 h.1⟩⟩
  · simp only [hg, false_and, not_false_eq_true, and_true, if_false]

/-- a line goes when its message is selected, released by the consumer, and `drop_lines` gets to it -/
theorem mem_dropTryG_lines {p : Nat × Nat} :
    p ∈ (dropTryG v msgs held st prev).lines ↔ p ∈ st.lines ∧
      ¬ (Victim msgs st prev p.1 ∧ held p.1 = false ∧ p.2 < dropVisited v (msgs.getD p.1 [])) := by
  unfold dropTryG Victim
  by_cases hg : (msgs.getD prev []).first > DROP_TRY_GUARD
  · simp only [List.mem_filter, List.contains_eq_mem, Bool.and_eq_false_imp, decide_eq_true_eq,
      decide_eq_false_iff_not, Bool.not_eq_eq_eq_not, Bool.not_true, hg, true_and, not_and, and_imp, if_true]
  · simp only [hg, false_and, not_false_eq_true, and_true, if_false]

/-- a block goes when a visited line of such a message has a part other than its last in it -/
theorem mem_dropTryG_blocks {c : Nat} :
    c ∈ (dropTryG v msgs held st prev).blocks ↔ c ∈ st.blocks ∧
      ¬ ∃ j, (Victim msgs st prev j ∧ held j = false)
        ∧ ∃ ln ∈ (msgs.getD j []).take (dropVisited v (msgs.getD j [])), ln.f ≤ c ∧ c < ln.l := by
  unfold dropTryG Victim
  by_cases hg : (msgs.getD prev []).first > DROP_TRY_GUARD
  · simp only [List.mem_filter, List.contains_eq_mem, decide_eq_false_iff_not, List.mem_flatMap,
      mem_dropParts, decide_eq_true_eq, Bool.not_eq_eq_eq_not, Bool.not_true, hg, true_and, if_true]
  · simp only [hg, false_and, exists_false, not_false_eq_true, and_true, if_false]

end drop

/-- the drop that follows sending message `k`; `D` is `dropTryG v msgs` or `S4V.Model.MemSkip.dropTryS v msgs` -/
def dropStep (D : (Nat → Bool) → St → Nat → St) (lag : Nat → Nat) (k : Nat) (st : St) : St :=
  if k ≥ 1 then D (fun j => decide (k < j + min (lag k) (CHANNEL_CAPACITY + 2))) st (k - 1) else st

theorem dropStep_keeps {P : St → Prop} {D : (Nat → Bool) → St → Nat → St}
    (hD : ∀ held st prev, P st → P (D held st prev)) (lag : Nat → Nat) (k : Nat) (st : St) (h : P st) :
    P (dropStep D lag k st) := by
  unfold dropStep
  split
  · exact hD _ _ _ h
  · exact h

theorem held_prompt {k j : Nat} (h : j ≤ k) : decide (k < j + min (prompt k) (CHANNEL_CAPACITY + 2)) = false := by
  simp [prompt]; omega

/-- the shape `loopG` and `S4V.Model.MemSkip.loopS` share -/
structure IsLoop (streamed : Bool) (msgs : List Msg) (drop : Nat → St → St) (L : Nat → Nat → St → St) : Prop where
  zero : ∀ k st, L 0 k st = st
  succ : ∀ fuel k st, L (fuel + 1) k st =
    if k < msgs.length then
      (if k + 1 = msgs.length then findMsg streamed msgs st k
       else L fuel (k + 1) (drop k (findMsg streamed msgs st k)))
    else st

theorem loopG_isLoop (v s : Bool) (msgs : List Msg) (lag : Nat → Nat) :
    IsLoop s msgs (dropStep (dropTryG v msgs) lag) (loopG v s msgs lag) :=
  ⟨fun _ _ => rfl, fun _ _ _ => rfl⟩

section loop
variable {streamed : Bool} {msgs : List Msg} {drop : Nat → St → St} {L : Nat → Nat → St → St}
  {I F : Nat → St → Prop}

/-- `I k` at the head of iteration `k`, `F k` after `findMsg k`; the loop ends with the `findMsg` of the last message, no
drop follows it -/
theorem IsLoop.run_from (hL : IsLoop streamed msgs drop L)
    (hfind : ∀ k st, k < msgs.length → I k st → F k (findMsg streamed msgs st k))
    (hdrop : ∀ k st, k + 1 < msgs.length → F k st → I (k + 1) (drop k st)) :
    ∀ (fuel k : Nat) (st : St), k < msgs.length → msgs.length ≤ fuel + k → I k st →
      F (msgs.length - 1) (L fuel k st)
  | 0, k, st, hk, hf, _ => by omega
  | fuel + 1, k, st, hk, hf, h => by
    rw [hL.succ, if_pos hk]
    have hm := hfind k st hk h
    by_cases hl : k + 1 = msgs.length
    · rw [if_pos hl, ← hl]
      exact hm
    · have hk1 : k + 1 < msgs.length := Nat.lt_of_le_of_ne hk hl
      rw [if_neg hl]
      exact hL.run_from hfind hdrop fuel (k + 1) _ hk1 (by omega) (hdrop k _ hk1 hm)

theorem IsLoop.run {C : St → Prop} (hL : IsLoop streamed msgs drop L)
    (hfind : ∀ k st, k < msgs.length → I k st → F k (findMsg streamed msgs st k))
    (hdrop : ∀ k st, k + 1 < msgs.length → F k st → I (k + 1) (drop k st)) (h0 : I 0 St.init)
    (hlast : ∀ st, 0 < msgs.length → F (msgs.length - 1) st → C st) (hnil : msgs.length = 0 → C St.init) :
    C (L (msgs.length + 1) 0 St.init) := by
  by_cases hn : 0 < msgs.length
  · exact hlast _ hn (hL.run_from hfind hdrop _ 0 _ hn (Nat.le_succ _) h0)
  · rw [hL.succ, if_neg hn]
    exact hnil (Nat.eq_zero_of_not_pos hn)

end loop

theorem BStr.init : BStr St.init := ⟨Nat.zero_le _, fun _ h => (nomatch h), Nat.zero_le _⟩

theorem dropTryG_BStr (v : Bool) (msgs : List Msg) (held : Nat → Bool) (st : St) (prev : Nat) (h : BStr st) :
    BStr (dropTryG v msgs held st prev) := by
  have d := dropTryG_frame v msgs held st prev
  exact ⟨Nat.le_trans d.blocks.length_le h.len, fun c hc => by rw [d.nread]; exact h.mem c (d.blocks.subset hc),
    d.bHigh ▸ h.high⟩

theorem IsLoop.bHigh_streamed {msgs : List Msg} {drop : Nat → St → St} {L : Nat → Nat → St → St}
    (hL : IsLoop true msgs drop L) (hdrop : ∀ k st, BStr st → BStr (drop k st)) :
    (L (msgs.length + 1) 0 St.init).bHigh ≤ 2 :=
  hL.run (I := fun _ => BStr) (F := fun _ => BStr)
    (fun _ _ _ => findMsg_blocksInv BStr.congr fun s _ _ => readUpTo_streamed_BStr _ _ s)
    (fun k st _ => hdrop k st) BStr.init (fun _ _ h => h.high) fun _ => Nat.zero_le _

theorem runG_streamed_bHigh (v : Bool) (lag : Nat → Nat) (msgs : List Msg) : (runG v true lag msgs).bHigh ≤ 2 :=
  (loopG_isLoop v true msgs lag).bHigh_streamed (dropStep_keeps (dropTryG_BStr v msgs) lag)

structure Kept (c k : Nat) (st : St) : Prop where
  hi : st.lines.length ≤ st.lHigh
  mem : ∀ j, j < k → (j, c) ∈ st.lines

theorem Kept.bound {c k : Nat} {st : St} (h : Kept c k st) : k ≤ st.lHigh := by
  have := le_length_of_range (l := st.lines.map Prod.fst) fun j hj => List.mem_map.2 ⟨(j, c), h.mem j hj, rfl⟩
  rw [List.length_map] at this
  exact Nat.le_trans this h.hi

theorem Kept.init (c : Nat) : Kept c 0 St.init := ⟨Nat.le_refl _, fun _ h => absurd h (Nat.not_lt_zero _)⟩

theorem findMsg_Kept (streamed : Bool) {msgs : List Msg} {c k : Nat} {st : St}
    (hc : c < (msgs.getD k []).length) (h : Kept c k st) : Kept c (k + 1) (findMsg streamed msgs st k) := by
  have g := findMsg_LGrow streamed msgs st k
  refine ⟨g.cover h.hi, fun j hj => (g.mem _).2 ?_⟩
  by_cases hjk : j < k
  · exact Or.inl (h.mem j hjk)
  · obtain rfl : j = k := Nat.le_antisymm (Nat.le_of_lt_succ hj) (Nat.le_of_not_lt hjk)
    exact Or.inr (List.mem_map.2 ⟨_, look_of_idx hc, rfl⟩)

theorem dropTryG_Kept {v : Bool} {msgs : List Msg} {held : Nat → Bool} {st : St} {prev c k : Nat}
    (hv : ∀ j, Victim msgs st prev j → held j = false → dropVisited v (msgs.getD j []) ≤ c)
    (h : Kept c k st) : Kept c k (dropTryG v msgs held st prev) := by
  have d := dropTryG_frame v msgs held st prev
  refine ⟨by rw [d.lHigh]; exact Nat.le_trans d.lines.length_le h.hi, fun j hj => ?_⟩
  exact mem_dropTryG_lines.2
    ⟨h.mem j hj, fun ⟨h1, h2, h3⟩ => Nat.lt_irrefl _ (Nat.lt_of_lt_of_le h3 (hv j h1 h2))⟩

theorem cross3_visited (n j : Nat) : dropVisited false ((cross3 n).getD j []) ≤ 2 := by
  by_cases hj : j < n
  · unfold cross3
    rw [getD_map_range n j _ hj]
    simp [dropVisited, List.findIdx_cons]
  · rw [getD_of_le _ _ [] (by simp [cross3]; omega)]
    simp [dropVisited]

/-- the short-circuit `drop_lines` stops at the second line of a `cross3` message, the first that releases a block: the
third line of every message stays, so `lines high` is at least the number of messages -/
theorem runG_short_circuit_grows (streamed : Bool) (lag : Nat → Nat) (n : Nat) :
    n ≤ (runG false streamed lag (cross3 n)).lHigh := by
  have hlen : (cross3 n).length = n := by simp [cross3]
  exact (loopG_isLoop false streamed (cross3 n) lag).run (I := Kept 2) (F := fun k => Kept 2 (k + 1))
    (C := fun st => n ≤ st.lHigh)
    (fun k st hk => findMsg_Kept streamed (by unfold cross3; rw [getD_map_range n k _ (hlen ▸ hk)]; simp))
    (fun k st _ => dropStep_keeps (fun _ _ _ => dropTryG_Kept fun j _ _ => cross3_visited n j) lag k st)
    (Kept.init 2) (fun st hn h => by have := h.bound; omega) fun h0 => (hlen ▸ h0 : n = 0) ▸ Nat.zero_le _

end S4V.Lemmas.Mem
