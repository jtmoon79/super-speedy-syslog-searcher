/-
Lemmas about the Lines model (`S4V.Model.Lines`): the specification functions `lineStart` / `lineEnd`
as predicates that determine their value (`IsLineStart`, `IsLineEnd`), the block scans in terms of
file offsets, the walks as `Chain`s of parts. Main result `findLine_chain`: the parts `findLine`
returns tile the line of `fo`, from `lineStart d fo` up to and including `lineEnd d fo`.
-/
import S4V.Lemmas.Blocks

namespace S4V.Lemmas.Lines
open S4V.Gen.Blocks S4V.Model.Lines S4V.Lemmas.Blocks

/-! `∀ k, i ≤ k → Q k` one step down a `cons`, for `i = 0` and for `i + 1`. The `0 ≤ k` stays, so that the right
side is again what the induction hypotheses of `nlAtOrAfter_eq_none` / `_eq_some` rewrite. -/

theorem forall_ge_zero {Q : Nat → Prop} :
    (∀ k, 0 ≤ k → Q k) ↔ Q 0 ∧ ∀ k, 0 ≤ k → Q (k + 1) :=
  ⟨fun h => ⟨h 0 (Nat.le_refl _), fun k _ => h _ (Nat.zero_le _)⟩, fun h k _ => by
    cases k with
    | zero => exact h.1
    | succ k => exact h.2 k (Nat.zero_le _)⟩

theorem forall_ge_succ {i : Nat} {Q : Nat → Prop} :
    (∀ k, i + 1 ≤ k → Q k) ↔ ∀ k, i ≤ k → Q (k + 1) :=
  ⟨fun h k hk => h _ (Nat.succ_le_succ hk), fun h k hk => by
    cases k with
    | zero => exact absurd hk (Nat.not_succ_le_zero _)
    | succ k => exact h k (Nat.le_of_succ_le_succ hk)⟩

theorem nlAtOrAfter_eq_none (d : Bytes) (i : Nat) :
    nlAtOrAfter d i = none ↔ ∀ k, i ≤ k → d[k]? ≠ some NL := by
  fun_induction nlAtOrAfter d i with
  | case1 => simp
  | case2 rest => exact ⟨nofun, fun h => absurd rfl (h 0 (Nat.le_refl _))⟩
  | case3 b rest hb ih =>
    rw [forall_ge_zero, Option.map_eq_none_iff, ih]
    simp only [List.getElem?_cons_succ, List.getElem?_cons_zero, ne_eq, Option.some.injEq, hb,
      not_false_eq_true, true_and]
  | case4 b rest i ih =>
    rw [forall_ge_succ, Option.map_eq_none_iff, ih]
    simp only [List.getElem?_cons_succ]

theorem nlAtOrAfter_eq_some (d : Bytes) (i j : Nat) :
    nlAtOrAfter d i = some j ↔
      i ≤ j ∧ d[j]? = some NL ∧ ∀ k, i ≤ k → k < j → d[k]? ≠ some NL := by
  fun_induction nlAtOrAfter d i generalizing j with
  | case1 => simp
  | case2 rest =>
    constructor
    · rintro ⟨rfl⟩
      exact ⟨Nat.le_refl _, rfl, fun k _ h => absurd h (Nat.not_lt_zero _)⟩
    · rintro ⟨_, _, h⟩
      cases j with
      | zero => rfl
      | succ j => exact absurd rfl (h 0 (Nat.le_refl _) (Nat.succ_pos _))
  | case3 b rest hb ih =>
    cases j with
    | zero => simp [hb]
    | succ j =>
      rw [forall_ge_zero]
      simp [ih, hb]
  | case4 b rest i ih =>
    cases j with
    | zero => simp
    | succ j =>
      rw [forall_ge_succ]
      simp only [Option.map_eq_some_iff, Nat.add_right_cancel_iff, exists_eq_right, ih,
        Nat.succ_le_succ_iff, List.getElem?_cons_succ, Nat.add_lt_add_iff_right]

theorem nlAtOrAfter_step (blk : Bytes) (i : Nat) (h : blk[i]? ≠ some NL) :
    nlAtOrAfter blk i = nlAtOrAfter blk (i + 1) := by
  rcases hn : nlAtOrAfter blk (i + 1) with _ | j
  · rw [nlAtOrAfter_eq_none] at hn ⊢
    intro k hk
    rcases Nat.eq_or_lt_of_le hk with rfl | hlt
    · exact h
    · exact hn k hlt
  · rw [nlAtOrAfter_eq_some] at hn ⊢
    obtain ⟨h1, h2, h3⟩ := hn
    refine ⟨by omega, h2, ?_⟩
    intro k hk1 hk2
    rcases Nat.eq_or_lt_of_le hk1 with rfl | hlt
    · exact h
    · exact h3 k hlt hk2

/-- `E` is the offset of the last byte of the line containing offset `x` -/
structure IsLineEnd (d : Bytes) (x E : Nat) : Prop where
  le : x ≤ E
  lt : E < d.length
  nl_or_last : d[E]? = some NL ∨ E = d.length - 1
  no_nl : ∀ k, x ≤ k → k < E → d[k]? ≠ some NL

theorem isLineEnd_lineEnd (d : Bytes) (x : Nat) (hx : x < d.length) :
    IsLineEnd d x (lineEnd d x) := by
  unfold lineEnd
  split
  · rename_i i h
    obtain ⟨h1, h2, h3⟩ := (nlAtOrAfter_eq_some d x i).mp h
    exact ⟨h1, (List.getElem?_eq_some_iff.mp h2).1, Or.inl h2, h3⟩
  · rename_i h
    have h' := (nlAtOrAfter_eq_none d x).mp h
    exact ⟨by omega, by omega, Or.inr rfl, fun k hk _ => h' k hk⟩

theorem IsLineEnd.unique {d : Bytes} {x E E' : Nat} (h : IsLineEnd d x E) (h' : IsLineEnd d x E') :
    E = E' := by
  obtain ⟨a1, a2, a3, a4⟩ := h
  obtain ⟨b1, b2, b3, b4⟩ := h'
  rcases Nat.lt_trichotomy E E' with hlt | heq | hgt
  · rcases a3 with a3 | a3
    · exact absurd a3 (b4 E a1 hlt)
    · omega
  · exact heq
  · rcases b3 with b3 | b3
    · exact absurd b3 (a4 E' b1 hgt)
    · omega

theorem IsLineEnd.eq {d : Bytes} {x E : Nat} (h : IsLineEnd d x E) : lineEnd d x = E :=
  (isLineEnd_lineEnd d x (Nat.lt_of_le_of_lt h.le h.lt)).unique h

theorem lineEnd_skip {d : Bytes} {x y : Nat} (hxy : x ≤ y) (hy : y < d.length)
    (hno : ∀ k, x ≤ k → k < y → d[k]? ≠ some NL) : lineEnd d x = lineEnd d y := by
  obtain ⟨e1, e2, e3, e4⟩ := isLineEnd_lineEnd d y hy
  refine IsLineEnd.eq ⟨Nat.le_trans hxy e1, e2, e3, fun k h1 h2 => ?_⟩
  rcases Nat.lt_or_ge k y with h | h
  · exact hno k h1 h
  · exact e4 k h h2

theorem lineEnd_last {d : Bytes} {x : Nat} (hx : x < d.length)
    (hno : ∀ k, x ≤ k → k < d.length - 1 → d[k]? ≠ some NL) : lineEnd d x = d.length - 1 :=
  IsLineEnd.eq ⟨Nat.le_sub_one_of_lt hx, Nat.sub_one_lt (Nat.ne_of_gt (Nat.zero_lt_of_lt hx)),
    Or.inr rfl, hno⟩

theorem nlBefore_succ (d : Bytes) (i : Nat) :
    nlBefore d (i + 1) = if d[i]? = some NL then some i else nlBefore d i := by
  unfold nlBefore
  rw [List.take_add_one, List.reverse_append]
  cases h : d[i]? with
  | none =>
    have := List.getElem?_eq_none_iff.mp h
    simp only [Option.toList_none, List.reverse_nil, List.nil_append, reduceCtorEq, if_false,
      Nat.min_eq_right this, Nat.min_eq_right (Nat.le_succ_of_le this)]
  | some b =>
    have hi := (List.getElem?_eq_some_iff.mp h).1
    simp only [Option.toList_some, List.reverse_cons, List.reverse_nil, List.nil_append,
      List.singleton_append, nlAtOrAfter, Option.some.injEq, Nat.min_eq_left (Nat.le_of_lt hi),
      Nat.min_eq_left hi]
    by_cases hb : b = NL
    · simp only [hb, if_true, Nat.succ_sub_one, Nat.sub_zero]
    · simp only [hb, if_false]
      cases nlAtOrAfter (List.take i d).reverse 0 with
      | none => rfl
      | some j =>
        simp only [Option.map_some, Nat.succ_sub_one, Nat.sub_add_eq, Nat.sub_right_comm]

theorem nlBefore_eq_none (d : Bytes) (i : Nat) :
    nlBefore d i = none ↔ ∀ k, k < i → d[k]? ≠ some NL := by
  induction i with
  | zero => exact ⟨fun _ _ h => absurd h (Nat.not_lt_zero _), fun _ => rfl⟩
  | succ i ih =>
    rw [nlBefore_succ, Nat.forall_lt_succ_right, ← ih]
    split <;> simp [*]

theorem nlBefore_eq_some (d : Bytes) (i j : Nat) :
    nlBefore d i = some j ↔
      j < i ∧ d[j]? = some NL ∧ ∀ k, j < k → k < i → d[k]? ≠ some NL := by
  induction i with
  | zero => exact ⟨nofun, fun h => absurd h.1 (Nat.not_lt_zero _)⟩
  | succ i ih =>
    rw [nlBefore_succ]
    split
    · rename_i h
      constructor
      · rintro ⟨rfl⟩
        exact ⟨Nat.lt_succ_self _, h, fun k h1 h2 => by omega⟩
      · rintro ⟨g1, _, g3⟩
        rcases Nat.lt_succ_iff_lt_or_eq.mp g1 with g1 | rfl
        · exact absurd h (g3 i g1 (Nat.lt_succ_self _))
        · rfl
    · rename_i h
      rw [ih]
      constructor
      · rintro ⟨g1, g2, g3⟩
        refine ⟨Nat.lt_succ_of_lt g1, g2, fun k h1 h2 => ?_⟩
        rcases Nat.lt_succ_iff_lt_or_eq.mp h2 with h2 | rfl
        · exact g3 k h1 h2
        · exact h
      · rintro ⟨g1, g2, g3⟩
        rcases Nat.lt_succ_iff_lt_or_eq.mp g1 with g1 | rfl
        · exact ⟨g1, g2, fun k h1 h2 => g3 k h1 (Nat.lt_succ_of_lt h2)⟩
        · exact absurd g2 h

/-- `s` is the first byte of a line of `d` -/
def IsStart (d : Bytes) (s : Nat) : Prop := s = 0 ∨ d[s - 1]? = some NL

/-- `S` is the offset of the first byte of the line containing offset `x` -/
structure IsLineStart (d : Bytes) (x S : Nat) : Prop where
  le : S ≤ x
  isStart : IsStart d S
  no_nl : ∀ k, S ≤ k → k < x → d[k]? ≠ some NL

theorem isLineStart_lineStart (d : Bytes) (x : Nat) : IsLineStart d x (lineStart d x) := by
  unfold lineStart
  split
  · rename_i i h
    obtain ⟨h1, h2, h3⟩ := (nlBefore_eq_some d x i).mp h
    exact ⟨h1, Or.inr h2, fun k hk1 hk2 => h3 k hk1 hk2⟩
  · rename_i h
    exact ⟨Nat.zero_le _, Or.inl rfl, fun k _ hk => (nlBefore_eq_none d x).mp h k hk⟩

theorem IsLineStart.unique {d : Bytes} {x S S' : Nat} (h : IsLineStart d x S)
    (h' : IsLineStart d x S') : S = S' := by
  obtain ⟨a1, a2, a3⟩ := h
  obtain ⟨b1, b2, b3⟩ := h'
  rcases Nat.lt_trichotomy S S' with hlt | heq | hgt
  · rcases b2 with b2 | b2
    · omega
    · exact absurd b2 (a3 (S' - 1) (by omega) (by omega))
  · exact heq
  · rcases a2 with a2 | a2
    · omega
    · exact absurd a2 (b3 (S - 1) (by omega) (by omega))

theorem IsLineStart.eq {d : Bytes} {x S : Nat} (h : IsLineStart d x S) : lineStart d x = S :=
  (isLineStart_lineStart d x).unique h

theorem IsLineStart.shrink {d : Bytes} {x y S : Nat} (h : IsLineStart d x S) (hy : y ≤ x)
    (hno : ∀ k, y ≤ k → k < x → d[k]? ≠ some NL) : IsLineStart d y S := by
  obtain ⟨a1, a2, a3⟩ := h
  have hS : S ≤ y := by
    rcases Nat.lt_or_ge y S with hlt | hge
    · rcases a2 with a2 | a2
      · omega
      · exact absurd a2 (hno (S - 1) (by omega) (by omega))
    · exact hge
  exact ⟨hS, a2, fun k hk1 hk2 => a3 k hk1 (by omega)⟩

theorem same_line (d : Bytes) (fo fo' : Nat) (hfo : fo < d.length)
    (h1 : lineStart d fo ≤ fo') (h2 : fo' ≤ lineEnd d fo) :
    lineStart d fo' = lineStart d fo ∧ lineEnd d fo' = lineEnd d fo := by
  obtain ⟨a1, a2, a3⟩ := isLineStart_lineStart d fo
  obtain ⟨b1, b2, b3, b4⟩ := isLineEnd_lineEnd d fo hfo
  have hno : ∀ k, lineStart d fo ≤ k → k < lineEnd d fo → d[k]? ≠ some NL := by
    intro k hk1 hk2
    rcases Nat.lt_or_ge k fo with h | h
    · exact a3 k hk1 h
    · exact b4 k h hk2
  exact ⟨IsLineStart.eq ⟨h1, a2, fun k hk1 hk2 => hno k hk1 (by omega)⟩,
    IsLineEnd.eq ⟨h2, b2, b3, fun k hk1 hk2 => hno k (by omega) hk2⟩⟩

theorem lineStart_of_isStart {d : Bytes} {s : Nat} (hs : IsStart d s) : lineStart d s = s :=
  IsLineStart.eq ⟨Nat.le_refl _, hs, fun k h1 h2 => by omega⟩

theorem isStart_next {d : Bytes} {fo : Nat} (hfo : fo < d.length)
    (hnl : lineEnd d fo + 1 < d.length) : IsStart d (lineEnd d fo + 1) := by
  obtain ⟨_, _, e3, _⟩ := isLineEnd_lineEnd d fo hfo
  rcases e3 with e3 | e3
  · exact Or.inr (by simpa using e3)
  · omega

theorem lineEnd_lt_of_isStart {d : Bytes} {fo s : Nat} (hfo : fo < s) (hs : IsStart d s)
    (hsl : s < d.length) : lineEnd d fo < s := by
  obtain ⟨e1, e2, e3, e4⟩ := isLineEnd_lineEnd d fo (by omega)
  rcases Nat.lt_or_ge (lineEnd d fo) s with h | h
  · exact h
  · exfalso
    rcases hs with hs | hs
    · omega
    · rcases Nat.lt_or_ge (s - 1) (lineEnd d fo) with h' | h'
      · exact e4 (s - 1) (by omega) h' hs
      · omega

/-- the invariant of every loop that calls a line search again at the offset the last call returned -/
def Boundary (d : Bytes) (fo : Nat) : Prop := fo ≤ d.length ∧ (fo = d.length ∨ IsStart d fo)

theorem boundary_zero (d : Bytes) : Boundary d 0 := ⟨Nat.zero_le _, Or.inr (Or.inl rfl)⟩

theorem boundary_next {d : Bytes} {fo : Nat} (hfo : fo < d.length) :
    Boundary d (lineEnd d fo + 1) := by
  have := (isLineEnd_lineEnd d fo hfo).lt
  refine ⟨by omega, ?_⟩
  rcases Nat.lt_or_ge (lineEnd d fo + 1) d.length with h | h
  · exact Or.inr (isStart_next hfo h)
  · exact Or.inl (by omega)

theorem scanBwd_eq_nlBefore (blk : Bytes) (i : Nat) : scanBwd blk i = nlBefore blk (i + 1) := by
  induction i with
  | zero => rw [scanBwd, nlBefore_succ]; rfl
  | succ i ih => rw [scanBwd, nlBefore_succ, ih]

theorem scanBwd_eq_none (blk : Bytes) (i : Nat) :
    scanBwd blk i = none ↔ ∀ k, k ≤ i → blk[k]? ≠ some NL := by
  simp only [scanBwd_eq_nlBefore, nlBefore_eq_none, Nat.lt_succ_iff]

theorem scanBwd_eq_some (blk : Bytes) (i j : Nat) :
    scanBwd blk i = some j ↔
      j ≤ i ∧ blk[j]? = some NL ∧ ∀ k, j < k → k ≤ i → blk[k]? ≠ some NL := by
  simp only [scanBwd_eq_nlBefore, nlBefore_eq_some, Nat.lt_succ_iff]

/-! What a scan of block `q` says about the file: index `j` of the block is offset `q * bs + j`. -/

theorem blockAt_getElem?_sub (d : Bytes) (bs q : Nat) {k : Nat} (h1 : q * bs ≤ k) (h2 : k < q * bs + bs) :
    (blockAt d bs q)[k - q * bs]? = d[k]? := by
  rw [blockAt_getElem?, if_pos (by omega), Nat.add_sub_cancel' h1]

theorem scanFwd_blockAt_some {d : Bytes} {bs q r i : Nat}
    (h : scanFwd (blockAt d bs q) r = some i) :
    r ≤ i ∧ i < bs ∧ d[q * bs + i]? = some NL ∧
      ∀ k, q * bs + r ≤ k → k < q * bs + i → d[k]? ≠ some NL := by
  obtain ⟨s1, s2, s3⟩ := (nlAtOrAfter_eq_some _ _ _).mp h
  rw [blockAt_getElem?] at s2
  split at s2
  · refine ⟨s1, ‹_›, s2, fun k h1 h2 => ?_⟩
    rw [← blockAt_getElem?_sub d bs q (by omega) (by omega)]
    exact s3 _ (by omega) (by omega)
  · cases s2

theorem scanFwd_blockAt_none {d : Bytes} {bs q r : Nat} (h : scanFwd (blockAt d bs q) r = none) :
    ∀ k, q * bs + r ≤ k → k < q * bs + bs → d[k]? ≠ some NL := by
  intro k h1 h2
  rw [← blockAt_getElem?_sub d bs q (by omega) h2]
  exact (nlAtOrAfter_eq_none _ _).mp h _ (by omega)

/-- backward scans start at an index `r` with `r + 1 = u`: the last index of the block, or
the one before that of `fo` -/
theorem scanBwd_blockAt_some {d : Bytes} {bs q r u i : Nat} (hu : r + 1 = u) (hub : u ≤ bs)
    (h : scanBwd (blockAt d bs q) r = some i) :
    i < u ∧ d[q * bs + i]? = some NL ∧
      ∀ k, q * bs + i < k → k < q * bs + u → d[k]? ≠ some NL := by
  subst hu
  rw [scanBwd_eq_nlBefore] at h
  obtain ⟨s1, s2, s3⟩ := (nlBefore_eq_some _ _ _).mp h
  rw [blockAt_getElem?, if_pos (by omega)] at s2
  refine ⟨s1, s2, fun k h1 h2 => ?_⟩
  rw [← blockAt_getElem?_sub d bs q (by omega) (by omega)]
  exact s3 _ (by omega) (by omega)

theorem scanBwd_blockAt_none {d : Bytes} {bs q r u : Nat} (hu : r + 1 = u) (hub : u ≤ bs)
    (h : scanBwd (blockAt d bs q) r = none) :
    ∀ k, q * bs ≤ k → k < q * bs + u → d[k]? ≠ some NL := by
  subst hu
  rw [scanBwd_eq_nlBefore] at h
  intro k h1 h2
  rw [← blockAt_getElem?_sub d bs q h1 (by omega)]
  exact (nlBefore_eq_none _ _).mp h _ (by omega)

/-- `Chain bs n a b ps`: the parts `ps` are non-empty in-bounds slices of blocks
of a file of `n` bytes that tile the file offsets `[a, b)` in order. -/
def Chain (bs n : Nat) : Nat → Nat → List Part → Prop
  | a, b, [] => a = b
  | a, b, p :: ps =>
    p.bo * bs + p.biBeg = a ∧ p.biBeg < p.biEnd ∧ p.biEnd ≤ bs ∧ p.bo * bs + p.biEnd ≤ n ∧
      Chain bs n (p.bo * bs + p.biEnd) b ps

theorem Chain.cons' {bs n a b m bo bb be : Nat} {ps : List Part} (h1 : bo * bs + bb = a)
    (h2 : bb < be) (h3 : be ≤ bs) (h4 : bo * bs + be ≤ n) (hm : bo * bs + be = m)
    (h5 : Chain bs n m b ps) : Chain bs n a b (⟨bo, bb, be⟩ :: ps) := by
  subst hm
  exact ⟨h1, h2, h3, h4, h5⟩

theorem Chain.rest {bs n a b : Nat} {p : Part} {ps : List Part} (h : Chain bs n a b (p :: ps)) :
    Chain bs n (p.bo * bs + p.biEnd) b ps :=
  h.2.2.2.2

theorem Chain.le {bs n : Nat} : ∀ {ps : List Part} {a b : Nat}, Chain bs n a b ps → a ≤ b
  | [], _, _, h => Nat.le_of_eq h
  | p :: _, _, _, ⟨h1, h2, _, _, h5⟩ => by
    have := Chain.le h5
    omega

theorem Chain.ne_nil_of_line {bs a fo : Nat} {d : Bytes} {ps : List Part}
    (h : Chain bs d.length a (lineEnd d fo + 1) ps) (ha : a ≤ fo) (hfo : fo < d.length) : ps ≠ [] := by
  rintro rfl
  have := (isLineEnd_lineEnd d fo hfo).le
  have h : a = lineEnd d fo + 1 := h
  omega

theorem Chain.bo_ge {bs n : Nat} (hbs : 1 ≤ bs) :
    ∀ {ps : List Part} {a b : Nat}, Chain bs n a b ps → ∀ p ∈ ps, a / bs ≤ p.bo
  | [], _, _, _ => nofun
  | q :: ps, a, b, ⟨h1, h2, h3, _, h5⟩ => by
    have hq : a / bs = q.bo := div_eq_of_bounds (by omega) (by omega)
    refine List.forall_mem_cons.mpr ⟨Nat.le_of_eq hq, fun p hp => ?_⟩
    have := Chain.bo_ge hbs h5 p hp
    have : a / bs ≤ (q.bo * bs + q.biEnd) / bs := Nat.div_le_div_right (by omega)
    omega

theorem part_bytes (d : Bytes) (bs : Nat) (p : Part) (h : p.biEnd ≤ bs) :
    p.bytes d bs = (d.drop (p.bo * bs + p.biBeg)).take (p.biEnd - p.biBeg) := by
  simp only [Part.bytes, blockAt]
  rw [List.drop_take, List.take_take, List.drop_drop]
  congr 1
  omega

theorem take_drop_glue (d : Bytes) (a m b : Nat) (h1 : a ≤ m) (h2 : m ≤ b) :
    (d.drop a).take (m - a) ++ (d.drop m).take (b - m) = (d.drop a).take (b - a) := by
  have e : b - a = (m - a) + (b - m) := by omega
  rw [e, List.take_add, List.drop_drop]
  congr 3
  omega

theorem Chain.bytes (d : Bytes) (bs : Nat) :
    ∀ {ps : List Part} {a b : Nat}, Chain bs d.length a b ps →
      partsBytes d bs ps = (d.drop a).take (b - a)
  | [], a, b, h => by
    simp only [Chain] at h
    subst h
    simp [partsBytes]
  | p :: ps, a, b, h => by
    simp only [Chain] at h
    obtain ⟨h1, h2, h3, h4, h5⟩ := h
    have ih := Chain.bytes d bs h5
    have hle := Chain.le h5
    simp only [partsBytes, List.foldr_cons] at ih ⊢
    rw [ih, part_bytes d bs p h3, h1]
    have e : p.biEnd - p.biBeg = (p.bo * bs + p.biEnd) - a := by omega
    rw [e]
    exact take_drop_glue d a _ b (by omega) hle

theorem Chain.inBounds (d : Bytes) (bs : Nat) :
    ∀ {ps : List Part} {a b : Nat}, Chain bs d.length a b ps →
      ∀ p ∈ ps, p.biBeg < p.biEnd ∧ p.biEnd ≤ (blockAt d bs p.bo).length
  | [], _, _, _ => by simp
  | q :: ps, a, b, h => by
    simp only [Chain] at h
    obtain ⟨h1, h2, h3, h4, h5⟩ := h
    intro p hp
    rcases List.mem_cons.mp hp with rfl | hp
    · refine ⟨h2, ?_⟩
      rw [blockAt_length]
      omega
    · exact Chain.inBounds d bs h5 p hp

theorem Chain.lineFoEnd {bs n : Nat} :
    ∀ {ps : List Part} {a b : Nat}, Chain bs n a b ps → ps ≠ [] → lineFoEnd bs ps + 1 = b
  | [], _, _, _, hne => absurd rfl hne
  | [p], a, b, h, _ => by
    simp only [Chain] at h
    simp only [S4V.Model.Lines.lineFoEnd, List.getLast?_singleton, fileOffsetAtBlockOffsetIndex,
      fileOffsetAtBlockOffset]
    omega
  | p :: q :: ps, a, b, h, _ => by
    have ih := h.rest.lineFoEnd (List.cons_ne_nil _ _)
    simp only [S4V.Model.Lines.lineFoEnd, List.getLast?_cons_cons] at ih ⊢
    exact ih

theorem walkFwd_gt (d : Bytes) (bs last fuel bof : Nat) (h : last < bof) :
    walkFwd d bs last fuel bof = ([], none) := by
  cases fuel with
  | zero => rfl
  | succ fuel => simp only [walkFwd]; rw [if_pos h]

theorem walkFwd_fuel (d : Bytes) (bs last : Nat) : ∀ f1 f2 bof, last + 1 - bof ≤ f1 → last + 1 - bof ≤ f2 →
    walkFwd d bs last f1 bof = walkFwd d bs last f2 bof := by
  intro f1
  induction f1 with
  | zero =>
    intro f2 bof h1 h2
    rw [walkFwd_gt d bs last f2 bof (by omega)]; rfl
  | succ f1 ih =>
    intro f2 bof h1 h2
    cases f2 with
    | zero => rw [walkFwd_gt d bs last (f1 + 1) bof (by omega)]; rfl
    | succ f2 =>
      simp only [walkFwd]
      by_cases hgt : bof > last
      · rw [if_pos hgt, if_pos hgt]
      · rw [if_neg hgt, if_neg hgt, ih f2 (bof + 1) (by omega) (by omega)]

/-- `none` from the walk stands for the end of the file: hence the `getD (d.length - 1)` -/
theorem walkFwd_spec (d : Bytes) (bs : Nat) (hbs : 1 ≤ bs) (hn : 0 < d.length) :
    ∀ fuel bof, bof ≤ blockOffsetLast d.length bs →
      blockOffsetLast d.length bs + 1 - bof ≤ fuel →
      Chain bs d.length (bof * bs) (lineEnd d (bof * bs) + 1)
          (walkFwd d bs (blockOffsetLast d.length bs) fuel bof).1 ∧
        (walkFwd d bs (blockOffsetLast d.length bs) fuel bof).2.getD (d.length - 1)
          = lineEnd d (bof * bs) := by
  have hb := (blockOffsetLast_bounds d.length bs hbs hn).2
  have hle := le_blockOffsetLast_iff d.length bs
  generalize blockOffsetLast d.length bs = last at hb hle ⊢
  intro fuel
  induction fuel with
  | zero => intro bof h1 h2; omega
  | succ fuel ih =>
    intro bof h1 h2
    have hbof : bof * bs < d.length := (hle bof hbs hn).mp h1
    simp only [walkFwd]
    rw [if_neg (Nat.not_lt.mpr h1)]
    split
    · -- the newline is in this block
      rename_i i hscan
      obtain ⟨_, hi, hnl, hno⟩ := scanFwd_blockAt_some hscan
      have hil := (List.getElem?_eq_some_iff.mp hnl).1
      rw [IsLineEnd.eq ⟨Nat.le_add_right _ _, hil, Or.inl hnl, hno⟩]
      exact ⟨Chain.cons' rfl (Nat.succ_pos _) hi hil rfl rfl, rfl⟩
    · rename_i hscan
      have hno := scanFwd_blockAt_none hscan
      rw [blockAt_length]
      by_cases hl : bof = last
      · -- the last block: the line ends with the file
        subst hl
        rw [Nat.add_one_mul] at hb
        have hlen := Nat.sub_le_iff_le_add'.mpr hb
        rw [walkFwd_gt d bs bof fuel (bof + 1) (Nat.lt_succ_self _), Nat.min_eq_right hlen,
          lineEnd_last hbof fun k h1 h2 => hno k h1 (by omega)]
        exact ⟨Chain.cons' rfl (Nat.sub_pos_of_lt hbof) hlen
          (Nat.le_of_eq (Nat.add_sub_cancel' (Nat.le_of_lt hbof))) (by omega) rfl, rfl⟩
      · -- the line goes on in the next block
        have hnext := (hle (bof + 1) hbs hn).mp (by omega)
        obtain ⟨ih1, ih2⟩ := ih (bof + 1) (by omega) (by omega)
        rw [Nat.add_one_mul] at hnext ih1 ih2
        rw [lineEnd_skip (Nat.le_add_right _ bs) hnext hno,
          Nat.min_eq_left (Nat.le_sub_of_add_le' (Nat.le_of_lt hnext))]
        exact ⟨Chain.cons' rfl hbs (Nat.le_refl _) (Nat.le_of_lt hnext) rfl ih1, ih2⟩

theorem walkBwd_fuel (d : Bytes) (bs : Nat) : ∀ f1 f2 bof prior line, bof + 1 ≤ f1 → bof + 1 ≤ f2 →
    walkBwd d bs f1 bof prior line = walkBwd d bs f2 bof prior line := by
  intro f1
  induction f1 with
  | zero => intro f2 bof prior line h; omega
  | succ f1 ih =>
    intro f2 bof prior line h1 h2
    cases f2 with
    | zero => omega
    | succ f2 =>
      simp only [walkBwd]
      split
      · rfl
      · cases bof with
        | zero => simp
        | succ b =>
          rw [if_pos (by omega), if_pos (by omega)]
          exact ih f2 _ _ _ (by omega) (by omega)

theorem walkBwd_ne_nil (d : Bytes) (bs : Nat) : ∀ fuel bof prior line, line ≠ [] →
    walkBwd d bs fuel bof prior line ≠ [] := by
  intro fuel
  induction fuel with
  | zero => intro _ _ _ h; exact h
  | succ fuel ih =>
    intro bof prior line h
    simp only [walkBwd]
    split
    · split
      · simp
      · split
        · simp
        · exact h
    · split
      · exact ih _ _ _ (by simp)
      · simp

theorem walkBwd_spec (d : Bytes) (bs : Nat) (hbs : 1 ≤ bs) (S E1 : Nat) :
    ∀ fuel bof prior e rest, 0 < bof → bof ≤ fuel →
      IsLineStart d (bof * bs) S →
      Chain bs d.length (bof * bs) E1 (⟨bof, 0, e⟩ :: rest) →
      Chain bs d.length S E1 (walkBwd d bs fuel (bof - 1) prior (⟨bof, 0, e⟩ :: rest)) := by
  intro fuel
  induction fuel with
  | zero => intro bof prior e rest h0 h; omega
  | succ fuel ih =>
    intro bof prior e rest h0 hfuel hS hC
    obtain ⟨b, rfl⟩ := Nat.exists_eq_add_one.mpr h0
    rw [Nat.add_one_mul] at hS hC
    have hfull : b * bs + bs ≤ d.length := by
      have ⟨_, (c2 : 0 < e), _, (c4 : (b + 1) * bs + e ≤ d.length), _⟩ := hC
      rw [Nat.add_one_mul] at c4
      omega
    have hlen : (blockAt d bs b).length = bs := by
      rw [blockAt_length]; exact Nat.min_eq_left (Nat.le_sub_of_add_le' hfull)
    have hu := Nat.sub_add_cancel hbs
    simp only [walkBwd, Nat.add_sub_cancel, hlen, hu]
    split
    · -- newline A is in this block
      rename_i i hscan
      obtain ⟨hi, hnl, hno⟩ := scanBwd_blockAt_some hu (Nat.le_refl _) hscan
      have hSeq : b * bs + i + 1 = S :=
        IsLineStart.unique ⟨Nat.add_le_add_left hi _, Or.inr hnl, hno⟩ hS
      rcases Nat.lt_or_eq_of_le (show i + 1 ≤ bs from hi) with hi | hi
      · have hdiv : (b * bs + i + 1) / bs = b := div_eq_of_bounds (by omega) (by omega)
        simp only [fileOffsetAtBlockOffsetIndex_eq, blockOffsetAtFileOffset_eq, hdiv, ↓reduceIte]
        exact Chain.cons' hSeq hi (Nat.le_refl _) hfull rfl hC
      · -- it is the last byte of the block: the line starts with the next block, already stored
        have hdiv : (b * bs + i + 1) / bs = b + 1 := by
          rw [Nat.add_assoc, hi, ← Nat.add_one_mul, Nat.mul_div_cancel _ hbs]
        have hst : storesBo (⟨b + 1, 0, e⟩ :: rest) (b + 1) = true := by simp [storesBo]
        simp only [fileOffsetAtBlockOffsetIndex_eq, blockOffsetAtFileOffset_eq, hdiv, hst,
          Nat.succ_ne_self, ↓reduceIte, Bool.not_true, Bool.false_eq_true]
        rw [← hSeq, Nat.add_assoc, hi]
        exact hC
    · rename_i hscan
      have hS' : IsLineStart d (b * bs) S :=
        hS.shrink (Nat.le_add_right _ _) (scanBwd_blockAt_none hu (Nat.le_refl _) hscan)
      have hC' : Chain bs d.length (b * bs) E1 (⟨b, 0, bs⟩ :: ⟨b + 1, 0, e⟩ :: rest) :=
        Chain.cons' rfl hbs (Nat.le_refl _) hfull rfl hC
      by_cases hb0 : b = 0
      · -- the first block: the line starts with the file
        subst hb0
        have hS0 := hS'.le
        rw [Nat.zero_mul] at hS0 hC'
        obtain rfl := Nat.le_zero.mp hS0
        rw [if_neg (not_not_intro rfl)]
        exact hC'
      · rw [if_pos hb0]
        exact ih b (bs - 1) _ _ (Nat.pos_of_ne_zero hb0) (Nat.le_of_succ_le_succ hfuel) hS' hC'

theorem partB1_some {d : Bytes} {bs last fo i : Nat}
    (h : scanFwd (blockAt d bs (fo / bs)) (fo % bs) = some i) :
    partB1 d bs last fo = (true, fo / bs * bs + i, i) := by
  simp only [partB1, blockOffsetAtFileOffset_eq, blockIndexAtFileOffset_eq, h,
    fileOffsetAtBlockOffsetIndex_eq]

theorem partB1_none_last {d : Bytes} {bs last fo : Nat}
    (h : scanFwd (blockAt d bs (fo / bs)) (fo % bs) = none) (hl : fo / bs = last) :
    partB1 d bs last fo = (true, fo / bs * bs + ((blockAt d bs (fo / bs)).length - 1),
      (blockAt d bs (fo / bs)).length - 1) := by
  subst hl
  simp only [partB1, blockOffsetAtFileOffset_eq, blockIndexAtFileOffset_eq, h,
    fileOffsetAtBlockOffsetIndex_eq, ↓reduceIte]

theorem partB1_none_notlast {d : Bytes} {bs last fo : Nat}
    (h : scanFwd (blockAt d bs (fo / bs)) (fo % bs) = none) (hl : fo / bs ≠ last) :
    partB1 d bs last fo = (false, fo, (blockAt d bs (fo / bs)).length - 1) := by
  simp only [partB1, blockOffsetAtFileOffset_eq, blockIndexAtFileOffset_eq, h, hl, ↓reduceIte]

theorem partB1IB_eq (d : Bytes) (bs last fo : Nat) :
    partB1IB d bs last fo =
      if (partB1 d bs last fo).1 then partB1 d bs last fo else (false, fo, fo % bs) := by
  simp only [partB1IB, partB1, blockIndexAtFileOffset_eq]
  split
  · rfl
  · split <;> rfl

theorem partB1_cases {d : Bytes} {bs fo : Nat} (hbs : 1 ≤ bs) (hfo : fo < d.length) :
    (∃ m, fo % bs ≤ m ∧ m < bs ∧ fo / bs * bs + m = lineEnd d fo ∧
        partB1 d bs (blockOffsetLast d.length bs) fo = (true, lineEnd d fo, m) ∧
        partB1IB d bs (blockOffsetLast d.length bs) fo = (true, lineEnd d fo, m)) ∨
    (fo / bs * bs + bs < d.length ∧ lineEnd d fo = lineEnd d (fo / bs * bs + bs) ∧
        partB1 d bs (blockOffsetLast d.length bs) fo = (false, fo, bs - 1) ∧
        partB1IB d bs (blockOffsetLast d.length bs) fo = (false, fo, fo % bs)) := by
  have hn : 0 < d.length := Nat.zero_lt_of_lt hfo
  have hq := Nat.div_add_mod' fo bs
  have hr : fo % bs < bs := Nat.mod_lt _ hbs
  rcases hscan : scanFwd (blockAt d bs (fo / bs)) (fo % bs) with _ | i
  · have hno := scanFwd_blockAt_none hscan
    rw [hq] at hno
    by_cases hl : fo / bs = blockOffsetLast d.length bs
    · -- the last block: the line ends with the file
      left
      have hb := (blockOffsetLast_bounds d.length bs hbs hn).2
      rw [← hl, Nat.add_one_mul] at hb
      have hE := lineEnd_last hfo fun k h1 h2 => hno k h1 (by omega)
      have hm : fo / bs * bs + (d.length - fo / bs * bs - 1) = lineEnd d fo := by omega
      rw [partB1IB_eq, partB1_none_last hscan hl, if_pos rfl, blockAt_length,
        Nat.min_eq_right (by omega), hm]
      exact ⟨_, by omega, by omega, hm, rfl, rfl⟩
    · right
      have hnext := (le_blockOffsetLast_iff d.length bs (fo / bs + 1) hbs hn).mp (by
        have := (le_blockOffsetLast_iff d.length bs (fo / bs) hbs hn).mpr (by omega)
        omega)
      rw [Nat.add_one_mul] at hnext
      rw [partB1IB_eq, partB1_none_notlast hscan hl, if_neg Bool.false_ne_true, blockAt_length,
        Nat.min_eq_left (by omega)]
      exact ⟨hnext, lineEnd_skip (by omega) hnext hno, rfl, rfl⟩
  · left
    obtain ⟨s1, s2, s3, s4⟩ := scanFwd_blockAt_some hscan
    rw [hq] at s4
    have hE := IsLineEnd.eq ⟨by omega, (List.getElem?_eq_some_iff.mp s3).1, Or.inl s3, s4⟩
    rw [partB1IB_eq, partB1_some hscan, if_pos rfl, ← hE]
    exact ⟨i, s1, s2, hE.symm, rfl, rfl⟩

theorem partB2_false (d : Bytes) (bs boM fo : Nat) (hbs : 1 ≤ bs) (hn : 0 < d.length) :
    partB2 d bs (blockOffsetLast d.length bs) boM false fo =
      ((walkFwd d bs (blockOffsetLast d.length bs) (blockOffsetLast d.length bs + 1 - boM)
          (boM + 1)).1,
        (walkFwd d bs (blockOffsetLast d.length bs) (blockOffsetLast d.length bs + 1 - boM)
          (boM + 1)).2.getD (d.length - 1)) := by
  have hb := blockOffsetLast_bounds d.length bs hbs hn
  have e : blockOffsetLast d.length bs * bs +
      ((blockAt d bs (blockOffsetLast d.length bs)).length - 1) = d.length - 1 := by
    rw [blockAt_length, Nat.add_one_mul] at *
    omega
  simp only [partB2, Bool.false_eq_true, ↓reduceIte, fileOffsetAtBlockOffsetIndex_eq, e]
  cases (walkFwd d bs (blockOffsetLast d.length bs) (blockOffsetLast d.length bs + 1 - boM)
    (boM + 1)).2 <;> rfl

/-- what part B of `findLine` hands to part A: the index of the line's last byte in the middle block, the parts
after the middle block, the offset of newline B -/
structure PartB where
  biMEnd : Nat
  tail : List Part
  foNlB : Nat

def partB (bs : Nat) (d : Bytes) (fo : Nat) : PartB :=
  let b1 := partB1 d bs (blockOffsetLast d.length bs) fo
  let b2 := partB2 d bs (blockOffsetLast d.length bs) (fo / bs) b1.1 b1.2.1
  ⟨b1.2.2, b2.1, b2.2⟩

theorem findLine_eq_partA (bs : Nat) (d : Bytes) (fo : Nat) (hfo : fo < d.length) :
    findLine bs d fo = partA d bs fo (partB bs d fo).biMEnd (partB bs d fo).tail (partB bs d fo).foNlB := by
  simp only [findLine, partB, blockOffsetAtFileOffset_eq]
  rw [if_neg (by omega)]

theorem partB_spec (d : Bytes) (bs fo : Nat) (hbs : 1 ≤ bs) (hfo : fo < d.length) :
    (partB bs d fo).foNlB = lineEnd d fo ∧ fo % bs ≤ (partB bs d fo).biMEnd ∧ (partB bs d fo).biMEnd + 1 ≤ bs ∧
      fo / bs * bs + (partB bs d fo).biMEnd + 1 ≤ d.length ∧
      Chain bs d.length (fo / bs * bs + (partB bs d fo).biMEnd + 1) (lineEnd d fo + 1) (partB bs d fo).tail := by
  have hn : 0 < d.length := Nat.zero_lt_of_lt hfo
  simp only [partB]
  rcases partB1_cases hbs hfo with ⟨m, h1, h2, hE, hp, _⟩ | ⟨hnext, hE, hp, _⟩
  · rw [hp]
    dsimp only
    rw [hE]
    exact ⟨rfl, h1, h2, (isLineEnd_lineEnd d fo hfo).lt, rfl⟩
  · -- newline B is in a later block, or is the end of the file
    obtain ⟨w1, w2⟩ := walkFwd_spec d bs hbs hn (blockOffsetLast d.length bs + 1 - fo / bs)
      (fo / bs + 1)
      ((le_blockOffsetLast_iff _ _ _ hbs hn).mpr (by rw [Nat.add_one_mul]; exact hnext))
      (Nat.sub_le_sub_left (Nat.le_succ _) _)
    rw [Nat.add_one_mul] at w1 w2
    rw [hp, hE, partB2_false d bs _ _ hbs hn]
    dsimp only
    rw [Nat.add_assoc, Nat.sub_add_cancel hbs]
    exact ⟨w2, Nat.le_sub_one_of_lt (Nat.mod_lt _ hbs), Nat.le_refl _, Nat.le_of_lt hnext, w1⟩

theorem pred_block (fo bs : Nat) (hbs : 1 ≤ bs) (h0 : fo ≠ 0) :
    ((fo - 1) / bs = fo / bs ∧ (fo - 1) % bs + 1 = fo % bs) ∨
      (fo % bs = 0 ∧ fo / bs = (fo - 1) / bs + 1 ∧ (fo - 1) % bs = bs - 1) := by
  have hq := Nat.div_add_mod' fo bs
  have hr : fo % bs < bs := Nat.mod_lt _ hbs
  generalize fo / bs = q at hq ⊢
  generalize fo % bs = r at hq hr ⊢
  subst hq
  rcases Nat.eq_zero_or_pos r with rfl | hr0
  · -- `fo - 1` is the last byte of block `q - 1`
    right
    obtain ⟨q', rfl⟩ : ∃ q', q = q' + 1 := ⟨q - 1, by
      rcases Nat.eq_zero_or_pos q with rfl | h
      · exact absurd (by rw [Nat.zero_mul]) h0
      · omega⟩
    have lo : q' * bs ≤ (q' + 1) * bs + 0 - 1 := by rw [Nat.add_one_mul]; omega
    have hi : (q' + 1) * bs + 0 - 1 < q' * bs + bs := by rw [Nat.add_one_mul]; omega
    rw [div_eq_of_bounds lo hi, mod_eq_of_bounds lo hi, Nat.add_one_mul]
    exact ⟨rfl, rfl, by omega⟩
  · -- `fo - 1` is byte `r - 1` of block `q`
    left
    have lo : q * bs ≤ q * bs + r - 1 := by omega
    have hi : q * bs + r - 1 < q * bs + bs := by omega
    rw [div_eq_of_bounds lo hi, mod_eq_of_bounds lo hi]
    exact ⟨rfl, by omega⟩

theorem scanA_some {d : Bytes} {bs fo i : Nat} (hbs : 1 ≤ bs) (hu : (fo - 1) % bs + 1 = fo % bs)
    (hsc : scanBwd (blockAt d bs (fo / bs)) ((fo - 1) % bs) = some i) :
    i + 1 ≤ fo % bs ∧ lineStart d fo = fo / bs * bs + (i + 1) := by
  obtain ⟨b1, b2, b3⟩ := scanBwd_blockAt_some hu (Nat.le_of_lt (Nat.mod_lt _ hbs)) hsc
  have hq := Nat.div_add_mod' fo bs
  rw [hq] at b3
  exact ⟨b1, IsLineStart.eq
    ⟨Nat.le_trans (Nat.add_le_add_left b1 _) (Nat.le_of_eq hq), Or.inr b2, b3⟩⟩

theorem scanA_none {d : Bytes} {bs fo : Nat} (hbs : 1 ≤ bs) (hu : (fo - 1) % bs + 1 = fo % bs)
    (hsc : scanBwd (blockAt d bs (fo / bs)) ((fo - 1) % bs) = none) :
    ∀ k, fo / bs * bs ≤ k → k < fo → d[k]? ≠ some NL := by
  have := scanBwd_blockAt_none hu (Nat.le_of_lt (Nat.mod_lt _ hbs)) hsc
  rwa [Nat.div_add_mod'] at this

theorem partA_spec (d : Bytes) (bs fo biMEnd : Nat) (tail : List Part) (hbs : 1 ≤ bs)
    (hfo : fo < d.length) (h1 : fo % bs ≤ biMEnd) (h2 : biMEnd + 1 ≤ bs)
    (h3 : fo / bs * bs + biMEnd + 1 ≤ d.length)
    (h4 : Chain bs d.length (fo / bs * bs + biMEnd + 1) (lineEnd d fo + 1) tail) :
    ∃ parts, partA d bs fo biMEnd tail (lineEnd d fo) = .found (lineEnd d fo + 1) parts ∧
      Chain bs d.length (lineStart d fo) (lineEnd d fo + 1) parts := by
  have hS := isLineStart_lineStart d fo
  have hq := Nat.div_add_mod' fo bs
  -- the line from index `b` of the block of `fo` on
  have hhead : ∀ b, b ≤ fo % bs → Chain bs d.length (fo / bs * bs + b) (lineEnd d fo + 1)
      (⟨fo / bs, b, biMEnd + 1⟩ :: tail) :=
    fun b hb => Chain.cons' rfl (by omega) h2 (by omega) (by omega) h4
  have hfin : ∀ line', Chain bs d.length (lineStart d fo) (lineEnd d fo + 1) line' →
      ∃ parts, Res.found (lineFoEnd bs line' + 1) line' = .found (lineEnd d fo + 1) parts ∧
        Chain bs d.length (lineStart d fo) (lineEnd d fo + 1) parts := fun line' hc =>
    ⟨line', by rw [hc.lineFoEnd (hc.ne_nil_of_line hS.le hfo)], hc⟩
  -- A2a with no newline A in the block, and A2b: the line so far starts with the block
  have hwalk : ∀ fuel prior, IsLineStart d (fo / bs * bs) (lineStart d fo) →
      0 < fo / bs → fo / bs ≤ fuel →
      Chain bs d.length (lineStart d fo) (lineEnd d fo + 1)
        (walkBwd d bs fuel (fo / bs - 1) prior (⟨fo / bs, 0, biMEnd + 1⟩ :: tail)) :=
    fun fuel prior hS' hpos hfuel => walkBwd_spec d bs hbs _ _ fuel _ prior _ _ hpos hfuel hS'
      (hhead 0 (Nat.zero_le _))
  simp only [partA, blockOffsetAtFileOffset_eq, blockIndexAtFileOffset_eq]
  by_cases h0 : fo = 0
  · subst h0
    rw [if_pos rfl]
    rw [Nat.le_zero.mp hS.le]
    exact ⟨_, rfl, by simpa using hhead 0 (Nat.le_refl _)⟩
  · rw [if_neg h0]
    rcases pred_block fo bs hbs h0 with ⟨hb, hu⟩ | ⟨hr0, hb, _⟩
    · -- A2a: `fo - 1` is in the same block
      rw [if_pos hb]
      rcases hsc : scanBwd (blockAt d bs (fo / bs)) ((fo - 1) % bs) with _ | i
      · have hS' : IsLineStart d (fo / bs * bs) (lineStart d fo) :=
          hS.shrink (by omega) (scanA_none hbs hu hsc)
        dsimp only
        rw [hb]
        by_cases hq0 : fo / bs = 0
        · rw [if_neg (not_not_intro hq0)]
          have hC := hhead 0 (Nat.zero_le _)
          rw [show fo / bs * bs + 0 = lineStart d fo by have := hS'.le; rw [hq0] at this ⊢; omega]
            at hC
          exact hfin _ hC
        · rw [if_pos hq0]
          exact hfin _ (hwalk _ _ hS' (Nat.pos_of_ne_zero hq0) (Nat.le_refl _))
      · obtain ⟨g1, g2⟩ := scanA_some hbs hu hsc
        have hC := hhead (i + 1) g1
        rw [← g2] at hC
        exact hfin _ hC
    · -- A2b: `fo` is the first byte of its block
      have hpos : 0 < fo / bs := hb ▸ Nat.succ_pos _
      rw [if_neg (by omega), Nat.eq_sub_of_add_eq hb.symm]
      exact hfin _ (hwalk _ _ (by rw [show fo / bs * bs = fo by omega]; exact hS) hpos
        (by omega))

theorem findLine_chain (bs : Nat) (d : Bytes) (fo : Nat) (hbs : 1 ≤ bs) (hfo : fo < d.length) :
    ∃ parts, findLine bs d fo = .found (lineEnd d fo + 1) parts ∧
      Chain bs d.length (lineStart d fo) (lineEnd d fo + 1) parts := by
  obtain ⟨b1, b2, b3, b4, b5⟩ := partB_spec d bs fo hbs hfo
  rw [findLine_eq_partA bs d fo hfo, b1]
  exact partA_spec d bs fo _ _ hbs hfo b2 b3 b4 b5

theorem findLine_done (bs : Nat) (d : Bytes) (fo : Nat) (h : d.length ≤ fo) :
    findLine bs d fo = .done := by
  simp only [findLine]
  rw [if_pos (Or.inr h)]

theorem findLine_at_start (bs : Nat) (d : Bytes) (fo : Nat) (hbs : 1 ≤ bs) (hfo : fo < d.length)
    (hst : IsStart d fo) :
    ∃ parts, findLine bs d fo = .found (lineEnd d fo + 1) parts ∧
      partsBytes d bs parts = (d.drop fo).take (lineEnd d fo + 1 - fo) := by
  obtain ⟨parts, h1, h2⟩ := findLine_chain bs d fo hbs hfo
  exact ⟨parts, h1, by rw [h2.bytes, lineStart_of_isStart hst]⟩

theorem findLineInBlock_ge (bs : Nat) (d : Bytes) (fo : Nat) (h : d.length ≤ fo) :
    findLineInBlock bs d fo = .done := by
  simp only [findLineInBlock]
  rw [if_pos (Or.inr h)]

theorem partAIB_eq (d : Bytes) (bs fo foNlB biMEnd : Nat) (foundB : Bool) (hbs : 1 ≤ bs) :
    partAIB d bs fo foundB foNlB biMEnd =
      if fo / bs ≠ 0 ∧ lineStart d fo ≤ fo / bs * bs then .done
      else if !foundB then .part [⟨fo / bs, lineStart d fo - fo / bs * bs, biMEnd + 1⟩]
      else .found (foNlB + 1) [⟨fo / bs, lineStart d fo - fo / bs * bs, biMEnd + 1⟩] := by
  have hS := isLineStart_lineStart d fo
  simp only [partAIB, blockOffsetAtFileOffset_eq, blockIndexAtFileOffset_eq]
  by_cases h0 : fo = 0
  · subst h0
    have hc : ¬ (0 / bs ≠ 0 ∧ lineStart d 0 ≤ 0 / bs * bs) := fun h => h.1 (Nat.zero_div _)
    rw [if_pos rfl, if_neg hc, Nat.le_zero.mp hS.le, Nat.zero_sub, Nat.zero_mod]
  · rw [if_neg h0]
    rcases pred_block fo bs hbs h0 with ⟨hb, hu⟩ | ⟨hr0, hb, _⟩
    · rw [if_neg (not_not_intro hb)]
      rcases hsc : scanBwd (blockAt d bs (fo / bs)) ((fo - 1) % bs) with _ | i
      · have hS' := (hS.shrink (Nat.div_mul_le_self _ _) (scanA_none hbs hu hsc)).le
        dsimp only
        by_cases hq0 : (fo - 1) / bs = 0
        · have hc : ¬ (fo / bs ≠ 0 ∧ lineStart d fo ≤ fo / bs * bs) := fun h => h.1 (hb ▸ hq0)
          simp only [hq0, ↓reduceIte]
          rw [if_neg hc]
          rw [← hb, hq0, Nat.zero_mul] at hS' ⊢
          rw [Nat.le_zero.mp hS']
        · simp only [hq0, ↓reduceIte]
          rw [if_pos ⟨hb ▸ hq0, hS'⟩]
      · obtain ⟨_, g2⟩ := scanA_some hbs hu hsc
        have hc : ¬ (fo / bs ≠ 0 ∧ lineStart d fo ≤ fo / bs * bs) := fun h => by omega
        rw [if_neg hc, g2, Nat.add_sub_cancel_left]
    · have hq := Nat.div_add_mod' fo bs
      have hc : fo / bs ≠ 0 ∧ lineStart d fo ≤ fo / bs * bs :=
        ⟨hb ▸ Nat.succ_ne_zero _, Nat.le_trans hS.le (by omega)⟩
      rw [if_pos (show (fo - 1) / bs ≠ fo / bs by omega), if_pos hc]

/-- `.done` also for a line that starts exactly at the first byte of a block other than block zero:
newline A is then the last byte of the block before, which `find_line_in_block` does not read.
A `.part` stops at `fo`, not at the end of the block (`partB1IB`). -/
theorem findLineInBlock_eq (bs : Nat) (d : Bytes) (fo : Nat) (hbs : 1 ≤ bs) (hfo : fo < d.length) :
    findLineInBlock bs d fo =
      if fo / bs ≠ 0 ∧ lineStart d fo ≤ fo / bs * bs then .done
      else if lineEnd d fo < fo / bs * bs + bs then
        .found (lineEnd d fo + 1)
          [⟨fo / bs, lineStart d fo - fo / bs * bs, lineEnd d fo + 1 - fo / bs * bs⟩]
      else .part [⟨fo / bs, lineStart d fo - fo / bs * bs, fo % bs + 1⟩] := by
  simp only [findLineInBlock]
  rw [if_neg (by omega), partAIB_eq d bs fo _ _ _ hbs]
  rcases partB1_cases hbs hfo with ⟨m, _, h2, hm, _, hp⟩ | ⟨hnext, hE, _, hp⟩
  · rw [hp, if_pos (show lineEnd d fo < _ by omega),
      show lineEnd d fo + 1 - fo / bs * bs = m + 1 by omega]
    rfl
  · have := (isLineEnd_lineEnd d _ hnext).le
    rw [hp, if_neg (show ¬ lineEnd d fo < _ by omega)]
    rfl

theorem findLineInBlock_cut (bs : Nat) (d : Bytes) (fo : Nat) (hbs : 1 ≤ bs) (hfo : fo < d.length)
    (hS : fo / bs = 0 ∨ fo / bs * bs < lineStart d fo) (hE : fo / bs * bs + bs ≤ lineEnd d fo) :
    findLineInBlock bs d fo = .part [⟨fo / bs, lineStart d fo - fo / bs * bs, fo % bs + 1⟩] := by
  rw [findLineInBlock_eq bs d fo hbs hfo, if_neg (fun h => hS.elim h.1 (Nat.not_lt.mpr h.2)),
    if_neg (Nat.not_lt.mpr hE)]

theorem findLineInBlock_done_iff (bs : Nat) (d : Bytes) (fo : Nat) (hbs : 1 ≤ bs) :
    findLineInBlock bs d fo = .done ↔
      d.length ≤ fo ∨ (fo / bs ≠ 0 ∧ lineStart d fo ≤ fo / bs * bs) := by
  rcases Nat.lt_or_ge fo d.length with hfo | hfo
  · rw [findLineInBlock_eq bs d fo hbs hfo]
    refine ⟨fun h => .inr ?_, fun h => if_pos (h.resolve_left (by omega))⟩
    split at h
    · assumption
    · split at h <;> cases h
  · exact ⟨fun _ => .inl hfo, fun _ => findLineInBlock_ge bs d fo hfo⟩

/-- what `.found n parts` of `findLineInBlock bs d fo` tells -/
structure FoundIB (bs : Nat) (d : Bytes) (fo n : Nat) (parts : List Part) : Prop where
  inFile : fo < d.length
  next : n = lineEnd d fo + 1
  start_ge : fo / bs * bs ≤ lineStart d fo
  end_lt : lineEnd d fo < fo / bs * bs + bs
  parts_eq : parts = [⟨fo / bs, lineStart d fo - fo / bs * bs, lineEnd d fo + 1 - fo / bs * bs⟩]
  chain : Chain bs d.length (lineStart d fo) (lineEnd d fo + 1) parts

theorem findLineInBlock_found (bs : Nat) (d : Bytes) (fo n : Nat) (parts : List Part) (hbs : 1 ≤ bs)
    (h : findLineInBlock bs d fo = .found n parts) : FoundIB bs d fo n parts := by
  rcases Nat.lt_or_ge fo d.length with hfo | hfo
  · rw [findLineInBlock_eq bs d fo hbs hfo] at h
    have hS := (isLineStart_lineStart d fo).le
    obtain ⟨hE, hEn, _⟩ := isLineEnd_lineEnd d fo hfo
    split at h
    · cases h
    · rename_i hnd
      split at h
      · rename_i hEb
        injection h with hn hp
        subst hn hp
        have hS' : fo / bs * bs ≤ lineStart d fo := by
          rcases Nat.eq_zero_or_pos (fo / bs) with e | e
          · rw [e, Nat.zero_mul]; exact Nat.zero_le _
          · exact Nat.le_of_lt (Nat.not_le.mp fun hle => hnd ⟨Nat.ne_of_gt e, hle⟩)
        exact ⟨hfo, rfl, hS', hEb, rfl, Chain.cons' (by omega) (by omega) (by omega) (by omega) (by omega) rfl⟩
      · cases h
  · rw [findLineInBlock_ge bs d fo hfo] at h; cases h

theorem findLineInBlock_part_lt {bs : Nat} {d : Bytes} {fo : Nat} {parts : List Part}
    (h : findLineInBlock bs d fo = .part parts) : fo < d.length :=
  Nat.lt_of_not_le fun hge => by rw [findLineInBlock_ge bs d fo hge] at h; cases h

theorem findLineInBlock_part (bs : Nat) (d : Bytes) (fo : Nat) (parts : List Part) (hbs : 1 ≤ bs)
    (h : findLineInBlock bs d fo = .part parts) :
    (fo / bs + 1) * bs ≤ lineEnd d fo ∧
      parts = [⟨fo / bs, lineStart d fo - fo / bs * bs, fo % bs + 1⟩] := by
  rw [findLineInBlock_eq bs d fo hbs (findLineInBlock_part_lt h)] at h
  split at h
  · cases h
  · split at h
    · cases h
    · injection h with hp
      rw [Nat.add_one_mul]
      exact ⟨by omega, hp.symm⟩

end S4V.Lemmas.Lines
