/-
GENERATED by tools/mk_regexrows.py from harness/src/rgx_rows.txt (gen/gen_regex.py) — regenerate, do not edit.

C04, regex slice: rows 0–9 of `DATETIME_PARSE_DATAS`. `rowsA` holds the literals of their certificates (`RowFacts`,
`S4V.Lemmas.RegexTable`), `certsA` is ONE kernel evaluation for all of them, and `certN`, `factsN` are its components for row N; a row
without an end-to-end theorem (the epoch rows; a row that failed `catOK`) has no certificate and evaluates its own `factsN`. `C04_rowN_search`: for EVERY
selection of entries of the row's catalogue (`rowBodyE` / `rowBodyP`, `S4V.Lemmas.RegexAuto`) and of concrete words, and every
admissible tail, `search` matches at 0, spans exactly the words (and the byte of a final group), and every capture group spans
the word of its item.
-/
import S4V.Gen.Regex
import S4V.Lemmas.RegexTable

namespace S4V.Props.RegexCapture3
open S4V.Model.Regex S4V.Gen.Regex S4V.Lemmas.RegexStep S4V.Lemmas.RegexSym S4V.Lemmas.RegexRows S4V.Lemmas.RegexAuto
open S4V.Lemmas.RegexE2E S4V.Lemmas.Utf8 S4V.Gen.TimeTables

def rowsA : List RowFacts := [
  { row := row0, counts := [(1, 1), (3, 3), (2, 2), (12, 12), (2, 2), (37, 49), (2, 2), (25, 25), (2, 2), (1, 1), (2, 2), (2, 2), (1, 1), (9, 9), (1, 1)], digest := 54108925,
    line := some "[2000/01/01 00:00:01.123] ../source3/smbd/oplock.c:1340(init_oplocks)".toUTF8.toList, fits := true },
  { row := row1, counts := [(1, 1), (3, 3), (2, 2), (12, 12), (2, 2), (37, 49), (2, 2), (25, 25), (2, 2), (1, 1), (2, 2), (2, 2), (1, 1), (9, 9), (2, 2), (1, 1), (1, 1)], digest := 764503691,
    line := some "(2000/01/01 00:00:02.1 -1100) ../source3/smbd/oplock.c:1340(init_oplocks)".toUTF8.toList, fits := true },
  { row := row2, counts := [(1, 1), (3, 3), (2, 2), (12, 12), (2, 2), (37, 49), (2, 2), (25, 25), (2, 2), (1, 1), (2, 2), (2, 2), (1, 1), (9, 9), (2, 2), (1, 1), (1, 1)], digest := 821566189,
    line := some "{2000/01/01 00:00:03.123456789 -11:30} ../source3/smbd/oplock.c:1340(init_oplocks)".toUTF8.toList, fits := true },
  { row := row3, counts := [(1, 1), (3, 3), (2, 2), (12, 12), (2, 2), (37, 49), (2, 2), (25, 25), (2, 2), (1, 1), (2, 2), (2, 2), (1, 1), (9, 9), (2, 2), (1, 1), (1, 1)], digest := 723368652,
    line := some "(2000/01/01 00:00:04.123456789 -11) ../source3/smbd/oplock.c:1340(init_oplocks)".toUTF8.toList, fits := true },
  { row := row4, counts := [(1, 1), (3, 3), (2, 2), (12, 12), (2, 2), (37, 49), (2, 2), (25, 25), (2, 2), (1, 1), (2, 2), (2, 2), (1, 1), (9, 9), (2, 2), (392, 392), (1, 1)], digest := 177131344,
    line := some "(2000/01/01 00:00:05.123456789 VLAT) ../source3/smbd/oplock.c:1340(init_oplocks)".toUTF8.toList, fits := true },
  { row := row5, counts := [(1, 1), (3, 3), (2, 2), (12, 12), (2, 2), (37, 49), (2, 2), (25, 25), (2, 2), (1, 1), (2, 2), (2, 2), (1, 1), (9, 9), (1, 1), (2, 2), (20, 20), (1, 1)], digest := 910542370,
    line := some "[2020/03/05 12:17:59.631000, FOO] ../source3/smbd/oplock.c:1340(init_oplocks)".toUTF8.toList, fits := false },
  { row := row6, counts := [(1, 1), (49, 49), (2, 2), (72, 72), (2, 2), (1, 1), (2, 2), (25, 25), (2, 2), (1, 1), (2, 2), (2, 2), (1, 1)], digest := 256276170,
    line := some "[22-Feb-17 21:24:20] Section [ALLOWED-CLIENTS] Invalid entry 192.168.0.0-192.168.0.255 in ini file, ignored".toUTF8.toList, fits := true },
  { row := row7, counts := [(1, 1), (3, 3), (1, 1), (2, 2), (3, 3), (2, 2), (12, 12), (2, 2), (37, 49), (2, 2), (25, 25), (2, 2), (1, 1), (2, 2), (2, 2), (1, 1), (9, 9), (2, 2), (1, 1)], digest := 100437604,
    line := some "<31>2023-01-06T14:35:00.506282-08:00 (host) (192.168.0.1) [unbound[63893] daemon:debug] [63893]:  [63893:0] debug: cache memory msg=76002 rrset=120560 infra=180".toUTF8.toList, fits := true },
  { row := row8, counts := [(1, 1), (3, 3), (1, 1), (2, 2), (3, 3), (2, 2), (12, 12), (2, 2), (37, 49), (2, 2), (25, 25), (2, 2), (1, 1), (2, 2), (2, 2), (1, 1), (9, 9), (2, 2), (1, 1)], digest := 56063696,
    line := some "<31>2023-01-06T14:35:00.506282+0800 (host) (192.168.0.1) [unbound[63893] daemon:debug] [63893]:  [63893:0] debug: cache memory msg=76002 rrset=120560 infra=1806".toUTF8.toList, fits := true },
  { row := row9, counts := [(1, 1), (3, 3), (1, 1), (2, 2), (3, 3), (2, 2), (12, 12), (2, 2), (37, 49), (2, 2), (25, 25), (2, 2), (1, 1), (2, 2), (2, 2), (1, 1), (9, 9), (2, 2), (1, 1)], digest := 870261193,
    line := some "<31>2023-01-06T14:35:00.506282+08 (host) (192.168.0.1) [unbound[63893] daemon:debug] [63893]:  [63893:0] debug: cache memory msg=76002 rrset=120560 infra=18065 ".toUTF8.toList, fits := true }]

theorem certsA : ∀ i (h : i < rowsA.length), rowsA[i].Cert :=
  RowFacts.certs_of_all (by
    unfold rowsA
    rw [toUTF8_toList_ofList, toUTF8_toList_ofList, toUTF8_toList_ofList, toUTF8_toList_ofList, toUTF8_toList_ofList, toUTF8_toList_ofList, toUTF8_toList_ofList, toUTF8_toList_ofList, toUTF8_toList_ofList, toUTF8_toList_ofList]
    decide +kernel)

/-! ### row 0 (year:1,month:2,day:3,hour:4,minute:5,second:6,fractional:7): head `bol`, end `plain` -/

theorem cert0 : (rowsA[0]'(by decide)).Cert := certsA 0 (by decide)

theorem facts0 : keptCounts (rowBodyP re0 1) = [(1, 1), (3, 3), (2, 2), (12, 12), (2, 2), (37, 49), (2, 2), (25, 25), (2, 2), (1, 1), (2, 2), (2, 2), (1, 1), (9, 9), (1, 1)] ∧
    catDigest (rowBodyP re0 1) = 54108925 ∧
    splitsL (rowBodyP re0 1) "[2000/01/01 00:00:01.123] ../source3/smbd/oplock.c:1340(init_oplocks)".toUTF8.toList = true := cert0.facts

theorem C04_row0_search (sel : Sel) (hv : Valid (rowBodyP re0 1) sel) (tail : List UInt8) (ht : TailF (autoTail re0) tail) :
    RowResult row0.re (flat sel ++ tail) (flat sel).length [] sel :=
  auto_P (re := re0) (by rfl) rfl sel hv tail ht

/-! ### row 1 (year:1,month:2,day:3,hour:4,minute:5,second:6,fractional:7,tz:8): head `bol`, end `plain` -/

theorem cert1 : (rowsA[1]'(by decide)).Cert := certsA 1 (by decide)

theorem facts1 : keptCounts (rowBodyP re1 1) = [(1, 1), (3, 3), (2, 2), (12, 12), (2, 2), (37, 49), (2, 2), (25, 25), (2, 2), (1, 1), (2, 2), (2, 2), (1, 1), (9, 9), (2, 2), (1, 1), (1, 1)] ∧
    catDigest (rowBodyP re1 1) = 764503691 ∧
    splitsL (rowBodyP re1 1) "(2000/01/01 00:00:02.1 -1100) ../source3/smbd/oplock.c:1340(init_oplocks)".toUTF8.toList = true := cert1.facts

theorem C04_row1_search (sel : Sel) (hv : Valid (rowBodyP re1 1) sel) (tail : List UInt8) (ht : TailF (autoTail re1) tail) :
    RowResult row1.re (flat sel ++ tail) (flat sel).length [] sel :=
  auto_P (re := re1) (by rfl) rfl sel hv tail ht

/-! ### row 2 (year:1,month:2,day:3,hour:4,minute:5,second:6,fractional:7,tz:8): head `bol`, end `plain` -/

theorem cert2 : (rowsA[2]'(by decide)).Cert := certsA 2 (by decide)

theorem facts2 : keptCounts (rowBodyP re2 1) = [(1, 1), (3, 3), (2, 2), (12, 12), (2, 2), (37, 49), (2, 2), (25, 25), (2, 2), (1, 1), (2, 2), (2, 2), (1, 1), (9, 9), (2, 2), (1, 1), (1, 1)] ∧
    catDigest (rowBodyP re2 1) = 821566189 ∧
    splitsL (rowBodyP re2 1) "{2000/01/01 00:00:03.123456789 -11:30} ../source3/smbd/oplock.c:1340(init_oplocks)".toUTF8.toList = true := cert2.facts

theorem C04_row2_search (sel : Sel) (hv : Valid (rowBodyP re2 1) sel) (tail : List UInt8) (ht : TailF (autoTail re2) tail) :
    RowResult row2.re (flat sel ++ tail) (flat sel).length [] sel :=
  auto_P (re := re2) (by rfl) rfl sel hv tail ht

/-! ### row 3 (year:1,month:2,day:3,hour:4,minute:5,second:6,fractional:7,tz:8): head `bol`, end `plain` -/

theorem cert3 : (rowsA[3]'(by decide)).Cert := certsA 3 (by decide)

theorem facts3 : keptCounts (rowBodyP re3 1) = [(1, 1), (3, 3), (2, 2), (12, 12), (2, 2), (37, 49), (2, 2), (25, 25), (2, 2), (1, 1), (2, 2), (2, 2), (1, 1), (9, 9), (2, 2), (1, 1), (1, 1)] ∧
    catDigest (rowBodyP re3 1) = 723368652 ∧
    splitsL (rowBodyP re3 1) "(2000/01/01 00:00:04.123456789 -11) ../source3/smbd/oplock.c:1340(init_oplocks)".toUTF8.toList = true := cert3.facts

theorem C04_row3_search (sel : Sel) (hv : Valid (rowBodyP re3 1) sel) (tail : List UInt8) (ht : TailF (autoTail re3) tail) :
    RowResult row3.re (flat sel ++ tail) (flat sel).length [] sel :=
  auto_P (re := re3) (by rfl) rfl sel hv tail ht

/-! ### row 4 (year:1,month:2,day:3,hour:4,minute:5,second:6,fractional:7,tz:8): head `bol`, end `plain` -/

theorem cert4 : (rowsA[4]'(by decide)).Cert := certsA 4 (by decide)

theorem facts4 : keptCounts (rowBodyP re4 1) = [(1, 1), (3, 3), (2, 2), (12, 12), (2, 2), (37, 49), (2, 2), (25, 25), (2, 2), (1, 1), (2, 2), (2, 2), (1, 1), (9, 9), (2, 2), (392, 392), (1, 1)] ∧
    catDigest (rowBodyP re4 1) = 177131344 ∧
    splitsL (rowBodyP re4 1) "(2000/01/01 00:00:05.123456789 VLAT) ../source3/smbd/oplock.c:1340(init_oplocks)".toUTF8.toList = true := cert4.facts

theorem C04_row4_search (sel : Sel) (hv : Valid (rowBodyP re4 1) sel) (tail : List UInt8) (ht : TailF (autoTail re4) tail) :
    RowResult row4.re (flat sel ++ tail) (flat sel).length [] sel :=
  auto_P (re := re4) (by rfl) rfl sel hv tail ht

/-! ### row 5 (year:1,month:2,day:3,hour:4,minute:5,second:6,fractional:7): head `bol`, end `plain` -/

theorem cert5 : (rowsA[5]'(by decide)).Cert := certsA 5 (by decide)

theorem facts5 : keptCounts (rowBodyP re5 1) = [(1, 1), (3, 3), (2, 2), (12, 12), (2, 2), (37, 49), (2, 2), (25, 25), (2, 2), (1, 1), (2, 2), (2, 2), (1, 1), (9, 9), (1, 1), (2, 2), (20, 20), (1, 1)] ∧
    catDigest (rowBodyP re5 1) = 910542370 ∧
    splitsL (rowBodyP re5 1) "[2020/03/05 12:17:59.631000, FOO] ../source3/smbd/oplock.c:1340(init_oplocks)".toUTF8.toList = true := cert5.facts

theorem C04_row5_search (sel : Sel) (hv : Valid (rowBodyP re5 1) sel) (tail : List UInt8) (ht : TailF (autoTail re5) tail) :
    RowResult row5.re (flat sel ++ tail) (flat sel).length [] sel :=
  auto_P (re := re5) (by rfl) rfl sel hv tail ht

/-! ### row 6 (day:1,month:2,year:4,hour:5,minute:6,second:7): head `bol`, end `plain` -/

theorem cert6 : (rowsA[6]'(by decide)).Cert := certsA 6 (by decide)

theorem facts6 : keptCounts (rowBodyP re6 1) = [(1, 1), (49, 49), (2, 2), (72, 72), (2, 2), (1, 1), (2, 2), (25, 25), (2, 2), (1, 1), (2, 2), (2, 2), (1, 1)] ∧
    catDigest (rowBodyP re6 1) = 256276170 ∧
    splitsL (rowBodyP re6 1) "[22-Feb-17 21:24:20] Section [ALLOWED-CLIENTS] Invalid entry 192.168.0.0-192.168.0.255 in ini file, ignored".toUTF8.toList = true := cert6.facts

theorem C04_row6_search (sel : Sel) (hv : Valid (rowBodyP re6 1) sel) (tail : List UInt8) (ht : TailF (autoTail re6) tail) :
    RowResult row6.re (flat sel ++ tail) (flat sel).length [] sel :=
  auto_P (re := re6) (by rfl) rfl sel hv tail ht

/-! ### row 7 (year:1,month:2,day:3,hour:4,minute:5,second:6,fractional:7,tz:8): head `bol`, end `(?P<g>[class]|$)` -/

theorem cert7 : (rowsA[7]'(by decide)).Cert := certsA 7 (by decide)

theorem facts7 : keptCounts (rowBodyE re7 1) = [(1, 1), (3, 3), (1, 1), (2, 2), (3, 3), (2, 2), (12, 12), (2, 2), (37, 49), (2, 2), (25, 25), (2, 2), (1, 1), (2, 2), (2, 2), (1, 1), (9, 9), (2, 2), (1, 1)] ∧
    catDigest (rowBodyE re7 1) = 100437604 ∧
    splitsL (rowBodyE re7 1) "<31>2023-01-06T14:35:00.506282-08:00 (host) (192.168.0.1) [unbound[63893] daemon:debug] [63893]:  [63893:0] debug: cache memory msg=76002 rrset=120560 infra=180".toUTF8.toList = true := cert7.facts

theorem C04_row7_search (sel : Sel) (hv : Valid (rowBodyE re7 1) sel) (tail : List UInt8) (ht : TailIn (rowEndSym re7) tail) :
    RowResult row7.re (flat sel ++ tail) ((flat sel).length + tailLen tail) [] (sel ++ [rowEndEw re7 tail]) :=
  auto_E (re := re7) (by rfl) cert7.headOk sel hv tail ht

/-! ### row 8 (year:1,month:2,day:3,hour:4,minute:5,second:6,fractional:7,tz:8): head `bol`, end `(?P<g>[class]|$)` -/

theorem cert8 : (rowsA[8]'(by decide)).Cert := certsA 8 (by decide)

theorem facts8 : keptCounts (rowBodyE re8 1) = [(1, 1), (3, 3), (1, 1), (2, 2), (3, 3), (2, 2), (12, 12), (2, 2), (37, 49), (2, 2), (25, 25), (2, 2), (1, 1), (2, 2), (2, 2), (1, 1), (9, 9), (2, 2), (1, 1)] ∧
    catDigest (rowBodyE re8 1) = 56063696 ∧
    splitsL (rowBodyE re8 1) "<31>2023-01-06T14:35:00.506282+0800 (host) (192.168.0.1) [unbound[63893] daemon:debug] [63893]:  [63893:0] debug: cache memory msg=76002 rrset=120560 infra=1806".toUTF8.toList = true := cert8.facts

theorem C04_row8_search (sel : Sel) (hv : Valid (rowBodyE re8 1) sel) (tail : List UInt8) (ht : TailIn (rowEndSym re8) tail) :
    RowResult row8.re (flat sel ++ tail) ((flat sel).length + tailLen tail) [] (sel ++ [rowEndEw re8 tail]) :=
  auto_E (re := re8) (by rfl) cert8.headOk sel hv tail ht

/-! ### row 9 (year:1,month:2,day:3,hour:4,minute:5,second:6,fractional:7,tz:8): head `bol`, end `(?P<g>[class]|$)` -/

theorem cert9 : (rowsA[9]'(by decide)).Cert := certsA 9 (by decide)

theorem facts9 : keptCounts (rowBodyE re9 1) = [(1, 1), (3, 3), (1, 1), (2, 2), (3, 3), (2, 2), (12, 12), (2, 2), (37, 49), (2, 2), (25, 25), (2, 2), (1, 1), (2, 2), (2, 2), (1, 1), (9, 9), (2, 2), (1, 1)] ∧
    catDigest (rowBodyE re9 1) = 870261193 ∧
    splitsL (rowBodyE re9 1) "<31>2023-01-06T14:35:00.506282+08 (host) (192.168.0.1) [unbound[63893] daemon:debug] [63893]:  [63893:0] debug: cache memory msg=76002 rrset=120560 infra=18065 ".toUTF8.toList = true := cert9.facts

theorem C04_row9_search (sel : Sel) (hv : Valid (rowBodyE re9 1) sel) (tail : List UInt8) (ht : TailIn (rowEndSym re9) tail) :
    RowResult row9.re (flat sel ++ tail) ((flat sel).length + tailLen tail) [] (sel ++ [rowEndEw re9 tail]) :=
  auto_E (re := re9) (by rfl) cert9.headOk sel hv tail ht

end S4V.Props.RegexCapture3
