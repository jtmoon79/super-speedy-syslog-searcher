/-
C04, regex slice — capture theorems for the ISO 8601 family (rows 79, 76, 75, 77, 78 of `DATETIME_PARSE_DATAS`), over the
symbolic run of `S4V.Lemmas.RegexSym` (one Boolean check `rowOk` per row, evaluated in the kernel, gives the matcher's run for
EVERY choice of catalogue words) and the hand-written catalogues of `S4V.Lemmas.RegexRows`.

`IsoFields` = year 1970–2099, month 01–12, day 1–31 as `08` / `8` / ` 8`, hour 00–24, minute 00–59, second 00–60, separators:
nothing/`-`/`/`/space between year and month, `-`/`/`/space between month and day, space/`T`/`-`/`:` before the time, optional `:`s.
* `C04_iso_search`            row 79: match at 0, span, every group on its field; tail empty or ASCII non-digit
* `C04_iso_captures`          hence the `Captures` of the post-capture model are the rendered fields
* `C04_iso_end_to_end`        hence (`C04_normalise_parse`, hour ≤ 23, real date, whole-minute fallback offset
                              within ±24 h: `RegexZones.fb_piece`) the instant is `instantNs` in the fallback zone
* `C04_iso_zc_search/_captures`, `C04_iso_z_search`, `C04_iso_zp_search`   rows 76 / 75 / 77: `[ ]?±HH:MM`, `±HHMM`, `±HH`
* `C04_iso_Z_search/_captures`  row 78: every abbreviation of the row's alternation (`zoneAlts`, = the keys of the
                              generated zone table: `zoneAlts_eq_table`), `PETT`/`UTC`/`WITA` included
False statements (witnesses replayed through the real regex / pipeline with `s4h rgx|time --replay`: same answers)
* `C04_iso_any_tail_full_false`        a digit after the seconds: no match (`C04_iso_invalid_utf8_tail`: nor before bytes
                                       that are not UTF-8) — the tail condition is needed
* `C04_iso_hour24_full_false`          hour `24` is matched by the regex but yields no instant
* `C04_rfc3164_padded_day_full_false`  after a greedy `[[:blank:]]+` the pad of ` 1` belongs to the blanks
Row 71 (RFC 3339: the same core, `[.,]`, 1–9 fraction digits, `[[:blank:]]?±HH:MM`) is in `S4V.Props.RegexCaptureRfc3339`.
The other notations (RFC 5424 / 3164 / 2822, epoch, ad-hoc) are in `S4V.Props.RegexCapture2Auto`.
-/
import S4V.Gen.Regex
import S4V.Lemmas.RegexEval
import S4V.Props.RegexCapture
import S4V.Props.TimeSpec
import S4V.Lemmas.RegexZones

namespace S4V.Props.RegexCapture2
open S4V.Model.Regex S4V.Gen.Regex S4V.Lemmas.RegexStep S4V.Lemmas.RegexSym S4V.Lemmas.RegexRows
open S4V.Lemmas.RegexAuto (rowResult_end step_body_last head_bol endItem endPiece_ok keepsAll pieceOk_of_keepsAll rowOkF_eq)
open S4V.Model.DtParse (dchar Captures capturesToInstant)
open S4V.Lemmas.DtParse (dec2 dec4)
open S4V.Props.RegexCapture (capturesOf capField_eq sepD colonQ blankQ dig)
open S4V.Gen.TimeTables S4V.Model.Time S4V.Model.DtParse S4V.Lemmas.DtParse S4V.Props.TimeSpec S4V.Lemmas.RegexZones

def sepT : Re := .rep (.cls [(32,32),(45,45),(58,58),(84,84)]) 0 (some 1)
/-- `([[:^digit:]]|$)` as group `g` -/
def endDigit (g : Nat) : Re := endItem g [(0,47),(58,55295),(57344,1114111)]

/-- day renderings: `08`, `8`, ` 8` -/
inductive DayForm where
  | d2 | d1 | sp
deriving DecidableEq, Repr

def dayW (f : DayForm) (D : Nat) : List UInt8 :=
  match f with
  | .d2 => dec2 D
  | .d1 => [dchar D]
  | .sp => [32, dchar D]

def DayOK (f : DayForm) (D : Nat) : Prop := 1 ≤ D ∧ D ≤ 31 ∧ (f ≠ .d2 → D ≤ 9)

def dayWords : List (List UInt8) := day2Words ++ day1Words ++ daySpWords

theorem dayW_mem {f : DayForm} {D : Nat} (h : DayOK f D) : dayW f D ∈ dayWords := by
  obtain ⟨h1, h2, h3⟩ := h
  simp only [dayWords, day2Words, day1Words, daySpWords, List.mem_append, List.mem_map, List.mem_range'_1]
  cases f with
  | d2 => exact Or.inl (Or.inl ⟨D, by omega, rfl⟩)
  | d1 => exact Or.inl (Or.inr ⟨D, by have := h3 (by simp); omega, rfl⟩)
  | sp => exact Or.inr ⟨D, by have := h3 (by simp); omega, rfl⟩

/-! ### the ISO 8601 core `YYYY MM DD HH MM SS` with optional separators (groups 1–6), shared by rows 70–79 and 7–15 -/

/-- between the year and the seconds -/
def isoMid : List Piece := [
  ⟨sepD, plain (cws [[], [45], [47], [32]])⟩,
  ⟨n3, grp 2 (cws monthWords)⟩, ⟨sepD, plain (cws [[45], [47], [32]])⟩,
  ⟨n5, grp 3 (cws dayWords)⟩, ⟨sepT, plain (cws [[32], [84], [45], [58]])⟩,
  ⟨n7, grp 4 (cws hourWords)⟩, ⟨colonQ, plain (cws [[], [58]])⟩,
  ⟨n8, grp 5 [minuteWord]⟩, ⟨colonQ, plain (cws [[], [58]])⟩]

def secP : Piece := ⟨n10, grp 6 secondWords⟩

/-- what follows the year -/
def isoRest : List Piece := isoMid ++ [secP]

def isoCore : List Piece := ⟨n1, grp 1 yearWords⟩ :: isoRest

/-- The seconds are never empty, so what can follow the pieces before them is the same in every row: they are checked
once. Left to check per row: the year piece, the seconds and what comes after them. -/
theorem rowOk_iso {y : Piece} {ps : List Piece} {tF : Sym}
    (h : (pieceOk (follow (isoRest ++ ps) tF) y && rowOk (secP :: ps) tF) = true) : rowOk (y :: isoRest ++ ps) tF = true := by
  have mid : rowOk isoMid (follow (secP :: ps) tF) = true :=
    show rowOk isoMid (firsts secP.dom ++ []) = true by rw [← rowOkF_eq]; decide +kernel
  simpa [rowOk, isoRest, rowOk_append, mid] using h

/-- field values and separators of one rendering -/
structure IsoFields where
  Y : Nat
  M : Nat
  D : Nat
  df : DayForm
  H : Nat
  N : Nat
  S : Nat
  /-- between year and month: nothing, `-`, `/` or a space -/
  s1 : List UInt8
  /-- between month and day: `-`, `/` or a space -/
  s2 : List UInt8
  /-- between date and time: space, `T`, `-` or `:` -/
  sT : List UInt8
  /-- nothing or `:` -/
  c1 : List UInt8
  c2 : List UInt8

def IsoFields.OK (x : IsoFields) : Prop :=
  (1970 ≤ x.Y ∧ x.Y ≤ 2099) ∧ (1 ≤ x.M ∧ x.M ≤ 12) ∧ DayOK x.df x.D ∧ x.H ≤ 24 ∧ x.N ≤ 59 ∧ x.S ≤ 60 ∧
  x.s1 ∈ [[], [45], [47], [32]] ∧ x.s2 ∈ [[45], [47], [32]] ∧ x.sT ∈ [[32], [84], [45], [58]] ∧
  x.c1 ∈ [[], [58]] ∧ x.c2 ∈ [[], [58]]

def isoSel (x : IsoFields) : Sel := [ySel 1 x.Y, wSel none x.s1, wSel (some 2) (dec2 x.M), wSel none x.s2,
  wSel (some 3) (dayW x.df x.D), wSel none x.sT, wSel (some 4) (dec2 x.H), wSel none x.c1,
  symSel (some 5) minuteWord (dec2 x.N), wSel none x.c2, sSel 6 x.S]

def isoText (x : IsoFields) : List UInt8 :=
  dec4 x.Y ++ (x.s1 ++ (dec2 x.M ++ (x.s2 ++ (dayW x.df x.D ++ (x.sT ++ (dec2 x.H ++ (x.c1 ++ (dec2 x.N ++ (x.c2 ++ dec2 x.S)))))))))

theorem flat_isoSel (x : IsoFields) : flat (isoSel x) = isoText x := by
  simp [isoSel, flat, isoText, ySel, symSel, wSel, sSel_word]

theorem isoSel_ok (x : IsoFields) (h : x.OK) : AllOK isoCore (isoSel x) := by
  obtain ⟨hY, hM, hD, hH, hN, hS, h1, h2, hT, hc1, hc2⟩ := h
  refine ⟨ewOK_year hY, ewOK_w_plain h1, ewOK_w_grp ?_, ewOK_w_plain h2, ewOK_w_grp (dayW_mem hD), ewOK_w_plain hT,
    ewOK_w_grp ?_, ewOK_w_plain hc1, ewOK_sym_grp (by simp) (conc_minute hN), ewOK_w_plain hc2, ewOK_second hS, trivial⟩
  · simp only [monthWords, List.mem_map, List.mem_range'_1]; exact ⟨x.M, by omega, rfl⟩
  · simp only [hourWords, List.mem_map, List.mem_range'_1]; exact ⟨x.H, by omega, rfl⟩

def isoCaptures (x : IsoFields) : Captures :=
  { year := some (dec4 x.Y), month := some (dec2 x.M), day := some (dayW x.df x.D), hour := some (dec2 x.H),
    minute := some (dec2 x.N), second := some (dec2 x.S) }

theorem selText_isoSel (x : IsoFields) :
    selText 1 (isoSel x) = some (dec4 x.Y) ∧ selText 2 (isoSel x) = some (dec2 x.M) ∧
    selText 3 (isoSel x) = some (dayW x.df x.D) ∧ selText 4 (isoSel x) = some (dec2 x.H) ∧
    selText 5 (isoSel x) = some (dec2 x.N) ∧ selText 6 (isoSel x) = some (dec2 x.S) := by
  simp [isoSel, selText, capGet, sliceOf, dec4, dec2, minuteWord]

/-! ### row 79: ISO 8601 date-time without fraction and zone -/

theorem re79_eq : re79 = catL (.bol :: (isoCore.map Piece.item ++ [endDigit 7])) := by rfl

theorem ok79 : rowOk isoCore nonDigit = true := rowOk_iso (ps := []) (by decide +kernel)

/-- **search on `YYYY-MM-DD HH:MM:SS`** (row 79): for every field tuple and separator choice in range and every
tail that is empty or starts with an ASCII non-digit, the match starts at 0, ends after the seconds (plus
the one byte the last group takes) and the groups sit exactly on the fields -/
theorem C04_iso_search (x : IsoFields) (hx : x.OK) (tail : List UInt8) (ht : TailIn nonDigit tail) :
    search row79.re (isoText x ++ tail) =
      some ⟨0, (isoText x).length + tailLen tail, capsAt 0 [] (isoSel x ++ [endEw 7 nonDigit tail])⟩ := by
  have h := isoSel_ok x hx
  have := (rowResult_end (re := re79) ok79 h tail ht (head_bol re79_eq (by simp)) rfl).1
  rwa [flat_isoSel] at this

theorem C04_iso_captures (x : IsoFields) (hx : x.OK) (tail : List UInt8) :
    capturesOf row79 (isoText x ++ tail) (capsAt 0 [] (isoSel x ++ [endEw 7 nonDigit tail])) = isoCaptures x := by
  have gt := funext fun g => groupText_end g 7 nonDigit (isoSel x) tail (allOK_slots (isoSel_ok x hx))
  simp only [flat_isoSel] at gt
  simp [capturesOf, capField_eq, row79, gt, List.lookup, selText_append, selText_endEw, selText_isoSel x, isoCaptures]

/-- **end to end, row 79**: the ISO date-time without zone is attributed the instant it denotes in the
fallback zone -/
theorem C04_iso_end_to_end (x : IsoFields) (hx : x.OK) (hH : x.H ≤ 23) (hvalid : validDate x.Y x.M x.D = true)
    (tail : List UInt8) (ht : TailIn nonDigit tail) (fbOff : Int) (hfb : FbOK fbOff) (fill : Option Int) :
    ∃ res, search row79.re (isoText x ++ tail) = some res ∧ res.start = 0 ∧
      capturesToInstant row79.dtfs (capturesOf row79 (isoText x ++ tail) res.caps) fbOff fill =
        some (instantNs x.Y x.M x.D x.H x.N x.S 0 fbOff) := by
  refine ⟨_, C04_iso_search x hx tail ht, rfl, ?_⟩
  simp only [C04_iso_captures x hx tail]
  obtain ⟨hY, hM, hD, _, hN, hS, _⟩ := hx
  have hday : dayPiece .e_or_d (isoCaptures x) = some (dec2 x.D) := by
    apply C04_day_forms _ x.D (by have := hD.2.1; omega)
    cases hdf : x.df with
    | d2 => left; simp [isoCaptures, dayW, hdf]
    | d1 => right; exact ⟨by have := hD.2.2 (by simp [hdf]); omega, Or.inl (by simp [isoCaptures, dayW, hdf])⟩
    | sp => right; exact ⟨by have := hD.2.2 (by simp [hdf]); omega, Or.inr (by simp [isoCaptures, dayW, hdf])⟩
  exact C04_normalise_parse "DTFSS_YmdHMS" DTFSS_YmdHMS (by decide) rfl (isoCaptures x) fbOff fill
    (dec4 x.Y) (dec2 x.S) [] (offString fbOff) x.Y x.M x.D x.H x.N x.S 0 fbOff
    rfl ⟨x.Y, by omega, rfl, rfl⟩ rfl hM hday ⟨hD.1, hD.2.1⟩ rfl hH rfl hN rfl ⟨x.S, hS, rfl, rfl⟩
    rfl ⟨rfl, rfl⟩ rfl (fb_piece hfb true).1 (fun perm _ => (fb_piece hfb perm).2) hvalid

/-! ### rows 76 / 75 / 77 / 78: the same date-time followed by a zone -/

def sgn : Sym := [(43,43),(45,45)]
/-- `±HH:MM`, `±HHMM`, `±HH` (hours `00`–`29`: what the `[0-2][0-9]` of the rows allows) -/
def tzcW : List Sym := [sgn, [(48,50)], D, b1 58, D, D]
def tzzW : List Sym := [sgn, [(48,50)], D, D, D]
def tzpW : List Sym := [sgn, [(48,50)], D]
def tzcRe : Re := catL [.cls [(43,43),(45,45),(8722,8722)], .cls [(48,50)], dig, .lit [58], .rep dig 2 (some 2)]
def tzzRe : Re := catL [.cls [(43,43),(45,45),(8722,8722)], .cls [(48,50)], .rep dig 3 (some 3)]
def tzpRe : Re := catL [.cls [(43,43),(45,45),(8722,8722)], .cls [(48,50)], dig]
def blankDom : List Entry := plain (cws [[], [32]])
def body7x : List Piece := isoCore ++ [Piece.mk blankQ blankDom]

theorem re76_eq : re76 = catL (.bol :: (body7x.map Piece.item ++ [.cat (.group 7 tzcRe) (endDigit 8)])) := by rfl
theorem re75_eq : re75 = catL (.bol :: (body7x.map Piece.item ++ [.cat (.group 7 tzzRe) (endDigit 8)])) := by rfl
theorem re77_eq : re77 = catL (.bol :: (body7x.map Piece.item ++ [.cat (.group 7 tzpRe) (endDigit 8)])) := by rfl
/-- the date-time before a numeric zone (which starts with a sign), the three zone forms before a non-digit -/
theorem ok7x : rowOk body7x sgn = true ∧ pieceOk nonDigit ⟨.group 7 tzcRe, grp 7 [tzcW]⟩ = true ∧
    pieceOk nonDigit ⟨.group 7 tzzRe, grp 7 [tzzW]⟩ = true ∧ pieceOk nonDigit ⟨.group 7 tzpRe, grp 7 [tzpW]⟩ = true :=
  ⟨rowOk_iso (by decide +kernel), by decide +kernel⟩

theorem symHas_sgn {sign : UInt8} (h : sign = 43 ∨ sign = 45) : symHas sgn sign = true := by
  rcases h with rfl | rfl <;> decide

theorem symHas_02 {oh : Nat} (h : oh ≤ 29) : symHas [(48,50)] (dchar (oh / 10)) = true := by
  simp only [symHas, inRanges, List.any_cons, List.any_nil, Bool.or_false, Bool.and_eq_true, decide_eq_true_eq,
    dchar_toNat]
  omega

/-- `±HH:MM` -/
def tzcText (sign : UInt8) (oh om : Nat) : List UInt8 := sign :: (dec2 oh ++ 58 :: dec2 om)
def tzzText (sign : UInt8) (oh om : Nat) : List UInt8 := sign :: (dec2 oh ++ dec2 om)
def tzpText (sign : UInt8) (oh : Nat) : List UInt8 := sign :: dec2 oh

theorem conc_tzc {sign : UInt8} {oh om : Nat} (hs : sign = 43 ∨ sign = 45) (ho : oh ≤ 29) : Conc tzcW (tzcText sign oh om) :=
  ⟨symHas_sgn hs, symHas_02 ho, symHas_D _, symHas_b1 _ _ (by decide), symHas_D _, symHas_D _, trivial⟩
theorem conc_tzz {sign : UInt8} {oh om : Nat} (hs : sign = 43 ∨ sign = 45) (ho : oh ≤ 29) : Conc tzzW (tzzText sign oh om) :=
  ⟨symHas_sgn hs, symHas_02 ho, symHas_D _, symHas_D _, symHas_D _, trivial⟩
theorem conc_tzp {sign : UInt8} {oh : Nat} (hs : sign = 43 ∨ sign = 45) (ho : oh ≤ 29) : Conc tzpW (tzpText sign oh) :=
  ⟨symHas_sgn hs, symHas_02 ho, symHas_D _, trivial⟩

theorem body7x_ok (x : IsoFields) (hx : x.OK) {b : List UInt8} (hb : b ∈ [[], [32]]) :
    AllOK body7x (isoSel x ++ [wSel none b]) :=
  allOK_append (isoSel_ok x hx) ⟨ewOK_w_plain hb, trivial⟩

/-- **the four zone rows**: the date-time is checked against any set `F` that holds the first byte of the zone, the zone group
against the ASCII part `s` of the class of the final group. The statements write the slots of the two groups as those of ONE
entry, `lastEw`. -/
theorem iso_zone_search {re zr : Re} {rs : List (Nat × Nat)} {F s : Sym} {dom : List Entry}
    (hre : re = catL (.bol :: (body7x.map Piece.item ++ [.cat (.group 7 zr) (endItem 8 rs)]))) (hs : asciiPart rs = s)
    (hbody : rowOk body7x F = true) (hzone : pieceOk s ⟨.group 7 zr, dom⟩ = true)
    (x : IsoFields) (hx : x.OK) {b : List UInt8} (hb : b ∈ [[], [32]]) {zs : List Sym} {z : List UInt8}
    (hz : (zs, [(7, 0, zs.length)]) ∈ dom) (hc : Conc zs z) (tail : List UInt8) (ht : TailIn s tail) (hF : TailF F (z ++ tail)) :
    search re (isoText x ++ (b ++ (z ++ tail))) =
      some ⟨0, (isoText x).length + b.length + z.length + tailLen tail,
        capsAt 0 [] (isoSel x ++ [wSel none b] ++ [lastEw 7 8 zs z s tail])⟩ := by
  subst hs
  have hl := ewOK_endEw (g := 8) ht
  have := search_of_step (head_bol hre (by simp) (step_body_last hbody (allOK_valid (body7x_ok x hx hb)) hF
    (step_cat (piece_step hzone hz hc ht)
      (by rw [← endEw_word 8 (asciiPart rs) tail]; exact piece_step (endPiece_ok 8 rs _) hl.1 hl.2.1 (tailF_rest tail)))))
  simp only [flat_append, flat_isoSel, flat, wSel_word, List.append_nil, List.append_assoc, List.length_append] at this
  rw [this, capsAt_append (isoSel x ++ [wSel none b])]
  cases tail <;>
    simp [capsAt, lastEw, endEw, tailLen, shc, conc_length hc, flat_append, flat_isoSel, flat, Nat.add_assoc]

/-- the captures of those rows: the iso fields plus the zone text -/
theorem iso_zone_captures (row : S4V.Gen.Regex.Row)
    (hn : row.names = [("year", 1), ("month", 2), ("day", 3), ("hour", 4), ("minute", 5), ("second", 6), ("tz", 7)])
    (x : IsoFields) (hx : x.OK) {b : List UInt8} (hb : b ∈ [[], [32]]) {zs : List Sym} {z : List UInt8} (s : Sym)
    (hc : Conc zs z) (tail : List UInt8) :
    capturesOf row (isoText x ++ (b ++ (z ++ tail))) (capsAt 0 [] (isoSel x ++ [wSel none b] ++ [lastEw 7 8 zs z s tail])) =
      { isoCaptures x with tz := some z } := by
  have gt := funext fun g =>
    groupText_zone g 7 8 s (isoSel x ++ [wSel none b]) tail (allOK_slots (body7x_ok x hx hb)) hc
  simp only [flat_append, flat_isoSel, flat, wSel_word, List.append_nil, List.append_assoc (isoText x)] at gt
  simp only [capturesOf, capField_eq, hn, gt, selText_append]
  have hw : ∀ g, selText g [wSel none b] = none := fun _ => rfl
  simp [List.lookup, selText_lastEw_zone 7 8 s tail hc, selText_lastEw_other, hw, selText_isoSel x, isoCaptures]

theorem C04_iso_zc_search (x : IsoFields) (hx : x.OK) {b : List UInt8} (hb : b ∈ [[], [32]]) {sign : UInt8} {oh om : Nat}
    (hs : sign = 43 ∨ sign = 45) (ho : oh ≤ 29) (tail : List UInt8) (ht : TailIn nonDigit tail) :
    search row76.re (isoText x ++ (b ++ (tzcText sign oh om ++ tail))) =
      some ⟨0, (isoText x).length + b.length + 6 + tailLen tail,
        capsAt 0 [] (isoSel x ++ [wSel none b] ++ [lastEw 7 8 tzcW (tzcText sign oh om) nonDigit tail])⟩ :=
  iso_zone_search re76_eq rfl ok7x.1 ok7x.2.1 x hx hb (.head _) (conc_tzc hs ho) tail ht
    fun _ _ e => by cases e; exact symHas_sgn hs

theorem C04_iso_z_search (x : IsoFields) (hx : x.OK) {b : List UInt8} (hb : b ∈ [[], [32]]) {sign : UInt8} {oh om : Nat}
    (hs : sign = 43 ∨ sign = 45) (ho : oh ≤ 29) (tail : List UInt8) (ht : TailIn nonDigit tail) :
    search row75.re (isoText x ++ (b ++ (tzzText sign oh om ++ tail))) =
      some ⟨0, (isoText x).length + b.length + 5 + tailLen tail,
        capsAt 0 [] (isoSel x ++ [wSel none b] ++ [lastEw 7 8 tzzW (tzzText sign oh om) nonDigit tail])⟩ :=
  iso_zone_search re75_eq rfl ok7x.1 ok7x.2.2.1 x hx hb (.head _) (conc_tzz hs ho) tail ht
    fun _ _ e => by cases e; exact symHas_sgn hs

theorem C04_iso_zp_search (x : IsoFields) (hx : x.OK) {b : List UInt8} (hb : b ∈ [[], [32]]) {sign : UInt8} {oh : Nat}
    (hs : sign = 43 ∨ sign = 45) (ho : oh ≤ 29) (tail : List UInt8) (ht : TailIn nonDigit tail) :
    search row77.re (isoText x ++ (b ++ (tzpText sign oh ++ tail))) =
      some ⟨0, (isoText x).length + b.length + 3 + tailLen tail,
        capsAt 0 [] (isoSel x ++ [wSel none b] ++ [lastEw 7 8 tzpW (tzpText sign oh) nonDigit tail])⟩ :=
  iso_zone_search re77_eq rfl ok7x.1 ok7x.2.2.2 x hx hb (.head _) (conc_tzp hs ho) tail ht
    fun _ _ e => by cases e; exact symHas_sgn hs

theorem C04_iso_zc_captures (x : IsoFields) (hx : x.OK) {b : List UInt8} (hb : b ∈ [[], [32]]) {sign : UInt8} {oh om : Nat}
    (hs : sign = 43 ∨ sign = 45) (ho : oh ≤ 29) (tail : List UInt8) :
    capturesOf row76 (isoText x ++ (b ++ (tzcText sign oh om ++ tail)))
        (capsAt 0 [] (isoSel x ++ [wSel none b] ++ [lastEw 7 8 tzcW (tzcText sign oh om) nonDigit tail])) =
      { isoCaptures x with tz := some (tzcText sign oh om) } :=
  iso_zone_captures row76 rfl x hx hb nonDigit (conc_tzc hs ho) tail

/-! ### named zone, row 78: `… [ ]?(ACDT|…|zulu|z)` followed by a non-letter -/

/-- the literals of an alternation of literals, in priority order -/
def litsOf : Re → List (List UInt8)
  | .alt (.lit a) b => a :: litsOf b
  | .lit a => [a]
  | _ => []

/-- the zone abbreviations row 78 accepts, in the order of its alternation -/
def zoneAlts : List (List UInt8) := litsOf n17

/-- they are exactly the keys of the generated zone table (`MAP_TZZ_TO_TZz`), in another order -/
theorem zoneAlts_eq_table : zoneAlts.length = 392 ∧ zoneAlts.all (fun k => (tzTableB.map (·.1)).contains k) = true ∧
    (tzTableB.map (·.1)).all (fun k => zoneAlts.contains k) = true := by
  -- the two orders differ by a few neighbour swaps only: `isPerm` finds every key within a step or two
  have p : zoneAlts.Perm (tzTableB.map (·.1)) := List.isPerm_iff.mp (by decide +kernel)
  exact ⟨by decide +kernel, List.all_eq_true.mpr fun k hk => List.contains_iff_mem.mpr (p.subset hk),
    List.all_eq_true.mpr fun k hk => List.contains_iff_mem.mpr (p.symm.subset hk)⟩

/-- ASCII letters -/
def alpha : Sym := [(65, 90), (97, 122)]

theorem zoneAlts_alpha : zoneAlts.all (fun l => !l.isEmpty && l.all (symHas alpha)) = true := by decide +kernel
theorem re78_eq : re78 = catL (.bol :: (body7x.map Piece.item ++ [.cat n29 n57])) := by rfl
/-- the date-time before a name (which starts with a letter); the names, written with a name after its proper extensions (`PETT`
before `PET`, `datetime.rs`: "PETT should occur before PET") and followed by a non-letter, are each taken by their own alternative
(`keepsAll`, `am_litAlt`) -/
theorem ok78 : rowOk body7x alpha = true ∧ keepsAll nonAlpha ⟨n29, grp 7 (cws zoneAlts)⟩ = true :=
  ⟨rowOk_iso (by decide +kernel), by decide +kernel⟩

/-- **named zone** (row 78): EVERY abbreviation of the alternation — including `PET`, `UT`, `WIT`, proper prefixes of `PETT`,
`UTC`, `WITA` — is captured whole when followed by a non-letter or the end of the slice. -/
theorem C04_iso_Z_search (x : IsoFields) (hx : x.OK) {b : List UInt8} (hb : b ∈ [[], [32]]) {z : List UInt8}
    (hz : z ∈ zoneAlts) (tail : List UInt8) (ht : TailIn nonAlpha tail) :
    search row78.re (isoText x ++ (b ++ (z ++ tail))) =
      some ⟨0, (isoText x).length + b.length + z.length + tailLen tail,
        capsAt 0 [] (isoSel x ++ [wSel none b] ++ [lastEw 7 8 (cw z) z nonAlpha tail])⟩ := by
  refine iso_zone_search re78_eq rfl ok78.1 (pieceOk_of_keepsAll ok78.2) x hx hb (ewOK_w_grp hz).1 (conc_cw z) tail ht
    fun y t h => ?_
  have hA : z ≠ [] ∧ ∀ y ∈ z, symHas alpha y = true := by simpa using List.all_eq_true.mp zoneAlts_alpha z hz
  cases z with
  | nil => exact absurd rfl hA.1
  | cons y' u => exact (List.cons.inj h).1 ▸ hA.2 y' (by simp)

theorem C04_iso_Z_captures (x : IsoFields) (hx : x.OK) {b : List UInt8} (hb : b ∈ [[], [32]]) (z : List UInt8) (tail : List UInt8) :
    capturesOf row78 (isoText x ++ (b ++ (z ++ tail)))
        (capsAt 0 [] (isoSel x ++ [wSel none b] ++ [lastEw 7 8 (cw z) z nonAlpha tail])) =
      { isoCaptures x with tz := some z } :=
  iso_zone_captures row78 rfl x hx hb nonAlpha (conc_cw z) tail

/-! ### statements that are false, with witnesses -/

/-- "whatever follows the seconds, row 79 matches the stamp at 0" -/
def C04_iso_any_tail_full : Prop :=
  ∀ (x : IsoFields), x.OK → ∀ tail : List UInt8, ∃ res, search row79.re (isoText x ++ tail) = some res ∧ res.start = 0

def xW : IsoFields := ⟨2020, 1, 11, .d2, 0, 0, 26, [45], [45], [32], [58], [58]⟩
theorem xW_ok : xW.OK := by
  refine ⟨by decide, by decide, ⟨by decide, by decide, by decide⟩, by decide, by decide, by decide, ?_, ?_, ?_, ?_, ?_⟩ <;> simp [xW]

/-- a digit after the seconds (`2020-01-11 00:00:267`): no match at all (the condition `TailIn nonDigit` of
`C04_iso_search` is needed); the same for a tail that is not UTF-8 (`…26\xff`): `[[:^digit:]]` needs a scalar value -/
theorem C04_iso_any_tail_full_false : ¬ C04_iso_any_tail_full := by
  intro h
  obtain ⟨res, hres, _⟩ := h xW xW_ok [55]
  revert hres
  have : search row79.re (isoText xW ++ [55]) = none := by decide +kernel
  rw [this]; intro h; cases h

theorem C04_iso_invalid_utf8_tail : search row79.re (isoText xW ++ [255]) = none := by decide +kernel

/-- "hour `24`, which the rows' `(00|…|24)` accepts, gives an instant" -/
def C04_iso_hour24_full : Prop :=
  ∀ (x : IsoFields), x.OK → validDate x.Y x.M x.D = true →
    (capturesToInstant row79.dtfs (isoCaptures x) 0 none).isSome = true

theorem C04_iso_hour24_full_false : ¬ C04_iso_hour24_full := by
  intro h
  obtain ⟨hY, hM, hD, -, rest⟩ := xW_ok
  have := h { xW with H := 24 } ⟨hY, hM, hD, by decide, rest⟩ (by decide +kernel)
  revert this
  decide +kernel

/-- RFC 3164 `Jan  1`: "the day group spans the space-padded form ` 1`" -/
def C04_rfc3164_padded_day_full : Prop :=
  ∀ res, search row19.re "<14>Jan  1 15:00:36 2023".toUTF8.toList = some res → capGet res.caps 2 = some (8, 10)

/-- the greedy `[[:blank:]]+` before the day takes both spaces: the day group is `1` at `[9, 10)` (harmless:
both forms normalise to `01`) — which is why `RegexCapture2Auto.body19/23/94` leave the padded forms out -/
theorem C04_rfc3164_padded_day_full_false : ¬ C04_rfc3164_padded_day_full := by
  intro h
  have : search row19.re "<14>Jan  1 15:00:36 2023".toUTF8.toList =
      some ⟨0, 24, [(7, 24, 24), (6, 20, 24), (5, 17, 19), (4, 14, 16), (3, 11, 13), (2, 9, 10), (1, 4, 7)]⟩ := by
    decide +kernel
  have := h _ this
  revert this
  decide

/-! ### the hypotheses are satisfiable; instances -/

example : isoText xW = "2020-01-11 00:00:26".toUTF8.toList := by decide +kernel
example (t : List UInt8) : TailIn nonDigit (32 :: t) := by
  intro x t' h; cases h; decide
example : FbOK (-28800) := ⟨960, by decide, by decide⟩
example : [80, 69, 84, 84] ∈ zoneAlts ∧ [80, 69, 84] ∈ zoneAlts := by decide +kernel
example :
    (search row79.re "2020-02-29T23:59:60 host".toUTF8.toList).bind (fun res =>
      capturesToInstant row79.dtfs (capturesOf row79 "2020-02-29T23:59:60 host".toUTF8.toList res.caps) 3600 none) =
    some (instantNs 2020 2 29 23 59 60 0 3600) := by decide +kernel

end S4V.Props.RegexCapture2
