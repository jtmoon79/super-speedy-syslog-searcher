/-
C13 — prepended fields, separators and colour are pure decoration.
C19 — the summary agrees with what was printed.

Statements over the byte-level model `S4V.Model.Print` of printers.rs / the print arm of
`processing_loop` / `SummaryPrinted`. `stripEsc` and `stripFields` are what an observer of stdout can do.
-/
import S4V.Lemmas.Print
import S4V.Lemmas.PrintBuf
import S4V.Lemmas.Lists

namespace S4V.Props.PrintSpec
open S4V.Model.Print S4V.Lemmas.Print S4V.Lemmas.PrintBuf
open S4V.Lemmas.Lists (foldl_min_spec foldl_max_spec foldl_maxBy_spec)

def plainStream (p : Pal) (last : Last) (o : Opts) (m : Msg) : Bytes := plainOf (render p last o m).1

/-- the lines the fields are put in front of: the message's lines for a text log; the
`\n`-terminated pieces of the payload for event-log records and journal entries -/
def linesOf : Msg → List Bytes
  | .sysline m => m.lines
  | .fixedstruct m => [m.data]
  | .evtx m => nlLines m.data
  | .journal m => nlLines m.data

/-- datetime span well-formed (`debug_assert_le!(dt_beg, dt_end)` in the source) -/
def spanOk : Msg → Prop
  | .sysline m => m.dtBeg ≤ m.dtEnd
  | .fixedstruct m => m.beg ≤ m.fin
  | .evtx m => m.beg ≤ m.fin
  | .journal m => m.beg ≤ m.fin

def noOpts : Opts := ⟨false, none, none⟩

theorem C13_plainStream_eq (p : Pal) (last : Last) (o : Opts) (m : Msg) :
    plainStream p last o m = wrOf (ops o m) := exec_plain p last (ops o m)

/-- All 24 print functions: the slices handed to `buffer_write_or_return!` are the payload when no field is
prepended, and otherwise, per line of `linesOf`, file field ++ datetime field ++ line — the same bytes in the same
order for both colour settings. Only the colour variants look at the datetime span. -/
theorem wrOf_ops (o : Opts) (m : Msg) (hs : o.color = true → spanOk m) :
    wrOf (ops o m) = if plainOpts o then m.payload else decorated o (linesOf m) := by
  obtain ⟨c, f, d⟩ := o
  -- event-log records and journal entries: without colour a `flatMap` over the `\n`-pieces (`wrOf_print_buf_prepend`), with
  -- colour the loop over them (`wrOf_prependColorLoop`); with no field at all the record itself, in three stretches if coloured
  have buf (b : BufMsg) (hb : c = true → b.beg ≤ b.fin) :
      wrOf (print_evtx ⟨c, f, d⟩ b) = if plainOpts ⟨c, f, d⟩ then b.data else decorated ⟨c, f, d⟩ (nlLines b.data) := by
    cases c
    · cases f <;> cases d <;> simp [print_evtx, print_buf_, wrOf_print_buf_prepend, wrOf, plainOpts, decorated]
    · cases f <;> cases d <;>
        simp [print_evtx, print_buf_color, print_evtx_prepend_color, wrOf, wrOf_append, wrOf_hlBuf _ (hb rfl),
          wrOf_prependColorLoop _ (hb rfl), wrOf_optB, plainOpts, decorated, optBytes]
  cases m with
  | sysline m =>
    -- the eight text printers: a `flatMap` over the lines without colour, the line loop `wrOf_colorLines` with it (the only
    -- place the span is used: the three stretches of the first line make up the line when `b ≤ e`)
    cases c
    · cases f <;> cases d <;>
        simp [ops, print_sysline, print_sysline_, print_sysline_prependdate, print_sysline_prependfile,
          print_sysline_prependfile_prependdate, wrOf_flatMap, wrOf, wrOf_lineOps, decorated, optBytes, plainOpts,
          linesOf, Msg.payload, List.flatMap_id']
    · cases f <;> cases d <;>
        simp [ops, print_sysline, print_sysline_color, print_sysline_prependdate_color, print_sysline_prependfile_color,
          print_sysline_prependfile_prependdate_color, wrOf, wrOf_append, wrOf_colorLines _ (hs rfl), decorated, optBytes,
          plainOpts, linesOf, Msg.payload, List.flatMap_id']
  | fixedstruct m =>
    -- one write per field, then the record, whole or in the three stretches of `wrOf_hlBuf`
    cases c
    · cases f <;> cases d <;>
        simp [ops, print_fixedstruct, print_fixedstruct_, print_fixedstruct_prependdate, print_fixedstruct_prependfile,
          print_fixedstruct_prependfile_prependdate, wrOf, optBytes, plainOpts, decorated, linesOf, Msg.payload]
    · cases f <;> cases d <;>
        simp [ops, print_fixedstruct, print_fixedstruct_color, print_fixedstruct_prependdate_color,
          print_fixedstruct_prependfile_color, print_fixedstruct_prependfile_prependdate_color, wrOf, wrOf_append,
          wrOf_hlBuf _ (hs rfl), optBytes, plainOpts, decorated, linesOf, Msg.payload]
  | evtx m => exact buf m hs
  | journal m => rw [ops_journal]; exact buf m hs

theorem wrOf_ops_oneLine (o : Opts) (m : Msg) (hs : o.color = true → spanOk m) (h1 : linesOf m = [m.payload]) :
    wrOf (ops o m) = optBytes o.file ++ (optBytes o.date ++ m.payload) := by
  rw [wrOf_ops o m hs]
  split
  next hp => rw [(optBytes_plain hp).1, (optBytes_plain hp).2]; rfl
  next => simp [decorated, h1]

/-- text logs: per line also with no prefix at all (then `decorated` is the concatenation of the lines) -/
theorem wrOf_ops_sysline (o : Opts) (m : SysMsg) (hs : o.color = true → m.dtBeg ≤ m.dtEnd) :
    wrOf (print_sysline o m) = decorated o m.lines := by
  refine (wrOf_ops o (.sysline m) hs).trans ?_
  split
  next hp => simp [decorated, (optBytes_plain hp).1, (optBytes_plain hp).2, Msg.payload, List.flatMap_id']
  next => rfl

/-- no options: stdout is exactly the message bytes, for every kind of message -/
theorem C13_plain (p : Pal) (last : Last) (m : Msg) : bytesOf (render p last noOpts m).1 = m.payload := by
  rw [render, exec_bytes_noSetc (noSetc_ops_nocolor noOpts m rfl), wrOf_ops noOpts m fun h => Bool.noConfusion h]
  rfl

/-- text logs, event-log records, journal entries: with any option tuple the stream without
escapes is, per line, file field ++ datetime field ++ line — the same order and the same bytes
for both colour settings -/
theorem C13_field_order (p : Pal) (last : Last) (o : Opts) (m : Msg) (hs : spanOk m)
    (hk : m.kind ≠ .fixedstruct) (hpre : plainOpts o = false) :
    plainStream p last o m = decorated o (linesOf m) := by
  rw [C13_plainStream_eq, wrOf_ops o m fun _ => hs, hpre]; rfl

/-- accounting records: the fields once in front of the record — file then datetime, in all
eight variants -/
theorem C13_field_order_fixedstruct (p : Pal) (last : Last) (o : Opts) (m : BufMsg) (hs : m.beg ≤ m.fin) :
    plainStream p last o (.fixedstruct m) = optBytes o.file ++ optBytes o.date ++ m.data := by
  rw [C13_plainStream_eq, wrOf_ops_oneLine o (.fixedstruct m) (fun _ => hs) rfl, List.append_assoc]; rfl

/-- "the fields come in the same order (file, then datetime) for every kind of message and every
colour setting" — as a statement about one-line messages of all four kinds -/
def C13_field_order_full : Prop :=
  ∀ (p : Pal) (last : Last) (o : Opts) (m : Msg), spanOk m → linesOf m = [m.payload] →
    plainStream p last o m = optBytes o.file ++ (optBytes o.date ++ m.payload)

/-- … holds of the code: every kind, every colour setting, every combination of fields -/
theorem C13_field_order_full_holds : C13_field_order_full := fun p last o m hs h1 => by
  rw [C13_plainStream_eq, wrOf_ops_oneLine o m (fun _ => hs) h1]

/-- counter-model of a defect repaired in the source: `print_fixedstruct_prependfile_prependdate`
(accounting record, no colour, both fields) writing the datetime field BEFORE the file-name field -/
def print_fixedstruct_swapped (f d : Bytes) (m : BufMsg) : List Op := [.wr d, .wr f, .wr m.data]

/-- with that variant `C13_field_order_full` is false: file field `F`, datetime field `D`,
record `x\n` come out as `DFx\n`, not `FDx\n` -/
theorem swapped_order_differs :
    wrOf (print_fixedstruct_swapped [70] [68] ⟨[120, 10], 0, 0⟩) ≠
      optBytes (some [70]) ++ optBytes (some [68]) ++ (⟨[120, 10], 0, 0⟩ : BufMsg).data := by decide

/-- colour adds nothing but escapes: same stream without them, for every kind of message and
every combination of fields -/
theorem C13_colour_only_escapes (p p' : Pal) (last last' : Last) (f d : Option Bytes) (m : Msg) (hs : spanOk m) :
    plainStream p last ⟨true, f, d⟩ m = plainStream p' last' ⟨false, f, d⟩ m := by
  rw [C13_plainStream_eq, C13_plainStream_eq, wrOf_ops _ m fun _ => hs, wrOf_ops ⟨false, f, d⟩ m fun h => Bool.noConfusion h]
  rfl

/-- the escapes can be removed from the *byte stream*: termcolor's bytes are runs of `ESC[…m`
(hypothesis on the palette) and neither fields nor message contain an ESC byte -/
theorem C13_stripEsc (p : Pal) (hp : WFPal p) (last : Last) (o : Opts) (m : Msg) (hesc : ESC ∉ wrOf (ops o m)) :
    stripEsc (bytesOf (render p last o m).1) = plainStream p last o m := by
  have := strip_exec p hp last (ops o m) hesc []
  simpa [stripEsc, stripEscAux, render, C13_plainStream_eq] using this

/-- Removing the fields from every printed line gives back the message, for every kind of message whose `linesOf`
are well-formed lines that make up the payload (text logs: hypothesis on the message; event-log records and journal
entries: the record is empty or ends in `\n`). -/
theorem stripFields_ops (o : Opts) (m : Msg) (hs : o.color = true → spanOk m) (hl : WFLines (linesOf m))
    (hp : (linesOf m).flatten = m.payload) (hnl : NL ∉ optBytes o.file ++ optBytes o.date) :
    stripFields (optBytes o.file ++ optBytes o.date) (wrOf (ops o m)) = m.payload := by
  rw [wrOf_ops o m hs]
  split
  next hpo =>
    have hu : unprefix [] = id := by funext l; simp [unprefix]
    rw [(optBytes_plain hpo).1, (optBytes_plain hpo).2]
    simp [stripFields, hu, pieces_flatten]
  next => simpa [decorated, hp] using stripFields_decorated (optBytes o.file ++ optBytes o.date) hnl (linesOf m) hl

/-- C13, text logs: delete the escapes, then from every printed line the file and datetime fields:
what is left is the message -/
theorem C13_strip (p : Pal) (hp : WFPal p) (last : Last) (o : Opts) (m : SysMsg)
    (hs : m.dtBeg ≤ m.dtEnd) (hl : WFLines m.lines)
    (hnl : NL ∉ optBytes o.file ++ optBytes o.date)
    (hesc : ESC ∉ wrOf (ops o (.sysline m))) :
    stripFields (optBytes o.file ++ optBytes o.date) (stripEsc (bytesOf (render p last o (.sysline m)).1))
      = (Msg.sysline m).payload := by
  rw [C13_stripEsc p hp last o _ hesc, C13_plainStream_eq]
  exact stripFields_ops o (.sysline m) (fun _ => hs) hl rfl hnl

/-- C13, event-log records and journal entries: the same, provided the rendered record is empty
or ends in `\n` -/
theorem C13_strip_buf (p : Pal) (hp : WFPal p) (last : Last) (o : Opts) (m : Msg) (hk : m.kind = .evtx ∨ m.kind = .journal)
    (hs : spanOk m) (hend : m.payload = [] ∨ endsNL m.payload = true)
    (hnl : NL ∉ optBytes o.file ++ optBytes o.date)
    (hesc : ESC ∉ wrOf (ops o m)) :
    stripFields (optBytes o.file ++ optBytes o.date) (stripEsc (bytesOf (render p last o m).1)) = m.payload := by
  rw [C13_stripEsc p hp last o _ hesc, C13_plainStream_eq]
  have hl : linesOf m = nlLines m.payload := by
    cases m with
    | sysline m => simp [Msg.kind] at hk
    | fixedstruct m => simp [Msg.kind] at hk
    | evtx m => rfl
    | journal m => rfl
  exact stripFields_ops o m (fun _ => hs) (hl ▸ wfLines_of_isLine _ (nlLines_isLine _))
    (hl ▸ nlLines_flatten_of_endsNL _ hend) hnl

/-- the same statement without "ends in `\n`" -/
def C13_strip_buf_full : Prop :=
  ∀ (p : Pal) (_ : WFPal p) (last : Last) (o : Opts) (m : BufMsg), m.beg ≤ m.fin →
    NL ∉ optBytes o.file ++ optBytes o.date → ESC ∉ wrOf (ops o (.evtx m)) →
    stripFields (optBytes o.file ++ optBytes o.date) (stripEsc (bytesOf (render p last o (.evtx m)).1)) = m.data

/-- … is false: in prepend mode the `find_byte('\n')` loop never writes an unterminated tail
(`a\nb` printed with a file field loses the `b`) -/
theorem C13_strip_buf_full_false : ¬ C13_strip_buf_full := by
  intro h
  have hp : WFPal ⟨[], [], []⟩ := ⟨⟨[], rfl, by simp⟩, ⟨[], rfl, by simp⟩, ⟨[], rfl, by simp⟩⟩
  have := h ⟨[], [], []⟩ hp none ⟨false, some [70], none⟩ ⟨[97, 10, 98], 0, 0⟩ (by decide) (by decide) (by decide)
  revert this; decide

/-- accounting records: the escapes removed, what is left is the file field, the datetime field
and the record -/
theorem C13_strip_fixedstruct (p : Pal) (hp : WFPal p) (last : Last) (o : Opts) (m : BufMsg) (hs : m.beg ≤ m.fin)
    (hesc : ESC ∉ wrOf (ops o (.fixedstruct m))) :
    (stripEsc (bytesOf (render p last o (.fixedstruct m)).1)).drop ((optBytes o.file).length + (optBytes o.date).length)
      = m.data := by
  rw [C13_stripEsc p hp last o _ hesc, C13_field_order_fixedstruct p last o m hs]
  simp [List.drop_append]

theorem runOut_cons (pal : Nat → Pal) (sep : Bytes) (ls : Lasts) (ev : Ev) (r : List Ev) :
    runOut pal sep ls (ev :: r) =
      (render (pal ev.pid) (ls ev.pid) ev.o ev.m).1 ++ coordAfter sep ev.m ev.isLast ++
        runOut pal sep (ls.set ev.pid (render (pal ev.pid) (ls ev.pid) ev.o ev.m).2) r := rfl

/-- the newline the coordinator supplies after a text log's unterminated last message -/
def addedNL (ev : Ev) : Bytes :=
  match ev.m with
  | .sysline s => if ev.isLast && !endsNL s.lines.flatten then [NL] else []
  | _ => []

theorem plainOf_coordAfter (sep : Bytes) (ev : Ev) : plainOf (coordAfter sep ev.m ev.isLast) = sep ++ addedNL ev := by
  unfold coordAfter addedNL
  by_cases hs : sep = [] <;> cases hm : ev.m <;> simp [hs, plainOf, Chunk.bytes]
  all_goals (split <;> simp [plainOf, Chunk.bytes])

/-- C13: over a whole run the stream without escapes is, per message, what its printer wrote,
then exactly one separator, then the supplied newline if any — the separator never falls inside
a message and there is none before the first -/
theorem C13_separator (pal : Nat → Pal) (sep : Bytes) (ls : Lasts) (evs : List Ev) :
    plainOf (runOut pal sep ls evs) = evs.flatMap (fun ev => wrOf (ops ev.o ev.m) ++ (sep ++ addedNL ev)) := by
  induction evs generalizing ls with
  | nil => rfl
  | cons ev r ih =>
    rw [runOut_cons, plainOf_append, plainOf_append, ih, plainOf_coordAfter]
    simp [List.flatMap_cons, render, exec_plain]

/-- **C13_align** — `-w`: every printed name, padded as the code pads it, fills exactly the common width
(the widest printed name, in display columns), so the separators line up — for arbitrary names (wide
characters count two columns). Unfolds the generated `ALIGN_PADS_BY_COLUMNS`. -/
theorem C13_align_full_holds (names : List Name) :
    ∀ n ∈ names, (padName n (alignWidth names)).cols = alignWidth names := by
  intro n hn
  obtain ⟨-, -, hmax⟩ := foldl_maxBy_spec Name.cols names 0
  have hle := hmax n hn
  unfold alignWidth at *
  simp only [padName, padNameWith, padMeasure, S4V.Gen.Print.ALIGN_PADS_BY_COLUMNS, Name.cols, List.sum_append,
    List.sum_replicate_nat, Nat.mul_one, if_true] at *
  omega

/-- **C13_align_widest_printed** — "aligned names are padded to the widest PRINTED name": the `-w` width the
code computes is an upper bound of every printing source's name and is attained by a printing source
(or is 0 when nothing prints); sources that print nothing do not widen it. Unfolds the generated
`ALIGN_OVER_PRINTING_SOURCES`. -/
theorem C13_align_widest_printed (srcs : List (Name × Bool)) :
    (∀ s ∈ srcs, s.2 = true → s.1.cols ≤ alignWidthSrcs srcs) ∧
    (alignWidthSrcs srcs = 0 ∨ ∃ s ∈ srcs, s.2 = true ∧ s.1.cols = alignWidthSrcs srcs) := by
  have hnames : alignNames S4V.Gen.Print.ALIGN_OVER_PRINTING_SOURCES srcs = (srcs.filter (·.2)).map (·.1) := by
    simp [alignNames, S4V.Gen.Print.ALIGN_OVER_PRINTING_SOURCES]
  unfold alignWidthSrcs
  rw [hnames]
  obtain ⟨hattained, -, hmax⟩ := foldl_maxBy_spec Name.cols ((srcs.filter (·.2)).map (·.1)) 0
  constructor
  · intro s hs hp
    exact hmax s.1 (List.mem_map.mpr ⟨s, List.mem_filter.mpr ⟨hs, hp⟩, rfl⟩)
  · rcases hattained with h | ⟨n, hn, h⟩
    · exact .inl h
    · obtain ⟨s, hs, rfl⟩ := List.mem_map.mp hn
      obtain ⟨hmem, hprints⟩ := List.mem_filter.mp hs
      exact .inr ⟨s, hmem, hprints, h⟩

/-- a silent source with the widest name does not change the width -/
example : alignWidthSrcs [([1, 1, 1], true), ([1, 1, 1, 1, 1, 1, 1, 1, 1], false), ([1, 1], true)] = 3 := by decide

/-- the statement for a width taken over ALL sources (the loop over `map_pathid_path`) -/
def C13_align_over_all_sources : Prop :=
  ∀ srcs : List (Name × Bool),
    alignWidth (alignNames false srcs) = 0 ∨ ∃ s ∈ srcs, s.2 = true ∧ s.1.cols = alignWidth (alignNames false srcs)

/-- … is false: a source that prints nothing but has the widest name over-pads every printed name -/
theorem align_over_all_sources_overpads : ¬ C13_align_over_all_sources := by
  intro h
  have := h [([1, 1, 1], true), ([1, 1, 1, 1, 1, 1, 1, 1, 1], false)]
  revert this; decide

/-- names whose chars are all one column wide (ASCII) -/
theorem C13_align (names : List Name) (_h : ∀ n ∈ names, ∀ c ∈ n, c = 1) :
    ∀ n ∈ names, (padName n (alignWidth names)).cols = alignWidth names :=
  C13_align_full_holds names

example : (padName [2, 2, 2] (alignWidth [[2, 2, 2], [1, 1, 1, 1, 1]])).cols = 6 := by decide

/-- the statement for the padding as it was before the repair (pad by `char` count) -/
def C13_align_charcount : Prop :=
  ∀ names : List Name, ∀ n ∈ names, (padNameWith false n (alignWidth names)).cols = alignWidth names

/-- … is false (was F9): the width is measured in display columns but `{:<width}` pads by `char` count.
Three double-width chars beside a 5-column ASCII name: width 6, 3 chars → 3 spaces → 9 columns -/
theorem char_count_padding_misaligns : ¬ C13_align_charcount := by
  intro h
  have := h [[2, 2, 2], [1, 1, 1, 1, 1]] [2, 2, 2] (by simp)
  revert this; decide

/-- the prepend separator is literal text in the datetime field (F17 repaired): generated flag -/
theorem C13_prepend_separator_literal : S4V.Gen.Print.PREPEND_SEPARATOR_LITERAL = true := by decide

/-- the file-name field is the name, the padding and the prepend separator, nothing else -/
theorem C13_fileField (name : Bytes) (nchars width : Nat) (psep : Bytes) :
    fileField name nchars width psep = name ++ List.replicate (width - nchars) SP ++ psep := rfl

/-- bytes one print event puts on stdout, escapes not counted -/
def evBytes (sep : Bytes) (ev : Ev) : Nat := printedOf ev.o ev.m + (sep ++ addedNL ev).length

theorem runAcct_sum (sep : Bytes) (F : Acct → Nat) (g : Ev → Nat)
    (h : ∀ a ev, F (account a sep ev.pid ev.m ev.isLast ev.dt (printedOf ev.o ev.m) ev.flushed) = F a + g ev)
    (a : Acct) (evs : List Ev) : F (runAcct sep a evs) = F a + (evs.map g).sum := by
  induction evs generalizing a with
  | nil => simp [runAcct]
  | cons ev r ih => simp only [runAcct, ih, h, List.map_cons, List.sum_cons]; omega

theorem runAcct_total_bytes (sep : Bytes) (a : Acct) (evs : List Ev) :
    (runAcct sep a evs).total.bytes = a.total.bytes + (evs.map (evBytes sep)).sum :=
  runAcct_sum sep (·.total.bytes) (evBytes sep)
    (fun a ev => by simp only [account_total, evBytes, coordLen, plainOf_coordAfter]; omega) a evs

theorem plain_len (pal : Nat → Pal) (sep : Bytes) (ls : Lasts) (evs : List Ev) :
    (plainOf (runOut pal sep ls evs)).length = (evs.map (evBytes sep)).sum := by
  rw [C13_separator]
  induction evs with
  | nil => rfl
  | cons ev r ih => simp [List.flatMap_cons, ih, evBytes, printedOf]; omega

/-- C19: "Printed bytes" is the length of stdout *with the escapes taken out* -/
theorem C19_total_bytes (pal : Nat → Pal) (sep : Bytes) (ls : Lasts) (evs : List Ev) :
    (runAcct sep {} evs).total.bytes = (plainOf (runOut pal sep ls evs)).length := by
  rw [runAcct_total_bytes, plain_len]; simp

/-- … observable on the byte stream when escapes are well-formed and nothing else has an ESC -/
theorem C19_total_bytes_stripped (pal : Nat → Pal) (hp : ∀ i, WFPal (pal i)) (sep : Bytes) (hsep : ESC ∉ sep)
    (ls : Lasts) (evs : List Ev) (hesc : ∀ ev ∈ evs, ESC ∉ wrOf (ops ev.o ev.m)) :
    (runAcct sep {} evs).total.bytes = (stripEsc (bytesOf (runOut pal sep ls evs))).length := by
  rw [C19_total_bytes pal sep ls evs]
  congr 1
  -- stated with what follows (`rest`): after every print call and every write of the coordinator the scanner is back in
  -- its normal state, so the pieces compose
  have gen : ∀ (evs : List Ev) (ls : Lasts), (∀ ev ∈ evs, ESC ∉ wrOf (ops ev.o ev.m)) → ∀ rest : Bytes,
      stripEscAux .n (bytesOf (runOut pal sep ls evs) ++ rest) = plainOf (runOut pal sep ls evs) ++ stripEscAux .n rest := by
    intro evs
    induction evs with
    | nil => intro ls _ rest; rfl
    | cons ev r ih =>
      intro ls h rest
      have hev := h ev (by simp)
      have hr := ih (ls.set ev.pid (render (pal ev.pid) (ls ev.pid) ev.o ev.m).2) (fun e he => h e (by simp [he])) rest
      have hco : ESC ∉ plainOf (coordAfter sep ev.m ev.isLast) := by
        rw [plainOf_coordAfter]; unfold addedNL
        cases ev.m <;> simp [hsep] <;> (intros; decide)
      rw [runOut_cons]
      simp only [bytesOf_append, plainOf_append, List.append_assoc, render]
      rw [strip_exec _ (hp _) _ _ hev, bytesOf_coordAfter, strip_noESC _ _ hco]
      simp only [render] at hr
      rw [hr, exec_plain]
  have := gen evs ls hesc []
  simpa [stripEsc, stripEscAux] using this.symm

/-- with `--color never`: "Printed bytes" is literally the length of stdout -/
theorem C19_total_bytes_nocolor (pal : Nat → Pal) (sep : Bytes) (ls : Lasts) (evs : List Ev)
    (hc : ∀ ev ∈ evs, ev.o.color = false) :
    (runAcct sep {} evs).total.bytes = (bytesOf (runOut pal sep ls evs)).length := by
  rw [C19_total_bytes pal sep ls evs]
  congr 1
  induction evs generalizing ls with
  | nil => rfl
  | cons ev r ih =>
    rw [runOut_cons, plainOf_append, plainOf_append, bytesOf_append, bytesOf_append, bytesOf_coordAfter,
      ih _ (fun e he => hc e (by simp [he]))]
    simp only [render]
    rw [exec_bytes_noSetc (noSetc_ops_nocolor _ _ (hc ev (by simp))), exec_plain]

/-- "Printed bytes equals the bytes written to stdout" for every run -/
def C19_total_bytes_full : Prop :=
  ∀ (pal : Nat → Pal) (sep : Bytes) (evs : List Ev),
    (runAcct sep {} evs).total.bytes = (bytesOf (runOut pal sep (fun _ => none) evs)).length

/-- … is false with `--color always`: the escape bytes are written but not counted -/
theorem C19_total_bytes_full_false : ¬ C19_total_bytes_full := by
  intro h
  have := h (fun _ => ⟨[27, 91, 109], [27, 91, 49, 109], [27, 91, 52, 109]⟩) []
    [⟨0, ⟨true, none, none⟩, .sysline ⟨[[120, 10]], 0, 0⟩, false, 0, 0⟩]
  revert this; decide

theorem runAcct_perFile_bytes (sep : Bytes) (a : Acct) (evs : List Ev) :
    sumBy (·.bytes) (runAcct sep a evs).perFile = sumBy (·.bytes) a.perFile + (evs.map (fun ev => printedOf ev.o ev.m)).sum :=
  runAcct_sum sep (fun a => sumBy (·.bytes) a.perFile) _
    (fun a ev => sumBy_mapUpdate _ _ rfl (fun s => by rw [update_eq])) a evs

/-- C19: the per-file byte counts add up to the total less the separators and supplied newlines -/
theorem C19_per_file (sep : Bytes) (evs : List Ev) :
    sumBy (·.bytes) (runAcct sep {} evs).perFile + (evs.map (fun ev => (sep ++ addedNL ev).length)).sum
      = (runAcct sep {} evs).total.bytes := by
  rw [runAcct_perFile_bytes, runAcct_total_bytes]
  have : ∀ evs : List Ev, (evs.map (evBytes sep)).sum =
      (evs.map (fun ev => printedOf ev.o ev.m)).sum + (evs.map (fun ev => (sep ++ addedNL ev).length)).sum := by
    intro evs
    induction evs with
    | nil => rfl
    | cons e r ih => simp only [List.map_cons, List.sum_cons, ih, evBytes]; omega
  rw [this]; simp [sumBy]

def countKind (k : Kind) (evs : List Ev) : Nat := (evs.map (fun ev => if ev.m.kind = k then 1 else 0)).sum

/-- C19: the message counters count the printed messages of each kind; "Printed lines" is the
number of lines of the printed *text-log* messages only (records of the other kinds add none,
whatever they contain); per-file lines and messages add up to the totals -/
theorem C19_counts (sep : Bytes) (evs : List Ev) :
    let a := runAcct sep {} evs
    a.total.syslines = countKind .sysline evs ∧
    a.total.fixedstructentries = countKind .fixedstruct evs ∧
    a.total.evtxentries = countKind .evtx evs ∧
    a.total.journalentries = countKind .journal evs ∧
    a.total.lines = (evs.map (fun ev => ev.m.nlines)).sum ∧
    sumBy (·.lines) a.perFile = a.total.lines ∧
    sumBy msgsOf a.perFile = evs.length := by
  have tot (F : SumPr → Nat) (g : Ev → Nat) (h0 : F {} = 0)
      (h : ∀ a ev, F (account a sep ev.pid ev.m ev.isLast ev.dt (printedOf ev.o ev.m) ev.flushed).total = F a.total + g ev) :
      F (runAcct sep {} evs).total = (evs.map g).sum := by
    simpa [h0] using runAcct_sum sep (fun a => F a.total) g h {} evs
  have per (f : SumPr → Nat) (g : Ev → Nat) (h0 : f {} = 0)
      (h : ∀ s ev, f (s.update ev.m.kind ev.m.nlines (printedOf ev.o ev.m) ev.flushed ev.dt) = f s + g ev) :
      sumBy f (runAcct sep {} evs).perFile = (evs.map g).sum := by
    simpa [sumBy] using runAcct_sum sep (fun a => sumBy f a.perFile) g
      (fun a ev => sumBy_mapUpdate f (g ev) h0 (fun s => h s ev)) {} evs
  have hl := tot (·.lines) (fun ev => ev.m.nlines) rfl (fun a ev => by rw [account_total])
  refine ⟨tot (·.syslines) _ rfl fun a ev => by rw [account_total],
    tot (·.fixedstructentries) _ rfl fun a ev => by rw [account_total],
    tot (·.evtxentries) _ rfl fun a ev => by rw [account_total],
    tot (·.journalentries) _ rfl fun a ev => by rw [account_total], hl, ?_, ?_⟩
  · rw [hl]; exact per (·.lines) _ rfl fun s ev => by rw [update_eq]; exact congrArg _ (nlines_of_kind ev.m)
  · exact (per msgsOf (fun _ => 1) rfl fun s ev => update_msgs ..).trans
      (by rw [List.map_const', List.sum_replicate_nat, Nat.mul_one])

theorem runAcct_dt (sep : Bytes) (evs : List Ev) (a : Acct) (f l : Int) (hf : a.total.dtFirst = some f)
    (hl : a.total.dtLast = some l) :
    (runAcct sep a evs).total.dtFirst = some ((evs.map (·.dt)).foldl min f) ∧
    (runAcct sep a evs).total.dtLast = some ((evs.map (·.dt)).foldl max l) := by
  induction evs generalizing a f l with
  | nil => exact ⟨hf, hl⟩
  | cons ev r ih =>
    obtain ⟨h1, h2⟩ := updateDt_eq a.total ev.dt
    exact ih _ _ _ (by rw [account_total]; simpa [hf] using h1) (by rw [account_total]; simpa [hl] using h2)

/-- C19: "Datetime printed first / last" bound every printed instant and are printed instants -/
theorem C19_first_last (sep : Bytes) (evs : List Ev) (hne : evs ≠ []) :
    ∃ f l, (runAcct sep {} evs).total.dtFirst = some f ∧ (runAcct sep {} evs).total.dtLast = some l ∧
      (∀ ev ∈ evs, f ≤ ev.dt ∧ ev.dt ≤ l) ∧ (∃ ev ∈ evs, ev.dt = f) ∧ (∃ ev ∈ evs, ev.dt = l) := by
  cases evs with
  | nil => exact absurd rfl hne
  | cons ev r =>
    -- the first event sets both to its instant
    obtain ⟨h1, h2⟩ := runAcct_dt sep r (account {} sep ev.pid ev.m ev.isLast ev.dt (printedOf ev.o ev.m) ev.flushed)
      ev.dt ev.dt (by rw [account_total]; rfl) (by rw [account_total]; rfl)
    obtain ⟨pm, pl⟩ := foldl_min_spec (r.map (·.dt)) ev.dt
    obtain ⟨xm, xl⟩ := foldl_max_spec (r.map (·.dt)) ev.dt
    have mem : ∀ e ∈ ev :: r, e.dt ∈ ev.dt :: r.map (·.dt) := fun e he => List.mem_map_of_mem (f := (·.dt)) he
    have back : ∀ x ∈ ev.dt :: r.map (·.dt), ∃ e ∈ ev :: r, e.dt = x := fun x hx =>
      List.mem_map.mp (show x ∈ (ev :: r).map (·.dt) from hx)
    exact ⟨_, _, h1, h2, fun e he => ⟨pl _ (mem e he), xl _ (mem e he)⟩, back _ pm, back _ xm⟩

/- C19 "stdout unchanged by --summary" is structural in the model: `runOut` (stdout) has no
summary parameter and `runAcct` produces no chunks; in the source every summary update sits under
`if cli_opt_summary`, writes nothing, and the summary text goes through `eprintln!`. It is
checked on the real binary (stdout with and without `-s` compared byte for byte). -/

/-! ## C13 — lines split over blocks (`lineparts`)

`hlParts parts b e` is the loop of `print_color_line_highlight_dt!` over the parts of the first
line of a message; `hlPart` is its body, and `S4V.Gen.Print.hlPartSegs` is the same body
translated from the source on every run. -/

/-- the hand-written body is the translated one: the five cases, their comparisons, the bounds of
every `&slice[..]` and the colour of every write (a source change regenerates `hlPartSegs` and
breaks this proof) -/
theorem hlPart_matches_source (at_ : Nat) (slice : Bytes) (b e : Nat) :
    hlPart at_ slice b e = (S4V.Gen.Print.hlPartSegs at_ slice b e).flatMap segOps := by
  simp only [hlPart, S4V.Gen.Print.hlPartSegs, apply_ite (fun l : List S4V.Gen.Print.Seg => l.flatMap segOps),
    List.flatMap_cons, List.flatMap_nil, segOps, specOfNat, if_true, Bool.false_eq_true, if_false, List.append_nil,
    List.append_assoc]

/-- C13: whatever the partition of the line and wherever the datetime lies relative to the part
boundaries, the slices handed to `buffer_write_or_return!` are the line: nothing lost, nothing
duplicated, order kept. (Holds for every `b ≤ e`, also past the end of the line, and even if a
part were empty.) -/
theorem C13_parts_bytes (parts : List Bytes) {b e : Nat} (hbe : b ≤ e) :
    wrOf (hlParts parts b e) = parts.flatten := by
  have := tags_hlPartsAt hbe parts 0 none
  rw [← tagsOf_snd none, hlParts, this, paint_snd]

def underOf (s : Spec) (ts : List (Option Spec × UInt8)) : Bytes := (ts.filter (fun t => t.1 = some s)).map Prod.snd

/-- C13: every byte of the line is written under the text colour except exactly the bytes
`[b, e)` of the line, which are written under the datetime colour — byte by byte, in order,
whatever colour was in force before -/
theorem C13_parts_dt (parts : List Bytes) {b e : Nat} (hbe : b ≤ e) (cur : Option Spec) :
    tagsOf cur (hlParts parts b e) =
      tag .txt (parts.flatten.take b) ++ tag .dt (parts.flatten.extract b e) ++ tag .txt (parts.flatten.drop e) := by
  rw [hlParts, tags_hlPartsAt hbe parts 0 cur, paint_zero _ hbe]

theorem underOf_append (s : Spec) (a b : List (Option Spec × UInt8)) : underOf s (a ++ b) = underOf s a ++ underOf s b := by
  simp [underOf]

theorem underOf_tag (s s' : Spec) (x : Bytes) : underOf s (tag s' x) = if s' = s then x else [] := by
  by_cases h : s' = s <;> simp [underOf, tag, h, List.filter_map, Function.comp_def]

/-- `C13_parts_dt` as byte strings: under the datetime colour exactly `line[b..e]`, under the text colour the
rest, under the default colour nothing -/
theorem C13_parts_dt_bytes (parts : List Bytes) {b e : Nat} (hbe : b ≤ e) (cur : Option Spec) :
    underOf .dt (tagsOf cur (hlParts parts b e)) = parts.flatten.extract b e ∧
    underOf .txt (tagsOf cur (hlParts parts b e)) = parts.flatten.take b ++ parts.flatten.drop e ∧
    underOf .dflt (tagsOf cur (hlParts parts b e)) = [] := by
  rw [C13_parts_dt parts hbe cur]
  simp [underOf_append, underOf_tag]

/-- corollary: a multi-part first line gives the same plain and counted streams as the one-part
line of the first half of the model, so every C13 theorem above extends to lines split over blocks -/
theorem hlParts_eq_hlLine (p : Pal) (last : Last) (parts : List Bytes) {b e : Nat} (hbe : b ≤ e) :
    plainOf (exec p last (hlParts parts b e)).1 = plainOf (exec p last (hlLine parts.flatten b e)).1 ∧
    dataOf (exec p last (hlParts parts b e)).1 = dataOf (exec p last (hlLine parts.flatten b e)).1 := by
  simp [exec_plain, exec_data, C13_parts_bytes parts hbe, wrOf_hlLine _ hbe]

/-- … and for non-empty parts (what the line reader builds) the whole byte stream, escapes
included, and the colour left set are those of the one-part line: the `prt run` rendering of the
first half of the model is right for lines split over blocks too -/
theorem hlParts_stream_eq_hlLine (p : Pal) (last : Last) (parts : List Bytes) (hne : ∀ q ∈ parts, q ≠ [])
    {b e : Nat} (hbe : b ≤ e) :
    bytesOf (exec p last (hlParts parts b e)).1 = bytesOf (exec p last (hlLine parts.flatten b e)).1 ∧
    (exec p last (hlParts parts b e)).2 = (exec p last (hlLine parts.flatten b e)).2 :=
  exec_hlParts_eq_hlLine p last parts hne hbe

/-- the hypotheses are satisfiable: `ab|cdef`, datetime `[1,4)` straddling the boundary -/
example : (∀ q ∈ [[97, 98], [99, 100, 101, 102]], q ≠ ([] : Bytes)) ∧ 1 ≤ 4 := by decide

/-- the planted defect (`&slice[$dt_end..]` for `&slice[($dt_end - at)..]` in the first case):
counter-model of the per-part body -/
def hlPart_bad (at_ : Nat) (slice : Bytes) (b e : Nat) : List Op :=
  let at_end := at_ + slice.length
  if at_ ≤ b ∧ e < at_end then
    wrNE .txt (slice.take (b - at_)) ++ wrNE .dt ((slice.take (e - at_)).drop (b - at_)) ++ wrNE .txt (slice.drop e)
  else hlPart at_ slice b e

/-- … loses bytes as soon as the datetime lies in a later part: line `ab|cdef`, datetime `[3,4)` -/
theorem bad_slice_loses_bytes :
    wrOf (hlPart_bad 0 [97, 98] 3 4 ++ hlPart_bad 2 [99, 100, 101, 102] 3 4) ≠ [97, 98, 99, 100, 101, 102] := by decide

/-! ## C19 — what a print call returns and what it puts on stdout

`printM env F o m d` runs one call of `print_sysline` / `print_fixedstruct` / `print_evtx` /
`print_journalentry` on the printer's buffer (`Env.code`: `BUFFER_USE`/`BUFFER_CAP` from the
source) and returns the tuple the coordinator adds to `summaryprinted.bytes` / `.flushed`
(`Flags.code`: the order of every `Ok((_, _))` and of every `Ok((p, f)) => …`, from the source). -/

/-- every one of the 24 functions ends in `Ok((printed, flushed))` -/
theorem retFlag_code (k : Kind) (o : Opts) : retFlag Flags.code.ret k o = true := by
  obtain ⟨c, f, d⟩ := o
  cases k <;> cases c <;> cases f <;> cases d <;> rfl

theorem opsM_journal (o : Opts) (m : BufMsg) : opsM o (.journal m) = opsM o (.evtx m) := by
  obtain ⟨c, f, d⟩ := o
  cases c <;> cases f <;> cases d <;> rfl

/-- with the tuples passed straight, a no-colour text printer (loop with `print_line` calls, final flush) is the flat
run of the same macro calls -/
theorem sysNoColorM_flat (env : Env) (F : Flags) (hF : F.ret.print_line = true) (pre : List MOp) (m : SysMsgP) (d : Dev) :
    sysNoColorM env F true true pre m d = flatM env true (m.lines.flatMap (fun l => pre ++ l.map .wr) ++ [.flush]) d := by
  rw [sysNoColorM, flatM, ncLoop_flat env F hF, runD_append]
  simp [runD, stepD, cnt_add_zero]

/-- with the tuple orders of the source, every print call is the flat run of its macro calls and
returns `(printed, flushed)` -/
theorem printM_code (p : Pal) (o : Opts) (m : MsgP) (d : Dev) :
    printM (Env.code p) Flags.code o m d =
      ((runD (Env.code p) d (opsM o m)).1, ((runD (Env.code p) d (opsM o m)).2.printed, (runD (Env.code p) d (opsM o m)).2.flushed)) := by
  have flat (k : Kind) (ms : List MOp) : flatM (Env.code p) (retFlag Flags.code.ret k o) ms d =
      ((runD (Env.code p) d ms).1, ((runD (Env.code p) d ms).2.printed, (runD (Env.code p) d ms).2.flushed)) := by
    rw [retFlag_code]; rfl
  cases m with
  | sysline s =>
    obtain ⟨c, f, dt⟩ := o
    cases c
    · cases f <;> cases dt <;> exact (sysNoColorM_flat _ _ rfl _ _ _).trans (flat .sysline _)
    · have := flat .sysline (opsM ⟨true, f, dt⟩ (.sysline s))
      cases f <;> cases dt <;> exact this
  | fixedstruct b => exact flat ..
  | evtx b => exact flat ..
  | journal b => exact flat ..

/-- every print function ends in `buffer_flush_or_return!` or `setcolor_or_return!`: each body is `… ++ [last call]`
(the bodies that end in the literal `[.wr _, .flush]` included) -/
theorem opsM_last (o : Opts) (m : MsgP) : ∃ ms x, opsM o m = ms ++ [x] ∧ ∀ b, x ≠ .wr b := by
  obtain ⟨c, f, dt⟩ := o
  have evtx (b : BufMsg) : ∃ ms x, evtxOpsM ⟨c, f, dt⟩ b = ms ++ [x] ∧ ∀ b, x ≠ .wr b := by
    cases c <;> cases f <;> cases dt
    · exact ⟨[_], _, rfl, nofun⟩
    all_goals exact ⟨_, _, rfl, nofun⟩
  cases m with
  | sysline s =>
    cases c
    · exact ⟨_, _, rfl, nofun⟩
    · cases f <;> cases dt
      · exact ⟨_ :: _, _, rfl, nofun⟩
      all_goals exact ⟨_, _, rfl, nofun⟩
  | fixedstruct b =>
    cases c
    · exact ⟨optM f ++ optM dt ++ [.wr b.data], .flush, by simp [opsM, fixedOpsM], nofun⟩
    · cases f <;> cases dt <;> exact ⟨_, _, rfl, nofun⟩
  | evtx b => exact evtx b
  | journal b => rw [opsM_journal]; exact evtx b

theorem runD_buf_opsM (env : Env) (d : Dev) (o : Opts) (m : MsgP) : (runD env d (opsM o m)).1.buf = [] := by
  obtain ⟨ms, x, h, hx⟩ := opsM_last o m
  rw [h]
  cases x with
  | wr b => exact absurd rfl (hx b)
  | flush => exact runD_buf_flush env d ms
  | setc s => exact runD_buf_setc env d ms s

/-- C19: for every message (any number of lines and parts, any lengths — also far beyond the
2056-byte buffer), every option set and every colour state, from a printer with an empty buffer:
the first component of the returned tuple — what the coordinator adds to `Printed bytes` — is
the number of bytes the call wrote to stdout through `buffer_write_or_return!` (escape bytes are
written by termcolor and are not counted: finding F6); these bytes are exactly the slices of
the calls, in order; the buffer is empty again; stdout, escapes included, is what the same calls
produce without a buffer (the first half of the model), with the same final colour state; the
second component is the `flushed` count of the macros -/
theorem C19_printed_eq_written (p : Pal) (last : Last) (o : Opts) (m : MsgP) :
    let r := printM (Env.code p) Flags.code o m (Dev.fresh last)
    r.2.1 = (dataOf r.1.out).length ∧
    r.1.buf = [] ∧
    dataOf r.1.out = wrOf (erase (opsM o m)) ∧
    bytesOf r.1.out = bytesOf (exec p last (erase (opsM o m))).1 ∧
    r.1.last = (exec p last (erase (opsM o m))).2 ∧
    r.2.2 = (runD (Env.code p) (Dev.fresh last) (opsM o m)).2.flushed := by
  simp only [printM_code]
  have hs := runD_spec (Env.code p) rfl (Dev.fresh last) (opsM o m)
  have hb := runD_buf_opsM (Env.code p) (Dev.fresh last) o m
  generalize runD (Env.code p) (Dev.fresh last) (opsM o m) = r at hs hb ⊢
  -- `runD_spec` from a printer that has written and buffered nothing, with nothing buffered at the end
  obtain ⟨h1, h2, h3, h4⟩ : pend r.1 = [] ++ _ ∧ r.1.last = (exec p last _).2 ∧ pdata r.1 = [] ++ _ ∧
      r.2.printed + r.1.buf.length = 0 + _ := hs
  simp only [pend, pdata, hb, List.append_nil, List.nil_append, List.length_nil, Nat.add_zero, Nat.zero_add] at h1 h3 h4
  exact ⟨h3 ▸ h4, hb, h3, h1, h2, trivial⟩

theorem erase_fixedOpsM (o : Opts) (b : BufMsg) : erase (fixedOpsM o b) = print_fixedstruct o b := by
  obtain ⟨c, f, dt⟩ := o
  cases c <;> cases f <;> cases dt <;> rfl

theorem erase_evtxOpsM (o : Opts) (b : BufMsg) : erase (evtxOpsM o b) = print_evtx o b := by
  obtain ⟨c, f, dt⟩ := o
  cases c <;> cases f <;> cases dt <;>
    simp [evtxOpsM, erase_append, erase_withFlush, erase_flatMap, erase_prependColorLoopM, erase, optM] <;> rfl

/-- the bytes of the calls of the buffer layer are those of the first half of the model for the
same message with every line as one string: `Printed bytes` of the coordinator model
(`printedOf`) is what the code returns.  Only the colour text printers look at the datetime span. -/
theorem wrM_opsM (o : Opts) (m : MsgP) (hs : ∀ s, m = .sysline s → o.color = true → s.dtBeg ≤ s.dtEnd) :
    wrOf (erase (opsM o m)) = wrOf (ops o m.flat) := by
  cases m with
  | sysline s =>
    obtain ⟨c, f, dt⟩ := o
    show wrM (sysOpsM ⟨c, f, dt⟩ s) = wrOf (print_sysline ⟨c, f, dt⟩ s.flat)
    rw [wrOf_ops_sysline _ _ (hs s rfl)]
    cases c
    · simp [sysOpsM, wrM_append, wrM_flatMap, wrM_optM, wrM_map_wr, decorated, SysMsgP.flat, List.flatMap_map]
    · have hcl : ∀ (pre : List MOp) (first : Bool) (ls : List (List Bytes)),
          wrM (colorLoopM pre s.dtBeg s.dtEnd first ls) = ls.flatMap (fun l => wrM pre ++ l.flatten) := by
        intro pre first ls
        induction ls generalizing first with
        | nil => rfl
        | cons l r ih =>
          simp only [colorLoopM, wrM_append, ih, List.flatMap_cons]
          cases first <;> simp [wrM_withFlush, C13_parts_bytes l (hs s rfl rfl), wrM_append, wrM_map_wr]
      cases f <;> cases dt <;>
        simp [sysOpsM, sysColorOpsM, wrM_append, hcl, optM, decorated, SysMsgP.flat, List.flatMap_map, optBytes]
  | fixedstruct b => exact congrArg wrOf (erase_fixedOpsM o b)
  | evtx b => exact congrArg wrOf (erase_evtxOpsM o b)
  | journal b => rw [opsM_journal, MsgP.flat, ops_journal]; exact congrArg wrOf (erase_evtxOpsM o b)

/-- C19: the count a print call returns is the `printedOf` the accounting theorems
(`C19_total_bytes*`, `C19_per_file`) are stated with -/
theorem C19_printed_is_printedOf (p : Pal) (last : Last) (o : Opts) (m : MsgP) (hs : spanOk m.flat) :
    (printM (Env.code p) Flags.code o m (Dev.fresh last)).2.1 = printedOf o m.flat := by
  obtain ⟨h1, _, h3, _⟩ := C19_printed_eq_written p last o m
  rw [h1, h3, wrM_opsM o m fun s e _ => by subst e; exact hs, printedOf]

/-- C19, `--color never`: the returned count is literally the number of bytes the call put on stdout -/
theorem C19_printed_eq_stdout_nocolor (p : Pal) (last : Last) (o : Opts) (m : MsgP) (hc : o.color = false) :
    (printM (Env.code p) Flags.code o m (Dev.fresh last)).2.1 =
      (bytesOf (printM (Env.code p) Flags.code o m (Dev.fresh last)).1.out).length := by
  obtain ⟨h1, _, h3, h4, _⟩ := C19_printed_eq_written p last o m
  have hn : noSetc (erase (opsM o m)) = true := by
    cases m with
    | sysline s =>
      simp only [opsM, sysOpsM, hc, Bool.false_eq_true, if_false, erase_append, erase_flatMap, erase_optM, erase_map_wr, erase,
        List.append_nil]
      cases o.file <;> cases o.date <;> simp [noSetc, optB]
    | fixedstruct b => exact erase_fixedOpsM o b ▸ noSetc_ops_nocolor o (.fixedstruct b) hc
    | evtx b => exact erase_evtxOpsM o b ▸ noSetc_ops_nocolor o (.evtx b) hc
    | journal b => rw [opsM_journal]; exact erase_evtxOpsM o b ▸ noSetc_ops_nocolor o (.evtx b) hc
  rw [h1, h4, exec_bytes_noSetc hn, h3]

/-- One 3000-byte line printed with a datetime field `D`, no colour, under any tuple orders: the field waits in the
buffer, the line does not fit (2056), so the buffer is written (1 byte, one flush) and the line directly (3000, one more):
`print_line` counts `⟨3001, 2⟩`, which then passes through its own `Ok`, the caller's `+=` and the caller's `Ok`. -/
theorem printM_long_dated_line (F : Flags) (line : Bytes) (hl : line.length = 3000) :
    printM (Env.code ⟨[], [], []⟩) F ⟨false, none, some [68]⟩ (.sysline ⟨[[line]], 0, 0⟩) (Dev.fresh none) =
      (⟨[], [.data [68], .data line], none⟩,
        tup F.ret.print_sysline_prependdate (addRes F.add.print_sysline_prependdate ⟨0, 0⟩ (tup F.ret.print_line ⟨3001, 2⟩))) := by
  simp [printM, print_sysline_M, sysNoColorM, ncLoop, print_line_M, runD, stepD, writeD, flushD, Env.code,
    S4V.Gen.Print.BUFFER_USE, S4V.Gen.Print.BUFFER_CAP, Dev.fresh, hl, cnt_add_def]

/-- the tuple orders of the source, except that `print_sysline_prependdate` ends in
`Ok((flushed, printed))` — the planted defect -/
def Flags.swapped : Flags :=
  { Flags.code with ret := { Flags.code.ret with print_sysline_prependdate := false } }

/-- counter-model: with that swap, any 3000-byte one-line message printed with a datetime field
returns 2 as `printed` (the two flushes: the buffer holding the field, then the oversized line
written directly) while 3001 bytes went to stdout -/
theorem swapped_printed_flushed_differs (line : Bytes) (hl : line.length = 3000) :
    let r := printM (Env.code ⟨[], [], []⟩) Flags.swapped ⟨false, none, some [68]⟩ (.sysline ⟨[[line]], 0, 0⟩) (Dev.fresh none)
    r.2 = (2, 3001) ∧ (bytesOf r.1.out).length = 3001 ∧ r.2.1 ≠ (bytesOf r.1.out).length := by
  simp [printM_long_dated_line _ line hl, Flags.swapped, Flags.code, S4V.Gen.Print.retPrintedFirst,
    S4V.Gen.Print.lineAddStraight, tup, addRes, bytesOf, Chunk.bytes, hl]

/-- … while the code as it is returns (3001, 2) for the same call -/
theorem unswapped_same_call (line : Bytes) (hl : line.length = 3000) :
    (printM (Env.code ⟨[], [], []⟩) Flags.code ⟨false, none, some [68]⟩ (.sysline ⟨[[line]], 0, 0⟩) (Dev.fresh none)).2 = (3001, 2) := by
  simp [printM_long_dated_line _ line hl, Flags.code, S4V.Gen.Print.retPrintedFirst, S4V.Gen.Print.lineAddStraight, tup, addRes]

/-- the hypothesis is satisfiable -/
example : (List.replicate 3000 (120 : UInt8)).length = 3000 := List.length_replicate ..

/-- the same defect in the other place: `Ok((f, p)) => { printed += p; flushed += f; }` -/
def Flags.crossed : Flags :=
  { Flags.code with add := { Flags.code.add with print_sysline_prependdate := false } }

theorem crossed_printed_flushed_differs (line : Bytes) (hl : line.length = 3000) :
    let r := printM (Env.code ⟨[], [], []⟩) Flags.crossed ⟨false, none, some [68]⟩ (.sysline ⟨[[line]], 0, 0⟩) (Dev.fresh none)
    r.2.1 ≠ (bytesOf r.1.out).length := by
  simp [printM_long_dated_line _ line hl, Flags.crossed, Flags.code, S4V.Gen.Print.retPrintedFirst,
    S4V.Gen.Print.lineAddStraight, tup, addRes, bytesOf, Chunk.bytes, hl]

/-! ### the hypotheses are satisfiable -/

example : WFPal ⟨[27, 91, 48, 109, 27, 91, 51, 55, 109], [27, 91, 48, 109], [27, 91, 48, 109, 27, 91, 52, 109]⟩ :=
  ⟨⟨[[27, 91, 48, 109], [27, 91, 51, 55, 109]], rfl, by
      intro p hp; simp at hp; rcases hp with h | h <;> subst h
      · exact ⟨[48], rfl, by decide⟩
      · exact ⟨[51, 55], rfl, by decide⟩⟩,
   ⟨[[27, 91, 48, 109]], rfl, by intro p hp; simp at hp; subst hp; exact ⟨[48], rfl, by decide⟩⟩,
   ⟨[[27, 91, 48, 109], [27, 91, 52, 109]], rfl, by
      intro p hp; simp at hp; rcases hp with h | h <;> subst h
      · exact ⟨[48], rfl, by decide⟩
      · exact ⟨[52], rfl, by decide⟩⟩⟩

example : WFLines [[97, 10], [32, 98, 10], [99]] :=
  ⟨⟨[97], rfl, by decide⟩, ⟨[32, 98], rfl, by decide⟩, Or.inr ⟨by decide, by decide⟩⟩

/-- a concrete decorated two-line message, colour on: strip gives back the message -/
example :
    stripFields [70, 58, 68, 58]
      (stripEsc (bytesOf (render ⟨[27, 91, 48, 109], [27, 91, 49, 109], [27, 91, 52, 109]⟩ none
        ⟨true, some [70, 58], some [68, 58]⟩ (.sysline ⟨[[50, 48, 32, 97, 10], [32, 98, 10]], 0, 2⟩)).1))
      = [50, 48, 32, 97, 10, 32, 98, 10] := by decide

end S4V.Props.PrintSpec
