/-
GENERATED by tools/mk_regexrows.py from harness/src/rgx_rows.txt (gen/gen_regex.py) — regenerate, do not edit.

C04, regex slice: rows 142–148 of `DATETIME_PARSE_DATAS`. `rowsN` holds the literals of their certificates (`RowFacts`,
`S4V.Lemmas.RegexTable`), `certsN` is ONE kernel evaluation for all of them, and `certN`, `factsN` are its components for row N; a row
without an end-to-end theorem (the epoch rows; a row that failed `catOK`) has no certificate and evaluates its own `factsN`. `C04_rowN_search`: for EVERY
selection of entries of the row's catalogue (`rowBodyE` / `rowBodyP`, `S4V.Lemmas.RegexAuto`) and of concrete words, and every
admissible tail, `search` matches at 0, spans exactly the words (and the byte of a final group), and every capture group spans
the word of its item.
-/
import S4V.Gen.Regex
import S4V.Lemmas.RegexTable

namespace S4V.Props.RegexCapture3
open S4V.Model.Regex S4V.Gen.Regex S4V.Lemmas.RegexStep S4V.Lemmas.RegexSym S4V.Lemmas.RegexRows S4V.Lemmas.RegexAuto
open S4V.Lemmas.RegexE2E S4V.Lemmas.Utf8 S4V.Gen.TimeTables

def rowsN : List RowFacts := [
  { row := row142, counts := [(63, 63), (2, 2), (2, 2), (105, 105), (1, 1), (49, 49), (2, 2), (2, 2), (3, 3), (2, 2), (2, 2), (25, 25), (2, 2), (1, 1), (2, 2), (2, 2), (2, 2), (392, 392)], digest := 587327708,
    line := some "Tuesday, Jun 28 2022 01:51:12 WIT".toUTF8.toList, fits := true },
  { row := row143, counts := [(63, 63), (2, 2), (2, 2), (105, 105), (1, 1), (49, 49), (2, 2), (2, 2), (3, 3), (2, 2), (2, 2), (25, 25), (2, 2), (1, 1), (2, 2), (2, 2)], digest := 629967777,
    line := some "Tuesday, Jun 28 2022 01:51:12 ".toUTF8.toList, fits := true },
  { row := row144, counts := [(63, 63), (2, 2), (2, 2), (105, 105), (1, 1), (49, 49), (2, 2), (2, 2), (25, 25), (2, 2), (1, 1), (2, 2), (2, 2), (2, 2), (3, 3), (3, 3), (1, 1)], digest := 844847934,
    line := some "Thu Jan 12 22:26:47 2023 +1230: called for pid 486450, signal 6, core limit 0, dump mode 1".toUTF8.toList, fits := true },
  { row := row145, counts := [(63, 63), (2, 2), (2, 2), (105, 105), (1, 1), (49, 49), (2, 2), (2, 2), (25, 25), (2, 2), (1, 1), (2, 2), (2, 2), (2, 2), (3, 3), (3, 3), (1, 1)], digest := 184986238,
    line := some "Thu Jan 12 22:26:47 2023 +12:30: called for pid 486450, signal 6, core limit 0, dump mode 1".toUTF8.toList, fits := true },
  { row := row146, counts := [(63, 63), (2, 2), (2, 2), (105, 105), (1, 1), (49, 49), (2, 2), (2, 2), (25, 25), (2, 2), (1, 1), (2, 2), (2, 2), (2, 2), (3, 3), (3, 3), (1, 1)], digest := 964346234,
    line := some "Thu Jan 12 22:26:47 2023 +12: called for pid 486450, signal 6, core limit 0, dump mode 1".toUTF8.toList, fits := true },
  { row := row147, counts := [(63, 63), (2, 2), (2, 2), (105, 105), (1, 1), (49, 49), (2, 2), (2, 2), (25, 25), (2, 2), (1, 1), (2, 2), (2, 2), (2, 2), (3, 3), (3, 3), (392, 392)], digest := 365288119,
    line := some "Thu Jan 12 22:26:47 2023 WITA: called for pid 486450, signal 6, core limit 0, dump mode 1".toUTF8.toList, fits := true },
  { row := row148, counts := [(63, 63), (2, 2), (2, 2), (105, 105), (1, 1), (49, 49), (2, 2), (2, 2), (25, 25), (2, 2), (1, 1), (2, 2), (2, 2), (2, 2), (3, 3)], digest := 80929492,
    line := some "Thu Jan 12 22:26:47 2023: called for pid 486450, signal 6, core limit 0, dump mode 1".toUTF8.toList, fits := true }]

theorem certsN : ∀ i (h : i < rowsN.length), rowsN[i].Cert :=
  RowFacts.certs_of_all (by
    unfold rowsN
    rw [toUTF8_toList_ofList, toUTF8_toList_ofList, toUTF8_toList_ofList, toUTF8_toList_ofList, toUTF8_toList_ofList, toUTF8_toList_ofList, toUTF8_toList_ofList]
    decide +kernel)

/-! ### row 142 (dayIgnore:2,month:3,day:4,year:5,hour:6,minute:7,second:8,tz:9): head `softR`, end `(?P<g>[class]|$)` -/

theorem cert142 : (rowsN[0]'(by decide)).Cert := certsN 0 (by decide)

theorem facts142 : keptCounts (rowBodyE re142 1) = [(63, 63), (2, 2), (2, 2), (105, 105), (1, 1), (49, 49), (2, 2), (2, 2), (3, 3), (2, 2), (2, 2), (25, 25), (2, 2), (1, 1), (2, 2), (2, 2), (2, 2), (392, 392)] ∧
    catDigest (rowBodyE re142 1) = 587327708 ∧
    splitsL (rowBodyE re142 1) "Tuesday, Jun 28 2022 01:51:12 WIT".toUTF8.toList = true := cert142.facts

theorem C04_row142_search (sel : Sel) (hv : Valid (rowBodyE re142 1) sel) (tail : List UInt8) (ht : TailIn (rowEndSym re142) tail) :
    RowResult row142.re (flat sel ++ tail) ((flat sel).length + tailLen tail) [((headParts re142).1, 0, 0)] (sel ++ [rowEndEw re142 tail]) :=
  auto_E (re := re142) (by rfl) cert142.headOk sel hv tail ht

/-! ### row 143 (dayIgnore:2,month:3,day:4,year:5,hour:6,minute:7,second:8): head `softR`, end `(?P<g>[class]|$)` -/

theorem cert143 : (rowsN[1]'(by decide)).Cert := certsN 1 (by decide)

theorem facts143 : keptCounts (rowBodyE re143 1) = [(63, 63), (2, 2), (2, 2), (105, 105), (1, 1), (49, 49), (2, 2), (2, 2), (3, 3), (2, 2), (2, 2), (25, 25), (2, 2), (1, 1), (2, 2), (2, 2)] ∧
    catDigest (rowBodyE re143 1) = 629967777 ∧
    splitsL (rowBodyE re143 1) "Tuesday, Jun 28 2022 01:51:12 ".toUTF8.toList = true := cert143.facts

theorem C04_row143_search (sel : Sel) (hv : Valid (rowBodyE re143 1) sel) (tail : List UInt8) (ht : TailIn (rowEndSym re143) tail) :
    RowResult row143.re (flat sel ++ tail) ((flat sel).length + tailLen tail) [((headParts re143).1, 0, 0)] (sel ++ [rowEndEw re143 tail]) :=
  auto_E (re := re143) (by rfl) cert143.headOk sel hv tail ht

/-! ### row 144 (dayIgnore:2,month:3,day:4,hour:5,minute:6,second:7,year:8,tz:10): head `softR`, end `(?P<g>[class]|$)` -/

theorem cert144 : (rowsN[2]'(by decide)).Cert := certsN 2 (by decide)

theorem facts144 : keptCounts (rowBodyE re144 1) = [(63, 63), (2, 2), (2, 2), (105, 105), (1, 1), (49, 49), (2, 2), (2, 2), (25, 25), (2, 2), (1, 1), (2, 2), (2, 2), (2, 2), (3, 3), (3, 3), (1, 1)] ∧
    catDigest (rowBodyE re144 1) = 844847934 ∧
    splitsL (rowBodyE re144 1) "Thu Jan 12 22:26:47 2023 +1230: called for pid 486450, signal 6, core limit 0, dump mode 1".toUTF8.toList = true := cert144.facts

theorem C04_row144_search (sel : Sel) (hv : Valid (rowBodyE re144 1) sel) (tail : List UInt8) (ht : TailIn (rowEndSym re144) tail) :
    RowResult row144.re (flat sel ++ tail) ((flat sel).length + tailLen tail) [((headParts re144).1, 0, 0)] (sel ++ [rowEndEw re144 tail]) :=
  auto_E (re := re144) (by rfl) cert144.headOk sel hv tail ht

/-! ### row 145 (dayIgnore:2,month:3,day:4,hour:5,minute:6,second:7,year:8,tz:10): head `softR`, end `(?P<g>[class]|$)` -/

theorem cert145 : (rowsN[3]'(by decide)).Cert := certsN 3 (by decide)

theorem facts145 : keptCounts (rowBodyE re145 1) = [(63, 63), (2, 2), (2, 2), (105, 105), (1, 1), (49, 49), (2, 2), (2, 2), (25, 25), (2, 2), (1, 1), (2, 2), (2, 2), (2, 2), (3, 3), (3, 3), (1, 1)] ∧
    catDigest (rowBodyE re145 1) = 184986238 ∧
    splitsL (rowBodyE re145 1) "Thu Jan 12 22:26:47 2023 +12:30: called for pid 486450, signal 6, core limit 0, dump mode 1".toUTF8.toList = true := cert145.facts

theorem C04_row145_search (sel : Sel) (hv : Valid (rowBodyE re145 1) sel) (tail : List UInt8) (ht : TailIn (rowEndSym re145) tail) :
    RowResult row145.re (flat sel ++ tail) ((flat sel).length + tailLen tail) [((headParts re145).1, 0, 0)] (sel ++ [rowEndEw re145 tail]) :=
  auto_E (re := re145) (by rfl) cert145.headOk sel hv tail ht

/-! ### row 146 (dayIgnore:2,month:3,day:4,hour:5,minute:6,second:7,year:8,tz:10): head `softR`, end `(?P<g>[class]|$)` -/

theorem cert146 : (rowsN[4]'(by decide)).Cert := certsN 4 (by decide)

theorem facts146 : keptCounts (rowBodyE re146 1) = [(63, 63), (2, 2), (2, 2), (105, 105), (1, 1), (49, 49), (2, 2), (2, 2), (25, 25), (2, 2), (1, 1), (2, 2), (2, 2), (2, 2), (3, 3), (3, 3), (1, 1)] ∧
    catDigest (rowBodyE re146 1) = 964346234 ∧
    splitsL (rowBodyE re146 1) "Thu Jan 12 22:26:47 2023 +12: called for pid 486450, signal 6, core limit 0, dump mode 1".toUTF8.toList = true := cert146.facts

theorem C04_row146_search (sel : Sel) (hv : Valid (rowBodyE re146 1) sel) (tail : List UInt8) (ht : TailIn (rowEndSym re146) tail) :
    RowResult row146.re (flat sel ++ tail) ((flat sel).length + tailLen tail) [((headParts re146).1, 0, 0)] (sel ++ [rowEndEw re146 tail]) :=
  auto_E (re := re146) (by rfl) cert146.headOk sel hv tail ht

/-! ### row 147 (dayIgnore:2,month:3,day:4,hour:5,minute:6,second:7,year:8,tz:10): head `softR`, end `(?P<g>[class]|$)` -/

theorem cert147 : (rowsN[5]'(by decide)).Cert := certsN 5 (by decide)

theorem facts147 : keptCounts (rowBodyE re147 1) = [(63, 63), (2, 2), (2, 2), (105, 105), (1, 1), (49, 49), (2, 2), (2, 2), (25, 25), (2, 2), (1, 1), (2, 2), (2, 2), (2, 2), (3, 3), (3, 3), (392, 392)] ∧
    catDigest (rowBodyE re147 1) = 365288119 ∧
    splitsL (rowBodyE re147 1) "Thu Jan 12 22:26:47 2023 WITA: called for pid 486450, signal 6, core limit 0, dump mode 1".toUTF8.toList = true := cert147.facts

theorem C04_row147_search (sel : Sel) (hv : Valid (rowBodyE re147 1) sel) (tail : List UInt8) (ht : TailIn (rowEndSym re147) tail) :
    RowResult row147.re (flat sel ++ tail) ((flat sel).length + tailLen tail) [((headParts re147).1, 0, 0)] (sel ++ [rowEndEw re147 tail]) :=
  auto_E (re := re147) (by rfl) cert147.headOk sel hv tail ht

/-! ### row 148 (dayIgnore:2,month:3,day:4,hour:5,minute:6,second:7,year:8): head `softR`, end `(?P<g>[class]|$)` -/

theorem cert148 : (rowsN[6]'(by decide)).Cert := certsN 6 (by decide)

theorem facts148 : keptCounts (rowBodyE re148 1) = [(63, 63), (2, 2), (2, 2), (105, 105), (1, 1), (49, 49), (2, 2), (2, 2), (25, 25), (2, 2), (1, 1), (2, 2), (2, 2), (2, 2), (3, 3)] ∧
    catDigest (rowBodyE re148 1) = 80929492 ∧
    splitsL (rowBodyE re148 1) "Thu Jan 12 22:26:47 2023: called for pid 486450, signal 6, core limit 0, dump mode 1".toUTF8.toList = true := cert148.facts

theorem C04_row148_search (sel : Sel) (hv : Valid (rowBodyE re148 1) sel) (tail : List UInt8) (ht : TailIn (rowEndSym re148) tail) :
    RowResult row148.re (flat sel ++ tail) ((flat sel).length + tailLen tail) [((headParts re148).1, 0, 0)] (sel ++ [rowEndEw re148 tail]) :=
  auto_E (re := re148) (by rfl) cert148.headOk sel hv tail ht

end S4V.Props.RegexCapture3
