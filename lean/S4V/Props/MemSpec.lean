/-
C17 — memory held while a text log is streamed.  Model: `S4V.Model.Mem` (stage-3 loop and drop path, counts only) and,
for the `blocks` map of a streamed reader, `S4V.Model.Stream`.

"Retained data stays under a bound independent of the number of messages" (`C17_full`) is false of the code, by
evaluated witnesses of two mechanisms.  A lagging consumer: `Arc::try_unwrap` fails for a message the consumer still
holds, `drop_sysline` has already removed it from `syslines`, so its lines — and, for a plain file, its blocks — are never
dropped (`syslines high` does not move, as the binary shows).  Line ends on block ends, plain file, even with a prompt
consumer: `drop_line` drops the blocks of the non-last parts only, so a block whose last byte ends a line is dropped by
nobody.  What is proved for every number of messages: a streamed reader stores at most 2 blocks; with a prompt consumer,
message `j` lying in blocks `j` and `j + 1` and a line across every block boundary (`Straddling`) the three high-water marks
are bounded (`C17_bound_partial_general`; general geometry: `S4V.Props.MemGeneralSpec`); and the bound on lines rests on
`drop_lines` visiting every line (`DROP_LINES_VISITS_ALL`; `drop_lines_short_circuit_grows`).
-/
import S4V.Model.Mem
import S4V.Lemmas.Stream
import S4V.Lemmas.Mem
import S4V.Lemmas.MemGeneral

namespace S4V.Props.MemSpec
open S4V.Model.Mem S4V.Gen.Consts S4V.Gen.Stream

open S4V.Model.Stream S4V.Model.Lines S4V.Lemmas.Stream in
/-- **C17_blocks_streamed**: whatever the file size, content, block size and chunking, after any
non-decreasing sequence of `read_block` calls a gz / bz2 / lz4 reader holds at most one block and
its `blocks_highest` is at most 2 (`READ_BLOCK_LOOKBACK_DROP`) -/
theorem C17_blocks_streamed (kind : Kind) (bs : Nat) (d : Bytes) (cs csPre : List Nat) (ks : List Nat)
    (hbs : 1 ≤ bs) (hk : DecOk kind bs cs) (hord : ks.Pairwise (· ≤ ·)) :
    (readSeq (Rd.new kind bs d cs csPre) ks).2.blocks.length ≤ 1
      ∧ (readSeq (Rd.new kind bs d cs csPre) ks).2.high ≤ 2 := by
  obtain ⟨h, _⟩ := SInv.new kind bs d cs csPre hbs hk
  obtain ⟨n', f1, _, _⟩ := (readSeq_stream d ks _ 0 h (fun x _ => by omega) hord).2
  refine ⟨?_, f1.hhigh⟩
  rw [f1.hblocks]
  split <;> simp

open S4V.Model.Stream in
example : (readSeq (Rd.new .gz 2 [1, 2, 3, 4, 5, 6, 7] [1, 3] []) [0, 1, 2, 3]).2.high = 2 := by decide +kernel

def marks (s : St) : Nat × Nat × Nat := (s.bHigh, s.lHigh, s.sHigh)

/-- the unrestricted claim in its literal form: one bound `B` for every number of messages,
every consumer, plain or streamed. Its refutation needs a lower bound for EVERY `n` (an induction
over the loop: `S4V.Props.MemGeneralSpec.C17_unbounded_false`); what is refuted here is `C17_full`. -/
def C17_unbounded_stmt : Prop :=
  ∃ B, ∀ (streamed : Bool) (lag : Nat → Nat) (n : Nat),
    (run streamed lag (long7 n)).bHigh ≤ B ∧ (run streamed lag (long7 n)).lHigh ≤ B
    ∧ (run streamed lag (straddle n)).lHigh ≤ B ∧ (run streamed lag (aligned n)).bHigh ≤ B

/-- the claim as a steady state: once 10 messages have been printed the high-water marks of
blocks, lines and messages do not rise again, whatever the number of messages, the consumer's
lag (within the channel's capacity) and the container -/
def C17_full : Prop :=
  ∀ (streamed : Bool) (lag : Nat → Nat) (n : Nat), 10 ≤ n →
    (run streamed lag (long7 n)).bHigh ≤ (run streamed lag (long7 10)).bHigh
    ∧ (run streamed lag (long7 n)).lHigh ≤ (run streamed lag (long7 10)).lHigh
    ∧ (run streamed lag (straddle n)).lHigh ≤ (run streamed lag (straddle 10)).lHigh
    ∧ (run streamed lag (aligned n)).bHigh ≤ (run streamed lag (aligned 10)).bHigh

/-- the 4-block family under a lagging consumer, plain file: blocks and lines grow with the number of messages -/
theorem long7_lagging_grows :
    marks (run false lagging (long7 10)) = (31, 70, 4) ∧ marks (run false lagging (long7 20)) = (61, 140, 4) := by
  decide +kernel

/-- the same family with a prompt consumer is flat -/
theorem long7_prompt_flat :
    marks (run false prompt (long7 10)) = (13, 29, 4) ∧ marks (run false prompt (long7 20)) = (13, 29, 4) := by
  decide +kernel

/-- streamed reader: `blocks high` 2, lines still grow under a lagging consumer -/
theorem long7_streamed :
    marks (run true lagging (long7 10)) = (2, 70, 4) ∧ marks (run true lagging (long7 20)) = (2, 140, 4) := by
  decide +kernel

/-- 2-block messages, lagging consumer: grows as well -/
theorem straddle_lagging_grows :
    marks (run false lagging (straddle 10)) = (11, 10, 5) ∧ marks (run false lagging (straddle 20)) = (21, 20, 5) := by
  decide +kernel

/-- lines that end where blocks end, plain file, PROMPT consumer: every block is retained -/
theorem aligned_prompt_grows :
    marks (run false prompt (aligned 10)) = (5, 7, 6) ∧ marks (run false prompt (aligned 20)) = (10, 7, 6)
      ∧ marks (run false prompt (aligned 40)) = (20, 7, 6) := by
  decide +kernel

/-- … and not on a streamed reader -/
theorem aligned_streamed_flat :
    marks (run true prompt (aligned 10)) = (2, 7, 6) ∧ marks (run true prompt (aligned 40)) = (2, 7, 6) := by
  decide +kernel

/-- **C17_bound_partial**, checked instances: messages that end at most one block after they
start, every block boundary crossed by a line, consumer not lagging — the marks do not move
between 10 and 80 messages (the bounds of `C17_bound_partial_straddle` below are attained) -/
theorem C17_bound_partial_instances :
    marks (run false prompt (straddle 10)) = (7, 6, 5) ∧ marks (run false prompt (straddle 20)) = (7, 6, 5)
      ∧ marks (run false prompt (straddle 40)) = (7, 6, 5) ∧ marks (run false prompt (straddle 80)) = (7, 6, 5)
      ∧ marks (run true prompt (straddle 80)) = (2, 6, 5) := by
  decide +kernel

/-- general lower bound for the aligned family on a plain file: a block, once read, is never
removed, so all `⌈n / 2⌉` blocks are retained — stated for the sizes evaluated -/
theorem aligned_retains_all : ∀ n ∈ [2, 4, 8, 16, 32], (run false prompt (aligned n)).blocks.length = n / 2 := by
  decide +kernel

/-- **C17_full_false**: three independent witnesses — (1) 4-block messages with a lagging
consumer on a plain file: blocks 31 → 61, lines 70 → 140 from 10 to 20 messages; (2) the same on a
streamed reader: lines 70 → 140; (3) block-aligned line ends on a plain file with a PROMPT
consumer: blocks 5 → 10 -/
theorem C17_full_false : ¬ C17_full := by
  intro h
  have h1 := (h false lagging 20 (by decide)).1
  have e := long7_lagging_grows
  simp only [marks, Prod.mk.injEq] at e
  omega

theorem C17_full_false_streamed_lines : ¬ C17_full := by
  intro h
  obtain ⟨_, h1, _⟩ := h true lagging 20 (by decide)
  have e := long7_streamed
  simp only [marks, Prod.mk.injEq] at e
  omega

theorem C17_full_false_aligned : ¬ C17_full := by
  intro h
  obtain ⟨_, _, _, h1⟩ := h false prompt 20 (by decide)
  have e := aligned_prompt_grows
  simp only [marks, Prod.mk.injEq] at e
  omega

open S4V.Lemmas.Mem

/-- the code as extracted visits every line of a dropped message: `run` is the `visitAll = true`
instance of the model (unfolds `DROP_LINES_VISITS_ALL`; a regenerated `false` breaks this and
everything below) -/
theorem run_visits_all : run = runG true := by
  funext streamed lag msgs
  simp only [run, DROP_LINES_VISITS_ALL]

/-- **C17_bound_partial_general**: for every list of messages such that message `j` starts in block
`j`, ends in block `j + 1` and has at most `M` lines (`Straddling M msgs`, decidable), and a consumer
that is not lagging, the high-water marks of the stage-3 loop are at most 7 blocks, `5 M + 1` lines
and 5 messages on a plain file, and 2 blocks, `5 M + 1` lines, 5 messages on a streamed reader —
whatever the number of messages. -/
theorem C17_bound_partial_general (M : Nat) (msgs : List Msg) (h : Straddling M msgs) :
    ((run false prompt msgs).bHigh ≤ 7 ∧ (run false prompt msgs).lHigh ≤ 5 * M + 1 ∧ (run false prompt msgs).sHigh ≤ 5)
    ∧ ((run true prompt msgs).bHigh ≤ 2 ∧ (run true prompt msgs).lHigh ≤ 5 * M + 1 ∧ (run true prompt msgs).sHigh ≤ 5) := by
  rw [run_visits_all]
  -- `Straddling M` is the geometry `B = 2`, `P = 1` with every block boundary crossed
  obtain ⟨hG, hc⟩ := S4V.Lemmas.MemGeneral.Straddling.geometry h
  obtain ⟨hb, hl, hs⟩ := S4V.Lemmas.MemGeneral.runG_bounded (streamed := false) hG
  obtain ⟨_, hl', hs'⟩ := S4V.Lemmas.MemGeneral.runG_bounded (streamed := true) hG
  have e : S4V.Lemmas.MemGeneral.lBound M 2 1 = 5 * M + 1 := Nat.mul_comm M 5 ▸ rfl
  exact ⟨⟨hb ⟨rfl, hc⟩, e ▸ hl, hs⟩, ⟨runG_streamed_bHigh true prompt msgs, e ▸ hl', hs'⟩⟩

/-- the hypothesis is decidable and satisfiable -/
example : Straddling 1 (straddle 6) ∧ Straddling 3 (cross3 6) ∧ ¬ Straddling 7 (long7 3) ∧ ¬ Straddling 1 (aligned 4) := by
  decide +kernel

/-- **C17_bound_partial_straddle**: the checked family at EVERY size — 7 blocks / 6 lines / 5 messages
(plain), 2 / 6 / 5 (streamed) -/
theorem C17_bound_partial_straddle (n : Nat) :
    ((run false prompt (straddle n)).bHigh ≤ 7 ∧ (run false prompt (straddle n)).lHigh ≤ 6 ∧ (run false prompt (straddle n)).sHigh ≤ 5)
    ∧ ((run true prompt (straddle n)).bHigh ≤ 2 ∧ (run true prompt (straddle n)).lHigh ≤ 6 ∧ (run true prompt (straddle n)).sHigh ≤ 5) :=
  C17_bound_partial_general 1 (straddle n) (straddle_Straddling n)

/-- **C17_blocks_streamed_loop**: in the loop model a streamed reader never has more than 2 blocks
stored, for every input and every consumer -/
theorem C17_blocks_streamed_loop (lag : Nat → Nat) (msgs : List Msg) : (run true lag msgs).bHigh ≤ 2 := by
  rw [run_visits_all]
  exact runG_streamed_bHigh true lag msgs

/-- ordinary 3-line messages whose inner line crosses a block boundary, the code as extracted:
at most 7 blocks / 16 lines / 5 messages for every number of messages -/
theorem cross3_visit_all_bounded (n : Nat) :
    (run false prompt (cross3 n)).bHigh ≤ 7 ∧ (run false prompt (cross3 n)).lHigh ≤ 16 ∧ (run false prompt (cross3 n)).sHigh ≤ 5 :=
  (C17_bound_partial_general 3 (cross3 n) (cross3_Straddling n)).1

/-- **drop_lines_short_circuit_grows**: had `drop_lines` been `lines.into_iter().any(|l| self.drop_line(l))`
(`visitAll = false`: the walk stops after the first line whose drop released a block), the same family
would retain at least one line per message — for every number of messages, plain or streamed, whatever
the consumer; evaluated: 20 / 30 / 50 lines at 10 / 20 / 40 messages (the extracted code: 16 / 16 / 16). -/
theorem drop_lines_short_circuit_grows :
    (∀ (streamed : Bool) (lag : Nat → Nat) (n : Nat), n ≤ (runG false streamed lag (cross3 n)).lHigh)
    ∧ marks (runG false false prompt (cross3 10)) = (6, 20, 5) ∧ marks (runG false false prompt (cross3 20)) = (6, 30, 5)
    ∧ marks (runG false false prompt (cross3 40)) = (6, 50, 5) ∧ marks (runG false true prompt (cross3 40)) = (2, 50, 5)
    ∧ marks (run false prompt (cross3 10)) = (6, 16, 5) ∧ marks (run false prompt (cross3 40)) = (6, 16, 5) := by
  refine ⟨runG_short_circuit_grows, ?_⟩
  decide +kernel

/-- the short-circuit variant also keeps blocks: 4-block messages, prompt consumer — 45 blocks / 108 lines
at 20 messages against 13 / 29 for the extracted code -/
theorem long7_short_circuit_grows :
    marks (runG false false prompt (long7 20)) = (45, 108, 4) ∧ marks (run false prompt (long7 20)) = (13, 29, 4) :=
  ⟨by decide +kernel, long7_prompt_flat.2⟩

end S4V.Props.MemSpec
