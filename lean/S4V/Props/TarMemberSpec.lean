/-
C05 / C15 — WHICH member of a `.tar` a listed entry reads back.

`process_path_tar` lists `archive|name` for every regular member; each reader later finds the member again by that
string only. The statements below are about the model `S4V.Model.TarMember` instantiated with the facts the
translator extracted from `BlockReader::new`, `read_block_FileTar`, `decompress_to_ntf` and `process_path_tar`
(`S4V.Gen.TarMember`); the proofs unfold those facts, and the counter-models at the end show that another accessor,
comparison, first-match rule or split point makes `C05_tar_member_distinct` false (the no-match result and the listing's
type filter are held at the source's values there).

A listed entry reads the data of the FIRST entry (of any type) whose lossy name equals its own; so it reads its own
bytes when all entry names are pairwise distinct and its name does not hold the separator `|`
(`C05_tar_member_distinct`), and not in general (findings F33, F34, F35).
-/
import S4V.Lemmas.TarMember
import S4V.Lemmas.Lists

namespace S4V.Props.TarMemberSpec
open S4V.Model.Path (Bytes)
open S4V.Model.TarMember S4V.Gen.TarMember S4V.Lemmas.TarMember

/-- the name a member is listed under: `entry.path().to_string_lossy()` -/
abbrev name (e : Entry) : Bytes := candName .entryPath e

theorem brHit_eq (sub : Bytes) (e : Entry) : hit brNewSite sub e = (name e == sub) := by
  simp [hit, brNewSite, cmpOk]

theorem ntfHit_eq (sub : Bytes) (e : Entry) : hit ntfSite sub e = (name e == sub) := by
  simp [hit, ntfSite, cmpOk]

/-- `BlockReader::new` + `read_block_FileTar`, as the source has them -/
theorem brRead_eq (fs : Fs) (full : Bytes) :
    brRead fs full =
      match splitLast sepB full with
      | none => .newErrNoSep
      | some (p, sub) =>
        match fs p with
        | none => .newErrOpen
        | some ar =>
          match ar.find? (fun e => name e == sub) with
          | some e => brWant e
          | none => if ar = [] then .readErr else .empty := by
  unfold brRead brReadWith
  simp only [splitFull, show brSplitAtLast = true from rfl, if_true]
  cases splitLast sepB full with
  | none => rfl
  | some ps =>
    obtain ⟨p, sub⟩ := ps
    simp only
    cases fs p with
    | none => rfl
    | some ar =>
      simp only
      rw [brReadAll_brNew brNewSite rfl sub ar, funext (brHit_eq sub)]
      rfl

/-- `decompress_to_ntf`, as the source has it -/
theorem ntfRead_eq (fs : Fs) (full : Bytes) :
    ntfRead fs full =
      match splitLast sepB full with
      | none => .errNoSep
      | some (p, sub) =>
        match fs p with
        | none => .errOpen
        | some ar =>
          match ar.find? (fun e => name e == sub) with
          | some e => .ok e.data
          | none => .none := by
  unfold ntfRead ntfReadWith
  simp only [splitFull, show ntfSplitAtLast = true from rfl, if_true]
  cases splitLast sepB full with
  | none => rfl
  | some ps =>
    obtain ⟨p, sub⟩ := ps
    simp only
    cases fs p with
    | none => rfl
    | some ar =>
      simp only
      rw [ntfLoop_first ntfSite rfl sub ar, funext (ntfHit_eq sub)]
      cases ar.find? (fun e => name e == sub) <;> rfl

/-- what `process_path_tar` lists: the regular entries, each as `archive SEP lossy(entry.path())` -/
theorem mem_listed (tp : Bytes) (ar : Archive) (full : Bytes) (e : Entry) :
    (full, e) ∈ listed tp ar ↔ e ∈ ar ∧ e.regular = true ∧ full = tp ++ sepB :: name e := by
  simp only [listed, listedWith, show listAcc = NameAcc.entryPath from rfl, show listRegularOnly = true from rfl,
    fullName, sepB_eq, List.mem_map, List.mem_filter]
  constructor
  · rintro ⟨a, ⟨ha, hr⟩, h⟩
    have h1 : a = e := (Prod.mk.inj h).2
    subst h1
    exact ⟨ha, by simpa using hr, by simpa using (Prod.mk.inj h).1.symm⟩
  · rintro ⟨ha, hr, hf⟩
    exact ⟨e, ⟨ha, by simpa using hr⟩, by simp [hf]⟩

/-- The two lookup loops are the same loop (accessor, comparison, `break`, no type filter), split the name the same way,
and look for the name the listing produced; `read_block_FileTar` re-finds the member by the index the first loop stored
(`brReadAll`). Hence for EVERY string both readers deliver the same bytes (an empty member is `Done` for the block reader). -/
theorem C05_lookup_sites_agree :
    brNewSite = ntfSite ∧ brSplitAtLast = ntfSplitAtLast ∧ listAcc = brNewSite.acc ∧ readBlockByStoredIndex = true ∧
    ∀ (fs : Fs) (full d : Bytes),
      (ntfRead fs full = .ok d → brRead fs full = if d = [] then .empty else .ok d) ∧
      (brRead fs full = .ok d → ntfRead fs full = .ok d) := by
  refine ⟨by decide, by decide, by decide, by decide, ?_⟩
  intro fs full d
  rw [brRead_eq, ntfRead_eq]
  cases splitLast sepB full with
  | none => simp
  | some ps =>
    obtain ⟨p, sub⟩ := ps
    simp only
    cases fs p with
    | none => simp
    | some ar =>
      simp only
      cases ar.find? (fun e => name e == sub) with
      | none => by_cases h : ar = [] <;> simp [h]
      | some e =>
        simp only [brWant]
        constructor
        · intro h
          have : e.data = d := by simpa using h
          simp [this]
        · intro h
          by_cases hd : e.data = []
          · simp [hd] at h
          · simpa [hd] using h

/-- Whatever either reader delivers is the data of an entry whose lossy name equals the requested sub-path, in the
archive the name's first part opens: never the bytes of a differently named member. -/
theorem C05_tar_read_is_named (fs : Fs) (full d : Bytes) (h : brRead fs full = .ok d ∨ ntfRead fs full = .ok d) :
    ∃ p sub ar e, splitLast sepB full = some (p, sub) ∧ fs p = some ar ∧ e ∈ ar ∧ name e = sub ∧ e.data = d := by
  obtain ⟨-, -, -, -, hagree⟩ := C05_lookup_sites_agree
  have hn : ntfRead fs full = .ok d := h.elim (hagree fs full d).2 id
  rw [ntfRead_eq] at hn
  split at hn
  · cases hn
  · next p sub hs =>
    split at hn
    · cases hn
    · next ar hp =>
      split at hn
      · next e hf =>
        exact ⟨p, sub, ar, e, hs, hp, List.mem_of_find?_eq_some hf, by simpa using List.find?_some hf,
          by simpa using hn⟩
      · cases hn

/-- A listed entry (name without the separator) reads the FIRST entry of the archive that carries its name — of any
entry type, regular or not. -/
theorem C05_tar_member_dup_reads_first (fs : Fs) (tp : Bytes) (ar : Archive) (hfs : fs tp = some ar)
    (full : Bytes) (e : Entry) (hl : (full, e) ∈ listed tp ar) (hsep : sepB ∉ name e) :
    ∃ e1, ar.find? (fun x => name x == name e) = some e1 ∧ brRead fs full = brWant e1 ∧ ntfRead fs full = ntfWant e1 := by
  obtain ⟨hmem, _, hfull⟩ := (mem_listed tp ar full e).mp hl
  have hsp : splitLast sepB full = some (tp, name e) := by rw [hfull]; exact splitLast_append sepB tp _ hsep
  cases hf : ar.find? (fun x => name x == name e) with
  | none =>
    have := List.find?_eq_none.mp hf e hmem
    simp at this
  | some e1 =>
    refine ⟨e1, rfl, ?_, ?_⟩
    · rw [brRead_eq]; simp only [hsp, hfs, hf]
    · rw [ntfRead_eq]; simp only [hsp, hfs, hf, ntfWant]

/-- exact characterisation: a listed entry reads its own bytes iff the first entry of its name carries the same bytes -/
theorem C05_tar_member_iff (fs : Fs) (tp : Bytes) (ar : Archive) (hfs : fs tp = some ar)
    (full : Bytes) (e : Entry) (hl : (full, e) ∈ listed tp ar) (hsep : sepB ∉ name e) :
    (brRead fs full = brWant e ∧ ntfRead fs full = ntfWant e) ↔
      ∃ e1, ar.find? (fun x => name x == name e) = some e1 ∧ e1.data = e.data := by
  obtain ⟨e1, hf, hb, hn⟩ := C05_tar_member_dup_reads_first fs tp ar hfs full e hl hsep
  constructor
  · rintro ⟨_, h2⟩
    refine ⟨e1, hf, ?_⟩
    rw [hn] at h2
    simpa [ntfWant] using h2
  · rintro ⟨e2, hf2, hd⟩
    have : e2 = e1 := by rw [hf] at hf2; exact (Option.some.inj hf2).symm
    subst this
    rw [hb, hn]
    simp [brWant, ntfWant, hd]

/-- in an archive whose entries (all of them, not only the listed ones) have pairwise distinct lossy names, every
listed entry whose name does not hold the separator reads exactly its own member's bytes, at all three sites. -/
theorem C05_tar_member_distinct (fs : Fs) (tp : Bytes) (ar : Archive) (hfs : fs tp = some ar)
    (hdist : (ar.map name).Nodup)
    (full : Bytes) (e : Entry) (hl : (full, e) ∈ listed tp ar) (hsep : sepB ∉ name e) :
    brRead fs full = brWant e ∧ ntfRead fs full = ntfWant e := by
  obtain ⟨hmem, _, _⟩ := (mem_listed tp ar full e).mp hl
  exact (C05_tar_member_iff fs tp ar hfs full e hl hsep).mpr ⟨e, Lemmas.Lists.find?_key name ar e hdist hmem, rfl⟩

/-- the same by position: the `k`-th listed string reads the `k`-th regular entry -/
theorem C05_tar_member_distinct_kth (fs : Fs) (tp : Bytes) (ar : Archive) (hfs : fs tp = some ar)
    (hdist : (ar.map name).Nodup) (k : Nat) (full : Bytes) (e : Entry)
    (hk : (listed tp ar)[k]? = some (full, e)) (hsep : sepB ∉ name e) :
    (ar.filter (·.regular))[k]? = some e ∧ brRead fs full = brWant e ∧ ntfRead fs full = ntfWant e := by
  refine ⟨?_, C05_tar_member_distinct fs tp ar hfs hdist full e (List.mem_of_getElem? hk) hsep⟩
  have : (listed tp ar).map (·.2) = ar.filter (·.regular) := by
    simp [listed, listedWith, show listRegularOnly = true from rfl, List.map_map, Function.comp_def]
  rw [← this, List.getElem?_map, hk]; rfl

/-- no member of that name: the block reader is EMPTY (or fails on an archive without entries), `decompress_to_ntf`
answers `Ok(None)`; neither delivers bytes -/
theorem C05_tar_lookup_none (fs : Fs) (tp : Bytes) (ar : Archive) (hfs : fs tp = some ar)
    (n : Bytes) (hsep : sepB ∉ n) (habs : ∀ e ∈ ar, name e ≠ n) :
    brRead fs (tp ++ sepB :: n) = (if ar = [] then .readErr else .empty) ∧ ntfRead fs (tp ++ sepB :: n) = .none := by
  have hsp := splitLast_append sepB tp n hsep
  have hf : ar.find? (fun x => name x == n) = none := by
    apply List.find?_eq_none.mpr
    intro e he
    simpa using habs e he
  constructor
  · rw [brRead_eq]; simp only [hsp, hfs, hf]
  · rw [ntfRead_eq]; simp only [hsp, hfs, hf]

/-- `ntfNoMatch`, `brNoMatch` as generated: a missing member is never a panic and never an `Err` of the lookup itself -/
theorem C05_tar_nomatch_facts : ntfNoMatch = .okNone ∧ brNoMatch = .zeroSize := by decide

def tp : Bytes := [116, 46, 116, 97, 114]                      -- `t.tar`
def appLog : Bytes := [97, 112, 112, 46, 108, 111, 103]        -- `app.log`
def oldAppLog : Bytes := [111, 108, 100, 47] ++ appLog         -- `old/app.log`
def d1 : Bytes := [102, 105, 114, 115, 116, 10]                -- `first\n`
def d2 : Bytes := [115, 101, 99, 111, 110, 100, 33, 10]        -- `second!\n`

/-- F33: `tar -r` / `tar -u` appended a second `app.log` -/
def dupAr : Archive := [mkEntry appLog true d1, mkEntry appLog true d2]

/-- non-vacuity of `C05_tar_member_distinct`: two different names, both read their own bytes -/
example : let ar := [mkEntry oldAppLog true d1, mkEntry appLog true d2]
    (ar.map name).Nodup ∧ (listed tp ar).length = 2 ∧
    (∀ x ∈ listed tp ar, sepB ∉ name x.2 ∧ brRead (oneTar tp ar) x.1 = brWant x.2 ∧ ntfRead (oneTar tp ar) x.1 = ntfWant x.2) := by
  decide

/-- the unrestricted statement -/
def C05_tar_member_full : Prop :=
  ∀ (fs : Fs) (tp : Bytes) (ar : Archive), fs tp = some ar →
    ∀ (full : Bytes) (e : Entry), (full, e) ∈ listed tp ar → brRead fs full = brWant e ∧ ntfRead fs full = ntfWant e

/-- **F33**: false. `dup.tar` = [`app.log` "first", `app.log` "second!"]: the listing shows `app.log` twice and BOTH
entries read "first"; the second member's bytes are never delivered. -/
theorem C05_tar_member_full_false : ¬ C05_tar_member_full := by
  intro h
  have := h (oneTar tp dupAr) tp dupAr (by decide) (tp ++ sepB :: appLog) (mkEntry appLog true d2) (by decide)
  revert this
  decide

example : (listed tp dupAr).map (·.1) = [tp ++ sepB :: appLog, tp ++ sepB :: appLog]
    ∧ (listed tp dupAr).map (fun x => brRead (oneTar tp dupAr) x.1) = [.ok d1, .ok d1]
    ∧ (listed tp dupAr).map (fun x => ntfRead (oneTar tp dupAr) x.1) = [.ok d1, .ok d1] := by decide

/-- "the listed names are pairwise distinct" is NOT enough -/
def C05_tar_member_listed_distinct : Prop :=
  ∀ (fs : Fs) (tp : Bytes) (ar : Archive), fs tp = some ar → ((listed tp ar).map (·.1)).Nodup →
    ∀ (full : Bytes) (e : Entry), (full, e) ∈ listed tp ar → sepB ∉ name e →
      brRead fs full = brWant e ∧ ntfRead fs full = ntfWant e

/-- **F35**: false. A symbolic link `app.log` (size 0), later replaced by a file and appended with `tar -r`: ONE listed entry,
which reads nothing (the link entry is found first). With a contiguous-file entry (typeflag `7`) in front, the
listed entry reads that entry's bytes. -/
theorem C05_tar_member_listed_distinct_false : ¬ C05_tar_member_listed_distinct := by
  intro h
  have := h (oneTar tp [mkEntry appLog false [], mkEntry appLog true d2]) tp [mkEntry appLog false [], mkEntry appLog true d2] (by decide) (by decide)
    (tp ++ sepB :: appLog) (mkEntry appLog true d2) (by decide) (by decide)
  revert this
  decide

example : let ar := [mkEntry appLog false d1, mkEntry appLog true d2]
    (listed tp ar).map (fun x => brRead (oneTar tp ar) x.1) = [.ok d1] := by decide

/-- two stored names that differ only in a byte that is not UTF-8 (`\xFF.log`, `\xFE.log`) are listed under the same
string and both read the first -/
theorem C05_tar_member_lossy_collision :
    let ar := [mkEntry [0xFF, 46, 108, 111, 103] true d1, mkEntry [0xFE, 46, 108, 111, 103] true d2]
    (ar.map (·.path)).Nodup ∧ ¬ (ar.map name).Nodup ∧
    (listed tp ar).map (fun x => brRead (oneTar tp ar) x.1) = [.ok d1, .ok d1] := by decide

/-- the separator hypothesis is needed too -/
def C05_tar_member_any_name : Prop :=
  ∀ (fs : Fs) (tp : Bytes) (ar : Archive), fs tp = some ar → (ar.map name).Nodup →
    ∀ (full : Bytes) (e : Entry), (full, e) ∈ listed tp ar → brRead fs full = brWant e ∧ ntfRead fs full = ntfWant e

/-- **F34**: false. The member `a|b.log` is listed as `t.tar|a|b.log`; both readers split at the LAST `|` and try to open the
file `t.tar|a` -/
theorem C05_tar_member_sep_false : ¬ C05_tar_member_any_name := by
  intro h
  have := h (oneTar tp [mkEntry [97, 124, 98, 46, 108, 111, 103] true d1]) tp [mkEntry [97, 124, 98, 46, 108, 111, 103] true d1] (by decide) (by decide)
    (tp ++ sepB :: [97, 124, 98, 46, 108, 111, 103]) (mkEntry [97, 124, 98, 46, 108, 111, 103] true d1) (by decide)
  revert this
  decide

/-- in general: with a separator in the member name the archive part that gets opened is longer than the archive's path -/
theorem C05_tar_member_sep_opens_other (tp a b : Bytes) (h : sepB ∉ b) :
    splitFull brSplitAtLast (tp ++ sepB :: (a ++ sepB :: b)) = some (tp ++ sepB :: a, b) := by
  simp only [splitFull, show brSplitAtLast = true from rfl, if_true]
  exact splitLast_sep_in_name sepB tp a b h

/-- names are not normalised: `./app.log` and `app.log` are two members, each read under its own name; asking for
`app.log` when only `./app.log` is stored finds nothing -/
theorem C05_tar_name_not_normalised :
    let dot : Bytes := [46, 47] ++ appLog
    let ar := [mkEntry dot true d1, mkEntry appLog true d2]
    (listed tp ar).map (fun x => (x.1, brRead (oneTar tp ar) x.1)) = [(tp ++ sepB :: dot, .ok d1), (tp ++ sepB :: appLog, .ok d2)]
    ∧ ntfRead (oneTar tp [mkEntry dot true d1]) (tp ++ sepB :: appLog) = .none := by decide

/-- `C05_tar_member_distinct` (over a directory holding the one archive) with the site parameters explicit -/
def DistinctStmt (br ntf : LookupSite) (atLast : Bool) (lacc : NameAcc) : Prop :=
  ∀ (tp : Bytes) (ar : Archive), (ar.map name).Nodup →
    ∀ (full : Bytes) (e : Entry), (full, e) ∈ listedWith lacc true tp ar → sepB ∉ name e →
      brReadWith br atLast (oneTar tp ar) full = brWant e ∧ ntfReadWith ntf atLast .okNone (oneTar tp ar) full = ntfWant e

/-- as generated it holds -/
theorem DistinctStmt_source : DistinctStmt brNewSite ntfSite brSplitAtLast listAcc := by
  intro tp ar hd full e hl hsep
  exact C05_tar_member_distinct (oneTar tp ar) tp ar (by simp [oneTar]) hd full e hl hsep

theorem not_DistinctStmt {br ntf : LookupSite} {atLast : Bool} {lacc : NameAcc} (tp : Bytes) (ar : Archive)
    (full : Bytes) (e : Entry) (hd : (ar.map name).Nodup) (hl : (full, e) ∈ listedWith lacc true tp ar)
    (hsep : sepB ∉ name e)
    (hne : ¬ (brReadWith br atLast (oneTar tp ar) full = brWant e
      ∧ ntfReadWith ntf atLast .okNone (oneTar tp ar) full = ntfWant e)) :
    ¬ DistinctStmt br ntf atLast lacc :=
  fun h => hne (h tp ar hd full e hl hsep)

/-- `old/app.log` in front of `app.log`: all names distinct, one a path suffix of the other -/
def oldNewAr : Archive := [mkEntry oldAppLog true d1, mkEntry appLog true d2]

/-- `if !Path::new(&subfpath).ends_with(subpath)` in `BlockReader::new` (seeded change C05-b): `app.log` reads `old/app.log` -/
theorem path_ends_with_reads_wrong : ¬ DistinctStmt ⟨.entryPath, .pathEndsWith, true, false⟩ ntfSite true .entryPath :=
  not_DistinctStmt tp oldNewAr (tp ++ sepB :: appLog) (mkEntry appLog true d2)
    (by decide) (by decide) (by decide) (by decide)

theorem str_ends_with_reads_wrong : ¬ DistinctStmt brNewSite ⟨.entryPath, .strEndsWith, true, false⟩ true .entryPath :=
  not_DistinctStmt tp oldNewAr (tp ++ sepB :: appLog) (mkEntry appLog true d2)
    (by decide) (by decide) (by decide) (by decide)

/-- `starts_with` / `contains`: `app.log` reads `app.log.1` stored in front of it -/
theorem starts_with_reads_wrong : ¬ DistinctStmt ⟨.entryPath, .strStartsWith, true, false⟩ ntfSite true .entryPath :=
  not_DistinctStmt tp [mkEntry (appLog ++ [46, 49]) true d1, mkEntry appLog true d2] (tp ++ sepB :: appLog) (mkEntry appLog true d2)
    (by decide) (by decide) (by decide) (by decide)

theorem contains_reads_wrong : ¬ DistinctStmt brNewSite ⟨.entryPath, .strContains, true, false⟩ true .entryPath :=
  not_DistinctStmt tp oldNewAr (tp ++ sepB :: appLog) (mkEntry appLog true d2)
    (by decide) (by decide) (by decide) (by decide)

/-- a member path of 101 bytes (`a/` × 47, then `app.log`): GNU long-name record or pax `path`; the header keeps 100 bytes -/
def longName : Bytes := (List.replicate 47 [97, 47]).flatten ++ appLog

example : longName.length = 101 ∧ (mkEntry longName true d1).hdrPath.length = 100 := by decide

/-- `entry.header().path()` in `decompress_to_ntf` (seeded change C05-c): a member with a long name is not found -/
theorem header_path_lookup_fails : ¬ DistinctStmt brNewSite ⟨.headerPath, .eq, true, false⟩ true .entryPath :=
  not_DistinctStmt tp [mkEntry longName true d1] (tp ++ sepB :: longName) (mkEntry longName true d1)
    (by decide) (by decide) (by decide) (by decide)

theorem header_path_lookup_fails_br : ¬ DistinctStmt ⟨.headerPath, .eq, true, false⟩ ntfSite true .entryPath :=
  not_DistinctStmt tp [mkEntry longName true d1] (tp ++ sepB :: longName) (mkEntry longName true d1)
    (by decide) (by decide) (by decide) (by decide)

/-- listing by `entry.header().path()` while the readers compare `entry.path()`: the listed (truncated) name is not found -/
theorem header_path_listing_fails : ¬ DistinctStmt brNewSite ntfSite true .headerPath :=
  not_DistinctStmt tp [mkEntry longName true d1] (tp ++ sepB :: longName.take 100) (mkEntry longName true d1)
    (by decide) (by decide) (by decide) (by decide)

/-- no `break` in `BlockReader::new`: `entry_index` runs on to the last entry, so `old/app.log` reads (a prefix of)
the LAST member -/
theorem no_break_reads_last_entry : ¬ DistinctStmt ⟨.entryPath, .eq, false, false⟩ ntfSite true .entryPath :=
  not_DistinctStmt tp oldNewAr (tp ++ sepB :: oldAppLog) (mkEntry oldAppLog true d1)
    (by decide) (by decide) (by decide) (by decide)

/-- `split_once` (the FIRST separator): an archive below a directory whose name holds `|` is not opened -/
theorem split_first_fails : ¬ DistinctStmt brNewSite ntfSite false .entryPath :=
  not_DistinctStmt [100, 124, 120, 47, 116] [mkEntry appLog true d1] ([100, 124, 120, 47, 116] ++ sepB :: appLog) (mkEntry appLog true d1)
    (by decide) (by decide) (by decide) (by decide)

/-- what the first-match rule decides: with `break` both copies of F33 read the first, without it (in
`decompress_to_ntf`) both would read the last -/
theorem dup_first_vs_last :
    (listed tp dupAr).map (fun x => ntfReadWith ntfSite true .okNone (oneTar tp dupAr) x.1) = [.ok d1, .ok d1] ∧
    (listed tp dupAr).map (fun x => ntfReadWith ⟨.entryPath, .eq, false, false⟩ true .okNone (oneTar tp dupAr) x.1) = [.ok d2, .ok d2] := by
  decide

/-- a type filter in the lookups (`regularOnly`) would repair the shadowing by a non-regular entry, not F33 -/
theorem regular_only_repairs_shadow :
    let ar := [mkEntry appLog false [], mkEntry appLog true d2]
    (listed tp ar).map (fun x => brReadWith ⟨.entryPath, .eq, true, true⟩ true (oneTar tp ar) x.1) = [.ok d2] ∧
    (listed tp dupAr).map (fun x => brReadWith ⟨.entryPath, .eq, true, true⟩ true (oneTar tp dupAr) x.1) = [.ok d1, .ok d1] := by
  decide

end S4V.Props.TarMemberSpec
