/-
GENERATED by tools/mk_regexrows.py from harness/src/rgx_rows.txt (gen/gen_regex.py) — regenerate, do not edit.

C04, regex slice: rows 63–78 of `DATETIME_PARSE_DATAS`. `rowsH` holds the literals of their certificates (`RowFacts`,
`S4V.Lemmas.RegexTable`), `certsH` is ONE kernel evaluation for all of them, and `certN`, `factsN` are its components for row N; a row
without an end-to-end theorem (the epoch rows; a row that failed `catOK`) has no certificate and evaluates its own `factsN`. `C04_rowN_search`: for EVERY
selection of entries of the row's catalogue (`rowBodyE` / `rowBodyP`, `S4V.Lemmas.RegexAuto`) and of concrete words, and every
admissible tail, `search` matches at 0, spans exactly the words (and the byte of a final group), and every capture group spans
the word of its item.
-/
import S4V.Gen.Regex
import S4V.Lemmas.RegexTable

namespace S4V.Props.RegexCapture3
open S4V.Model.Regex S4V.Gen.Regex S4V.Lemmas.RegexStep S4V.Lemmas.RegexSym S4V.Lemmas.RegexRows S4V.Lemmas.RegexAuto
open S4V.Lemmas.RegexE2E S4V.Lemmas.Utf8 S4V.Gen.TimeTables

def rowsH : List RowFacts := [
  { row := row63, counts := [(20, 22), (2, 2), (2, 2), (63, 63), (1, 1), (105, 105), (1, 1), (49, 49), (1, 1), (3, 3), (1, 1), (25, 25), (2, 2), (1, 1), (2, 2), (2, 2), (2, 2), (392, 392)], digest := 727279196,
    line := some "TRACE:\tSat Jan 31 2000 08:45:55 PST".toUTF8.toList, fits := true },
  { row := row64, counts := [(20, 22), (2, 2), (2, 2), (63, 63), (1, 1), (105, 105), (1, 1), (49, 49), (1, 1), (3, 3), (1, 1), (25, 25), (2, 2), (1, 1), (2, 2), (2, 2)], digest := 943390938,
    line := some "TRACE:\tSat Jan 31 2000 08:45:55 TRACE: \u21e5 \u00d71\u203c".toUTF8.toList, fits := true },
  { row := row70, counts := [(3, 3), (2, 2), (12, 12), (2, 2), (37, 49), (2, 2), (25, 25), (2, 2), (1, 1), (2, 2), (2, 2), (1, 1), (9, 9), (2, 2), (1, 1)], digest := 631016719,
    line := some "2000/01/02 00:00:02.123 -1100 a".toUTF8.toList, fits := true },
  { row := row71, counts := [(3, 3), (2, 2), (12, 12), (2, 2), (37, 49), (2, 2), (25, 25), (2, 2), (1, 1), (2, 2), (2, 2), (1, 1), (9, 9), (2, 2), (1, 1)], digest := 751139785,
    line := some "2000/01/03 00:00:03.123456 -11:30 ab".toUTF8.toList, fits := true },
  { row := row72, counts := [(3, 3), (2, 2), (12, 12), (2, 2), (37, 49), (2, 2), (25, 25), (2, 2), (1, 1), (2, 2), (2, 2), (1, 1), (9, 9), (2, 2), (1, 1)], digest := 673090302,
    line := some "2000/01/04 00:00:04,123456789 -11 abc".toUTF8.toList, fits := true },
  { row := row73, counts := [(3, 3), (2, 2), (12, 12), (2, 2), (37, 49), (2, 2), (25, 25), (2, 2), (1, 1), (2, 2), (2, 2), (1, 1), (9, 9), (2, 2), (392, 392)], digest := 526776986,
    line := some "2000/01/05 00:00:05.123456789 PETT abcd".toUTF8.toList, fits := true },
  { row := row74, counts := [(3, 3), (2, 2), (12, 12), (2, 2), (37, 49), (2, 2), (25, 25), (2, 2), (1, 1), (2, 2), (2, 2), (1, 1), (9, 9)], digest := 640469141,
    line := some "2020-01-06 00:00:26.123456789 abcdefg".toUTF8.toList, fits := true },
  { row := row75, counts := [(3, 3), (2, 2), (12, 12), (2, 2), (37, 49), (2, 2), (25, 25), (2, 2), (1, 1), (2, 2), (2, 2), (2, 2), (1, 1)], digest := 438054204,
    line := some "2000/01/07T00:00:02 -1100 abcdefgh".toUTF8.toList, fits := true },
  { row := row76, counts := [(3, 3), (2, 2), (12, 12), (2, 2), (37, 49), (2, 2), (25, 25), (2, 2), (1, 1), (2, 2), (2, 2), (2, 2), (1, 1)], digest := 498509301,
    line := some "2000-01-08-00:00:03 -11:30 abcdefghi".toUTF8.toList, fits := true },
  { row := row77, counts := [(3, 3), (2, 2), (12, 12), (2, 2), (37, 49), (2, 2), (25, 25), (2, 2), (1, 1), (2, 2), (2, 2), (2, 2), (1, 1)], digest := 141118042,
    line := some "2000/01/09 00:00:04 -11 abcdefghij".toUTF8.toList, fits := true },
  { row := row78, counts := [(3, 3), (2, 2), (12, 12), (2, 2), (37, 49), (2, 2), (25, 25), (2, 2), (1, 1), (2, 2), (2, 2), (2, 2), (392, 392)], digest := 634258934,
    line := some "2000/01/10T00:00:05 VLAT abcdefghijk".toUTF8.toList, fits := true }]

theorem certsH : ∀ i (h : i < rowsH.length), rowsH[i].Cert :=
  RowFacts.certs_of_all (by
    unfold rowsH
    rw [toUTF8_toList_ofList, toUTF8_toList_ofList, toUTF8_toList_ofList, toUTF8_toList_ofList, toUTF8_toList_ofList, toUTF8_toList_ofList, toUTF8_toList_ofList, toUTF8_toList_ofList, toUTF8_toList_ofList, toUTF8_toList_ofList, toUTF8_toList_ofList]
    decide +kernel)

/-! ### row 63 (dayIgnore:2,month:3,day:4,year:5,hour:6,minute:7,second:8,tz:9): head `bol`, end `(?P<g>[class]|$)` -/

theorem cert63 : (rowsH[0]'(by decide)).Cert := certsH 0 (by decide)

theorem facts63 : keptCounts (rowBodyE re63 1) = [(20, 22), (2, 2), (2, 2), (63, 63), (1, 1), (105, 105), (1, 1), (49, 49), (1, 1), (3, 3), (1, 1), (25, 25), (2, 2), (1, 1), (2, 2), (2, 2), (2, 2), (392, 392)] ∧
    catDigest (rowBodyE re63 1) = 727279196 ∧
    splitsL (rowBodyE re63 1) "TRACE:\tSat Jan 31 2000 08:45:55 PST".toUTF8.toList = true := cert63.facts

theorem C04_row63_search (sel : Sel) (hv : Valid (rowBodyE re63 1) sel) (tail : List UInt8) (ht : TailIn (rowEndSym re63) tail) :
    RowResult row63.re (flat sel ++ tail) ((flat sel).length + tailLen tail) [] (sel ++ [rowEndEw re63 tail]) :=
  auto_E (re := re63) (by rfl) cert63.headOk sel hv tail ht

/-! ### row 64 (dayIgnore:2,month:3,day:4,year:5,hour:6,minute:7,second:8): head `bol`, end `(?P<g>[class]|$)` -/

theorem cert64 : (rowsH[1]'(by decide)).Cert := certsH 1 (by decide)

theorem facts64 : keptCounts (rowBodyE re64 1) = [(20, 22), (2, 2), (2, 2), (63, 63), (1, 1), (105, 105), (1, 1), (49, 49), (1, 1), (3, 3), (1, 1), (25, 25), (2, 2), (1, 1), (2, 2), (2, 2)] ∧
    catDigest (rowBodyE re64 1) = 943390938 ∧
    splitsL (rowBodyE re64 1) "TRACE:\tSat Jan 31 2000 08:45:55 TRACE: \u21e5 \u00d71\u203c".toUTF8.toList = true := cert64.facts

theorem C04_row64_search (sel : Sel) (hv : Valid (rowBodyE re64 1) sel) (tail : List UInt8) (ht : TailIn (rowEndSym re64) tail) :
    RowResult row64.re (flat sel ++ tail) ((flat sel).length + tailLen tail) [] (sel ++ [rowEndEw re64 tail]) :=
  auto_E (re := re64) (by rfl) cert64.headOk sel hv tail ht

/-! ### row 70 (year:1,month:2,day:3,hour:4,minute:5,second:6,fractional:7,tz:8): head `bol`, end `(?P<g>[class]|$)` -/

theorem cert70 : (rowsH[2]'(by decide)).Cert := certsH 2 (by decide)

theorem facts70 : keptCounts (rowBodyE re70 1) = [(3, 3), (2, 2), (12, 12), (2, 2), (37, 49), (2, 2), (25, 25), (2, 2), (1, 1), (2, 2), (2, 2), (1, 1), (9, 9), (2, 2), (1, 1)] ∧
    catDigest (rowBodyE re70 1) = 631016719 ∧
    splitsL (rowBodyE re70 1) "2000/01/02 00:00:02.123 -1100 a".toUTF8.toList = true := cert70.facts

theorem C04_row70_search (sel : Sel) (hv : Valid (rowBodyE re70 1) sel) (tail : List UInt8) (ht : TailIn (rowEndSym re70) tail) :
    RowResult row70.re (flat sel ++ tail) ((flat sel).length + tailLen tail) [] (sel ++ [rowEndEw re70 tail]) :=
  auto_E (re := re70) (by rfl) cert70.headOk sel hv tail ht

/-! ### row 71 (year:1,month:2,day:3,hour:4,minute:5,second:6,fractional:7,tz:8): head `bol`, end `(?P<g>[class]|$)` -/

theorem cert71 : (rowsH[3]'(by decide)).Cert := certsH 3 (by decide)

theorem facts71 : keptCounts (rowBodyE re71 1) = [(3, 3), (2, 2), (12, 12), (2, 2), (37, 49), (2, 2), (25, 25), (2, 2), (1, 1), (2, 2), (2, 2), (1, 1), (9, 9), (2, 2), (1, 1)] ∧
    catDigest (rowBodyE re71 1) = 751139785 ∧
    splitsL (rowBodyE re71 1) "2000/01/03 00:00:03.123456 -11:30 ab".toUTF8.toList = true := cert71.facts

theorem C04_row71_search (sel : Sel) (hv : Valid (rowBodyE re71 1) sel) (tail : List UInt8) (ht : TailIn (rowEndSym re71) tail) :
    RowResult row71.re (flat sel ++ tail) ((flat sel).length + tailLen tail) [] (sel ++ [rowEndEw re71 tail]) :=
  auto_E (re := re71) (by rfl) cert71.headOk sel hv tail ht

/-! ### row 72 (year:1,month:2,day:3,hour:4,minute:5,second:6,fractional:7,tz:8): head `bol`, end `(?P<g>[class]|$)` -/

theorem cert72 : (rowsH[4]'(by decide)).Cert := certsH 4 (by decide)

theorem facts72 : keptCounts (rowBodyE re72 1) = [(3, 3), (2, 2), (12, 12), (2, 2), (37, 49), (2, 2), (25, 25), (2, 2), (1, 1), (2, 2), (2, 2), (1, 1), (9, 9), (2, 2), (1, 1)] ∧
    catDigest (rowBodyE re72 1) = 673090302 ∧
    splitsL (rowBodyE re72 1) "2000/01/04 00:00:04,123456789 -11 abc".toUTF8.toList = true := cert72.facts

theorem C04_row72_search (sel : Sel) (hv : Valid (rowBodyE re72 1) sel) (tail : List UInt8) (ht : TailIn (rowEndSym re72) tail) :
    RowResult row72.re (flat sel ++ tail) ((flat sel).length + tailLen tail) [] (sel ++ [rowEndEw re72 tail]) :=
  auto_E (re := re72) (by rfl) cert72.headOk sel hv tail ht

/-! ### row 73 (year:1,month:2,day:3,hour:4,minute:5,second:6,fractional:7,tz:8): head `bol`, end `(?P<g>[class]|$)` -/

theorem cert73 : (rowsH[5]'(by decide)).Cert := certsH 5 (by decide)

theorem facts73 : keptCounts (rowBodyE re73 1) = [(3, 3), (2, 2), (12, 12), (2, 2), (37, 49), (2, 2), (25, 25), (2, 2), (1, 1), (2, 2), (2, 2), (1, 1), (9, 9), (2, 2), (392, 392)] ∧
    catDigest (rowBodyE re73 1) = 526776986 ∧
    splitsL (rowBodyE re73 1) "2000/01/05 00:00:05.123456789 PETT abcd".toUTF8.toList = true := cert73.facts

theorem C04_row73_search (sel : Sel) (hv : Valid (rowBodyE re73 1) sel) (tail : List UInt8) (ht : TailIn (rowEndSym re73) tail) :
    RowResult row73.re (flat sel ++ tail) ((flat sel).length + tailLen tail) [] (sel ++ [rowEndEw re73 tail]) :=
  auto_E (re := re73) (by rfl) cert73.headOk sel hv tail ht

/-! ### row 74 (year:1,month:2,day:3,hour:4,minute:5,second:6,fractional:7): head `bol`, end `(?P<g>[class]|$)` -/

theorem cert74 : (rowsH[6]'(by decide)).Cert := certsH 6 (by decide)

theorem facts74 : keptCounts (rowBodyE re74 1) = [(3, 3), (2, 2), (12, 12), (2, 2), (37, 49), (2, 2), (25, 25), (2, 2), (1, 1), (2, 2), (2, 2), (1, 1), (9, 9)] ∧
    catDigest (rowBodyE re74 1) = 640469141 ∧
    splitsL (rowBodyE re74 1) "2020-01-06 00:00:26.123456789 abcdefg".toUTF8.toList = true := cert74.facts

theorem C04_row74_search (sel : Sel) (hv : Valid (rowBodyE re74 1) sel) (tail : List UInt8) (ht : TailIn (rowEndSym re74) tail) :
    RowResult row74.re (flat sel ++ tail) ((flat sel).length + tailLen tail) [] (sel ++ [rowEndEw re74 tail]) :=
  auto_E (re := re74) (by rfl) cert74.headOk sel hv tail ht

/-! ### row 75 (year:1,month:2,day:3,hour:4,minute:5,second:6,tz:7): head `bol`, end `(?P<g>[class]|$)` -/

theorem cert75 : (rowsH[7]'(by decide)).Cert := certsH 7 (by decide)

theorem facts75 : keptCounts (rowBodyE re75 1) = [(3, 3), (2, 2), (12, 12), (2, 2), (37, 49), (2, 2), (25, 25), (2, 2), (1, 1), (2, 2), (2, 2), (2, 2), (1, 1)] ∧
    catDigest (rowBodyE re75 1) = 438054204 ∧
    splitsL (rowBodyE re75 1) "2000/01/07T00:00:02 -1100 abcdefgh".toUTF8.toList = true := cert75.facts

theorem C04_row75_search (sel : Sel) (hv : Valid (rowBodyE re75 1) sel) (tail : List UInt8) (ht : TailIn (rowEndSym re75) tail) :
    RowResult row75.re (flat sel ++ tail) ((flat sel).length + tailLen tail) [] (sel ++ [rowEndEw re75 tail]) :=
  auto_E (re := re75) (by rfl) cert75.headOk sel hv tail ht

/-! ### row 76 (year:1,month:2,day:3,hour:4,minute:5,second:6,tz:7): head `bol`, end `(?P<g>[class]|$)` -/

theorem cert76 : (rowsH[8]'(by decide)).Cert := certsH 8 (by decide)

theorem facts76 : keptCounts (rowBodyE re76 1) = [(3, 3), (2, 2), (12, 12), (2, 2), (37, 49), (2, 2), (25, 25), (2, 2), (1, 1), (2, 2), (2, 2), (2, 2), (1, 1)] ∧
    catDigest (rowBodyE re76 1) = 498509301 ∧
    splitsL (rowBodyE re76 1) "2000-01-08-00:00:03 -11:30 abcdefghi".toUTF8.toList = true := cert76.facts

theorem C04_row76_search (sel : Sel) (hv : Valid (rowBodyE re76 1) sel) (tail : List UInt8) (ht : TailIn (rowEndSym re76) tail) :
    RowResult row76.re (flat sel ++ tail) ((flat sel).length + tailLen tail) [] (sel ++ [rowEndEw re76 tail]) :=
  auto_E (re := re76) (by rfl) cert76.headOk sel hv tail ht

/-! ### row 77 (year:1,month:2,day:3,hour:4,minute:5,second:6,tz:7): head `bol`, end `(?P<g>[class]|$)` -/

theorem cert77 : (rowsH[9]'(by decide)).Cert := certsH 9 (by decide)

theorem facts77 : keptCounts (rowBodyE re77 1) = [(3, 3), (2, 2), (12, 12), (2, 2), (37, 49), (2, 2), (25, 25), (2, 2), (1, 1), (2, 2), (2, 2), (2, 2), (1, 1)] ∧
    catDigest (rowBodyE re77 1) = 141118042 ∧
    splitsL (rowBodyE re77 1) "2000/01/09 00:00:04 -11 abcdefghij".toUTF8.toList = true := cert77.facts

theorem C04_row77_search (sel : Sel) (hv : Valid (rowBodyE re77 1) sel) (tail : List UInt8) (ht : TailIn (rowEndSym re77) tail) :
    RowResult row77.re (flat sel ++ tail) ((flat sel).length + tailLen tail) [] (sel ++ [rowEndEw re77 tail]) :=
  auto_E (re := re77) (by rfl) cert77.headOk sel hv tail ht

/-! ### row 78 (year:1,month:2,day:3,hour:4,minute:5,second:6,tz:7): head `bol`, end `(?P<g>[class]|$)` -/

theorem cert78 : (rowsH[10]'(by decide)).Cert := certsH 10 (by decide)

theorem facts78 : keptCounts (rowBodyE re78 1) = [(3, 3), (2, 2), (12, 12), (2, 2), (37, 49), (2, 2), (25, 25), (2, 2), (1, 1), (2, 2), (2, 2), (2, 2), (392, 392)] ∧
    catDigest (rowBodyE re78 1) = 634258934 ∧
    splitsL (rowBodyE re78 1) "2000/01/10T00:00:05 VLAT abcdefghijk".toUTF8.toList = true := cert78.facts

theorem C04_row78_search (sel : Sel) (hv : Valid (rowBodyE re78 1) sel) (tail : List UInt8) (ht : TailIn (rowEndSym re78) tail) :
    RowResult row78.re (flat sel ++ tail) ((flat sel).length + tailLen tail) [] (sel ++ [rowEndEw re78 tail]) :=
  auto_E (re := re78) (by rfl) cert78.headOk sel hv tail ht

end S4V.Props.RegexCapture3
