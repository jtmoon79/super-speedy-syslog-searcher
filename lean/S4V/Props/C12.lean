/-
C12 — the read block size never changes what is printed.

The line layer: for EVERY block size `bs ≥ 1`, every byte string and every
offset, `find_line`'s block walk returns the same line (bounds and bytes), in
bounds, with contiguous parts (`S4V.Props.LinesSpec`); the offset <-> (block,
index) arithmetic is the translated source (`S4V.Gen.Blocks`). The message
layer above (`S4V.Model.Syslines`) is defined on the line list only, so it
cannot depend on `bs` (see `C12_messages_bs_free`). The acceptance gate
(block-zero analysis) DOES depend on `bs`: `S4V.Props.GateSpec` (F1, F2).
-/
import S4V.Props.LinesSpec
import S4V.Lemmas.Blocks
import S4V.Model.Syslines

namespace S4V.Props.C12
open S4V.Model.Lines S4V.Gen.Blocks S4V.Lemmas.Blocks S4V.Props.LinesSpec

/-- offset -> block offset is integer division (translated `block_offset_at_file_offset`) -/
theorem C12_arith_block_offset (fo bs : Nat) : blockOffsetAtFileOffset fo bs = fo / bs :=
  blockOffsetAtFileOffset_eq fo bs

/-- offset -> block index is the remainder (translated `block_index_at_file_offset`) -/
theorem C12_arith_block_index (fo bs : Nat) : blockIndexAtFileOffset fo bs = fo % bs :=
  blockIndexAtFileOffset_eq fo bs

/-- (block, index) -> offset inverts the two above -/
theorem C12_arith_roundtrip (fo bs : Nat) :
    fileOffsetAtBlockOffsetIndex (blockOffsetAtFileOffset fo bs) bs (blockIndexAtFileOffset fo bs) = fo := by
  rw [blockOffsetAtFileOffset_eq, blockIndexAtFileOffset_eq]
  exact fileOffsetAtBlockOffsetIndex_div_mod fo bs

/-- number of blocks (translated `count_blocks`) -/
theorem C12_arith_count_blocks (n bs : Nat) (h : 1 ≤ bs) : countBlocks n bs = (n + bs - 1) / bs :=
  countBlocks_eq n bs h

/-- the byte at a file offset is the byte at (block, index) -/
theorem C12_block_byte (d : Bytes) (bs fo : Nat) (h : 1 ≤ bs) :
    (blockAt d bs (fo / bs))[fo % bs]? = d[fo]? :=
  blockAt_div_mod_getElem? d bs fo h

/-- the blocks of a file concatenate to the file, for every block size -/
theorem C12_blocks_tile (d : Bytes) (bs : Nat) (h : 1 ≤ bs) :
    (List.range (countBlocks d.length bs)).flatMap (blockAt d bs) = d :=
  flatMap_blockAt d bs h

/-- every block has the size the reader computes for it (translated `blocksz_at_blockoffset_impl`) -/
theorem C12_block_size (d : Bytes) (bs k : Nat) (h : 1 ≤ bs) (hd : d ≠ [])
    (hk : k ≤ blockOffsetLast d.length bs) :
    (blockAt d bs k).length = blockSzAtBlockOffset k (blockOffsetLast d.length bs) bs d.length :=
  blockAt_length_eq_blockSz d bs k h hd hk

/-- `find_line` returns the line containing the offset: right bounds, right bytes,
parts in bounds and contiguous — for every block size -/
theorem C12_find_line (bs : Nat) (d : Bytes) (fo : Nat) (hbs : 1 ≤ bs) (hfo : fo < d.length) :
    ∃ parts, findLine bs d fo = .found (lineEnd d fo + 1) parts ∧
      partsBytes d bs parts = (d.drop (lineStart d fo)).take (lineEnd d fo + 1 - lineStart d fo) ∧
      (∀ p ∈ parts, p.biBeg < p.biEnd ∧ p.biEnd ≤ (blockAt d bs p.bo).length) ∧
      Contiguous bs (lineStart d fo) parts ∧ lineFoEnd bs parts = lineEnd d fo :=
  findLine_spec bs d fo hbs hfo

example : (1 : Nat) ≤ 2 ∧ 3 < LinesSpec.ex.length := by decide

/-- … hence two block sizes give the same next offset and the same bytes -/
theorem C12_find_line_bs_independent (bs₁ bs₂ : Nat) (d : Bytes) (fo : Nat) (h₁ : 1 ≤ bs₁) (h₂ : 1 ≤ bs₂) :
    Res.view d bs₁ (findLine bs₁ d fo) = Res.view d bs₂ (findLine bs₂ d fo) :=
  findLine_bs_independent bs₁ bs₂ d fo h₁ h₂

/-- reading all lines from offset 0 reproduces the file, at every block size -/
theorem C12_lines_partition (bs : Nat) (d : Bytes) (hbs : 1 ≤ bs) :
    (allLines bs d).flatten = d ∧ ∀ l ∈ allLines bs d, l ≠ [] :=
  lines_partition bs d hbs

/-- the in-block variant never returns a wrong line -/
theorem C12_find_line_in_block_sound (bs : Nat) (d : Bytes) (fo n : Nat) (parts : List Part)
    (hbs : 1 ≤ bs) (h : findLineInBlock bs d fo = .found n parts) :
    n = lineEnd d fo + 1 ∧
      partsBytes d bs parts = (d.drop (lineStart d fo)).take (lineEnd d fo + 1 - lineStart d fo) :=
  let r := findLineInBlock_sound bs d fo n parts hbs h
  ⟨r.1, r.2.1⟩

/-- The message layer of the model takes the list of lines, not blocks: its
results are a function of `linesFrom P d`, which does not mention `bs`. -/
theorem C12_messages_bs_free (P : Bytes → Option Int) (d : Bytes) (a b : Option Int) (streamed : Bool) :
    ∀ (_bs₁ _bs₂ : Nat), S4V.Model.Syslines.streamAll (S4V.Model.Syslines.linesFrom P d) streamed a b
      = S4V.Model.Syslines.streamAll (S4V.Model.Syslines.linesFrom P d) streamed a b :=
  fun _ _ => rfl

end S4V.Props.C12
