/-
GENERATED by tools/mk_regexrows.py from harness/src/rgx_rows.txt (gen/gen_regex.py) — regenerate, do not edit.

C04, regex slice: rows 33–40 of `DATETIME_PARSE_DATAS`. `rowsE` holds the literals of their certificates (`RowFacts`,
`S4V.Lemmas.RegexTable`), `certsE` is ONE kernel evaluation for all of them, and `certN`, `factsN` are its components for row N; a row
without an end-to-end theorem (the epoch rows; a row that failed `catOK`) has no certificate and evaluates its own `factsN`. `C04_rowN_search`: for EVERY
selection of entries of the row's catalogue (`rowBodyE` / `rowBodyP`, `S4V.Lemmas.RegexAuto`) and of concrete words, and every
admissible tail, `search` matches at 0, spans exactly the words (and the byte of a final group), and every capture group spans
the word of its item.
-/
import S4V.Gen.Regex
import S4V.Lemmas.RegexTable

namespace S4V.Props.RegexCapture3
open S4V.Model.Regex S4V.Gen.Regex S4V.Lemmas.RegexStep S4V.Lemmas.RegexSym S4V.Lemmas.RegexRows S4V.Lemmas.RegexAuto
open S4V.Lemmas.RegexE2E S4V.Lemmas.Utf8 S4V.Gen.TimeTables

def rowsE : List RowFacts := [
  { row := row33, counts := [(105, 105), (2, 2), (40, 49), (1, 1), (25, 25), (2, 2), (1, 1), (2, 2), (2, 2), (2, 2)], digest := 679450927,
    line := some "September 03 08:10:29 hostname1 kernel: [1013319.252568] device vethb356a02 entered promiscuous mode".toUTF8.toList, fits := false },
  { row := row34, counts := [(63, 63), (2, 2), (2, 2), (105, 105), (1, 1), (49, 49), (2, 2), (2, 2), (3, 3), (2, 2), (2, 2), (25, 25), (2, 2), (1, 1), (2, 2), (2, 2), (2, 2), (1, 1)], digest := 150190350,
    line := some "mon Jun 28 2022 01:51:12 +1230".toUTF8.toList, fits := true },
  { row := row35, counts := [(63, 63), (2, 2), (2, 2), (105, 105), (1, 1), (49, 49), (2, 2), (2, 2), (3, 3), (2, 2), (2, 2), (25, 25), (2, 2), (1, 1), (2, 2), (2, 2), (2, 2), (1, 1)], digest := 7484772,
    line := some "WED Jun 28 2022 01:51:12 +01:30".toUTF8.toList, fits := true },
  { row := row36, counts := [(63, 63), (2, 2), (2, 2), (105, 105), (1, 1), (49, 49), (2, 2), (2, 2), (3, 3), (2, 2), (2, 2), (25, 25), (2, 2), (1, 1), (2, 2), (2, 2), (2, 2), (1, 1)], digest := 931365248,
    line := some "THURSDAY, Jun 28 2022 01:51:12 +01".toUTF8.toList, fits := true },
  { row := row37, counts := [(63, 63), (2, 2), (2, 2), (105, 105), (1, 1), (49, 49), (2, 2), (2, 2), (3, 3), (2, 2), (2, 2), (25, 25), (2, 2), (1, 1), (2, 2), (2, 2), (2, 2), (392, 392)], digest := 95255059,
    line := some "Saturday, Jun 28 2022 01:51:12 WIT".toUTF8.toList, fits := true },
  { row := row38, counts := [(42, 42), (1, 1), (1, 1), (49, 49), (1, 1), (72, 72), (1, 1), (3, 3), (2, 2), (1, 1), (25, 25), (2, 2), (1, 1), (2, 2), (2, 2), (2, 2), (1, 1)], digest := 583178429,
    line := some "Mon, 28 Jun 2022 01:51:12 +1230".toUTF8.toList, fits := true },
  { row := row39, counts := [(42, 42), (1, 1), (1, 1), (49, 49), (1, 1), (72, 72), (1, 1), (3, 3), (2, 2), (1, 1), (25, 25), (2, 2), (1, 1), (2, 2), (2, 2), (2, 2), (1, 1)], digest := 464054498,
    line := some "Mon, 28 Jun 2022 01:51:12 +01:30".toUTF8.toList, fits := true },
  { row := row40, counts := [(42, 42), (1, 1), (1, 1), (49, 49), (1, 1), (72, 72), (2, 2), (2, 2), (3, 3), (2, 2), (2, 2), (25, 25), (2, 2), (1, 1), (2, 2), (2, 2), (2, 2), (392, 392)], digest := 772592171,
    line := some "Mon, 28 Jun 2022 01:51:12 WIT".toUTF8.toList, fits := true }]

theorem certsE : ∀ i (h : i < rowsE.length), rowsE[i].Cert :=
  RowFacts.certs_of_all (by
    unfold rowsE
    rw [toUTF8_toList_ofList, toUTF8_toList_ofList, toUTF8_toList_ofList, toUTF8_toList_ofList, toUTF8_toList_ofList, toUTF8_toList_ofList, toUTF8_toList_ofList, toUTF8_toList_ofList]
    decide +kernel)

/-! ### row 33 (month:1,day:2,hour:3,minute:4,second:5): head `bol`, end `plain` -/

theorem cert33 : (rowsE[0]'(by decide)).Cert := certsE 0 (by decide)

theorem facts33 : keptCounts (rowBodyP re33 1) = [(105, 105), (2, 2), (40, 49), (1, 1), (25, 25), (2, 2), (1, 1), (2, 2), (2, 2), (2, 2)] ∧
    catDigest (rowBodyP re33 1) = 679450927 ∧
    splitsL (rowBodyP re33 1) "September 03 08:10:29 hostname1 kernel: [1013319.252568] device vethb356a02 entered promiscuous mode".toUTF8.toList = true := cert33.facts

theorem C04_row33_search (sel : Sel) (hv : Valid (rowBodyP re33 1) sel) (tail : List UInt8) (ht : TailF (autoTail re33) tail) :
    RowResult row33.re (flat sel ++ tail) (flat sel).length [] sel :=
  auto_P (re := re33) (by rfl) rfl sel hv tail ht

/-! ### row 34 (dayIgnore:1,month:2,day:3,year:4,hour:5,minute:6,second:7,tz:8): head `bol`, end `(?P<g>[class]|$)` -/

theorem cert34 : (rowsE[1]'(by decide)).Cert := certsE 1 (by decide)

theorem facts34 : keptCounts (rowBodyE re34 1) = [(63, 63), (2, 2), (2, 2), (105, 105), (1, 1), (49, 49), (2, 2), (2, 2), (3, 3), (2, 2), (2, 2), (25, 25), (2, 2), (1, 1), (2, 2), (2, 2), (2, 2), (1, 1)] ∧
    catDigest (rowBodyE re34 1) = 150190350 ∧
    splitsL (rowBodyE re34 1) "mon Jun 28 2022 01:51:12 +1230".toUTF8.toList = true := cert34.facts

theorem C04_row34_search (sel : Sel) (hv : Valid (rowBodyE re34 1) sel) (tail : List UInt8) (ht : TailIn (rowEndSym re34) tail) :
    RowResult row34.re (flat sel ++ tail) ((flat sel).length + tailLen tail) [] (sel ++ [rowEndEw re34 tail]) :=
  auto_E (re := re34) (by rfl) cert34.headOk sel hv tail ht

/-! ### row 35 (dayIgnore:1,month:2,day:3,year:4,hour:5,minute:6,second:7,tz:8): head `bol`, end `(?P<g>[class]|$)` -/

theorem cert35 : (rowsE[2]'(by decide)).Cert := certsE 2 (by decide)

theorem facts35 : keptCounts (rowBodyE re35 1) = [(63, 63), (2, 2), (2, 2), (105, 105), (1, 1), (49, 49), (2, 2), (2, 2), (3, 3), (2, 2), (2, 2), (25, 25), (2, 2), (1, 1), (2, 2), (2, 2), (2, 2), (1, 1)] ∧
    catDigest (rowBodyE re35 1) = 7484772 ∧
    splitsL (rowBodyE re35 1) "WED Jun 28 2022 01:51:12 +01:30".toUTF8.toList = true := cert35.facts

theorem C04_row35_search (sel : Sel) (hv : Valid (rowBodyE re35 1) sel) (tail : List UInt8) (ht : TailIn (rowEndSym re35) tail) :
    RowResult row35.re (flat sel ++ tail) ((flat sel).length + tailLen tail) [] (sel ++ [rowEndEw re35 tail]) :=
  auto_E (re := re35) (by rfl) cert35.headOk sel hv tail ht

/-! ### row 36 (dayIgnore:1,month:2,day:3,year:4,hour:5,minute:6,second:7,tz:8): head `bol`, end `(?P<g>[class]|$)` -/

theorem cert36 : (rowsE[3]'(by decide)).Cert := certsE 3 (by decide)

theorem facts36 : keptCounts (rowBodyE re36 1) = [(63, 63), (2, 2), (2, 2), (105, 105), (1, 1), (49, 49), (2, 2), (2, 2), (3, 3), (2, 2), (2, 2), (25, 25), (2, 2), (1, 1), (2, 2), (2, 2), (2, 2), (1, 1)] ∧
    catDigest (rowBodyE re36 1) = 931365248 ∧
    splitsL (rowBodyE re36 1) "THURSDAY, Jun 28 2022 01:51:12 +01".toUTF8.toList = true := cert36.facts

theorem C04_row36_search (sel : Sel) (hv : Valid (rowBodyE re36 1) sel) (tail : List UInt8) (ht : TailIn (rowEndSym re36) tail) :
    RowResult row36.re (flat sel ++ tail) ((flat sel).length + tailLen tail) [] (sel ++ [rowEndEw re36 tail]) :=
  auto_E (re := re36) (by rfl) cert36.headOk sel hv tail ht

/-! ### row 37 (dayIgnore:1,month:2,day:3,year:4,hour:5,minute:6,second:7,tz:8): head `bol`, end `(?P<g>[class]|$)` -/

theorem cert37 : (rowsE[4]'(by decide)).Cert := certsE 4 (by decide)

theorem facts37 : keptCounts (rowBodyE re37 1) = [(63, 63), (2, 2), (2, 2), (105, 105), (1, 1), (49, 49), (2, 2), (2, 2), (3, 3), (2, 2), (2, 2), (25, 25), (2, 2), (1, 1), (2, 2), (2, 2), (2, 2), (392, 392)] ∧
    catDigest (rowBodyE re37 1) = 95255059 ∧
    splitsL (rowBodyE re37 1) "Saturday, Jun 28 2022 01:51:12 WIT".toUTF8.toList = true := cert37.facts

theorem C04_row37_search (sel : Sel) (hv : Valid (rowBodyE re37 1) sel) (tail : List UInt8) (ht : TailIn (rowEndSym re37) tail) :
    RowResult row37.re (flat sel ++ tail) ((flat sel).length + tailLen tail) [] (sel ++ [rowEndEw re37 tail]) :=
  auto_E (re := re37) (by rfl) cert37.headOk sel hv tail ht

/-! ### row 38 (dayIgnore:1,day:3,month:4,year:6,hour:7,minute:8,second:9,tz:10): head `bol`, end `(?P<g>[class]|$)` -/

theorem cert38 : (rowsE[5]'(by decide)).Cert := certsE 5 (by decide)

theorem facts38 : keptCounts (rowBodyE re38 1) = [(42, 42), (1, 1), (1, 1), (49, 49), (1, 1), (72, 72), (1, 1), (3, 3), (2, 2), (1, 1), (25, 25), (2, 2), (1, 1), (2, 2), (2, 2), (2, 2), (1, 1)] ∧
    catDigest (rowBodyE re38 1) = 583178429 ∧
    splitsL (rowBodyE re38 1) "Mon, 28 Jun 2022 01:51:12 +1230".toUTF8.toList = true := cert38.facts

theorem C04_row38_search (sel : Sel) (hv : Valid (rowBodyE re38 1) sel) (tail : List UInt8) (ht : TailIn (rowEndSym re38) tail) :
    RowResult row38.re (flat sel ++ tail) ((flat sel).length + tailLen tail) [] (sel ++ [rowEndEw re38 tail]) :=
  auto_E (re := re38) (by rfl) cert38.headOk sel hv tail ht

/-! ### row 39 (dayIgnore:1,day:3,month:4,year:6,hour:7,minute:8,second:9,tz:10): head `bol`, end `(?P<g>[class]|$)` -/

theorem cert39 : (rowsE[6]'(by decide)).Cert := certsE 6 (by decide)

theorem facts39 : keptCounts (rowBodyE re39 1) = [(42, 42), (1, 1), (1, 1), (49, 49), (1, 1), (72, 72), (1, 1), (3, 3), (2, 2), (1, 1), (25, 25), (2, 2), (1, 1), (2, 2), (2, 2), (2, 2), (1, 1)] ∧
    catDigest (rowBodyE re39 1) = 464054498 ∧
    splitsL (rowBodyE re39 1) "Mon, 28 Jun 2022 01:51:12 +01:30".toUTF8.toList = true := cert39.facts

theorem C04_row39_search (sel : Sel) (hv : Valid (rowBodyE re39 1) sel) (tail : List UInt8) (ht : TailIn (rowEndSym re39) tail) :
    RowResult row39.re (flat sel ++ tail) ((flat sel).length + tailLen tail) [] (sel ++ [rowEndEw re39 tail]) :=
  auto_E (re := re39) (by rfl) cert39.headOk sel hv tail ht

/-! ### row 40 (dayIgnore:1,day:3,month:4,year:6,hour:7,minute:8,second:9,tz:10): head `bol`, end `(?P<g>[class]|$)` -/

theorem cert40 : (rowsE[7]'(by decide)).Cert := certsE 7 (by decide)

theorem facts40 : keptCounts (rowBodyE re40 1) = [(42, 42), (1, 1), (1, 1), (49, 49), (1, 1), (72, 72), (2, 2), (2, 2), (3, 3), (2, 2), (2, 2), (25, 25), (2, 2), (1, 1), (2, 2), (2, 2), (2, 2), (392, 392)] ∧
    catDigest (rowBodyE re40 1) = 772592171 ∧
    splitsL (rowBodyE re40 1) "Mon, 28 Jun 2022 01:51:12 WIT".toUTF8.toList = true := cert40.facts

theorem C04_row40_search (sel : Sel) (hv : Valid (rowBodyE re40 1) sel) (tail : List UInt8) (ht : TailIn (rowEndSym re40) tail) :
    RowResult row40.re (flat sel ++ tail) ((flat sel).length + tailLen tail) [] (sel ++ [rowEndEw re40 tail]) :=
  auto_E (re := re40) (by rfl) cert40.headOk sel hv tail ht

end S4V.Props.RegexCapture3
