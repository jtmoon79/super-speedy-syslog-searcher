/-
GENERATED by tools/mk_regexrows.py — regenerate, do not edit.

C04, regex slice: rows 0–23 of `DATETIME_PARSE_DATAS` END TO END, from the text of a line to the instant.
`C04_rowN_end_to_end_shaped`: for every valid selection of the row's catalogue, admissible tail, fallback zone and fill year, if the
words spell a calendar date-time (`calendarOK`), the iteration of `find_datetime_in_line` for the row (`rowPipeline`) yields the
instant the captured words spell: `RowFacts.Cert.e2e` / `.e2e_end` of `certN` applied to `C04_rowN_search`. Year-less rows keep a
four-digit fill year as hypothesis, rows with renderings longer than `range_regex.end` keep `hlen`. How to read the statement,
non-vacuity and the FALSE statements: `S4V.Props.RegexE2ESpec`, `S4V.Props.RegexE2EShapeSpec`.
-/
import S4V.Props.RegexCapture3a
import S4V.Props.RegexCapture3b
import S4V.Props.RegexCapture3c
import S4V.Props.RegexCapture3d

namespace S4V.Props.RegexE2E
open S4V.Model.Regex S4V.Gen.Regex S4V.Lemmas.RegexStep S4V.Lemmas.RegexSym S4V.Lemmas.RegexRows S4V.Lemmas.RegexAuto
open S4V.Lemmas.RegexE2E S4V.Props.RegexCapture3 S4V.Gen.TimeTables

theorem C04_row0_end_to_end_shaped (sel : Sel) (hv : Valid (rowBodyP re0 1) sel) (tail : List UInt8) (ht : TailF (autoTail re0) tail)
    (fbOff : Int) (hfb : FbOK' fbOff) (fill : Option Int)
    (hc : calendarOK row0.dtfs (selFields row0 sel) fill = true) :
    rowPipeline row0 (flat sel ++ tail) fbOff fill = some (fieldsOf row0.dtfs (selFields row0 sel) fbOff fill).instant :=
  cert0.e2e hv (cert0.flat_le rfl hv) (C04_row0_search sel hv _ (tailF_take ht _)) fbOff hfb fill rfl hc

theorem C04_row1_end_to_end_shaped (sel : Sel) (hv : Valid (rowBodyP re1 1) sel) (tail : List UInt8) (ht : TailF (autoTail re1) tail)
    (fbOff : Int) (hfb : FbOK' fbOff) (fill : Option Int)
    (hc : calendarOK row1.dtfs (selFields row1 sel) fill = true) :
    rowPipeline row1 (flat sel ++ tail) fbOff fill = some (fieldsOf row1.dtfs (selFields row1 sel) fbOff fill).instant :=
  cert1.e2e hv (cert1.flat_le rfl hv) (C04_row1_search sel hv _ (tailF_take ht _)) fbOff hfb fill rfl hc

theorem C04_row2_end_to_end_shaped (sel : Sel) (hv : Valid (rowBodyP re2 1) sel) (tail : List UInt8) (ht : TailF (autoTail re2) tail)
    (fbOff : Int) (hfb : FbOK' fbOff) (fill : Option Int)
    (hc : calendarOK row2.dtfs (selFields row2 sel) fill = true) :
    rowPipeline row2 (flat sel ++ tail) fbOff fill = some (fieldsOf row2.dtfs (selFields row2 sel) fbOff fill).instant :=
  cert2.e2e hv (cert2.flat_le rfl hv) (C04_row2_search sel hv _ (tailF_take ht _)) fbOff hfb fill rfl hc

theorem C04_row3_end_to_end_shaped (sel : Sel) (hv : Valid (rowBodyP re3 1) sel) (tail : List UInt8) (ht : TailF (autoTail re3) tail)
    (fbOff : Int) (hfb : FbOK' fbOff) (fill : Option Int)
    (hc : calendarOK row3.dtfs (selFields row3 sel) fill = true) :
    rowPipeline row3 (flat sel ++ tail) fbOff fill = some (fieldsOf row3.dtfs (selFields row3 sel) fbOff fill).instant :=
  cert3.e2e hv (cert3.flat_le rfl hv) (C04_row3_search sel hv _ (tailF_take ht _)) fbOff hfb fill rfl hc

theorem C04_row4_end_to_end_shaped (sel : Sel) (hv : Valid (rowBodyP re4 1) sel) (tail : List UInt8) (ht : TailF (autoTail re4) tail)
    (fbOff : Int) (hfb : FbOK' fbOff) (fill : Option Int)
    (hc : calendarOK row4.dtfs (selFields row4 sel) fill = true) :
    rowPipeline row4 (flat sel ++ tail) fbOff fill = some (fieldsOf row4.dtfs (selFields row4 sel) fbOff fill).instant :=
  cert4.e2e hv (cert4.flat_le rfl hv) (C04_row4_search sel hv _ (tailF_take ht _)) fbOff hfb fill rfl hc

theorem C04_row5_end_to_end_shaped (sel : Sel) (hv : Valid (rowBodyP re5 1) sel) (tail : List UInt8) (ht : TailF (autoTail re5) tail)
    (hlen : (flat sel).length ≤ row5.rangeEnd) (fbOff : Int) (hfb : FbOK' fbOff) (fill : Option Int)
    (hc : calendarOK row5.dtfs (selFields row5 sel) fill = true) :
    rowPipeline row5 (flat sel ++ tail) fbOff fill = some (fieldsOf row5.dtfs (selFields row5 sel) fbOff fill).instant :=
  cert5.e2e hv hlen (C04_row5_search sel hv _ (tailF_take ht _)) fbOff hfb fill rfl hc

theorem C04_row6_end_to_end_shaped (sel : Sel) (hv : Valid (rowBodyP re6 1) sel) (tail : List UInt8) (ht : TailF (autoTail re6) tail)
    (fbOff : Int) (hfb : FbOK' fbOff) (fill : Option Int)
    (hc : calendarOK row6.dtfs (selFields row6 sel) fill = true) :
    rowPipeline row6 (flat sel ++ tail) fbOff fill = some (fieldsOf row6.dtfs (selFields row6 sel) fbOff fill).instant :=
  cert6.e2e hv (cert6.flat_le rfl hv) (C04_row6_search sel hv _ (tailF_take ht _)) fbOff hfb fill rfl hc

theorem C04_row7_end_to_end_shaped (sel : Sel) (hv : Valid (rowBodyE re7 1) sel) (tail : List UInt8) (ht : TailIn (rowEndSym re7) tail)
    (fbOff : Int) (hfb : FbOK' fbOff) (fill : Option Int)
    (hc : calendarOK row7.dtfs (selFields row7 sel) fill = true) :
    rowPipeline row7 (flat sel ++ tail) fbOff fill = some (fieldsOf row7.dtfs (selFields row7 sel) fbOff fill).instant :=
  cert7.e2e_end hv (cert7.flat_le rfl hv) (C04_row7_search sel hv _ (tailIn_take ht _)) fbOff hfb fill rfl hc

theorem C04_row8_end_to_end_shaped (sel : Sel) (hv : Valid (rowBodyE re8 1) sel) (tail : List UInt8) (ht : TailIn (rowEndSym re8) tail)
    (fbOff : Int) (hfb : FbOK' fbOff) (fill : Option Int)
    (hc : calendarOK row8.dtfs (selFields row8 sel) fill = true) :
    rowPipeline row8 (flat sel ++ tail) fbOff fill = some (fieldsOf row8.dtfs (selFields row8 sel) fbOff fill).instant :=
  cert8.e2e_end hv (cert8.flat_le rfl hv) (C04_row8_search sel hv _ (tailIn_take ht _)) fbOff hfb fill rfl hc

theorem C04_row9_end_to_end_shaped (sel : Sel) (hv : Valid (rowBodyE re9 1) sel) (tail : List UInt8) (ht : TailIn (rowEndSym re9) tail)
    (fbOff : Int) (hfb : FbOK' fbOff) (fill : Option Int)
    (hc : calendarOK row9.dtfs (selFields row9 sel) fill = true) :
    rowPipeline row9 (flat sel ++ tail) fbOff fill = some (fieldsOf row9.dtfs (selFields row9 sel) fbOff fill).instant :=
  cert9.e2e_end hv (cert9.flat_le rfl hv) (C04_row9_search sel hv _ (tailIn_take ht _)) fbOff hfb fill rfl hc

theorem C04_row10_end_to_end_shaped (sel : Sel) (hv : Valid (rowBodyE re10 1) sel) (tail : List UInt8) (ht : TailIn (rowEndSym re10) tail)
    (fbOff : Int) (hfb : FbOK' fbOff) (fill : Option Int)
    (hc : calendarOK row10.dtfs (selFields row10 sel) fill = true) :
    rowPipeline row10 (flat sel ++ tail) fbOff fill = some (fieldsOf row10.dtfs (selFields row10 sel) fbOff fill).instant :=
  cert10.e2e_end hv (cert10.flat_le rfl hv) (C04_row10_search sel hv _ (tailIn_take ht _)) fbOff hfb fill rfl hc

theorem C04_row11_end_to_end_shaped (sel : Sel) (hv : Valid (rowBodyE re11 1) sel) (tail : List UInt8) (ht : TailIn (rowEndSym re11) tail)
    (fbOff : Int) (hfb : FbOK' fbOff) (fill : Option Int)
    (hc : calendarOK row11.dtfs (selFields row11 sel) fill = true) :
    rowPipeline row11 (flat sel ++ tail) fbOff fill = some (fieldsOf row11.dtfs (selFields row11 sel) fbOff fill).instant :=
  cert11.e2e_end hv (cert11.flat_le rfl hv) (C04_row11_search sel hv _ (tailIn_take ht _)) fbOff hfb fill rfl hc

theorem C04_row12_end_to_end_shaped (sel : Sel) (hv : Valid (rowBodyP re12 1) sel) (tail : List UInt8) (ht : TailF (autoTail re12) tail)
    (fbOff : Int) (hfb : FbOK' fbOff) (fill : Option Int)
    (hc : calendarOK row12.dtfs (selFields row12 sel) fill = true) :
    rowPipeline row12 (flat sel ++ tail) fbOff fill = some (fieldsOf row12.dtfs (selFields row12 sel) fbOff fill).instant :=
  cert12.e2e hv (cert12.flat_le rfl hv) (C04_row12_search sel hv _ (tailF_take ht _)) fbOff hfb fill rfl hc

theorem C04_row13_end_to_end_shaped (sel : Sel) (hv : Valid (rowBodyP re13 1) sel) (tail : List UInt8) (ht : TailF (autoTail re13) tail)
    (fbOff : Int) (hfb : FbOK' fbOff) (fill : Option Int)
    (hc : calendarOK row13.dtfs (selFields row13 sel) fill = true) :
    rowPipeline row13 (flat sel ++ tail) fbOff fill = some (fieldsOf row13.dtfs (selFields row13 sel) fbOff fill).instant :=
  cert13.e2e hv (cert13.flat_le rfl hv) (C04_row13_search sel hv _ (tailF_take ht _)) fbOff hfb fill rfl hc

theorem C04_row14_end_to_end_shaped (sel : Sel) (hv : Valid (rowBodyE re14 1) sel) (tail : List UInt8) (ht : TailIn (rowEndSym re14) tail)
    (fbOff : Int) (hfb : FbOK' fbOff) (fill : Option Int)
    (hc : calendarOK row14.dtfs (selFields row14 sel) fill = true) :
    rowPipeline row14 (flat sel ++ tail) fbOff fill = some (fieldsOf row14.dtfs (selFields row14 sel) fbOff fill).instant :=
  cert14.e2e_end hv (cert14.flat_le rfl hv) (C04_row14_search sel hv _ (tailIn_take ht _)) fbOff hfb fill rfl hc

theorem C04_row15_end_to_end_shaped (sel : Sel) (hv : Valid (rowBodyE re15 1) sel) (tail : List UInt8) (ht : TailIn (rowEndSym re15) tail)
    (fbOff : Int) (hfb : FbOK' fbOff) (fill : Option Int)
    (hc : calendarOK row15.dtfs (selFields row15 sel) fill = true) :
    rowPipeline row15 (flat sel ++ tail) fbOff fill = some (fieldsOf row15.dtfs (selFields row15 sel) fbOff fill).instant :=
  cert15.e2e_end hv (cert15.flat_le rfl hv) (C04_row15_search sel hv _ (tailIn_take ht _)) fbOff hfb fill rfl hc

theorem C04_row16_end_to_end_shaped (sel : Sel) (hv : Valid (rowBodyE re16 1) sel) (tail : List UInt8) (ht : TailIn (rowEndSym re16) tail)
    (hlen : (flat sel).length ≤ row16.rangeEnd) (fbOff : Int) (hfb : FbOK' fbOff) (fill : Option Int)
    (hc : calendarOK row16.dtfs (selFields row16 sel) fill = true) :
    rowPipeline row16 (flat sel ++ tail) fbOff fill = some (fieldsOf row16.dtfs (selFields row16 sel) fbOff fill).instant :=
  cert16.e2e_end hv hlen (C04_row16_search sel hv _ (tailIn_take ht _)) fbOff hfb fill rfl hc

theorem C04_row17_end_to_end_shaped (sel : Sel) (hv : Valid (rowBodyE re17 1) sel) (tail : List UInt8) (ht : TailIn (rowEndSym re17) tail)
    (fbOff : Int) (hfb : FbOK' fbOff) (fill : Option Int)
    (hc : calendarOK row17.dtfs (selFields row17 sel) fill = true) :
    rowPipeline row17 (flat sel ++ tail) fbOff fill = some (fieldsOf row17.dtfs (selFields row17 sel) fbOff fill).instant :=
  cert17.e2e_end hv (cert17.flat_le rfl hv) (C04_row17_search sel hv _ (tailIn_take ht _)) fbOff hfb fill rfl hc

theorem C04_row18_end_to_end_shaped (sel : Sel) (hv : Valid (rowBodyE re18 1) sel) (tail : List UInt8) (ht : TailIn (rowEndSym re18) tail)
    (fbOff : Int) (hfb : FbOK' fbOff) (fill : Option Int)
    (hc : calendarOK row18.dtfs (selFields row18 sel) fill = true) :
    rowPipeline row18 (flat sel ++ tail) fbOff fill = some (fieldsOf row18.dtfs (selFields row18 sel) fbOff fill).instant :=
  cert18.e2e_end hv (cert18.flat_le rfl hv) (C04_row18_search sel hv _ (tailIn_take ht _)) fbOff hfb fill rfl hc

theorem C04_row19_end_to_end_shaped (sel : Sel) (hv : Valid (rowBodyE re19 1) sel) (tail : List UInt8) (ht : TailIn (rowEndSym re19) tail)
    (fbOff : Int) (hfb : FbOK' fbOff) (fill : Option Int)
    (hc : calendarOK row19.dtfs (selFields row19 sel) fill = true) :
    rowPipeline row19 (flat sel ++ tail) fbOff fill = some (fieldsOf row19.dtfs (selFields row19 sel) fbOff fill).instant :=
  cert19.e2e_end hv (cert19.flat_le rfl hv) (C04_row19_search sel hv _ (tailIn_take ht _)) fbOff hfb fill rfl hc

theorem C04_row20_end_to_end_shaped (sel : Sel) (hv : Valid (rowBodyE re20 1) sel) (tail : List UInt8) (ht : TailIn (rowEndSym re20) tail)
    (hlen : (flat sel).length ≤ row20.rangeEnd) (fbOff : Int) (hfb : FbOK' fbOff) (fill : Option Int)
    (hc : calendarOK row20.dtfs (selFields row20 sel) fill = true) :
    rowPipeline row20 (flat sel ++ tail) fbOff fill = some (fieldsOf row20.dtfs (selFields row20 sel) fbOff fill).instant :=
  cert20.e2e_end hv hlen (C04_row20_search sel hv _ (tailIn_take ht _)) fbOff hfb fill rfl hc

theorem C04_row21_end_to_end_shaped (sel : Sel) (hv : Valid (rowBodyE re21 1) sel) (tail : List UInt8) (ht : TailIn (rowEndSym re21) tail)
    (fbOff : Int) (hfb : FbOK' fbOff) (fill : Option Int)
    (hc : calendarOK row21.dtfs (selFields row21 sel) fill = true) :
    rowPipeline row21 (flat sel ++ tail) fbOff fill = some (fieldsOf row21.dtfs (selFields row21 sel) fbOff fill).instant :=
  cert21.e2e_end hv (cert21.flat_le rfl hv) (C04_row21_search sel hv _ (tailIn_take ht _)) fbOff hfb fill rfl hc

theorem C04_row22_end_to_end_shaped (sel : Sel) (hv : Valid (rowBodyE re22 1) sel) (tail : List UInt8) (ht : TailIn (rowEndSym re22) tail)
    (hlen : (flat sel).length ≤ row22.rangeEnd) (fbOff : Int) (hfb : FbOK' fbOff) (fill : Option Int)
    (hc : calendarOK row22.dtfs (selFields row22 sel) fill = true) :
    rowPipeline row22 (flat sel ++ tail) fbOff fill = some (fieldsOf row22.dtfs (selFields row22 sel) fbOff fill).instant :=
  cert22.e2e_end hv hlen (C04_row22_search sel hv _ (tailIn_take ht _)) fbOff hfb fill rfl hc

theorem C04_row23_end_to_end_shaped (sel : Sel) (hv : Valid (rowBodyP re23 1) sel) (tail : List UInt8) (ht : TailF (autoTail re23) tail)
    (fbOff : Int) (hfb : FbOK' fbOff) (fill : Option Int) (hfill : ∀ y, fill = some y → 1000 ≤ y ∧ y ≤ 9999)
    (hc : calendarOK row23.dtfs (selFields row23 sel) fill = true) :
    rowPipeline row23 (flat sel ++ tail) fbOff fill = some (fieldsOf row23.dtfs (selFields row23 sel) fbOff fill).instant :=
  cert23.e2e hv (cert23.flat_le rfl hv) (C04_row23_search sel hv _ (tailF_take ht _)) fbOff hfb fill (fillOK_of _ fill hfill) hc

end S4V.Props.RegexE2E
