/-
GENERATED by tools/mk_regexrows.py from harness/src/rgx_rows.txt (gen/gen_regex.py) — regenerate, do not edit.

C04, regex slice: rows 149–158 of `DATETIME_PARSE_DATAS`. `rowsO` holds the literals of their certificates (`RowFacts`,
`S4V.Lemmas.RegexTable`), `certsO` is ONE kernel evaluation for all of them, and `certN`, `factsN` are its components for row N; a row
without an end-to-end theorem (the epoch rows; a row that failed `catOK`) has no certificate and evaluates its own `factsN`. `C04_rowN_search`: for EVERY
selection of entries of the row's catalogue (`rowBodyE` / `rowBodyP`, `S4V.Lemmas.RegexAuto`) and of concrete words, and every
admissible tail, `search` matches at 0, spans exactly the words (and the byte of a final group), and every capture group spans
the word of its item.
-/
import S4V.Gen.Regex
import S4V.Lemmas.RegexTable

namespace S4V.Props.RegexCapture3
open S4V.Model.Regex S4V.Gen.Regex S4V.Lemmas.RegexStep S4V.Lemmas.RegexSym S4V.Lemmas.RegexRows S4V.Lemmas.RegexAuto
open S4V.Lemmas.RegexE2E S4V.Lemmas.Utf8 S4V.Gen.TimeTables

def rowsO : List RowFacts := [
  { row := row149, counts := [(19, 22), (2, 2), (2, 2), (1, 2), (105, 105), (1, 1), (46, 49), (2, 2), (25, 25), (2, 2), (1, 1), (2, 2), (2, 2), (1, 1), (3, 3), (1, 1), (196, 196)], digest := 722404702,
    line := some "INFO Jun-16 14:09:58 2000 PDT === Started libdnf-0.31.0 ===".toUTF8.toList, fits := true },
  { row := row150, counts := [(19, 22), (2, 2), (2, 2), (1, 2), (105, 105), (1, 1), (46, 49), (2, 2), (25, 25), (2, 2), (1, 1), (2, 2), (2, 2), (1, 1), (3, 3), (1, 1), (1, 1)], digest := 838145591,
    line := some "INFO Jun-16 14:09:58 2000 -07:00 === Started libdnf-0.31.0 ===".toUTF8.toList, fits := true },
  { row := row151, counts := [(19, 22), (2, 2), (2, 2), (1, 2), (105, 105), (1, 1), (46, 49), (2, 2), (25, 25), (2, 2), (1, 1), (2, 2), (2, 2), (1, 1), (3, 3), (1, 1), (1, 1)], digest := 45863835,
    line := some "INFO Jun-16 14:09:58 2000 -0700 === Started libdnf-0.31.0 ===".toUTF8.toList, fits := true },
  { row := row152, counts := [(19, 22), (2, 2), (2, 2), (1, 2), (105, 105), (1, 1), (46, 49), (2, 2), (25, 25), (2, 2), (1, 1), (2, 2), (2, 2), (1, 1), (3, 3), (1, 1), (1, 1)], digest := 328542115,
    line := some "INFO Jun-16 14:09:58 2000 -07 === Started libdnf-0.31.0 ===".toUTF8.toList, fits := true },
  { row := row153, counts := [(19, 22), (2, 2), (2, 2), (1, 2), (105, 105), (1, 1), (46, 49), (2, 2), (25, 25), (2, 2), (1, 1), (2, 2), (2, 2), (1, 1), (3, 3)], digest := 419954344,
    line := some "INFO Jun-16 14:09:58 2000 === Started libdnf-0.31.0 ===".toUTF8.toList, fits := true },
  { row := row154, counts := [(19, 22), (2, 2), (2, 2), (1, 2), (105, 105), (1, 1), (46, 49), (2, 2), (25, 25), (2, 2), (1, 1), (2, 2), (2, 2)], digest := 606537112,
    line := some "INFO Jun-16 14:09:58 === Started libdnf-0.31.0 ===".toUTF8.toList, fits := true },
  { row := row155, counts := [(42, 42), (1, 1), (105, 105), (1, 1), (46, 49), (2, 2), (25, 25), (2, 2), (1, 1), (2, 2), (2, 2), (1, 1), (3, 3), (1, 1), (196, 196)], digest := 377684371,
    line := some "Fri Jun-16 14:09:58 2000 PDT === Started libdnf-0.31.0 ===".toUTF8.toList, fits := true },
  { row := row156, counts := [(42, 42), (1, 1), (105, 105), (1, 1), (46, 49), (2, 2), (25, 25), (2, 2), (1, 1), (2, 2), (2, 2), (1, 1), (3, 3), (1, 1), (1, 1)], digest := 655302606,
    line := some "Fri Jun-16 14:09:58 2000 -07:00 === Started libdnf-0.31.0 ===".toUTF8.toList, fits := true },
  { row := row157, counts := [(42, 42), (1, 1), (105, 105), (1, 1), (46, 49), (2, 2), (25, 25), (2, 2), (1, 1), (2, 2), (2, 2), (1, 1), (3, 3), (1, 1), (1, 1)], digest := 167738643,
    line := some "Fri Jun-16 14:09:58 2000 -0700 === Started libdnf-0.31.0 ===".toUTF8.toList, fits := true },
  { row := row158, counts := [(42, 42), (1, 1), (105, 105), (1, 1), (46, 49), (2, 2), (25, 25), (2, 2), (1, 1), (2, 2), (2, 2), (1, 1), (3, 3), (1, 1), (1, 1)], digest := 473523046,
    line := some "Fri Jun-16 14:09:58 2000 -07 === Started libdnf-0.31.0 ===".toUTF8.toList, fits := true }]

theorem certsO : ∀ i (h : i < rowsO.length), rowsO[i].Cert :=
  RowFacts.certs_of_all (by
    unfold rowsO
    rw [toUTF8_toList_ofList, toUTF8_toList_ofList, toUTF8_toList_ofList, toUTF8_toList_ofList, toUTF8_toList_ofList, toUTF8_toList_ofList, toUTF8_toList_ofList, toUTF8_toList_ofList, toUTF8_toList_ofList, toUTF8_toList_ofList]
    decide +kernel)

/-! ### row 149 (month:2,day:3,hour:4,minute:5,second:6,year:7,tz:8): head `bol`, end `(?P<g>[class]|$)` -/

theorem cert149 : (rowsO[0]'(by decide)).Cert := certsO 0 (by decide)

theorem facts149 : keptCounts (rowBodyE re149 1) = [(19, 22), (2, 2), (2, 2), (1, 2), (105, 105), (1, 1), (46, 49), (2, 2), (25, 25), (2, 2), (1, 1), (2, 2), (2, 2), (1, 1), (3, 3), (1, 1), (196, 196)] ∧
    catDigest (rowBodyE re149 1) = 722404702 ∧
    splitsL (rowBodyE re149 1) "INFO Jun-16 14:09:58 2000 PDT === Started libdnf-0.31.0 ===".toUTF8.toList = true := cert149.facts

theorem C04_row149_search (sel : Sel) (hv : Valid (rowBodyE re149 1) sel) (tail : List UInt8) (ht : TailIn (rowEndSym re149) tail) :
    RowResult row149.re (flat sel ++ tail) ((flat sel).length + tailLen tail) [] (sel ++ [rowEndEw re149 tail]) :=
  auto_E (re := re149) (by rfl) cert149.headOk sel hv tail ht

/-! ### row 150 (month:2,day:3,hour:4,minute:5,second:6,year:7,tz:8): head `bol`, end `(?P<g>[class]|$)` -/

theorem cert150 : (rowsO[1]'(by decide)).Cert := certsO 1 (by decide)

theorem facts150 : keptCounts (rowBodyE re150 1) = [(19, 22), (2, 2), (2, 2), (1, 2), (105, 105), (1, 1), (46, 49), (2, 2), (25, 25), (2, 2), (1, 1), (2, 2), (2, 2), (1, 1), (3, 3), (1, 1), (1, 1)] ∧
    catDigest (rowBodyE re150 1) = 838145591 ∧
    splitsL (rowBodyE re150 1) "INFO Jun-16 14:09:58 2000 -07:00 === Started libdnf-0.31.0 ===".toUTF8.toList = true := cert150.facts

theorem C04_row150_search (sel : Sel) (hv : Valid (rowBodyE re150 1) sel) (tail : List UInt8) (ht : TailIn (rowEndSym re150) tail) :
    RowResult row150.re (flat sel ++ tail) ((flat sel).length + tailLen tail) [] (sel ++ [rowEndEw re150 tail]) :=
  auto_E (re := re150) (by rfl) cert150.headOk sel hv tail ht

/-! ### row 151 (month:2,day:3,hour:4,minute:5,second:6,year:7,tz:8): head `bol`, end `(?P<g>[class]|$)` -/

theorem cert151 : (rowsO[2]'(by decide)).Cert := certsO 2 (by decide)

theorem facts151 : keptCounts (rowBodyE re151 1) = [(19, 22), (2, 2), (2, 2), (1, 2), (105, 105), (1, 1), (46, 49), (2, 2), (25, 25), (2, 2), (1, 1), (2, 2), (2, 2), (1, 1), (3, 3), (1, 1), (1, 1)] ∧
    catDigest (rowBodyE re151 1) = 45863835 ∧
    splitsL (rowBodyE re151 1) "INFO Jun-16 14:09:58 2000 -0700 === Started libdnf-0.31.0 ===".toUTF8.toList = true := cert151.facts

theorem C04_row151_search (sel : Sel) (hv : Valid (rowBodyE re151 1) sel) (tail : List UInt8) (ht : TailIn (rowEndSym re151) tail) :
    RowResult row151.re (flat sel ++ tail) ((flat sel).length + tailLen tail) [] (sel ++ [rowEndEw re151 tail]) :=
  auto_E (re := re151) (by rfl) cert151.headOk sel hv tail ht

/-! ### row 152 (month:2,day:3,hour:4,minute:5,second:6,year:7,tz:8): head `bol`, end `(?P<g>[class]|$)` -/

theorem cert152 : (rowsO[3]'(by decide)).Cert := certsO 3 (by decide)

theorem facts152 : keptCounts (rowBodyE re152 1) = [(19, 22), (2, 2), (2, 2), (1, 2), (105, 105), (1, 1), (46, 49), (2, 2), (25, 25), (2, 2), (1, 1), (2, 2), (2, 2), (1, 1), (3, 3), (1, 1), (1, 1)] ∧
    catDigest (rowBodyE re152 1) = 328542115 ∧
    splitsL (rowBodyE re152 1) "INFO Jun-16 14:09:58 2000 -07 === Started libdnf-0.31.0 ===".toUTF8.toList = true := cert152.facts

theorem C04_row152_search (sel : Sel) (hv : Valid (rowBodyE re152 1) sel) (tail : List UInt8) (ht : TailIn (rowEndSym re152) tail) :
    RowResult row152.re (flat sel ++ tail) ((flat sel).length + tailLen tail) [] (sel ++ [rowEndEw re152 tail]) :=
  auto_E (re := re152) (by rfl) cert152.headOk sel hv tail ht

/-! ### row 153 (month:2,day:3,hour:4,minute:5,second:6,year:7): head `bol`, end `(?P<g>[class]|$)` -/

theorem cert153 : (rowsO[4]'(by decide)).Cert := certsO 4 (by decide)

theorem facts153 : keptCounts (rowBodyE re153 1) = [(19, 22), (2, 2), (2, 2), (1, 2), (105, 105), (1, 1), (46, 49), (2, 2), (25, 25), (2, 2), (1, 1), (2, 2), (2, 2), (1, 1), (3, 3)] ∧
    catDigest (rowBodyE re153 1) = 419954344 ∧
    splitsL (rowBodyE re153 1) "INFO Jun-16 14:09:58 2000 === Started libdnf-0.31.0 ===".toUTF8.toList = true := cert153.facts

theorem C04_row153_search (sel : Sel) (hv : Valid (rowBodyE re153 1) sel) (tail : List UInt8) (ht : TailIn (rowEndSym re153) tail) :
    RowResult row153.re (flat sel ++ tail) ((flat sel).length + tailLen tail) [] (sel ++ [rowEndEw re153 tail]) :=
  auto_E (re := re153) (by rfl) cert153.headOk sel hv tail ht

/-! ### row 154 (month:2,day:3,hour:4,minute:5,second:6): head `bol`, end `(?P<g>[class]|$)` -/

theorem cert154 : (rowsO[5]'(by decide)).Cert := certsO 5 (by decide)

theorem facts154 : keptCounts (rowBodyE re154 1) = [(19, 22), (2, 2), (2, 2), (1, 2), (105, 105), (1, 1), (46, 49), (2, 2), (25, 25), (2, 2), (1, 1), (2, 2), (2, 2)] ∧
    catDigest (rowBodyE re154 1) = 606537112 ∧
    splitsL (rowBodyE re154 1) "INFO Jun-16 14:09:58 === Started libdnf-0.31.0 ===".toUTF8.toList = true := cert154.facts

theorem C04_row154_search (sel : Sel) (hv : Valid (rowBodyE re154 1) sel) (tail : List UInt8) (ht : TailIn (rowEndSym re154) tail) :
    RowResult row154.re (flat sel ++ tail) ((flat sel).length + tailLen tail) [] (sel ++ [rowEndEw re154 tail]) :=
  auto_E (re := re154) (by rfl) cert154.headOk sel hv tail ht

/-! ### row 155 (dayIgnore:2,month:4,day:5,hour:6,minute:7,second:8,year:9,tz:10): head `softR`, end `(?P<g>[class]|$)` -/

theorem cert155 : (rowsO[6]'(by decide)).Cert := certsO 6 (by decide)

theorem facts155 : keptCounts (rowBodyE re155 1) = [(42, 42), (1, 1), (105, 105), (1, 1), (46, 49), (2, 2), (25, 25), (2, 2), (1, 1), (2, 2), (2, 2), (1, 1), (3, 3), (1, 1), (196, 196)] ∧
    catDigest (rowBodyE re155 1) = 377684371 ∧
    splitsL (rowBodyE re155 1) "Fri Jun-16 14:09:58 2000 PDT === Started libdnf-0.31.0 ===".toUTF8.toList = true := cert155.facts

theorem C04_row155_search (sel : Sel) (hv : Valid (rowBodyE re155 1) sel) (tail : List UInt8) (ht : TailIn (rowEndSym re155) tail) :
    RowResult row155.re (flat sel ++ tail) ((flat sel).length + tailLen tail) [((headParts re155).1, 0, 0)] (sel ++ [rowEndEw re155 tail]) :=
  auto_E (re := re155) (by rfl) cert155.headOk sel hv tail ht

/-! ### row 156 (dayIgnore:2,month:4,day:5,hour:6,minute:7,second:8,year:9,tz:10): head `softR`, end `(?P<g>[class]|$)` -/

theorem cert156 : (rowsO[7]'(by decide)).Cert := certsO 7 (by decide)

theorem facts156 : keptCounts (rowBodyE re156 1) = [(42, 42), (1, 1), (105, 105), (1, 1), (46, 49), (2, 2), (25, 25), (2, 2), (1, 1), (2, 2), (2, 2), (1, 1), (3, 3), (1, 1), (1, 1)] ∧
    catDigest (rowBodyE re156 1) = 655302606 ∧
    splitsL (rowBodyE re156 1) "Fri Jun-16 14:09:58 2000 -07:00 === Started libdnf-0.31.0 ===".toUTF8.toList = true := cert156.facts

theorem C04_row156_search (sel : Sel) (hv : Valid (rowBodyE re156 1) sel) (tail : List UInt8) (ht : TailIn (rowEndSym re156) tail) :
    RowResult row156.re (flat sel ++ tail) ((flat sel).length + tailLen tail) [((headParts re156).1, 0, 0)] (sel ++ [rowEndEw re156 tail]) :=
  auto_E (re := re156) (by rfl) cert156.headOk sel hv tail ht

/-! ### row 157 (dayIgnore:2,month:4,day:5,hour:6,minute:7,second:8,year:9,tz:10): head `softR`, end `(?P<g>[class]|$)` -/

theorem cert157 : (rowsO[8]'(by decide)).Cert := certsO 8 (by decide)

theorem facts157 : keptCounts (rowBodyE re157 1) = [(42, 42), (1, 1), (105, 105), (1, 1), (46, 49), (2, 2), (25, 25), (2, 2), (1, 1), (2, 2), (2, 2), (1, 1), (3, 3), (1, 1), (1, 1)] ∧
    catDigest (rowBodyE re157 1) = 167738643 ∧
    splitsL (rowBodyE re157 1) "Fri Jun-16 14:09:58 2000 -0700 === Started libdnf-0.31.0 ===".toUTF8.toList = true := cert157.facts

theorem C04_row157_search (sel : Sel) (hv : Valid (rowBodyE re157 1) sel) (tail : List UInt8) (ht : TailIn (rowEndSym re157) tail) :
    RowResult row157.re (flat sel ++ tail) ((flat sel).length + tailLen tail) [((headParts re157).1, 0, 0)] (sel ++ [rowEndEw re157 tail]) :=
  auto_E (re := re157) (by rfl) cert157.headOk sel hv tail ht

/-! ### row 158 (dayIgnore:2,month:4,day:5,hour:6,minute:7,second:8,year:9,tz:10): head `softR`, end `(?P<g>[class]|$)` -/

theorem cert158 : (rowsO[9]'(by decide)).Cert := certsO 9 (by decide)

theorem facts158 : keptCounts (rowBodyE re158 1) = [(42, 42), (1, 1), (105, 105), (1, 1), (46, 49), (2, 2), (25, 25), (2, 2), (1, 1), (2, 2), (2, 2), (1, 1), (3, 3), (1, 1), (1, 1)] ∧
    catDigest (rowBodyE re158 1) = 473523046 ∧
    splitsL (rowBodyE re158 1) "Fri Jun-16 14:09:58 2000 -07 === Started libdnf-0.31.0 ===".toUTF8.toList = true := cert158.facts

theorem C04_row158_search (sel : Sel) (hv : Valid (rowBodyE re158 1) sel) (tail : List UInt8) (ht : TailIn (rowEndSym re158) tail) :
    RowResult row158.re (flat sel ++ tail) ((flat sel).length + tailLen tail) [((headParts re158).1, 0, 0)] (sel ++ [rowEndEw re158 tail]) :=
  auto_E (re := re158) (by rfl) cert158.headOk sel hv tail ht

end S4V.Props.RegexCapture3
