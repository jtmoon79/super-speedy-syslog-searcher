/-
C04 (anchored state "DATETIME_PARSE_DATAS order — first matching pattern wins during block-zero analysis;
afterwards one pattern is fixed per file") — which pattern a text log is read with.

Model: `S4V.Model.PatSel` (mirror of `SyslineReader::{new, parse_datetime_in_line, find_datetime_in_line,
dt_patterns_update, dt_patterns_analysis, parse_datetime_in_line_cached, clear_syslines, remove_sysline}` and of
`SyslogProcessor::blockzero_analysis_syslines` at the level of lines). "Row r parses line ℓ to instant t" is an
abstract matrix `M`. Shape flags and constants are regenerated from the source (`S4V.Gen.PatSel`); every
theorem below goes through lemmas that unfold them, so e.g. an ascending sort, `pop_first`, counting on a cache
hit or a cache that is not emptied by `clear_syslines` regenerate different constants and the proofs fail.

Tie B: harness/src/c_patsel.rs against `runFile` (driver `drv_patsel`).
-/
import S4V.Lemmas.PatSel

namespace S4V.Props.PatSelSpec
open S4V.Model.PatSel S4V.Lemmas.PatSel
open S4V.Gen.PatSel

theorem C04_patsel_consts :
    N_ROWS = 173 ∧ DT_PATTERN_MAX = 1 ∧ TRY_ORDER_DESC = true ∧ SHORT_TEST_STRICT = true ∧
    S4V.Gen.Consts.DATETIME_STR_MIN = 8 ∧ TIE_KEEPS_LOWEST = true ∧
    PARSE_LRU_CAP = 8 ∧ PARSE_CACHE_ENABLED = true ∧ ANALYSIS_CLEARS_PARSE_CACHE = false ∧
    REPARSE_IF_ROWS_ABOVE = 1 := by decide

/-- For every state whose counts are an index-ordered map: the rows are tried in THE order that is a
permutation of the map's entries sorted by count descending, equal counts by ascending index. -/
theorem C04_tryorder_spec (st : St) (h : KeysAsc st.counts) :
    ∃ l : Counts, l.Perm st.counts ∧ l.Pairwise Before ∧ tryOrder st = l.map Prod.fst ∧
      ∀ l' : Counts, l'.Perm st.counts → l'.Pairwise Before → l' = l :=
  ⟨sortCounts st.counts, sortCounts_perm _, sortCounts_sorted h, rfl,
    fun _ => sortCounts_unique h⟩

/-- the invariant holds for a new reader and is kept by parsing and by analysis -/
theorem C04_keysAsc_invariant (M : Matrix) (n : Nat) :
    KeysAsc (fresh n).counts ∧
    (∀ st ℓ, KeysAsc st.counts → KeysAsc (parseLine M st ℓ).2.counts) ∧
    (∀ st, KeysAsc st.counts → KeysAsc (analysis st).2.counts) := by
  refine ⟨keysAsc_fresh n, ?_, ?_⟩
  · intro st ℓ h
    rw [keysAsc_iff] at h ⊢
    rwa [keys_parseLine]
  · intro st h
    unfold analysis
    dsimp only
    split
    · exact h
    · rw [popDown_eq]
      exact h.sublist ((List.take_sublist _ _).trans List.filter_sublist)

/-- a new reader tries the rows in table order -/
theorem C04_fresh_order (n : Nat) : tryOrder (fresh n) = List.range n := tryOrder_fresh n

/-- "first matching pattern wins": the first line a new reader parses is given to the LOWEST-index row that
parses it (lines shorter than `DATETIME_STR_MIN` = 8 bytes are not looked at) -/
theorem C04_first_line_first_match (M : Matrix) (n : Nat) (ℓ : Bytes) (r : Nat) (t : Int) :
    (parseLine M (fresh n) ℓ).1 = some (r, t) ↔
      8 ≤ ℓ.length ∧ r < n ∧ M r ℓ = some t ∧ ∀ r' < r, M r' ℓ = none := by
  rw [parseLine_fresh, ← Nat.not_lt, ← tooShort_iff]
  split
  next h => exact ⟨nofun, fun h' => absurd h h'.1⟩
  next h => rw [firstMatch_range]; exact ⟨fun h' => ⟨h, h'⟩, fun h' => h'.2⟩

/-- `dt_patterns_analysis` returning true leaves exactly one row `p`; its count `m` is the maximum, and `p` is
the lowest index among the rows with that count -/
theorem C04_chosen_pattern (st : St) (hk : KeysAsc st.counts) (ht : (analysis st).1 = true) :
    ∃ p m, (analysis st).2.counts = [(p, m)] ∧ (analysis st).2.analyzed = true ∧ chosen (analysis st).2 = some p ∧
      0 < m ∧ (p, m) ∈ st.counts ∧ ∀ q ∈ st.counts, q.2 ≤ m ∧ (q.2 = m → p ≤ q.1) := by
  obtain ⟨p, m, h1, h2, h3, h4⟩ := analysis_true hk ht
  exact ⟨p, m, by rw [h1], by rw [h1], by rw [h1]; rfl, h2, h3, h4⟩

/-- it returns false exactly when every count is 0 … -/
theorem C04_analysis_false_iff (st : St) : (analysis st).1 = false ↔ ∀ p ∈ st.counts, p.2 = 0 :=
  analysis_false_iff st

/-- … i.e. when none of the lines parsed so far was recognised by any row -/
theorem C04_analysis_fails_iff_nothing_matched (M : Matrix) (n k : Nat) (lines : List Bytes) :
    (runK M n k lines).ok = false ↔ ∀ r ∈ (runK M n k lines).before, r = none := by
  rw [runK_ok, runK_before, analysis_false_iff, ← total_zero_iff, parseAll_total, total_fresh]
  simp

/-- after analysis only the chosen row is tried, for every later line and however many: each line is dated by
that row alone -/
theorem C04_analysis_idempotent_order (M : Matrix) (st : St) (hk : KeysAsc st.counts) (ht : (analysis st).1 = true) :
    ∃ p, chosen (analysis st).2 = some p ∧ tryOrder (analysis st).2 = [p] ∧
      ∀ ls : List Bytes, (parseAll M (analysis st).2 ls).1 = ls.map (dateP M p) ∧
        tryOrder (parseAll M (analysis st).2 ls).2 = [p] := by
  obtain ⟨p, m, h1, _⟩ := analysis_true hk ht
  refine ⟨p, by rw [h1]; rfl, by rw [h1]; exact tryOrder_single p m true, ?_⟩
  intro ls
  obtain ⟨h, c', h'⟩ := parseAll_single M p true ls m
  rw [h1, h']
  exact ⟨h, tryOrder_single p c' true⟩

/-- so a line that only OTHER rows recognise becomes a continuation line -/
theorem C04_other_notation_becomes_continuation (M : Matrix) (p : Nat) (ℓ : Bytes) (h : M p ℓ = none) :
    dateP M p ℓ = none := by
  simp [dateP, h]

/-- `lines = pre ++ ℓ0 :: post`; no row recognises a line of `pre`; `ℓ0` is recognised and
its first-matching row (table order) is `p`; every line of `post` that ANY row recognises is recognised by `p`.
Then for every number `k > |pre|` of lines parsed before analysis: analysis succeeds, `p` is kept, the first
`k` lines were dated before analysis exactly as `p` alone dates them, and so is every line afterwards. -/
theorem C04_single_notation_stable (M : Matrix) (n p : Nat) (t0 : Int) (pre : List Bytes) (ℓ0 : Bytes)
    (post : List Bytes) (k : Nat)
    (ha1 : ∀ ℓ ∈ pre, NoMatch M n ℓ)
    (ha2 : tooShort ℓ0 = false) (ha3 : firstMatch M ℓ0 (List.range n) = some (p, t0))
    (hb : ∀ ℓ ∈ post, NoMatch M n ℓ ∨ (M p ℓ).isSome)
    (hk : pre.length < k) :
    runK M n k (pre ++ ℓ0 :: post) =
      ⟨true, ((pre ++ ℓ0 :: post).take k).map (dateP M p), some p, (pre ++ ℓ0 :: post).map (dateP M p)⟩ := by
  obtain ⟨hpn, hMp⟩ := firstMatch_sound ha3
  rw [List.mem_range] at hpn
  obtain ⟨j, rfl⟩ : ∃ j, k = pre.length + (j + 1) := ⟨k - (pre.length + 1), by omega⟩
  have htake : (pre ++ ℓ0 :: post).take (pre.length + (j + 1)) = pre ++ ℓ0 :: post.take j := by
    rw [List.take_length_add_append, List.take_succ_cons]
  -- before analysis: `pre` leaves the new reader as it is, `ℓ0` makes `p` the one row in use, and it stays so
  obtain ⟨hpost, c, hc, hst⟩ := parseAll_solo M n p false hpn (post.take j)
    (fun ℓ hℓ => hb ℓ (List.mem_of_mem_take hℓ)) 1 Nat.one_pos
  have hbefore : parseAll M (fresh n) (pre ++ ℓ0 :: post.take j) =
      ((pre ++ ℓ0 :: post.take j).map (dateP M p), ⟨solo n p c, false⟩) := by
    rw [parseAll_append, parseAll_noMatch (keys_fresh n) ha1, parseAll,
      parseLine_fresh_first ha2 ha3, List.map_append, List.map_cons, ← hpost, ← hst,
      List.map_congr_left fun ℓ hℓ => dateP_noMatch hpn (ha1 ℓ hℓ)]
    simp [dateP, ha2, hMp]
  unfold runK
  simp only [htake, hbefore, analysis_solo n p c false hpn hc, (parseAll_single M p true _ c).1, chosen, if_true,
    List.head?_cons, Option.map_some]

/-- … hence the row kept and every date are independent of how many lines block zero holds, and the dates
before analysis are a prefix of the dates after it -/
theorem C04_single_notation_blocksize_independent (M : Matrix) (n p : Nat) (t0 : Int) (pre : List Bytes)
    (ℓ0 : Bytes) (post : List Bytes) (k1 k2 : Nat)
    (ha1 : ∀ ℓ ∈ pre, NoMatch M n ℓ)
    (ha2 : tooShort ℓ0 = false) (ha3 : firstMatch M ℓ0 (List.range n) = some (p, t0))
    (hb : ∀ ℓ ∈ post, NoMatch M n ℓ ∨ (M p ℓ).isSome)
    (hk1 : pre.length < k1) (hk2 : pre.length < k2) :
    (runK M n k1 (pre ++ ℓ0 :: post)).row = (runK M n k2 (pre ++ ℓ0 :: post)).row ∧
    (runK M n k1 (pre ++ ℓ0 :: post)).after = (runK M n k2 (pre ++ ℓ0 :: post)).after ∧
    (runK M n k1 (pre ++ ℓ0 :: post)).before = (runK M n k1 (pre ++ ℓ0 :: post)).after.take k1 := by
  rw [C04_single_notation_stable M n p t0 pre ℓ0 post k1 ha1 ha2 ha3 hb hk1,
    C04_single_notation_stable M n p t0 pre ℓ0 post k2 ha1 ha2 ha3 hb hk2]
  exact ⟨rfl, rfl, by simp [List.map_take]⟩

/-- when block zero holds no recognised line, analysis fails (the file is rejected: findings F1/F2) -/
theorem C04_no_recognised_line_before_analysis (M : Matrix) (n : Nat) (pre rest : List Bytes) (k : Nat)
    (ha1 : ∀ ℓ ∈ pre, NoMatch M n ℓ) (hk : k ≤ pre.length) :
    (runK M n k (pre ++ rest)).ok = false := by
  rw [C04_analysis_fails_iff_nothing_matched, runK_before, List.take_append_of_le_length hk,
    parseAll_noMatch (keys_fresh n) fun ℓ hℓ => ha1 ℓ (List.mem_of_mem_take hℓ)]
  intro r hr
  obtain ⟨_, _, rfl⟩ := List.mem_map.mp hr
  rfl

/-! #### the hypotheses are satisfiable; the witness for F30 -/

/-- two notations: row 0 reads lines `B…`, row 1 reads lines `A…` -/
def lineA : Bytes := List.replicate 8 65
def lineB : Bytes := List.replicate 8 66
def junk : Bytes := List.replicate 9 32
def M2 : Matrix := fun r ℓ =>
  if r = 1 ∧ ℓ = lineA then some 10 else if r = 0 ∧ ℓ = lineB then some 20 else none

example : runK M2 2 2 ([junk] ++ lineA :: [junk, lineA]) =
    ⟨true, [none, some (1, 10)], some 1, [none, some (1, 10), none, some (1, 10)]⟩ := by decide

example : (∀ ℓ ∈ [junk], NoMatch M2 2 ℓ) ∧ tooShort lineA = false ∧
    firstMatch M2 lineA (List.range 2) = some (1, 10) ∧
    (∀ ℓ ∈ [junk, lineA], NoMatch M2 2 ℓ ∨ (M2 1 ℓ).isSome) := by
  unfold NoMatch; decide

/-- a log that mixes two notations: one `A` line, then `B` lines (finding F30) -/
def mixed_notation_witness : List Bytes := [lineA, lineB, lineB]

/-- the unrestricted statement: "the row kept and the dates do not depend on how many lines are parsed before
analysis (as long as analysis succeeds)" -/
def C04_mixed_notation_full : Prop :=
  ∀ (M : Matrix) (n : Nat) (lines : List Bytes) (k1 k2 : Nat),
    (runK M n k1 lines).ok = true → (runK M n k2 lines).ok = true →
    (runK M n k1 lines).row = (runK M n k2 lines).row ∧ (runK M n k1 lines).after = (runK M n k2 lines).after

/-- F30: with one line in block zero the file is read in notation `A` (the `B` lines become continuation
lines); with all three, in notation `B` (the `A` line, before the first recognised line, is not a message) -/
theorem C04_mixed_notation_full_false : ¬ C04_mixed_notation_full := by
  intro h
  have := h M2 2 mixed_notation_witness 1 3 (by decide) (by decide)
  revert this
  decide

theorem mixed_notation_runs :
    runK M2 2 1 mixed_notation_witness = ⟨true, [some (1, 10)], some 1, [some (1, 10), none, none]⟩ ∧
    -- a tie (one line each): the LOWER index wins although the file starts in notation `A`
    runK M2 2 2 mixed_notation_witness = ⟨true, [some (1, 10), some (0, 20)], some 0, [none, some (0, 20), some (0, 20)]⟩ ∧
    runK M2 2 3 mixed_notation_witness =
      ⟨true, [some (1, 10), some (0, 20), some (0, 20)], some 0, [none, some (0, 20), some (0, 20)]⟩ := by decide

/-- the hypothesis of `C04_single_notation_stable` on later lines cannot be dropped, even for "dated identically
before and after analysis" alone: in the witness the `B` lines are dated before analysis and not after (k = 1 … 3) -/
theorem C04_single_notation_needs_hypothesis :
    (runK M2 2 3 mixed_notation_witness).before ≠ (runK M2 2 3 mixed_notation_witness).after.take 3 ∧
    ¬ (∀ ℓ ∈ [lineB, lineB], NoMatch M2 2 ℓ ∨ (M2 1 ℓ).isSome) := by
  unfold NoMatch; decide

/-- Fixed `year_opt` (one matrix `M`), one row left, cache consistent (`CacheOK`; true when analysis returns:
see `S4V.Lemmas.PatSel`): the cached parser answers exactly what the uncached one does, for every key, and
stays consistent — so for any sequence of calls. -/
theorem C04_parse_cache_transparent (M : Matrix) (L : Nat → Bytes) (p : Nat) (rs : RSt) (h : CacheOK M L p rs) :
    (∀ k, (parseLineCached M rs k (L k)).1 = (parseLine M rs.st (L k)).1 ∧
          CacheOK M L p (parseLineCached M rs k (L k)).2) ∧
    (∀ ks : List Nat, (parseAllCached M rs (ks.map (fun k => (k, L k)))).1 = ks.map (fun k => dateP M p (L k))) :=
  ⟨fun k => let ⟨hsame, _, hok⟩ := parseLineCached_transparent M L p rs k h; ⟨hsame, hok⟩,
   fun ks => (parseAllCached_single M L p ks rs h).1⟩

/-- `CacheOK` holds when the cache is empty and one row is left (the state `clear_syslines` produces after
analysis) -/
theorem cacheOK_of_empty (M : Matrix) (L : Nat → Bytes) (p c : Nat) (a : Bool) :
    CacheOK M L p ⟨⟨[(p, c)], a⟩, []⟩ :=
  ⟨⟨c, rfl⟩, fun e he => by cases he⟩

/-- line read by rows 0 and 1 (different instants) / by row 1 only -/
def lineX : Bytes := List.replicate 8 88
def lineY : Bytes := List.replicate 8 89
def M3 : Matrix := fun r ℓ =>
  if ℓ = lineX then (if r = 0 then some 1 else if r = 1 then some 2 else none)
  else if ℓ = lineY then (if r = 1 then some 3 else none) else none

/-- BEFORE analysis the cache is not transparent in general: `X` (key 0) is stored as row 0; two `Y` lines then
make row 1 the most used; the cached parser still answers row 0 for key 0, the uncached one row 1. (Not reachable
through block zero: a line is only re-parsed right after it was stored.) -/
theorem cache_stale_row_before_analysis :
    let rs := (parseAllCached M3 (RSt.fresh 2) [(0, lineX), (8, lineY), (16, lineY)]).2
    (parseLineCached M3 rs 0 lineX).1 = some (0, 1) ∧ (parseLine M3 rs.st lineX).1 = some (1, 2) := by decide

/-- a year-less line: its instant depends on the fill year -/
def Myear : Option Nat → Matrix := fun y r ℓ =>
  if r = 0 ∧ ℓ = lineX then some (match y with | none => 1972 | some y => Int.ofNat y) else none

/-- what `process_missing_year` relies on: both of its calls into the reader empty the parse cache -/
theorem C04_year_change_clears (rs : RSt) :
    YEAR_START_CLEARS = true ∧ YEAR_STEP_CLEARS = true ∧
    (clearSyslines rs).cache = [] ∧ (removeSysline rs).cache = [] ∧
    (clearSyslines rs).st = rs.st ∧ (removeSysline rs).st = rs.st := by
  refine ⟨by decide, by decide, ?_, ?_, ?_, ?_⟩ <;>
    simp [clearSyslines, removeSysline, CLEAR_SYSLINES_CLEARS_PARSE_CACHE, REMOVE_SYSLINE_CLEARS_PARSE_CACHE]

/-- after either call the next parse of any line is a real parse with the matrix then in force -/
theorem C04_after_clear_fresh_parse (M' : Matrix) (rs : RSt) (k : Nat) (ℓ : Bytes) :
    (parseLineCached M' (clearSyslines rs) k ℓ).1 = (parseLine M' rs.st ℓ).1 ∧
    (parseLineCached M' (removeSysline rs) k ℓ).1 = (parseLine M' rs.st ℓ).1 := by
  have h1 : clearSyslines rs = ⟨rs.st, []⟩ := by simp [clearSyslines, CLEAR_SYSLINES_CLEARS_PARSE_CACHE]
  have h2 : removeSysline rs = ⟨rs.st, []⟩ := by simp [removeSysline, REMOVE_SYSLINE_CLEARS_PARSE_CACHE]
  rw [h1, h2]
  unfold parseLineCached
  simp only [PARSE_CACHE_ENABLED, if_true, lruGet, List.lookup]
  cases h : parseLine M' rs.st ℓ with
  | mk r st' => cases r <;> simp

/-- counter-model: were the cache NOT emptied when the year changes, the line stored with the dummy year 1972
during block-zero analysis would keep that date under the file's year -/
theorem stale_year_if_not_cleared :
    let rs := (parseLineCached (Myear none) ⟨⟨[(0, 0)], true⟩, []⟩ 0 lineX).2
    (parseLineCached (Myear (some 2024)) rs 0 lineX).1 = some (0, 1972) ∧
    (parseLineCached (Myear (some 2024)) (clearSyslines rs) 0 lineX).1 = some (0, 2024) := by decide

end S4V.Props.PatSelSpec
