/-
GENERATED by tools/mk_regexrows.py — regenerate, do not edit.

C04, regex slice: rows 130–153 of `DATETIME_PARSE_DATAS` END TO END, from the text of a line to the instant.
`C04_rowN_end_to_end_shaped`: for every valid selection of the row's catalogue, admissible tail, fallback zone and fill year, if the
words spell a calendar date-time (`calendarOK`), the iteration of `find_datetime_in_line` for the row (`rowPipeline`) yields the
instant the captured words spell: `RowFacts.Cert.e2e` / `.e2e_end` of `certN` applied to `C04_rowN_search`. Year-less rows keep a
four-digit fill year as hypothesis, rows with renderings longer than `range_regex.end` keep `hlen`. How to read the statement,
non-vacuity and the FALSE statements: `S4V.Props.RegexE2ESpec`, `S4V.Props.RegexE2EShapeSpec`.
-/
import S4V.Props.RegexCapture3m
import S4V.Props.RegexCapture3n
import S4V.Props.RegexCapture3o

namespace S4V.Props.RegexE2E
open S4V.Model.Regex S4V.Gen.Regex S4V.Lemmas.RegexStep S4V.Lemmas.RegexSym S4V.Lemmas.RegexRows S4V.Lemmas.RegexAuto
open S4V.Lemmas.RegexE2E S4V.Props.RegexCapture3 S4V.Gen.TimeTables

theorem C04_row130_end_to_end_shaped (sel : Sel) (hv : Valid (rowBodyE re130 1) sel) (tail : List UInt8) (ht : TailIn (rowEndSym re130) tail)
    (fbOff : Int) (hfb : FbOK' fbOff) (fill : Option Int)
    (hc : calendarOK row130.dtfs (selFields row130 sel) fill = true) :
    rowPipeline row130 (flat sel ++ tail) fbOff fill = some (fieldsOf row130.dtfs (selFields row130 sel) fbOff fill).instant :=
  cert130.e2e_end hv (cert130.flat_le rfl hv) (C04_row130_search sel hv _ (tailIn_take ht _)) fbOff hfb fill rfl hc

theorem C04_row131_end_to_end_shaped (sel : Sel) (hv : Valid (rowBodyE re131 1) sel) (tail : List UInt8) (ht : TailIn (rowEndSym re131) tail)
    (fbOff : Int) (hfb : FbOK' fbOff) (fill : Option Int)
    (hc : calendarOK row131.dtfs (selFields row131 sel) fill = true) :
    rowPipeline row131 (flat sel ++ tail) fbOff fill = some (fieldsOf row131.dtfs (selFields row131 sel) fbOff fill).instant :=
  cert131.e2e_end hv (cert131.flat_le rfl hv) (C04_row131_search sel hv _ (tailIn_take ht _)) fbOff hfb fill rfl hc

theorem C04_row132_end_to_end_shaped (sel : Sel) (hv : Valid (rowBodyE re132 1) sel) (tail : List UInt8) (ht : TailIn (rowEndSym re132) tail)
    (fbOff : Int) (hfb : FbOK' fbOff) (fill : Option Int)
    (hc : calendarOK row132.dtfs (selFields row132 sel) fill = true) :
    rowPipeline row132 (flat sel ++ tail) fbOff fill = some (fieldsOf row132.dtfs (selFields row132 sel) fbOff fill).instant :=
  cert132.e2e_end hv (cert132.flat_le rfl hv) (C04_row132_search sel hv _ (tailIn_take ht _)) fbOff hfb fill rfl hc

theorem C04_row133_end_to_end_shaped (sel : Sel) (hv : Valid (rowBodyE re133 1) sel) (tail : List UInt8) (ht : TailIn (rowEndSym re133) tail)
    (fbOff : Int) (hfb : FbOK' fbOff) (fill : Option Int)
    (hc : calendarOK row133.dtfs (selFields row133 sel) fill = true) :
    rowPipeline row133 (flat sel ++ tail) fbOff fill = some (fieldsOf row133.dtfs (selFields row133 sel) fbOff fill).instant :=
  cert133.e2e_end hv (cert133.flat_le rfl hv) (C04_row133_search sel hv _ (tailIn_take ht _)) fbOff hfb fill rfl hc

theorem C04_row134_end_to_end_shaped (sel : Sel) (hv : Valid (rowBodyE re134 1) sel) (tail : List UInt8) (ht : TailIn (rowEndSym re134) tail)
    (fbOff : Int) (hfb : FbOK' fbOff) (fill : Option Int)
    (hc : calendarOK row134.dtfs (selFields row134 sel) fill = true) :
    rowPipeline row134 (flat sel ++ tail) fbOff fill = some (fieldsOf row134.dtfs (selFields row134 sel) fbOff fill).instant :=
  cert134.e2e_end hv (cert134.flat_le rfl hv) (C04_row134_search sel hv _ (tailIn_take ht _)) fbOff hfb fill rfl hc

theorem C04_row135_end_to_end_shaped (sel : Sel) (hv : Valid (rowBodyE re135 1) sel) (tail : List UInt8) (ht : TailIn (rowEndSym re135) tail)
    (fbOff : Int) (hfb : FbOK' fbOff) (fill : Option Int)
    (hc : calendarOK row135.dtfs (selFields row135 sel) fill = true) :
    rowPipeline row135 (flat sel ++ tail) fbOff fill = some (fieldsOf row135.dtfs (selFields row135 sel) fbOff fill).instant :=
  cert135.e2e_end hv (cert135.flat_le rfl hv) (C04_row135_search sel hv _ (tailIn_take ht _)) fbOff hfb fill rfl hc

theorem C04_row136_end_to_end_shaped (sel : Sel) (hv : Valid (rowBodyE re136 1) sel) (tail : List UInt8) (ht : TailIn (rowEndSym re136) tail)
    (fbOff : Int) (hfb : FbOK' fbOff) (fill : Option Int)
    (hc : calendarOK row136.dtfs (selFields row136 sel) fill = true) :
    rowPipeline row136 (flat sel ++ tail) fbOff fill = some (fieldsOf row136.dtfs (selFields row136 sel) fbOff fill).instant :=
  cert136.e2e_end hv (cert136.flat_le rfl hv) (C04_row136_search sel hv _ (tailIn_take ht _)) fbOff hfb fill rfl hc

theorem C04_row137_end_to_end_shaped (sel : Sel) (hv : Valid (rowBodyE re137 1) sel) (tail : List UInt8) (ht : TailIn (rowEndSym re137) tail)
    (fbOff : Int) (hfb : FbOK' fbOff) (fill : Option Int)
    (hc : calendarOK row137.dtfs (selFields row137 sel) fill = true) :
    rowPipeline row137 (flat sel ++ tail) fbOff fill = some (fieldsOf row137.dtfs (selFields row137 sel) fbOff fill).instant :=
  cert137.e2e_end hv (cert137.flat_le rfl hv) (C04_row137_search sel hv _ (tailIn_take ht _)) fbOff hfb fill rfl hc

theorem C04_row138_end_to_end_shaped (sel : Sel) (hv : Valid (rowBodyE re138 1) sel) (tail : List UInt8) (ht : TailIn (rowEndSym re138) tail)
    (fbOff : Int) (hfb : FbOK' fbOff) (fill : Option Int)
    (hc : calendarOK row138.dtfs (selFields row138 sel) fill = true) :
    rowPipeline row138 (flat sel ++ tail) fbOff fill = some (fieldsOf row138.dtfs (selFields row138 sel) fbOff fill).instant :=
  cert138.e2e_end hv (cert138.flat_le rfl hv) (C04_row138_search sel hv _ (tailIn_take ht _)) fbOff hfb fill rfl hc

theorem C04_row139_end_to_end_shaped (sel : Sel) (hv : Valid (rowBodyE re139 1) sel) (tail : List UInt8) (ht : TailIn (rowEndSym re139) tail)
    (fbOff : Int) (hfb : FbOK' fbOff) (fill : Option Int)
    (hc : calendarOK row139.dtfs (selFields row139 sel) fill = true) :
    rowPipeline row139 (flat sel ++ tail) fbOff fill = some (fieldsOf row139.dtfs (selFields row139 sel) fbOff fill).instant :=
  cert139.e2e_end hv (cert139.flat_le rfl hv) (C04_row139_search sel hv _ (tailIn_take ht _)) fbOff hfb fill rfl hc

theorem C04_row140_end_to_end_shaped (sel : Sel) (hv : Valid (rowBodyE re140 1) sel) (tail : List UInt8) (ht : TailIn (rowEndSym re140) tail)
    (fbOff : Int) (hfb : FbOK' fbOff) (fill : Option Int)
    (hc : calendarOK row140.dtfs (selFields row140 sel) fill = true) :
    rowPipeline row140 (flat sel ++ tail) fbOff fill = some (fieldsOf row140.dtfs (selFields row140 sel) fbOff fill).instant :=
  cert140.e2e_end hv (cert140.flat_le rfl hv) (C04_row140_search sel hv _ (tailIn_take ht _)) fbOff hfb fill rfl hc

theorem C04_row141_end_to_end_shaped (sel : Sel) (hv : Valid (rowBodyE re141 1) sel) (tail : List UInt8) (ht : TailIn (rowEndSym re141) tail)
    (fbOff : Int) (hfb : FbOK' fbOff) (fill : Option Int)
    (hc : calendarOK row141.dtfs (selFields row141 sel) fill = true) :
    rowPipeline row141 (flat sel ++ tail) fbOff fill = some (fieldsOf row141.dtfs (selFields row141 sel) fbOff fill).instant :=
  cert141.e2e_end hv (cert141.flat_le rfl hv) (C04_row141_search sel hv _ (tailIn_take ht _)) fbOff hfb fill rfl hc

theorem C04_row142_end_to_end_shaped (sel : Sel) (hv : Valid (rowBodyE re142 1) sel) (tail : List UInt8) (ht : TailIn (rowEndSym re142) tail)
    (fbOff : Int) (hfb : FbOK' fbOff) (fill : Option Int)
    (hc : calendarOK row142.dtfs (selFields row142 sel) fill = true) :
    rowPipeline row142 (flat sel ++ tail) fbOff fill = some (fieldsOf row142.dtfs (selFields row142 sel) fbOff fill).instant :=
  cert142.e2e_end hv (cert142.flat_le rfl hv) (C04_row142_search sel hv _ (tailIn_take ht _)) fbOff hfb fill rfl hc

theorem C04_row143_end_to_end_shaped (sel : Sel) (hv : Valid (rowBodyE re143 1) sel) (tail : List UInt8) (ht : TailIn (rowEndSym re143) tail)
    (fbOff : Int) (hfb : FbOK' fbOff) (fill : Option Int)
    (hc : calendarOK row143.dtfs (selFields row143 sel) fill = true) :
    rowPipeline row143 (flat sel ++ tail) fbOff fill = some (fieldsOf row143.dtfs (selFields row143 sel) fbOff fill).instant :=
  cert143.e2e_end hv (cert143.flat_le rfl hv) (C04_row143_search sel hv _ (tailIn_take ht _)) fbOff hfb fill rfl hc

theorem C04_row144_end_to_end_shaped (sel : Sel) (hv : Valid (rowBodyE re144 1) sel) (tail : List UInt8) (ht : TailIn (rowEndSym re144) tail)
    (fbOff : Int) (hfb : FbOK' fbOff) (fill : Option Int)
    (hc : calendarOK row144.dtfs (selFields row144 sel) fill = true) :
    rowPipeline row144 (flat sel ++ tail) fbOff fill = some (fieldsOf row144.dtfs (selFields row144 sel) fbOff fill).instant :=
  cert144.e2e_end hv (cert144.flat_le rfl hv) (C04_row144_search sel hv _ (tailIn_take ht _)) fbOff hfb fill rfl hc

theorem C04_row145_end_to_end_shaped (sel : Sel) (hv : Valid (rowBodyE re145 1) sel) (tail : List UInt8) (ht : TailIn (rowEndSym re145) tail)
    (fbOff : Int) (hfb : FbOK' fbOff) (fill : Option Int)
    (hc : calendarOK row145.dtfs (selFields row145 sel) fill = true) :
    rowPipeline row145 (flat sel ++ tail) fbOff fill = some (fieldsOf row145.dtfs (selFields row145 sel) fbOff fill).instant :=
  cert145.e2e_end hv (cert145.flat_le rfl hv) (C04_row145_search sel hv _ (tailIn_take ht _)) fbOff hfb fill rfl hc

theorem C04_row146_end_to_end_shaped (sel : Sel) (hv : Valid (rowBodyE re146 1) sel) (tail : List UInt8) (ht : TailIn (rowEndSym re146) tail)
    (fbOff : Int) (hfb : FbOK' fbOff) (fill : Option Int)
    (hc : calendarOK row146.dtfs (selFields row146 sel) fill = true) :
    rowPipeline row146 (flat sel ++ tail) fbOff fill = some (fieldsOf row146.dtfs (selFields row146 sel) fbOff fill).instant :=
  cert146.e2e_end hv (cert146.flat_le rfl hv) (C04_row146_search sel hv _ (tailIn_take ht _)) fbOff hfb fill rfl hc

theorem C04_row147_end_to_end_shaped (sel : Sel) (hv : Valid (rowBodyE re147 1) sel) (tail : List UInt8) (ht : TailIn (rowEndSym re147) tail)
    (fbOff : Int) (hfb : FbOK' fbOff) (fill : Option Int)
    (hc : calendarOK row147.dtfs (selFields row147 sel) fill = true) :
    rowPipeline row147 (flat sel ++ tail) fbOff fill = some (fieldsOf row147.dtfs (selFields row147 sel) fbOff fill).instant :=
  cert147.e2e_end hv (cert147.flat_le rfl hv) (C04_row147_search sel hv _ (tailIn_take ht _)) fbOff hfb fill rfl hc

theorem C04_row148_end_to_end_shaped (sel : Sel) (hv : Valid (rowBodyE re148 1) sel) (tail : List UInt8) (ht : TailIn (rowEndSym re148) tail)
    (fbOff : Int) (hfb : FbOK' fbOff) (fill : Option Int)
    (hc : calendarOK row148.dtfs (selFields row148 sel) fill = true) :
    rowPipeline row148 (flat sel ++ tail) fbOff fill = some (fieldsOf row148.dtfs (selFields row148 sel) fbOff fill).instant :=
  cert148.e2e_end hv (cert148.flat_le rfl hv) (C04_row148_search sel hv _ (tailIn_take ht _)) fbOff hfb fill rfl hc

theorem C04_row149_end_to_end_shaped (sel : Sel) (hv : Valid (rowBodyE re149 1) sel) (tail : List UInt8) (ht : TailIn (rowEndSym re149) tail)
    (fbOff : Int) (hfb : FbOK' fbOff) (fill : Option Int)
    (hc : calendarOK row149.dtfs (selFields row149 sel) fill = true) :
    rowPipeline row149 (flat sel ++ tail) fbOff fill = some (fieldsOf row149.dtfs (selFields row149 sel) fbOff fill).instant :=
  cert149.e2e_end hv (cert149.flat_le rfl hv) (C04_row149_search sel hv _ (tailIn_take ht _)) fbOff hfb fill rfl hc

theorem C04_row150_end_to_end_shaped (sel : Sel) (hv : Valid (rowBodyE re150 1) sel) (tail : List UInt8) (ht : TailIn (rowEndSym re150) tail)
    (fbOff : Int) (hfb : FbOK' fbOff) (fill : Option Int)
    (hc : calendarOK row150.dtfs (selFields row150 sel) fill = true) :
    rowPipeline row150 (flat sel ++ tail) fbOff fill = some (fieldsOf row150.dtfs (selFields row150 sel) fbOff fill).instant :=
  cert150.e2e_end hv (cert150.flat_le rfl hv) (C04_row150_search sel hv _ (tailIn_take ht _)) fbOff hfb fill rfl hc

theorem C04_row151_end_to_end_shaped (sel : Sel) (hv : Valid (rowBodyE re151 1) sel) (tail : List UInt8) (ht : TailIn (rowEndSym re151) tail)
    (fbOff : Int) (hfb : FbOK' fbOff) (fill : Option Int)
    (hc : calendarOK row151.dtfs (selFields row151 sel) fill = true) :
    rowPipeline row151 (flat sel ++ tail) fbOff fill = some (fieldsOf row151.dtfs (selFields row151 sel) fbOff fill).instant :=
  cert151.e2e_end hv (cert151.flat_le rfl hv) (C04_row151_search sel hv _ (tailIn_take ht _)) fbOff hfb fill rfl hc

theorem C04_row152_end_to_end_shaped (sel : Sel) (hv : Valid (rowBodyE re152 1) sel) (tail : List UInt8) (ht : TailIn (rowEndSym re152) tail)
    (fbOff : Int) (hfb : FbOK' fbOff) (fill : Option Int)
    (hc : calendarOK row152.dtfs (selFields row152 sel) fill = true) :
    rowPipeline row152 (flat sel ++ tail) fbOff fill = some (fieldsOf row152.dtfs (selFields row152 sel) fbOff fill).instant :=
  cert152.e2e_end hv (cert152.flat_le rfl hv) (C04_row152_search sel hv _ (tailIn_take ht _)) fbOff hfb fill rfl hc

theorem C04_row153_end_to_end_shaped (sel : Sel) (hv : Valid (rowBodyE re153 1) sel) (tail : List UInt8) (ht : TailIn (rowEndSym re153) tail)
    (fbOff : Int) (hfb : FbOK' fbOff) (fill : Option Int)
    (hc : calendarOK row153.dtfs (selFields row153 sel) fill = true) :
    rowPipeline row153 (flat sel ++ tail) fbOff fill = some (fieldsOf row153.dtfs (selFields row153 sel) fbOff fill).instant :=
  cert153.e2e_end hv (cert153.flat_le rfl hv) (C04_row153_search sel hv _ (tailIn_take ht _)) fbOff hfb fill rfl hc

end S4V.Props.RegexE2E
