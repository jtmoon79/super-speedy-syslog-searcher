/-
C04, regex slice: how to read the per-row END-TO-END theorems `C04_rowN_end_to_end_shaped` (`S4V.Props.RegexE2Ea` …, printed by
`tools/mk_regexrows.py`; the table row → theorem | why not is in `S4V.Props.RegexE2EShape`), that their hypotheses can be met on the
rows' own test lines, and the FALSE statements around them.

`C04_rowN_end_to_end_shaped` says: for EVERY selection `sel` of row N's derived catalogue (the hypothesis of `C04_rowN_search`),
every admissible tail, every whole-minute fallback offset strictly within ±24 h (`FbOK'`) and every fill year, if the words
spell a calendar date-time (`calendarOK`) then
  `rowPipeline rowN (flat sel ++ tail) fbOff fill = some (fieldsOf rowN.dtfs (selFields rowN sel) fbOff fill).instant`
— the iteration of `find_datetime_in_line` for this row (slice to `range_regex`, the row's regex, named groups → buffer →
chrono) yields the calendar instant of the values the words spell (`S4V.Lemmas.RegexE2E.fieldsOf`, read independently of the
code). The row certificate `certN` discharges the lexical shape of the words, the catalogue-guaranteed part of the ranges and,
where the longest rendering fits, that the stamp ends before `range_regex.end`, for 163 rows.

FALSE statements (every witness replayed on the real `bytes_to_regex_to_datetime` through `s4h time norm`: same replies)
* `C04_row90_any_length_before_repair_false`  (repaired in /repo 17a2b6aa) rows 90–93 had `range_regex.end = 30` but `CGP_MONTHBb` accepts long month
                                     names: `2023 September 30 20:01:05 +05:30 …` (33 bytes) was cut inside the zone; row 90 did not
                                     match, row 92 (`±HH`) read `+05`, and NO row attributed the denoted instant
                                     (`C04_row90_cut_before_repair`)
* `C04_row94_any_length_before_repair_false`  (repaired in /repo 17a2b6aa) row 94 had `range_regex.end = 25`: `2023 September 30 20:01:05 …` (26 bytes) was
                                     cut inside the seconds; only the YEAR-LESS row 172 matched and the year 2023 of the text was
                                     replaced by the fill year (`C04_row94_cut_before_repair`)
* `C04_row35_any_length_before_repair_false`  (F28, repaired in /repo 992694e1) `Wednesday, September 30, 2024, 01:02:00 -08:15` cut at 45
* `C04_epoch_row100_full_false`      (F26) the epoch rows 96–100 read epoch seconds as local time in the fallback zone: on row 100's
                                     test line the instant is the denoted one minus the fallback offset (`C04_epoch_rows_shifted`);
                                     `C04_epoch_rows_partial`: at fallback offset 0 each of the five rows, on that line, yields the
                                     denoted instant or nothing
-/
import S4V.Props.RegexE2E
import S4V.Lemmas.RegexEval
import S4V.Lemmas.Utf8

namespace S4V.Props.RegexE2ESpec
open S4V.Model.Regex S4V.Gen.Regex S4V.Lemmas.RegexStep S4V.Lemmas.RegexSym S4V.Lemmas.RegexRows S4V.Lemmas.RegexAuto
open S4V.Lemmas.RegexE2E S4V.Props.RegexE2E S4V.Gen.TimeTables S4V.Model.Time S4V.Lemmas.Utf8

/-! ### non-vacuity: `shapeOK`, `rangeOK` and `hlen` hold on the test lines of rows 0, 6, 23, 71, 90, 95 (one row per field-set family) -/

def instB (body : List Piece) (row : RRow) (line : List UInt8) (fill : Option Int) : Bool :=
  match chooseSel body line with
  | some (sel, rest) =>
    validB body sel && (flat sel ++ rest == line) && shapeOK row.dtfs (selFields row sel) fill &&
      rangeOK row.dtfs (selFields row sel) fill && decide ((flat sel).length ≤ row.rangeEnd)
  | none => false

theorem inst_of_instB {body : List Piece} {row : RRow} {line : List UInt8} {fill : Option Int} (h : instB body row line fill = true) :
    ∃ sel rest, Valid body sel ∧ flat sel ++ rest = line ∧ shapeOK row.dtfs (selFields row sel) fill = true ∧
      rangeOK row.dtfs (selFields row sel) fill = true ∧ (flat sel).length ≤ row.rangeEnd := by
  unfold instB at h
  split at h
  · next sel rest _ =>
    simp only [Bool.and_eq_true, beq_iff_eq, decide_eq_true_eq, and_assoc] at h
    obtain ⟨hv, he, hs, hr, hl⟩ := h
    exact ⟨sel, rest, valid_of_validB hv, he, hs, hr, hl⟩
  · cases h

theorem row0_instance : instB (rowBodyP re0 1) row0 "[2000/01/01 00:00:01.123] ../source3/smbd/oplock.c:1340(init_oplocks)".toUTF8.toList none = true ∧
    rowPipeline row0 "[2000/01/01 00:00:01.123] ../source3/smbd/oplock.c:1340(init_oplocks)".toUTF8.toList 3600 none =
      some (instantNs 2000 1 1 0 0 1 123000000 3600) := by
  rw [rowBodyP_eq, toUTF8_toList_ofList]
  decide +kernel

/-- one evaluation of row 71's catalogue: the instance, and what `S4V.Props.RegexE2EShapeSpec` says of its zone words -/
theorem row71_eval :
    (instB (rowBodyE re71 1) row71 "2000-01-01 00:00:02.123456789 -11:30 foo".toUTF8.toList none = true ∧
      rowPipeline row71 "2000-01-01 00:00:02.123456789 -11:30 foo".toUTF8.toList 0 none =
        some (instantNs 2000 1 1 0 0 2 123456789 (-41400))) ∧
    fieldPass row71 (rowBodyE re71 1) "tz" (valS 10000 (tzRange .zc)) = false := by
  rw [rowBodyE_eq, toUTF8_toList_ofList]
  decide +kernel

theorem row71_instance : instB (rowBodyE re71 1) row71 "2000-01-01 00:00:02.123456789 -11:30 foo".toUTF8.toList none = true ∧
    rowPipeline row71 "2000-01-01 00:00:02.123456789 -11:30 foo".toUTF8.toList 0 none =
      some (instantNs 2000 1 1 0 0 2 123456789 (-41400)) := row71_eval.1

theorem row6_instance : instB (rowBodyP re6 1) row6 "[22-Feb-17 21:24:20] Section [ALLOWED-CLIENTS] Invalid entry".toUTF8.toList none = true ∧
    rowPipeline row6 "[22-Feb-17 21:24:20] Section [ALLOWED-CLIENTS] Invalid entry".toUTF8.toList 0 none =
      some (instantNs 2017 2 22 21 24 20 0 0) := by
  rw [rowBodyP_eq, toUTF8_toList_ofList]
  decide +kernel

theorem row23_instance : instB (rowBodyP re23 1) row23 "<14>Jan  1 15:00:36 HOST dropbear".toUTF8.toList (some 2021) = true ∧
    rowPipeline row23 "<14>Jan  1 15:00:36 HOST dropbear".toUTF8.toList (-28800) (some 2021) =
      some (instantNs 2021 1 1 15 0 36 0 (-28800)) := by
  rw [rowBodyP_eq, toUTF8_toList_ofList]
  decide +kernel

/-- row 95 ends in the literal `]`, not in a final group: its theorems are over `rowBodyP re95 1`; `rowBodyE re95 1` here is that
catalogue without the piece of the `]` -/
theorem row95_instance : instB (rowBodyE re95 1) row95 "[2019-03-01 16:56] [PACMAN] synchronizing package lists".toUTF8.toList none = true ∧
    rowPipeline row95 "[2019-03-01 16:56] [PACMAN] synchronizing package lists".toUTF8.toList 19800 none =
      some (instantNs 2019 3 1 16 56 0 0 19800) := by
  rw [rowBodyE_eq, toUTF8_toList_ofList]
  decide +kernel

/-- the theorem of row 71 applies to its test line: the pipeline yields the instant the words spell -/
theorem row71_applies : ∃ sel rest, flat sel ++ rest = "2000-01-01 00:00:02.123456789 -11:30 foo".toUTF8.toList ∧
    (TailIn (rowEndSym re71) rest → ∀ fbOff, FbOK' fbOff →
      rowPipeline row71 (flat sel ++ rest) fbOff none = some (fieldsOf row71.dtfs (selFields row71 sel) fbOff none).instant) := by
  obtain ⟨sel, rest, hv, he, _, hr, _⟩ := inst_of_instB row71_instance.1
  exact ⟨sel, rest, he, fun ht fbOff hfb => C04_row71_end_to_end_shaped sel hv rest ht fbOff hfb none (calendarOK_of_rangeOK hr)⟩

example : FbOK' (-28800) := ⟨960, by decide, by decide, by decide⟩
example : FbOK' 0 := ⟨1440, by decide, by decide, by decide⟩

/-- `2023-02-30 12:00:00` is matched by row 79 (day `30` is in the catalogue) but is no date: the parse fails, the line
starts no message (`rangeOK` fails on `validDate`) -/
theorem C04_feb30_no_message :
    (search row79.re "2023-02-30 12:00:00 x".toUTF8.toList).isSome = true ∧
    rowPipeline row79 "2023-02-30 12:00:00 x".toUTF8.toList 0 none = none ∧
    rowPipeline row79 "2023-02-28 12:00:00 x".toUTF8.toList 0 none = some (instantNs 2023 2 28 12 0 0 0 0) := by decide +kernel

/-- hour `24` (in the rows' `(00|…|24)`) yields no instant -/
theorem C04_hour24_no_message :
    (search row79.re "2023-02-28 24:00:00 x".toUTF8.toList).isSome = true ∧
    rowPipeline row79 "2023-02-28 24:00:00 x".toUTF8.toList 0 none = none := by decide +kernel

def line90 : List UInt8 := "2023 September 30 20:01:05 +05:30 [ERROR] x".toUTF8.toList
def line94 : List UInt8 := "2023 September 30 20:01:05 [ERROR] x".toUTF8.toList
def line35 : List UInt8 := "Wednesday, September 30, 2024, 01:02:00 -08:15 m".toUTF8.toList

/-- the rows whose pipeline attributes an instant to the line, with the instant -/
def attributions (line : List UInt8) (fbOff : Int) (fill : Option Int) : List (Nat × Int) :=
  S4V.Gen.Regex.rows.filterMap (fun r => (rowPipeline r line fbOff fill).map (fun v => (r.idx, v)))

/-- **Rows 90–93 after the repair (`range_regex.end` 30 → 40, /repo 17a2b6aa).** `2023 September 30 20:01:05 +05:30 [ERROR] x`:
the long month name fits the slice again and row 90 attributes the denoted instant. -/
theorem C04_row90_long_month :
    rowInstant row90 line90 0 none = some (instantNs 2023 9 30 20 1 5 0 19800) ∧
    rowPipeline row90 line90 0 none = some (instantNs 2023 9 30 20 1 5 0 19800) := by
  decide +kernel

/-- counter-model, the defect repaired in /repo 17a2b6aa: with the range before the repair row 90's slice ends inside the zone
(`…+05`) and it does not match; row 92 (`±HH`) then reads the zone as `+05:00` (1800 s late) -/
theorem C04_row90_cut_before_repair :
    rowPipeline { row90 with rangeEnd := 30 } line90 0 none = none ∧
    rowPipeline { row92 with rangeEnd := 30 } line90 0 none = some (instantNs 2023 9 30 20 1 5 0 18000) := by
  decide +kernel

/-- **Row 94 after the repair (`range_regex.end` 25 → 32, /repo 17a2b6aa).** -/
theorem C04_row94_long_month :
    rowPipeline row94 line94 0 (some 2024) = some (instantNs 2023 9 30 20 1 5 0 0) := by
  decide +kernel

/-- counter-model: with the range before the repair the slice ends inside the seconds and row 94 does not match (only the
year-less row 172 then matched, replacing the year of the text by the fill year) -/
theorem C04_row94_cut_before_repair :
    rowPipeline { row94 with rangeEnd := 25 } line94 0 (some 2024) = none ∧
    rowPipeline row172 line94 0 (some 2024) = some (instantNs 2024 9 30 20 1 5 0 0) := by
  decide +kernel

/-- **Row 35 after the repair (F28, /repo 992694e1; `range_regex.end` 45 → 55).** -/
theorem C04_row35_long_names :
    rowPipeline row35 line35 0 none = some (instantNs 2024 9 30 1 2 0 0 (-29700)) := by
  decide +kernel

/-- counter-model (F28): row 35's slice of 45 bytes ends inside `-08:15`; row 36 (`±HH`) read `-08` -/
theorem C04_row35_cut_before_repair :
    rowPipeline { row35 with rangeEnd := 45 } line35 0 none = none ∧
    rowPipeline { row36 with rangeEnd := 45 } line35 0 none = some (instantNs 2024 9 30 1 2 0 0 (-28800)) := by
  decide +kernel

/-- "row N's end-to-end theorem without the length hypothesis" -/
def NoLenE (body : List Piece) (row : RRow) (endSym : Sym) : Prop :=
  ∀ (sel : Sel), Valid body sel → ∀ tail : List UInt8, TailIn endSym tail → ∀ (fill : Option Int),
    shapeOK row.dtfs (selFields row sel) fill = true → rangeOK row.dtfs (selFields row sel) fill = true →
    rowPipeline row (flat sel ++ tail) 0 fill = some (fieldsOf row.dtfs (selFields row sel) 0 fill).instant

def splitP (ok : Sel → Bool) (body : List Piece) (endSym : Sym) (line : List UInt8) : Bool :=
  match chooseSel body line with
  | some (sel, rest) =>
    validB body sel && (flat sel ++ rest == line) && ok sel && (match rest with | [] => true | x :: _ => symHas endSym x)
  | none => false

theorem of_splitP {ok : Sel → Bool} {body : List Piece} {endSym : Sym} {line : List UInt8} (h : splitP ok body endSym line = true) :
    ∃ sel rest, Valid body sel ∧ flat sel ++ rest = line ∧ ok sel = true ∧ TailIn endSym rest := by
  unfold splitP at h
  split at h
  · next sel rest _ =>
    simp only [Bool.and_eq_true, beq_iff_eq, and_assoc] at h
    obtain ⟨hv, he, hok, ht⟩ := h
    exact ⟨sel, rest, valid_of_validB hv, he, hok, fun x t e => by subst e; exact ht⟩
  · cases h

def splitB (body : List Piece) (row : RRow) (endSym : Sym) (line : List UInt8) (fill : Option Int) : Bool :=
  splitP (fun sel => shapeOK row.dtfs (selFields row sel) fill && rangeOK row.dtfs (selFields row sel) fill) body endSym line

theorem noLenE_false {body : List Piece} {row : RRow} {endSym : Sym} {line : List UInt8} {fill : Option Int}
    (hs : splitB body row endSym line fill = true) (hp : rowPipeline row line 0 fill = none) : ¬ NoLenE body row endSym := by
  intro h
  obtain ⟨sel, rest, hv, he, hok, ht⟩ := of_splitP hs
  rw [Bool.and_eq_true] at hok
  have := h sel hv rest ht fill hok.1 hok.2
  rw [he, hp] at this
  cases this

/-- the statement without the length hypothesis, for the rows as they were BEFORE the repair of their `range_regex.end` -/
def C04_row90_any_length_before_repair : Prop := NoLenE (rowBodyE re90 1) { row90 with rangeEnd := 30 } (rowEndSym re90)
def C04_row94_any_length_before_repair : Prop := NoLenE (rowBodyE re94 1) { row94 with rangeEnd := 25 } (rowEndSym re94)
def C04_row35_any_length_before_repair : Prop := NoLenE (rowBodyE re35 1) { row35 with rangeEnd := 45 } (rowEndSym re35)

/-- one evaluation of row 90's catalogue: the instance on its test line, and the split of the long line -/
theorem row90_eval :
    (instB (rowBodyE re90 1) row90 "2023 Aug 31 20:01:09 +01:00 [WARNING] dev-disk-a disconnected.".toUTF8.toList none = true ∧
      rowPipeline row90 "2023 Aug 31 20:01:09 +01:00 [WARNING] dev-disk-a disconnected.".toUTF8.toList 0 none =
        some (instantNs 2023 8 31 20 1 9 0 3600)) ∧
    splitB (rowBodyE re90 1) { row90 with rangeEnd := 30 } (rowEndSym re90) line90 none = true := by
  rw [rowBodyE_eq, toUTF8_toList_ofList, line90, toUTF8_toList_ofList]
  decide +kernel

theorem row90_instance : instB (rowBodyE re90 1) row90 "2023 Aug 31 20:01:09 +01:00 [WARNING] dev-disk-a disconnected.".toUTF8.toList none = true ∧
    rowPipeline row90 "2023 Aug 31 20:01:09 +01:00 [WARNING] dev-disk-a disconnected.".toUTF8.toList 0 none =
      some (instantNs 2023 8 31 20 1 9 0 3600) := row90_eval.1

theorem C04_row90_any_length_before_repair_false : ¬ C04_row90_any_length_before_repair :=
  noLenE_false (line := line90) (fill := none) row90_eval.2 C04_row90_cut_before_repair.1

theorem C04_row94_any_length_before_repair_false : ¬ C04_row94_any_length_before_repair :=
  noLenE_false (line := line94) (fill := some 2024) (by rw [rowBodyE_eq, line94, toUTF8_toList_ofList]; decide +kernel)
    C04_row94_cut_before_repair.1

theorem C04_row35_any_length_before_repair_false : ¬ C04_row35_any_length_before_repair :=
  noLenE_false (line := line35) (fill := none) (by rw [rowBodyE_eq, line35, toUTF8_toList_ofList]; decide +kernel)
    C04_row35_cut_before_repair.1

/-- "row 100 attributes to an epoch stamp the instant it denotes, whatever the fallback offset" -/
def C04_epoch_row100_full : Prop :=
  ∀ fbOff : Int, FbOK' fbOff → rowPipeline row100 "1716853121 execve(".toUTF8.toList fbOff none = some (1716853121 * 1000000000)

theorem C04_epoch_row100_full_false : ¬ C04_epoch_row100_full := by
  intro h
  have := h 18000 ⟨1740, by decide, by decide, by decide⟩
  revert this
  decide +kernel

/-- row 100 on its test line: the attributed instant is the denoted one MINUS the fallback offset; at offset 0 it is the
denoted instant -/
theorem C04_epoch_rows_shifted :
    rowPipeline row100 "1716853121 execve(".toUTF8.toList 18000 none = some ((1716853121 - 18000) * 1000000000) ∧
    rowPipeline row100 "1716853121 execve(".toUTF8.toList 0 none = some (1716853121 * 1000000000) := by decide +kernel

theorem C04_epoch_rows_partial :
    [row96, row97, row98, row99, row100].all (fun r =>
      (S4V.Gen.Regex.rows.length == 173) &&
      (rowPipeline r "1716853121 execve(".toUTF8.toList 0 none == none ||
       rowPipeline r "1716853121 execve(".toUTF8.toList 0 none == some (1716853121 * 1000000000))) = true := by decide +kernel

/-- seeded change C04-b (`range_regex.end` 50 → 35 of row 71): the 36-byte stamp with a half-hour offset does not match
row 71 — the length component of `cert71` (`maxLen … ≤ row71.rangeEnd`, the `hlen` of `RowFacts.Cert.e2e_end`) is what notices -/
theorem C04_row71_range35_cuts :
    rowPipeline row71 "2000-01-01 00:00:02.123456789 -11:30 foo".toUTF8.toList 0 none = some (instantNs 2000 1 1 0 0 2 123456789 (-41400)) ∧
    rowPipeline { row71 with rangeEnd := 35 } "2000-01-01 00:00:02.123456789 -11:30 foo".toUTF8.toList 0 none = none := by
  decide +kernel

end S4V.Props.RegexE2ESpec
