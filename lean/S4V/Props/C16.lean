/-
C16 — the reader for a file is chosen from its name alone, for every name.
Also hosts the two classification facts C15 needs (`C16_explicit_always`,
`C16_same_type`).

Statements are about `S4V.Model.Path.classify` (hand model of
`pathbuf_to_filetype_impl`) over the tables regenerated from the source
(`S4V.Gen.PathTables`).
-/
import S4V.Lemmas.Path

namespace S4V.Props.C16
open S4V.Model.Path S4V.Model.PathTypes S4V.Gen.PathTables S4V.Lemmas.Path

/-- Classification terminates, without error, for every byte string: the fuel
`|name| + 1` always suffices (each recursive call strictly shortens the name). -/
theorem C16_terminates (n : Bytes) (ua : Bool) : (classify n ua).isSome :=
  classify_isSome n ua

/-- … and the answer does not depend on how much spare fuel there is. -/
theorem C16_fuel_irrelevant (n : Bytes) (ua : Bool) (fta : Arch) (f : Nat)
    (h : n.length + 1 ≤ f) : classifyAux f n ua fta = classifyAux (n.length + 1) n ua fta :=
  classifyAux_fuel_eq _ _ _ _ _ h (Nat.lt_succ_self _)

/-- A file named explicitly (`unparseable_are_text = true`) is always attempted. -/
theorem C16_explicit_always (n : Bytes) (r : Result) (h : classify n true = some r) :
    r.kind ≠ .unparsable :=
  classifyAux_true_ne_unparsable _ _ _ _ h

example : classify [97] true = some ⟨.text, .normal⟩ := by decide

/-- A walked file that is kept gets the type it would get if named. -/
theorem C16_same_type (n : Bytes) (r : Result) (h : classify n false = some r)
    (hk : r.kind ≠ .unparsable) : classify n true = some r :=
  classify_false_true n r h hk

example : classify [97] false = some ⟨.text, .normal⟩ ∧ Kind.text ≠ .unparsable := by decide

/-- Rotation: a trailing component that is numeric or unrecognised is skipped. -/
theorem C16_rotation (n k : Bytes) (ua : Bool) (hn : n ≠ []) (hk : k ≠ [])
    (hdot : DOT ∉ k) (hjunk : ∀ b ∈ k, b ∉ junkChars) (hutf : isUtf8 k = true)
    (hrow : lookup suffixTable (asciiLower k) = .nomatch) :
    classify (n ++ DOT :: k) ua = classify n ua := by
  rw [classify_append_dot ua hn hk hdot hjunk hutf, hrow]
  rfl

example : ([97] : Bytes) ≠ [] ∧ ([49] : Bytes) ≠ [] ∧ DOT ∉ ([49] : Bytes) ∧ (∀ b ∈ ([49] : Bytes), b ∉ junkChars)
    ∧ isUtf8 [49] = true ∧ lookup suffixTable (asciiLower [49]) = .nomatch := by decide

/-- One compression suffix selects the container and leaves the type unchanged. -/
theorem C16_compress (n k : Bytes) (ua : Bool) (a : Arch) (r : Result) (hn : n ≠ [])
    (hrow : lookup suffixTable (asciiLower k) = .compress a) (hutf : isUtf8 k = true)
    (h : classify n ua = some r) (hk : r.kind ≠ .unparsable) (harch : r.arch = .normal) :
    classify (n ++ DOT :: k) ua = some ⟨r.kind, a⟩ := by
  rw [classify_compress_retag n k ua a r hn hrow hutf h, retag, if_neg (not_or.mpr ⟨hk, fun h => h harch⟩)]

/-- With two compression suffixes the inner one wins (stated, since the property says "one"). -/
theorem C16_compress_inner_wins (n k : Bytes) (ua : Bool) (a : Arch) (r : Result) (hn : n ≠ [])
    (hrow : lookup suffixTable (asciiLower k) = .compress a) (hutf : isUtf8 k = true)
    (h : classify n ua = some r) (harch : r.arch ≠ .normal) :
    classify (n ++ DOT :: k) ua = some r := by
  rw [classify_compress_retag n k ua a r hn hrow hutf h, retag, if_pos (.inr harch)]

/-- `a` + `.GZ`: hypotheses of `C16_compress`; `a.xz` + `.GZ`: hypotheses of `C16_compress_inner_wins`. -/
example : lookup suffixTable (asciiLower [71, 90]) = .compress .gz ∧ isUtf8 [71, 90] = true
    ∧ ([97] : Bytes) ≠ [] ∧ classify [97] false = some ⟨.text, .normal⟩
    ∧ ([97, 46, 120, 122] : Bytes) ≠ [] ∧ classify [97, 46, 120, 122] false = some ⟨.text, .xz⟩ := by
  decide

/-- Letter case never matters. -/
theorem C16_case (n : Bytes) (ua : Bool) : classify (asciiLower n) ua = classify n ua := by
  unfold classify
  rw [asciiLower_length, classifyAux_asciiLower]

/-- Trailing junk characters never matter (UTF-8 names). -/
theorem C16_junk_trailing_partial (n j : Bytes) (ua : Bool) (hutf : isUtf8 n = true)
    (hj : ∀ b ∈ j, b ∈ junkChars) : classify (n ++ j) ua = classify n ua :=
  classify_junk_trailing n j ua hutf hj

example : isUtf8 [97, 46, 108, 111, 103] = true ∧ ∀ b ∈ ([126] : Bytes), b ∈ junkChars := by decide

/-- The unrestricted statement. -/
def C16_junk_trailing_full : Prop :=
  ∀ (n j : Bytes) (ua : Bool), (∀ b ∈ j, b ∈ junkChars) → classify (n ++ j) ua = classify n ua

/-- It is false for names that are not UTF-8 (`to_str()` yields `""`, so nothing is trimmed):
witness `\xFF.log~` (Unparsable when walked) vs `\xFF.log` (text). -/
theorem C16_junk_trailing_full_false : ¬ C16_junk_trailing_full := by
  intro h
  have := h [0xFF, 46, 108, 111, 103] [126] false (by decide)
  revert this
  decide

/-- The first recognised type word from the right decides (suffix position).
The word must be non-empty: see `C16_type_word_full_false`. -/
theorem C16_type_word (n w : Bytes) (ua : Bool) (hn : n ≠ []) (hw : w ≠ []) (hutf : isUtf8 w = true)
    (hdot : DOT ∉ w) (hjunk : ∀ b ∈ w, b ∉ junkChars) :
    classify (n ++ DOT :: w) ua =
      (match lookup suffixTable (asciiLower w) with
       | .evtx => some ⟨.evtx, .normal⟩
       | .journal => some ⟨.journal, .normal⟩
       | .text => some ⟨.text, .normal⟩
       | .fixed t => some ⟨.fixed t, .normal⟩
       | .tarArchive => some ⟨.archiveTar, .normal⟩
       | .nonlog => some (fallback ua .normal)
       | .compress a => classifyAux (n.length + 1) n ua a
       | .nomatch => classify n ua) := by
  rw [classify_append_dot ua hn hw hdot hjunk hutf]
  generalize lookup suffixTable _ = act
  cases act <;> rfl

example : ([97] : Bytes) ≠ [] ∧ ([108, 111, 103] : Bytes) ≠ [] ∧ isUtf8 [108, 111, 103] = true
    ∧ DOT ∉ ([108, 111, 103] : Bytes) ∧ ∀ b ∈ ([108, 111, 103] : Bytes), b ∉ junkChars := by decide

/-- The same statement without `w ≠ []`. -/
def C16_type_word_full : Prop :=
  ∀ (n w : Bytes) (ua : Bool), n ≠ [] → isUtf8 w = true → DOT ∉ w → (∀ b ∈ w, b ∉ junkChars) →
    classify (n ++ DOT :: w) ua =
      (match lookup suffixTable (asciiLower w) with
       | .evtx => some ⟨.evtx, .normal⟩
       | .journal => some ⟨.journal, .normal⟩
       | .text => some ⟨.text, .normal⟩
       | .fixed t => some ⟨.fixed t, .normal⟩
       | .tarArchive => some ⟨.archiveTar, .normal⟩
       | .nonlog => some (fallback ua .normal)
       | .compress a => classifyAux (n.length + 1) n ua a
       | .nomatch => classify n ua)

/-- It is false for the empty word: `..a.` walked is text (cleaned to `a.`, whose extension is
empty), while `..a` is `Unparsable` (cleaned path keeps the extension `a`, a known non-log). -/
theorem C16_type_word_full_false : ¬ C16_type_word_full := by
  intro h
  have := h [46, 46, 97] [] false (by decide) (by decide) (by decide) (by decide)
  revert this
  decide

/-- A name none of whose components is recognised is read as text
(here: a single junk-free component without dots). -/
theorem C16_default_text (n : Bytes) (ua : Bool) (hn : n ≠ []) (hutf : isUtf8 n = true)
    (hdot : DOT ∉ n) (hjunk : ∀ b ∈ n, b ∉ junkChars)
    (hrow : lookup nameTable (asciiLower n) = .nomatch ∨ lookup nameTable (asciiLower n) = .text) :
    classify n ua = some ⟨.text, .normal⟩ := by
  have hstep : step n = .kind .text := by
    simp only [step, cleanName_component hn hutf hdot hjunk, stepC, stepOf, suffixOf_of_not_mem hdot,
      suffix_nil, nameStep, toStr_utf8 hutf]
    rcases hrow with h | h <;> simp [h, asciiLower_ne_nil hn, actStep]
  rw [classify, classifyAux_succ, hstep]

example : ([97] : Bytes) ≠ [] ∧ isUtf8 [97] = true ∧ DOT ∉ ([97] : Bytes)
    ∧ (∀ b ∈ ([97] : Bytes), b ∉ junkChars) ∧ lookup nameTable (asciiLower [97]) = .nomatch := by decide

/-- Leading junk: stated in full, false in one corner (`..x`, `~.x` when walking). -/
def C16_junk_leading_full : Prop :=
  ∀ (n j : Bytes) (ua : Bool), isUtf8 n = true → (∀ b ∈ j, b ∈ junkCharsLead) →
    classify (j ++ n) ua = classify n ua

theorem C16_junk_leading_full_false : ¬ C16_junk_leading_full := by
  intro h
  have := h [120] [46, 46] false (by decide) (by decide)
  revert this
  decide

/-- Leading junk characters other than `.` never matter …
(`hutf` is not actually needed: `S4V.Lemmas.Path.classify_junk_leading'`.) -/
theorem C16_junk_leading_partial (n j : Bytes) (ua : Bool) (hutf : isUtf8 n = true)
    (hj : ∀ b ∈ j, b ∈ junkChars) (hn : startsWithIn junkCharsLead n = false) :
    classify (j ++ n) ua = classify n ua := by
  have _ := hutf
  exact classify_junk_leading' n j ua hj hn

example : isUtf8 [97] = true ∧ (∀ b ∈ ([126] : Bytes), b ∈ junkChars)
    ∧ startsWithIn junkCharsLead [97] = false := by decide

/-- … and neither does one leading `.` (a hidden file).
(`hutf` is not actually needed: `S4V.Lemmas.Path.classify_hidden'`.) -/
theorem C16_hidden_partial (n : Bytes) (ua : Bool) (hutf : isUtf8 n = true)
    (hn : startsWithIn junkCharsLead n = false) :
    classify (DOT :: n) ua = classify n ua := by
  have _ := hutf
  exact classify_hidden' n ua hn

end S4V.Props.C16
