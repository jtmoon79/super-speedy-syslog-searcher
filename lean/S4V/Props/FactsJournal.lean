/-
C09, the part that rests on one regenerated fact of `JournalReader::next` (`src/readers/journalreader.rs`): under the hard-wired
`DT_USES_SOURCE_OVERRIDE = Some(RealtimeTimestamp)` entries go straight to `next_dispatch`, not through the fill buffer of
`next_fill_buffer`, which hands out the earliest (datetime, index) first (`Gen.Journal.realtimeBypassesSortBuffer`). The theorem
unfolds the constant, so a source that regenerates `false` breaks it; the counter-model shows what would differ then (seeded
change C09-d, DESIGN.md §10.5).
-/
import S4V.Gen.Journal

namespace S4V.Props.FactsJournal

/-- insert into a list kept sorted by key, after equal keys -/
def insSorted (x : Int × Nat) : List (Int × Nat) → List (Int × Nat)
  | [] => [x]
  | y :: ys => if x.1 < y.1 then x :: y :: ys else y :: insSorted x ys

/-- the order in which entries (receive time, position in the journal) are handed out: straight from the enumeration
(`bypass = true`), or sorted by receive time through the fill buffer (an unbounded buffer is the worst case) -/
def handOut (bypass : Bool) (es : List (Int × Nat)) : List (Int × Nat) :=
  if bypass then es else es.foldl (fun acc e => insSorted e acc) []

/-- **C09_journal_order.** Unfolds the regenerated `realtimeBypassesSortBuffer`: entries are printed in the order the
journal enumerates them. -/
theorem C09_journal_order (es : List (Int × Nat)) :
    handOut S4V.Gen.Journal.realtimeBypassesSortBuffer es = es := by
  have h : S4V.Gen.Journal.realtimeBypassesSortBuffer = true := by decide
  simp [handOut, h]

/-- counter-model (seeded change C09-d): through the sort buffer a journal whose clock was set back is reordered -/
theorem sort_buffer_reorders : handOut false [(100, 0), (50, 1), (60, 2)] = [(50, 1), (60, 2), (100, 0)] := by decide

end S4V.Props.FactsJournal
