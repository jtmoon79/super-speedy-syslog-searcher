/-
GENERATED by tools/mk_regexrows.py from harness/src/rgx_rows.txt (gen/gen_regex.py) — regenerate, do not edit.

C04, regex slice: rows 52–62 of `DATETIME_PARSE_DATAS`. `rowsG` holds the literals of their certificates (`RowFacts`,
`S4V.Lemmas.RegexTable`), `certsG` is ONE kernel evaluation for all of them, and `certN`, `factsN` are its components for row N; a row
without an end-to-end theorem (the epoch rows; a row that failed `catOK`) has no certificate and evaluates its own `factsN`. `C04_rowN_search`: for EVERY
selection of entries of the row's catalogue (`rowBodyE` / `rowBodyP`, `S4V.Lemmas.RegexAuto`) and of concrete words, and every
admissible tail, `search` matches at 0, spans exactly the words (and the byte of a final group), and every capture group spans
the word of its item.
-/
import S4V.Gen.Regex
import S4V.Lemmas.RegexTable

namespace S4V.Props.RegexCapture3
open S4V.Model.Regex S4V.Gen.Regex S4V.Lemmas.RegexStep S4V.Lemmas.RegexSym S4V.Lemmas.RegexRows S4V.Lemmas.RegexAuto
open S4V.Lemmas.RegexE2E S4V.Lemmas.Utf8 S4V.Gen.TimeTables

def rowsG : List RowFacts := [
  { row := row52, counts := [(1, 1), (49, 49), (2, 2), (72, 72), (2, 2), (3, 3), (2, 2), (25, 25), (2, 2), (1, 1), (2, 2), (2, 2), (1, 1), (9, 9), (2, 2), (1, 1), (1, 1)], digest := 552364142,
    line := some "[11/Oct/2022:00:10:26.123 +01:00] \"GET / HTTP/1.0\" 200 3343 \"-\" \"Lynx/2.9.0dev.10 libwww-FM/2.14 SSL-MM/1.4.1 GNUTLS/3.7.1\"".toUTF8.toList, fits := true },
  { row := row53, counts := [(1, 1), (49, 49), (2, 2), (72, 72), (2, 2), (3, 3), (2, 2), (25, 25), (2, 2), (1, 1), (2, 2), (2, 2), (1, 1), (9, 9), (2, 2), (1, 1), (1, 1)], digest := 905452214,
    line := some "[11/Oct/2022:00:10:26.123 +01] \"GET / HTTP/1.0\" 200 3343 \"-\" \"Lynx/2.9.0dev.10 libwww-FM/2.14 SSL-MM/1.4.1 GNUTLS/3.7.1\"".toUTF8.toList, fits := true },
  { row := row54, counts := [(1, 1), (49, 49), (2, 2), (72, 72), (2, 2), (3, 3), (2, 2), (25, 25), (2, 2), (1, 1), (2, 2), (2, 2), (1, 1), (9, 9), (2, 2), (1, 1)], digest := 611645706,
    line := some "[11/Oct/2022:00:10:26.123] \"GET / HTTP/1.0\" 200 3343 \"-\" \"Lynx/2.9.0dev.10 libwww-FM/2.14 SSL-MM/1.4.1 GNUTLS/3.7.1\"".toUTF8.toList, fits := true },
  { row := row55, counts := [(1, 1), (12, 12), (2, 2), (37, 49), (2, 2), (3, 3), (2, 2), (25, 25), (2, 2), (1, 1), (2, 2), (2, 2), (1, 1), (9, 9), (1, 1)], digest := 410245176,
    line := some "[02/21/2023 07:07.05.262] WudfCoInstaller: Configuring UMDF Service WpdFs.\n\n".toUTF8.toList, fits := true },
  { row := row56, counts := [(1, 1), (63, 63), (1, 1), (72, 72), (1, 1), (49, 49), (2, 2), (25, 25), (2, 2), (1, 1), (2, 2), (2, 2), (1, 1), (9, 9), (1, 1), (3, 3), (1, 1)], digest := 43588849,
    line := some "[Mon Oct 10 23:56:29.204202 2022] [mpm_event:notice] [pid 11709:tid 140582486756672] AH00489: Apache/2.4.54 (Debian) configured -- resuming normal operations".toUTF8.toList, fits := true },
  { row := row57, counts := [(1, 1), (63, 63), (1, 1), (72, 72), (1, 1), (49, 49), (2, 2), (25, 25), (2, 2), (1, 1), (2, 2), (2, 2), (1, 1), (3, 3), (1, 1)], digest := 795401477,
    line := some "[Mon Oct 10 23:56:29 2022] [mpm_event:notice] [pid 11709:tid 140582486756672] AH00489: Apache/2.4.54 (Debian) configured -- resuming normal operations".toUTF8.toList, fits := true },
  { row := row58, counts := [(49, 49), (2, 2), (72, 72), (2, 2), (3, 3), (1, 1), (25, 25), (2, 2), (1, 1), (2, 2), (2, 2), (1, 1), (1, 1)], digest := 963564586,
    line := some "08-Feb-2023 12:13:09.827 INFO [main] org.apache.coyote.AbstractProtocol.init Initializing ProtocolHandler [\"http-nio2-0.0.0.0-8080\"]".toUTF8.toList, fits := true },
  { row := row59, counts := [(6, 6), (2, 2), (2, 2), (1, 2), (3, 3), (2, 2), (9, 12), (2, 2), (37, 49), (2, 2), (10, 25), (2, 2), (1, 1), (2, 2), (2, 2)], digest := 422022509,
    line := some "START 2023\\2\\22 4:05:07 AM ---1".toUTF8.toList, fits := true },
  { row := row60, counts := [(20, 22), (2, 2), (2, 2), (63, 63), (1, 1), (72, 72), (1, 1), (49, 49), (1, 1), (3, 3), (1, 1), (25, 25), (2, 2), (1, 1), (2, 2), (2, 2), (2, 2), (1, 1)], digest := 907147231,
    line := some "TRACE:\tSat Jan 01 2000 08:45:55 +09:00 TRACE: \u21e5 \u00d71\u203c".toUTF8.toList, fits := true },
  { row := row61, counts := [(20, 22), (2, 2), (2, 2), (63, 63), (1, 1), (105, 105), (1, 1), (49, 49), (1, 1), (3, 3), (1, 1), (25, 25), (2, 2), (1, 1), (2, 2), (2, 2), (2, 2), (1, 1)], digest := 528279040,
    line := some "TRACE:\tSat Jan 01 2000 08:45:55 +0900 TRACE: \u21e5 \u00d71\u203c".toUTF8.toList, fits := true },
  { row := row62, counts := [(20, 22), (2, 2), (2, 2), (63, 63), (1, 1), (105, 105), (1, 1), (49, 49), (1, 1), (3, 3), (1, 1), (25, 25), (2, 2), (1, 1), (2, 2), (2, 2), (2, 2), (1, 1)], digest := 199088617,
    line := some "TRACE:\tSat Jan 31 2000 08:45:55 +09 TRACE: \u21e5 \u00d71\u203c".toUTF8.toList, fits := true }]

theorem certsG : ∀ i (h : i < rowsG.length), rowsG[i].Cert :=
  RowFacts.certs_of_all (by
    unfold rowsG
    rw [toUTF8_toList_ofList, toUTF8_toList_ofList, toUTF8_toList_ofList, toUTF8_toList_ofList, toUTF8_toList_ofList, toUTF8_toList_ofList, toUTF8_toList_ofList, toUTF8_toList_ofList, toUTF8_toList_ofList, toUTF8_toList_ofList, toUTF8_toList_ofList]
    decide +kernel)

/-! ### row 52 (day:1,month:2,year:4,hour:5,minute:6,second:7,fractional:8,tz:9): head `none`, end `plain` -/

theorem cert52 : (rowsG[0]'(by decide)).Cert := certsG 0 (by decide)

theorem facts52 : keptCounts (rowBodyP re52 0) = [(1, 1), (49, 49), (2, 2), (72, 72), (2, 2), (3, 3), (2, 2), (25, 25), (2, 2), (1, 1), (2, 2), (2, 2), (1, 1), (9, 9), (2, 2), (1, 1), (1, 1)] ∧
    catDigest (rowBodyP re52 0) = 552364142 ∧
    splitsL (rowBodyP re52 0) "[11/Oct/2022:00:10:26.123 +01:00] \"GET / HTTP/1.0\" 200 3343 \"-\" \"Lynx/2.9.0dev.10 libwww-FM/2.14 SSL-MM/1.4.1 GNUTLS/3.7.1\"".toUTF8.toList = true := cert52.facts

theorem C04_row52_search (sel : Sel) (hv : Valid (rowBodyP re52 0) sel) (tail : List UInt8) (ht : TailF (autoTail re52) tail) :
    RowResult row52.re (flat sel ++ tail) (flat sel).length [] sel :=
  auto_P (re := re52) (by rfl) rfl sel hv tail ht

/-! ### row 53 (day:1,month:2,year:4,hour:5,minute:6,second:7,fractional:8,tz:9): head `none`, end `plain` -/

theorem cert53 : (rowsG[1]'(by decide)).Cert := certsG 1 (by decide)

theorem facts53 : keptCounts (rowBodyP re53 0) = [(1, 1), (49, 49), (2, 2), (72, 72), (2, 2), (3, 3), (2, 2), (25, 25), (2, 2), (1, 1), (2, 2), (2, 2), (1, 1), (9, 9), (2, 2), (1, 1), (1, 1)] ∧
    catDigest (rowBodyP re53 0) = 905452214 ∧
    splitsL (rowBodyP re53 0) "[11/Oct/2022:00:10:26.123 +01] \"GET / HTTP/1.0\" 200 3343 \"-\" \"Lynx/2.9.0dev.10 libwww-FM/2.14 SSL-MM/1.4.1 GNUTLS/3.7.1\"".toUTF8.toList = true := cert53.facts

theorem C04_row53_search (sel : Sel) (hv : Valid (rowBodyP re53 0) sel) (tail : List UInt8) (ht : TailF (autoTail re53) tail) :
    RowResult row53.re (flat sel ++ tail) (flat sel).length [] sel :=
  auto_P (re := re53) (by rfl) rfl sel hv tail ht

/-! ### row 54 (day:1,month:2,year:4,hour:5,minute:6,second:7,fractional:8): head `none`, end `plain` -/

theorem cert54 : (rowsG[2]'(by decide)).Cert := certsG 2 (by decide)

theorem facts54 : keptCounts (rowBodyP re54 0) = [(1, 1), (49, 49), (2, 2), (72, 72), (2, 2), (3, 3), (2, 2), (25, 25), (2, 2), (1, 1), (2, 2), (2, 2), (1, 1), (9, 9), (2, 2), (1, 1)] ∧
    catDigest (rowBodyP re54 0) = 611645706 ∧
    splitsL (rowBodyP re54 0) "[11/Oct/2022:00:10:26.123] \"GET / HTTP/1.0\" 200 3343 \"-\" \"Lynx/2.9.0dev.10 libwww-FM/2.14 SSL-MM/1.4.1 GNUTLS/3.7.1\"".toUTF8.toList = true := cert54.facts

theorem C04_row54_search (sel : Sel) (hv : Valid (rowBodyP re54 0) sel) (tail : List UInt8) (ht : TailF (autoTail re54) tail) :
    RowResult row54.re (flat sel ++ tail) (flat sel).length [] sel :=
  auto_P (re := re54) (by rfl) rfl sel hv tail ht

/-! ### row 55 (month:1,day:2,year:3,hour:4,minute:5,second:6,fractional:7): head `none`, end `plain` -/

theorem cert55 : (rowsG[3]'(by decide)).Cert := certsG 3 (by decide)

theorem facts55 : keptCounts (rowBodyP re55 0) = [(1, 1), (12, 12), (2, 2), (37, 49), (2, 2), (3, 3), (2, 2), (25, 25), (2, 2), (1, 1), (2, 2), (2, 2), (1, 1), (9, 9), (1, 1)] ∧
    catDigest (rowBodyP re55 0) = 410245176 ∧
    splitsL (rowBodyP re55 0) "[02/21/2023 07:07.05.262] WudfCoInstaller: Configuring UMDF Service WpdFs.\n\n".toUTF8.toList = true := cert55.facts

theorem C04_row55_search (sel : Sel) (hv : Valid (rowBodyP re55 0) sel) (tail : List UInt8) (ht : TailF (autoTail re55) tail) :
    RowResult row55.re (flat sel ++ tail) (flat sel).length [] sel :=
  auto_P (re := re55) (by rfl) rfl sel hv tail ht

/-! ### row 56 (dayIgnore:1,month:2,day:4,hour:5,minute:6,second:7,fractional:8,year:9): head `none`, end `plain` -/

theorem cert56 : (rowsG[4]'(by decide)).Cert := certsG 4 (by decide)

theorem facts56 : keptCounts (rowBodyP re56 0) = [(1, 1), (63, 63), (1, 1), (72, 72), (1, 1), (49, 49), (2, 2), (25, 25), (2, 2), (1, 1), (2, 2), (2, 2), (1, 1), (9, 9), (1, 1), (3, 3), (1, 1)] ∧
    catDigest (rowBodyP re56 0) = 43588849 ∧
    splitsL (rowBodyP re56 0) "[Mon Oct 10 23:56:29.204202 2022] [mpm_event:notice] [pid 11709:tid 140582486756672] AH00489: Apache/2.4.54 (Debian) configured -- resuming normal operations".toUTF8.toList = true := cert56.facts

theorem C04_row56_search (sel : Sel) (hv : Valid (rowBodyP re56 0) sel) (tail : List UInt8) (ht : TailF (autoTail re56) tail) :
    RowResult row56.re (flat sel ++ tail) (flat sel).length [] sel :=
  auto_P (re := re56) (by rfl) rfl sel hv tail ht

/-! ### row 57 (dayIgnore:1,month:2,day:4,hour:5,minute:6,second:7,year:8): head `none`, end `plain` -/

theorem cert57 : (rowsG[5]'(by decide)).Cert := certsG 5 (by decide)

theorem facts57 : keptCounts (rowBodyP re57 0) = [(1, 1), (63, 63), (1, 1), (72, 72), (1, 1), (49, 49), (2, 2), (25, 25), (2, 2), (1, 1), (2, 2), (2, 2), (1, 1), (3, 3), (1, 1)] ∧
    catDigest (rowBodyP re57 0) = 795401477 ∧
    splitsL (rowBodyP re57 0) "[Mon Oct 10 23:56:29 2022] [mpm_event:notice] [pid 11709:tid 140582486756672] AH00489: Apache/2.4.54 (Debian) configured -- resuming normal operations".toUTF8.toList = true := cert57.facts

theorem C04_row57_search (sel : Sel) (hv : Valid (rowBodyP re57 0) sel) (tail : List UInt8) (ht : TailF (autoTail re57) tail) :
    RowResult row57.re (flat sel ++ tail) (flat sel).length [] sel :=
  auto_P (re := re57) (by rfl) rfl sel hv tail ht

/-! ### row 58 (day:1,month:2,year:4,hour:5,minute:6,second:7,fractional:8): head `bol`, end `(?P<g>[class]|$)` -/

theorem cert58 : (rowsG[6]'(by decide)).Cert := certsG 6 (by decide)

theorem facts58 : keptCounts (rowBodyE re58 1) = [(49, 49), (2, 2), (72, 72), (2, 2), (3, 3), (1, 1), (25, 25), (2, 2), (1, 1), (2, 2), (2, 2), (1, 1), (1, 1)] ∧
    catDigest (rowBodyE re58 1) = 963564586 ∧
    splitsL (rowBodyE re58 1) "08-Feb-2023 12:13:09.827 INFO [main] org.apache.coyote.AbstractProtocol.init Initializing ProtocolHandler [\"http-nio2-0.0.0.0-8080\"]".toUTF8.toList = true := cert58.facts

theorem C04_row58_search (sel : Sel) (hv : Valid (rowBodyE re58 1) sel) (tail : List UInt8) (ht : TailIn (rowEndSym re58) tail) :
    RowResult row58.re (flat sel ++ tail) ((flat sel).length + tailLen tail) [] (sel ++ [rowEndEw re58 tail]) :=
  auto_E (re := re58) (by rfl) cert58.headOk sel hv tail ht

/-! ### row 59 (year:3,month:4,day:5,hour:6,minute:7,second:8): head `softL`, end `(?P<g>[class]|$)` -/

theorem cert59 : (rowsG[7]'(by decide)).Cert := certsG 7 (by decide)

theorem facts59 : keptCounts (rowBodyE re59 1) = [(6, 6), (2, 2), (2, 2), (1, 2), (3, 3), (2, 2), (9, 12), (2, 2), (37, 49), (2, 2), (10, 25), (2, 2), (1, 1), (2, 2), (2, 2)] ∧
    catDigest (rowBodyE re59 1) = 422022509 ∧
    splitsL (rowBodyE re59 1) "START 2023\\2\\22 4:05:07 AM ---1".toUTF8.toList = true := cert59.facts

theorem C04_row59_search (sel : Sel) (hv : Valid (rowBodyE re59 1) sel) (tail : List UInt8) (ht : TailIn (rowEndSym re59) tail) :
    RowResult row59.re (flat sel ++ tail) ((flat sel).length + tailLen tail) [((headParts re59).1, 0, 0)] (sel ++ [rowEndEw re59 tail]) :=
  auto_E (re := re59) (by rfl) cert59.headOk sel hv tail ht

/-! ### row 60 (dayIgnore:2,month:3,day:5,year:6,hour:7,minute:8,second:9,tz:10): head `bol`, end `(?P<g>[class]|$)` -/

theorem cert60 : (rowsG[8]'(by decide)).Cert := certsG 8 (by decide)

theorem facts60 : keptCounts (rowBodyE re60 1) = [(20, 22), (2, 2), (2, 2), (63, 63), (1, 1), (72, 72), (1, 1), (49, 49), (1, 1), (3, 3), (1, 1), (25, 25), (2, 2), (1, 1), (2, 2), (2, 2), (2, 2), (1, 1)] ∧
    catDigest (rowBodyE re60 1) = 907147231 ∧
    splitsL (rowBodyE re60 1) "TRACE:\tSat Jan 01 2000 08:45:55 +09:00 TRACE: \u21e5 \u00d71\u203c".toUTF8.toList = true := cert60.facts

theorem C04_row60_search (sel : Sel) (hv : Valid (rowBodyE re60 1) sel) (tail : List UInt8) (ht : TailIn (rowEndSym re60) tail) :
    RowResult row60.re (flat sel ++ tail) ((flat sel).length + tailLen tail) [] (sel ++ [rowEndEw re60 tail]) :=
  auto_E (re := re60) (by rfl) cert60.headOk sel hv tail ht

/-! ### row 61 (dayIgnore:2,month:3,day:4,year:5,hour:6,minute:7,second:8,tz:9): head `bol`, end `(?P<g>[class]|$)` -/

theorem cert61 : (rowsG[9]'(by decide)).Cert := certsG 9 (by decide)

theorem facts61 : keptCounts (rowBodyE re61 1) = [(20, 22), (2, 2), (2, 2), (63, 63), (1, 1), (105, 105), (1, 1), (49, 49), (1, 1), (3, 3), (1, 1), (25, 25), (2, 2), (1, 1), (2, 2), (2, 2), (2, 2), (1, 1)] ∧
    catDigest (rowBodyE re61 1) = 528279040 ∧
    splitsL (rowBodyE re61 1) "TRACE:\tSat Jan 01 2000 08:45:55 +0900 TRACE: \u21e5 \u00d71\u203c".toUTF8.toList = true := cert61.facts

theorem C04_row61_search (sel : Sel) (hv : Valid (rowBodyE re61 1) sel) (tail : List UInt8) (ht : TailIn (rowEndSym re61) tail) :
    RowResult row61.re (flat sel ++ tail) ((flat sel).length + tailLen tail) [] (sel ++ [rowEndEw re61 tail]) :=
  auto_E (re := re61) (by rfl) cert61.headOk sel hv tail ht

/-! ### row 62 (dayIgnore:2,month:3,day:4,year:5,hour:6,minute:7,second:8,tz:9): head `bol`, end `(?P<g>[class]|$)` -/

theorem cert62 : (rowsG[10]'(by decide)).Cert := certsG 10 (by decide)

theorem facts62 : keptCounts (rowBodyE re62 1) = [(20, 22), (2, 2), (2, 2), (63, 63), (1, 1), (105, 105), (1, 1), (49, 49), (1, 1), (3, 3), (1, 1), (25, 25), (2, 2), (1, 1), (2, 2), (2, 2), (2, 2), (1, 1)] ∧
    catDigest (rowBodyE re62 1) = 199088617 ∧
    splitsL (rowBodyE re62 1) "TRACE:\tSat Jan 31 2000 08:45:55 +09 TRACE: \u21e5 \u00d71\u203c".toUTF8.toList = true := cert62.facts

theorem C04_row62_search (sel : Sel) (hv : Valid (rowBodyE re62 1) sel) (tail : List UInt8) (ht : TailIn (rowEndSym re62) tail) :
    RowResult row62.re (flat sel ++ tail) ((flat sel).length + tailLen tail) [] (sel ++ [rowEndEw re62 tail]) :=
  auto_E (re := re62) (by rfl) cert62.headOk sel hv tail ht

end S4V.Props.RegexCapture3
