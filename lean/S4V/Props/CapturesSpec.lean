/-
C04 — `captures_to_buffer_bytes` REGENERATED from the source (slice CapXlate).

`S4V.Gen.Captures.body` is the function translated statement by statement by gen/gen_captures.py (per
DTFSS field the `match dtfs.<field>` arms with their buffer writes; the 13-arm fraction table; the
U+2212 / `from_utf8` / `char_indices().nth(1)` nest; the `MAP_TZZ_TO_TZz.get_entry` nest; `T` after the
day). `S4V.Model.Captures` only gives the statement language a meaning.

The interpreter over that body equals the hand model `capturesToBuffer` wherever the bytes after a U+2212 sign are valid
UTF-8 (`captures_skeleton_is_model`, `TzSignOK`), so the TimeSpec theorems carry over to the regenerated form; the
counter-models at the end show that small edits of the source text regenerate a different function.
-/
import S4V.Lemmas.Captures
import S4V.Props.TimeSpec
import S4V.Props.CapturesMutants

namespace S4V.Props.CapturesSpec
open S4V.Gen.TimeTables S4V.Gen.Captures S4V.Model.Time S4V.Model.DtParse S4V.Model.Captures
open S4V.Lemmas.DtParse S4V.Lemmas.Captures S4V.Props.TimeSpec S4V.Props.CapturesMutants

abbrev Caps := S4V.Model.DtParse.Captures

/-- **the interpreter over the regenerated body equals the hand model** -/
theorem captures_skeleton_is_model (set : DTFSSet) (c : Caps) (tzs : Bytes) (fill : Option Int) (hs : TzSignOK c) :
    capturesToBufferG body set c tzs fill = capturesToBuffer set c tzs fill :=
  body_is_model set c tzs fill fun _ => hs

/-- no hypothesis for the sets without a numeric zone (`_fill`, `Z`, `_none`) -/
theorem captures_skeleton_is_model_nonnumeric (set : DTFSSet) (c : Caps) (tzs : Bytes) (fill : Option Int)
    (hz : set.tz ≠ .z ∧ set.tz ≠ .zc ∧ set.tz ≠ .zp) :
    capturesToBufferG body set c tzs fill = capturesToBuffer set c tzs fill :=
  have ⟨hz, hzc, hzp⟩ := hz
  body_is_model set c tzs fill fun h => (h.elim hz (·.elim hzc hzp)).elim

theorem captures_skeleton_instant (set : DTFSSet) (c : Caps) (fbOff : Int) (fill : Option Int) (hs : TzSignOK c) :
    capturesToInstantG body set c fbOff fill = capturesToInstant set c fbOff fill := by
  unfold capturesToInstantG capturesToInstant
  rw [captures_skeleton_is_model set c _ fill hs]

theorem utf8UpTo_ascii (m : Nat) (hm : 127 ≤ m) (r : Bytes) (h : r.all (fun x => x < 128) = true) (fuel : Nat)
    (hf : r.length ≤ fuel) : utf8UpTo m fuel r = true := by
  induction r generalizing fuel with
  | nil => cases fuel <;> rfl
  | cons a r ih =>
    cases fuel with
    | zero => simp at hf
    | succ fuel =>
      simp only [List.all_cons, Bool.and_eq_true, decide_eq_true_eq] at h
      have ha : a.toNat < 128 := h.1
      have hd : S4V.Model.Regex.decode (a :: r) = some (a.toNat, 1) := by simp [S4V.Model.Regex.decode, ha]
      have hle : a.toNat ≤ m := by omega
      simp only [utf8UpTo, hd, List.drop_succ_cons, List.drop_zero, hle, decide_true, Bool.true_and]
      exact ih h.2 fuel (by simpa using hf)

/-- U+2212 followed by ASCII is valid UTF-8 -/
theorem utf8Valid_minus_ascii (r : Bytes) (hr : r.all (fun x => x < 128) = true) :
    utf8Valid (0xE2 :: 0x88 :: 0x92 :: r) = true := by
  simp only [utf8Valid, List.length_cons, utf8UpTo, decode_minus, List.drop_succ_cons, List.drop_zero]
  simp only [show (8722 : Nat) ≤ 1114111 by decide, decide_true, Bool.true_and]
  exact utf8UpTo_ascii _ (by decide) r hr _ (by omega)

/-- what the zone regexes capture after the sign — ASCII digits and `:` — is enough -/
theorem tzSignOK_of_ascii (c : Caps)
    (h : ∀ b, c.tz = some b → ∀ r, b = 0xE2 :: 0x88 :: 0x92 :: r → r.all (fun x => x < 128) = true) : TzSignOK c := by
  intro b hb hsw
  obtain ⟨r, rfl⟩ := startsWith_minus hsw
  exact utf8Valid_minus_ascii r (h _ hb r rfl)

/-- a capture without a zone, or whose zone does not start with U+2212, needs nothing -/
theorem tzSignOK_of_plain (c : Caps) (h : ∀ b, c.tz = some b → startsWith b MINUS_SIGN = false) : TzSignOK c := by
  intro b hb hsw; rw [h b hb] at hsw; cases hsw

/-- "the regenerated function equals the hand model on every capture" -/
def captures_skeleton_is_model_full : Prop :=
  ∀ (set : DTFSSet) (c : Caps) (tzs : Bytes) (fill : Option Int),
    capturesToBufferG body set c tzs fill = capturesToBuffer set c tzs fill

/-- false: after `−` (U+2212) the byte 0xFF is not UTF-8 — the code (`Err(_) => {}`) writes only `-`,
the hand model `-` and the byte. Not a capture any zone regex produces; both buffers fail to parse
(`captures_skeleton_full_false_same_instant`). -/
theorem captures_skeleton_is_model_full_false : ¬ captures_skeleton_is_model_full := by
  intro h
  have := h DTFSS_YmdHMSz { caps "2024" "01" "02" "03" "04" "05" none none with tz := some [0xE2, 0x88, 0x92, 0xFF] } [] none
  revert this
  decide +kernel

theorem captures_skeleton_full_false_same_instant :
    let c : Caps := { caps "2024" "01" "02" "03" "04" "05" none none with tz := some [0xE2, 0x88, 0x92, 0xFF] }
    capturesToInstantG body DTFSS_YmdHMSz c 0 none = none ∧ capturesToInstant DTFSS_YmdHMSz c 0 none = none := by
  decide +kernel

/-- the fields are written in this order, `T` between day and hour (read off the regenerated body) -/
theorem C04_buffer_order :
    body = [s_epoch, s_year, s_month, s_day, s_sep, s_hour, s_minute, s_second, s_fractional, s_tz] ∧
    s_sep = .copyByte (.lit 84) := ⟨rfl, rfl⟩

/-- `C04_normalise_parse` for the regenerated function -/
theorem C04_normalise_parse_regenerated (name : String) (set : DTFSSet) (hmem : (name, set) ∈ allDTFSS) (hdt : set.epoch = .none_)
    (c : Caps) (hsign : TzSignOK c) (fbOff : Int) (fill : Option Int)
    (yb sb fb zb : Bytes) (Y : Int) (M D H N : Nat) (S NS OFF : Int)
    (hyP : yearPiece set.year c fill = some yb) (hy : YearPieceOK set.year yb Y)
    (hmP : monthPiece set.month c = some (dec2 M)) (hM : 1 ≤ M ∧ M ≤ 12)
    (hdP : dayPiece set.day c = some (dec2 D)) (hD : 1 ≤ D ∧ D ≤ 31)
    (hhP : hourPiece set.hour c = some (dec2 H)) (hH : H ≤ 23)
    (hnP : minutePiece set.minute c = some (dec2 N)) (hN : N ≤ 59)
    (hsP : secondPiece set.second c = some sb) (hs : SecPieceOK set.second sb S)
    (hfP : fracPiece set.fractional c = some fb) (hf : FracPieceOK set.fractional fb NS)
    (hzP : tzPiece set.tz c (offString fbOff) = some zb) (hzl : zb.length ≤ 9)
    (hz : ∀ perm, (set.tz = .zp → perm = true) → TzPieceOK set.tz perm zb fbOff OFF)
    (hvalid : validDate Y M D = true) :
    capturesToInstantG body set c fbOff fill = some (instantNs Y M D H N S NS OFF) := by
  rw [captures_skeleton_instant set c fbOff fill hsign]
  exact C04_normalise_parse name set hmem hdt c fbOff fill yb sb fb zb Y M D H N S NS OFF hyP hy hmP hM hdP hD hhP hH hnP hN
    hsP hs hfP hf hzP hzl hz hvalid

/-- the regenerated function on the TimeSpec instances -/
example : capturesToInstantG body DTFSS_YmdHMSfzc (caps "2024" "02" "29" "23" "59" "59" (some "5") (some "+05:30")) 0 none
    = some (instantNs 2024 2 29 23 59 59 500000000 19800) := by decide +kernel
example : capturesToInstantG body DTFSS_YmdHMSzc (caps "2000" "01" "01" "00" "00" "00" none (some "−08:00")) 3600 none
    = some (instantNs 2000 1 1 0 0 0 0 (-28800)) := by decide +kernel
example : capturesToInstantG body DTFSS_bdHMSYZ (caps "2024" "Sep." " 8" "07" "08" "09" none (some "PST")) 7200 none
    = some (instantNs 2024 9 8 7 8 9 0 (-28800)) := by decide +kernel
example : capturesToInstantG body DTFSS_BdHMS { caps "" "jan" " 1" "00" "30" "00" none none with year := none } 19800 (some 2021)
    = some (instantNs 2021 1 1 0 30 0 0 19800) := by decide +kernel

/-! The stage-N statements as properties of a STATEMENT (so that they can be asked of regenerated
variants): what the statement of a field appends to the buffer. -/

/-- `C04_fraction_pad`: 0–9 fraction digits are right-padded with zeros to nine -/
def FractionPadG (sFrac : Stmt) : Prop :=
  ∀ (x : Ctx) (f : Bytes), x.set.fractional = .f → x.caps.fractional = some f → f.length ≤ 9 →
    emit x sFrac = some (46 :: (f ++ List.replicate (9 - f.length) 48))

/-- `C04_fraction_truncate`: 10–12 digits are cut to the first nine -/
def FractionTruncateG (sFrac : Stmt) : Prop :=
  ∀ (x : Ctx) (f : Bytes), x.set.fractional = .f → x.caps.fractional = some f → 10 ≤ f.length → f.length ≤ 12 →
    emit x sFrac = some (46 :: f.take 9)

/-- `C04_year_fill`: a year-less capture takes the four digits of the fill year -/
def YearFillG (sYear : Stmt) : Prop :=
  ∀ (x : Ctx) (Y : Nat), x.set.year = .fill → x.caps.year = none → 1000 ≤ Y → Y ≤ 9999 → x.fillYear = some (Y : Int) →
    emit x sYear = some (dec4 Y)

/-- `C04_month_ms`: month 1–12 written without padding gives two digits -/
def MonthMsG (sMonth : Stmt) : Prop :=
  ∀ (x : Ctx) (M : Nat), x.set.month = .ms → 1 ≤ M → M ≤ 12 → x.caps.month = some (natDec M) → emit x sMonth = some (dec2 M)

/-- `C04_day_forms`: `08`, `8` and ` 8` all give `08` -/
def DayFormsG (sDay : Stmt) : Prop :=
  ∀ (x : Ctx) (D : Nat), x.set.day = .e_or_d → D ≤ 99 →
    (x.caps.day = some (dec2 D) ∨ (D < 10 ∧ (x.caps.day = some [dchar D] ∨ x.caps.day = some [32, dchar D]))) →
    emit x sDay = some (dec2 D)

/-- numeric zone: an ASCII-signed zone is written as captured, `−` (U+2212) becomes `-` -/
def TzNumericG (sTz : Stmt) : Prop :=
  ∀ (x : Ctx) (b : Bytes), (x.set.tz = .z ∨ x.set.tz = .zc ∨ x.set.tz = .zp) → b.all (fun v => v < 128) = true →
    (x.caps.tz = some b → emit x sTz = some b) ∧
    (x.caps.tz = some (MINUS_SIGN ++ b) → emit x sTz = some (45 :: b))

/-- `C04_tz_named`: a zone name with a non-empty table value is written as that value -/
def TzNamedG (sTz : Stmt) : Prop :=
  ∀ (x : Ctx) (name v : Bytes), x.set.tz = .Z → x.caps.tz = some name → lookup tzTableB name = some v → v ≠ [] →
    emit x sTz = some v

theorem C04_fraction_pad_regenerated : FractionPadG s_fractional := by
  intro x f hk hc hl
  rw [emit_fractional, hk]
  simp [fracPiece, hc, fracNorm, hl]

theorem C04_fraction_truncate_regenerated : FractionTruncateG s_fractional := by
  intro x f hk hc h10 h12
  rw [emit_fractional, hk]
  have a : ¬ f.length ≤ 9 := by omega
  simp [fracPiece, hc, fracNorm, a, h12]

theorem C04_year_fill_regenerated : YearFillG s_year := by
  intro x Y hk hc h1 h2 hf
  rw [emit_year, hk, hf]
  exact (C04_year_fill x.caps Y h1 h2 hc).1

theorem C04_month_ms_regenerated : MonthMsG s_month := by
  intro x M hk h1 h2 hc
  rw [emit_month, hk]
  exact C04_month_ms x.caps M ⟨h1, h2⟩ hc

theorem C04_day_forms_regenerated : DayFormsG s_day := by
  intro x D hk hD h
  rw [emit_day, hk]
  exact C04_day_forms x.caps D hD h

theorem startsWith_ascii_false (b : Bytes) (h : b.all (fun v => v < 128) = true) : startsWith b MINUS_SIGN = false :=
  Bool.eq_false_iff.mpr fun hs => by
    obtain ⟨r, rfl⟩ := startsWith_minus hs
    simp at h

theorem C04_tz_numeric_regenerated : TzNumericG s_tz := by
  intro x b hk hb
  have hpiece : ∀ v, x.caps.tz = some v → (startsWith v MINUS_SIGN = true → utf8Valid v = true) →
      emit x s_tz = some (stripMinus v) := by
    intro v hv hu
    rw [emit_tz x (fun _ w hw => by rw [hv] at hw; cases hw; exact hu)]
    rcases hk with h | h | h <;> simp [tzPiece, h, hv]
  constructor
  · intro hc
    rw [hpiece b hc (by rw [startsWith_ascii_false b hb]; intro h; cases h), stripMinus_eq, startsWith_ascii_false b hb]
    rfl
  · intro hc
    rw [hpiece _ hc (fun _ => utf8Valid_minus_ascii b hb)]
    simp [stripMinus, MINUS_SIGN]

theorem C04_tz_named_regenerated : TzNamedG s_tz := by
  intro x name v hk hc hl hv
  rw [emit_tz x (by rw [hk]; exact fun h => absurd h (by decide)), hk]
  exact C04_tz_named x.caps name v x.tzs hc hl hv

/-! Counter-models. `S4V.Props.CapturesMutants` is regenerated by tools/mk_captures_counter.py from edited copies of the
source text (the two seeded changes C04-a / C04-c and seven other small edits): each differs from the hand model on a
concrete capture, and for all but the exchanged hour and minute blocks a named statement is false of it. -/

def ctx (set : DTFSSet) (c : Caps) (off : Int) (fill : Option Int) : Ctx := ⟨set, c, offString off, fill⟩

/-- an 8-digit fraction `.12345678` with `+05:30` -/
def c8 : Caps := caps "2024" "02" "29" "23" "59" "59" (some "12345678") (some "+05:30")

/-- C04-a (8-digit arm merged with the 9-digit arm): the regenerated body is not the hand model, the
padding statement is false, and `.12345678` is read as 12 345 678 ns instead of 123 456 780 ns -/
theorem C04a_counter :
    capturesToBufferG body_C04a DTFSS_YmdHMSfzc c8 [] none ≠ capturesToBuffer DTFSS_YmdHMSfzc c8 [] none ∧
    ¬ FractionPadG s_fractional_C04a ∧
    capturesToInstantG body_C04a DTFSS_YmdHMSfzc c8 0 none = some (instantNs 2024 2 29 23 59 59 12345678 19800) ∧
    capturesToInstantG body DTFSS_YmdHMSfzc c8 0 none = some (instantNs 2024 2 29 23 59 59 123456780 19800) := by
  refine ⟨by decide +kernel, ?_, by decide +kernel, by decide +kernel⟩
  intro h
  have := h (ctx DTFSS_YmdHMSfzc c8 0 none) "12345678".toUTF8.toList rfl rfl (by decide +kernel)
  revert this; decide +kernel

/-- C04-c (padding match collapsed to if/else, `len < 8` off by one): same observable effect from a
different code shape — the translator follows the shape (`ifLen`, `pfxSub`) and the data differs -/
theorem C04c_counter :
    capturesToBufferG body_C04c DTFSS_YmdHMSfzc c8 [] none ≠ capturesToBuffer DTFSS_YmdHMSfzc c8 [] none ∧
    ¬ FractionPadG s_fractional_C04c ∧
    capturesToInstantG body_C04c DTFSS_YmdHMSfzc c8 0 none = some (instantNs 2024 2 29 23 59 59 12345678 19800) := by
  refine ⟨by decide +kernel, ?_, by decide +kernel⟩
  intro h
  have := h (ctx DTFSS_YmdHMSfzc c8 0 none) "12345678".toUTF8.toList rfl rfl (by decide +kernel)
  revert this; decide +kernel

/-- … while C04-c agrees with the source on every other length 0–13 of this capture's fraction -/
theorem C04c_only_eight :
    ([0, 1, 2, 3, 4, 5, 6, 7, 9, 10, 11, 12, 13].all fun n =>
      let c : Caps := { c8 with fractional := some (List.replicate n 49) }
      capturesToBufferG body_C04c DTFSS_YmdHMSfzc c [] none == capturesToBufferG body DTFSS_YmdHMSfzc c [] none) = true := by
  decide +kernel

/-- arms of the U+2212 test swapped: `+05:30` is written `-05:30` — the instant moves by 11 hours -/
theorem sign_counter :
    let c := caps "2024" "02" "29" "23" "59" "59" none (some "+05:30")
    capturesToBufferG body_sign DTFSS_YmdHMSzc c [] none ≠ capturesToBuffer DTFSS_YmdHMSzc c [] none ∧
    ¬ TzNumericG s_tz_sign ∧
    capturesToInstantG body_sign DTFSS_YmdHMSzc c 0 none = some (instantNs 2024 2 29 23 59 59 0 (-19800)) := by
  refine ⟨by decide +kernel, ?_, by decide +kernel⟩
  intro h
  have := (h (ctx DTFSS_YmdHMSzc (caps "2024" "02" "29" "23" "59" "59" none (some "+05:30")) 0 none) "+05:30".toUTF8.toList
    (Or.inr (Or.inl rfl)) (by decide +kernel)).1 rfl
  revert this; decide +kernel

/-- the fill year ignored: a year-less line of 2021 is dated 1972 -/
theorem year_counter :
    let c : Caps := { caps "" "jan" " 1" "00" "30" "00" none none with year := none }
    capturesToBufferG body_year DTFSS_BdHMS c [] (some 2021) ≠ capturesToBuffer DTFSS_BdHMS c [] (some 2021) ∧
    ¬ YearFillG s_year_year ∧
    capturesToInstantG body_year DTFSS_BdHMS c 0 (some 2021) = some (instantNs 1972 1 1 0 30 0 0 0) := by
  refine ⟨by decide +kernel, ?_, by decide +kernel⟩
  intro h
  have := h (ctx DTFSS_BdHMS { caps "" "jan" " 1" "00" "30" "00" none none with year := none } 0 (some 2021)) 2021
    rfl rfl (by decide +kernel) (by decide +kernel) rfl
  revert this; decide +kernel

/-- `1 =>` became `2 =>` in the unpadded-month arm: month `7` is written `7`, month `11` is written `011` -/
theorem month_counter :
    ¬ MonthMsG s_month_month ∧
    (∀ set : DTFSSet, set.month = .ms → emit ⟨set, { month := some [55] }, [], none⟩ s_month_month = some [55]) ∧
    (∀ set : DTFSSet, set.month = .ms → emit ⟨set, { month := some [49, 49] }, [], none⟩ s_month_month = some [48, 49, 49]) := by
  -- the arm pads captures of length 2 instead of length 1
  have hm : ∀ (set : DTFSSet) (v : Bytes), set.month = .ms →
      emit ⟨set, { month := some v }, [], none⟩ s_month_month = some (if v.length = 2 then 48 :: v else v) := by
    intro set v h
    simp [s_month_month, emit, emits, emitFieldArms, emitLenArms, fieldVal, getGrp, Slice.eval, h]
    split <;> rfl
  refine ⟨fun h => ?_, fun set h => hm set _ h, fun set h => hm set _ h⟩
  have := h ⟨{ DTFSS_YmdHMS with month := .ms }, { month := some [55] }, [], none⟩ 7 rfl (by decide +kernel) (by decide +kernel) rfl
  revert this; decide +kernel

/-- `day[1]` became `day[0]`: day ` 8` is written `0 ` and the line gets no timestamp -/
theorem day_counter :
    let c := caps "2024" "Sep" " 8" "07" "08" "09" none (some "PST")
    capturesToBufferG body_day DTFSS_bdHMSYZ c [] none ≠ capturesToBuffer DTFSS_bdHMSYZ c [] none ∧
    ¬ DayFormsG s_day_day ∧
    capturesToInstantG body_day DTFSS_bdHMSYZ c 0 none = none ∧
    capturesToInstantG body DTFSS_bdHMSYZ c 0 none = some (instantNs 2024 9 8 7 8 9 0 (-28800)) := by
  refine ⟨by decide +kernel, ?_, by decide +kernel, by decide +kernel⟩
  intro h
  have := h (ctx DTFSS_bdHMSYZ (caps "2024" "Sep" " 8" "07" "08" "09" none (some "PST")) 0 none) 8 rfl (by decide +kernel)
    (Or.inr ⟨by decide, Or.inr (by decide +kernel)⟩)
  revert this; decide +kernel

/-- the table value replaced by the fallback string: `PST` is read in the `--tz-offset` zone -/
theorem zone_counter :
    let c := caps "2024" "Sep" "08" "07" "08" "09" none (some "PST")
    capturesToBufferG body_zone DTFSS_bdHMSYZ c (offString 7200) none ≠ capturesToBuffer DTFSS_bdHMSYZ c (offString 7200) none ∧
    ¬ TzNamedG s_tz_zone ∧
    capturesToInstantG body_zone DTFSS_bdHMSYZ c 7200 none = some (instantNs 2024 9 8 7 8 9 0 7200) := by
  refine ⟨by decide +kernel, ?_, by decide +kernel⟩
  intro h
  have := h (ctx DTFSS_bdHMSYZ (caps "2024" "Sep" "08" "07" "08" "09" none (some "PST")) 7200 none) "PST".toUTF8.toList
    "-08:00".toUTF8.toList rfl rfl (by decide +kernel) (by decide +kernel)
  revert this; decide +kernel

/-- `[..9]` became `[..8]`: an 11-digit fraction keeps eight digits, read as a 10× smaller value -/
theorem trunc_counter :
    let c := caps "2024" "02" "29" "23" "59" "59" (some "12345678912") (some "+05:30")
    capturesToBufferG body_trunc DTFSS_YmdHMSfzc c [] none ≠ capturesToBuffer DTFSS_YmdHMSfzc c [] none ∧
    ¬ FractionTruncateG s_fractional_trunc ∧
    capturesToInstantG body_trunc DTFSS_YmdHMSfzc c 0 none = some (instantNs 2024 2 29 23 59 59 12345678 19800) ∧
    capturesToInstantG body DTFSS_YmdHMSfzc c 0 none = some (instantNs 2024 2 29 23 59 59 123456789 19800) := by
  refine ⟨by decide +kernel, ?_, by decide +kernel, by decide +kernel⟩
  intro h
  have := h (ctx DTFSS_YmdHMSfzc (caps "2024" "02" "29" "23" "59" "59" (some "12345678912") (some "+05:30")) 0 none)
    "12345678912".toUTF8.toList rfl rfl (by decide +kernel) (by decide +kernel)
  revert this; decide +kernel

/-- hour and minute blocks exchanged: `07:08:09` is read as `08:07:09` -/
theorem order_counter :
    let c := caps "2024" "09" "08" "07" "08" "09" none none
    capturesToBufferG body_order DTFSS_YmdHMS c [] none ≠ capturesToBuffer DTFSS_YmdHMS c [] none ∧
    capturesToInstantG body_order DTFSS_YmdHMS c 0 none = some (instantNs 2024 9 8 8 7 9 0 0) ∧
    capturesToInstantG body DTFSS_YmdHMS c 0 none = some (instantNs 2024 9 8 7 8 9 0 0) := by
  decide +kernel

end S4V.Props.CapturesSpec
