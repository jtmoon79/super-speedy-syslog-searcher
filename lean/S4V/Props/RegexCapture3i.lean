/-
GENERATED by tools/mk_regexrows.py from harness/src/rgx_rows.txt (gen/gen_regex.py) — regenerate, do not edit.

C04, regex slice: rows 79–86 of `DATETIME_PARSE_DATAS`. `rowsI` holds the literals of their certificates (`RowFacts`,
`S4V.Lemmas.RegexTable`), `certsI` is ONE kernel evaluation for all of them, and `certN`, `factsN` are its components for row N; a row
without an end-to-end theorem (the epoch rows; a row that failed `catOK`) has no certificate and evaluates its own `factsN`. `C04_rowN_search`: for EVERY
selection of entries of the row's catalogue (`rowBodyE` / `rowBodyP`, `S4V.Lemmas.RegexAuto`) and of concrete words, and every
admissible tail, `search` matches at 0, spans exactly the words (and the byte of a final group), and every capture group spans
the word of its item.
-/
import S4V.Gen.Regex
import S4V.Lemmas.RegexTable

namespace S4V.Props.RegexCapture3
open S4V.Model.Regex S4V.Gen.Regex S4V.Lemmas.RegexStep S4V.Lemmas.RegexSym S4V.Lemmas.RegexRows S4V.Lemmas.RegexAuto
open S4V.Lemmas.RegexE2E S4V.Lemmas.Utf8 S4V.Gen.TimeTables

def rowsI : List RowFacts := [
  { row := row79, counts := [(3, 3), (2, 2), (12, 12), (2, 2), (37, 49), (2, 2), (25, 25), (2, 2), (1, 1), (2, 2), (2, 2)], digest := 254887336,
    line := some "2020-01-11 00:00:26 abcdefghijkl".toUTF8.toList, fits := true },
  { row := row80, counts := [(63, 63), (1, 1), (105, 105), (2, 2), (40, 49), (1, 1), (25, 25), (2, 2), (1, 1), (2, 2), (2, 2), (2, 2), (392, 392), (2, 2), (3, 3)], digest := 58256623,
    line := some "Mon Dec 5 21:01:12 PST 2016 try umount root [1] times".toUTF8.toList, fits := true },
  { row := row81, counts := [(63, 63), (1, 1), (105, 105), (2, 2), (40, 49), (1, 1), (25, 25), (2, 2), (1, 1), (2, 2), (2, 2), (1, 1), (1, 1), (1, 1), (3, 3)], digest := 165007880,
    line := some "Mon Dec 5 21:01:12 -0000 2016 try umount root [1] times".toUTF8.toList, fits := true },
  { row := row82, counts := [(63, 63), (1, 1), (105, 105), (2, 2), (40, 49), (1, 1), (25, 25), (2, 2), (1, 1), (2, 2), (2, 2), (1, 1), (1, 1), (1, 1), (3, 3)], digest := 86653983,
    line := some "Mon Dec 5 21:01:12 -00:00 2016 try umount root [1] times".toUTF8.toList, fits := true },
  { row := row83, counts := [(63, 63), (1, 1), (105, 105), (2, 2), (40, 49), (1, 1), (25, 25), (2, 2), (1, 1), (2, 2), (2, 2), (1, 1), (1, 1), (1, 1), (3, 3)], digest := 734614540,
    line := some "Mon Dec 5 21:01:12 -00 2016 try umount root [1] times".toUTF8.toList, fits := true },
  { row := row84, counts := [(63, 63), (1, 1), (105, 105), (2, 2), (40, 49), (1, 1), (25, 25), (2, 2), (1, 1), (2, 2), (2, 2), (2, 2), (3, 3), (2, 2), (392, 392)], digest := 776168188,
    line := some "Mon Dec 5 21:01:12 2016 PST try umount root [1] times".toUTF8.toList, fits := true },
  { row := row85, counts := [(63, 63), (1, 1), (105, 105), (2, 2), (40, 49), (1, 1), (25, 25), (2, 2), (1, 1), (2, 2), (2, 2), (1, 1), (3, 3), (1, 1), (1, 1)], digest := 868108562,
    line := some "Mon Dec 5 21:01:12 2016 -0000 try umount root [1] times".toUTF8.toList, fits := true },
  { row := row86, counts := [(63, 63), (1, 1), (105, 105), (2, 2), (40, 49), (1, 1), (25, 25), (2, 2), (1, 1), (2, 2), (2, 2), (1, 1), (3, 3), (1, 1), (1, 1)], digest := 661839743,
    line := some "Mon Dec 5 21:01:12 2016 -00:00 try umount root [1] times".toUTF8.toList, fits := true }]

theorem certsI : ∀ i (h : i < rowsI.length), rowsI[i].Cert :=
  RowFacts.certs_of_all (by
    unfold rowsI
    rw [toUTF8_toList_ofList, toUTF8_toList_ofList, toUTF8_toList_ofList, toUTF8_toList_ofList, toUTF8_toList_ofList, toUTF8_toList_ofList, toUTF8_toList_ofList, toUTF8_toList_ofList]
    decide +kernel)

/-! ### row 79 (year:1,month:2,day:3,hour:4,minute:5,second:6): head `bol`, end `(?P<g>[class]|$)` -/

theorem cert79 : (rowsI[0]'(by decide)).Cert := certsI 0 (by decide)

theorem facts79 : keptCounts (rowBodyE re79 1) = [(3, 3), (2, 2), (12, 12), (2, 2), (37, 49), (2, 2), (25, 25), (2, 2), (1, 1), (2, 2), (2, 2)] ∧
    catDigest (rowBodyE re79 1) = 254887336 ∧
    splitsL (rowBodyE re79 1) "2020-01-11 00:00:26 abcdefghijkl".toUTF8.toList = true := cert79.facts

theorem C04_row79_search (sel : Sel) (hv : Valid (rowBodyE re79 1) sel) (tail : List UInt8) (ht : TailIn (rowEndSym re79) tail) :
    RowResult row79.re (flat sel ++ tail) ((flat sel).length + tailLen tail) [] (sel ++ [rowEndEw re79 tail]) :=
  auto_E (re := re79) (by rfl) cert79.headOk sel hv tail ht

/-! ### row 80 (dayIgnore:1,month:2,day:3,hour:4,minute:5,second:6,tz:7,year:8): head `bol`, end `(?P<g>[class]|$)` -/

theorem cert80 : (rowsI[1]'(by decide)).Cert := certsI 1 (by decide)

theorem facts80 : keptCounts (rowBodyE re80 1) = [(63, 63), (1, 1), (105, 105), (2, 2), (40, 49), (1, 1), (25, 25), (2, 2), (1, 1), (2, 2), (2, 2), (2, 2), (392, 392), (2, 2), (3, 3)] ∧
    catDigest (rowBodyE re80 1) = 58256623 ∧
    splitsL (rowBodyE re80 1) "Mon Dec 5 21:01:12 PST 2016 try umount root [1] times".toUTF8.toList = true := cert80.facts

theorem C04_row80_search (sel : Sel) (hv : Valid (rowBodyE re80 1) sel) (tail : List UInt8) (ht : TailIn (rowEndSym re80) tail) :
    RowResult row80.re (flat sel ++ tail) ((flat sel).length + tailLen tail) [] (sel ++ [rowEndEw re80 tail]) :=
  auto_E (re := re80) (by rfl) cert80.headOk sel hv tail ht

/-! ### row 81 (dayIgnore:1,month:2,day:3,hour:4,minute:5,second:6,tz:7,year:8): head `bol`, end `(?P<g>[class]|$)` -/

theorem cert81 : (rowsI[2]'(by decide)).Cert := certsI 2 (by decide)

theorem facts81 : keptCounts (rowBodyE re81 1) = [(63, 63), (1, 1), (105, 105), (2, 2), (40, 49), (1, 1), (25, 25), (2, 2), (1, 1), (2, 2), (2, 2), (1, 1), (1, 1), (1, 1), (3, 3)] ∧
    catDigest (rowBodyE re81 1) = 165007880 ∧
    splitsL (rowBodyE re81 1) "Mon Dec 5 21:01:12 -0000 2016 try umount root [1] times".toUTF8.toList = true := cert81.facts

theorem C04_row81_search (sel : Sel) (hv : Valid (rowBodyE re81 1) sel) (tail : List UInt8) (ht : TailIn (rowEndSym re81) tail) :
    RowResult row81.re (flat sel ++ tail) ((flat sel).length + tailLen tail) [] (sel ++ [rowEndEw re81 tail]) :=
  auto_E (re := re81) (by rfl) cert81.headOk sel hv tail ht

/-! ### row 82 (dayIgnore:1,month:2,day:3,hour:4,minute:5,second:6,tz:7,year:8): head `bol`, end `(?P<g>[class]|$)` -/

theorem cert82 : (rowsI[3]'(by decide)).Cert := certsI 3 (by decide)

theorem facts82 : keptCounts (rowBodyE re82 1) = [(63, 63), (1, 1), (105, 105), (2, 2), (40, 49), (1, 1), (25, 25), (2, 2), (1, 1), (2, 2), (2, 2), (1, 1), (1, 1), (1, 1), (3, 3)] ∧
    catDigest (rowBodyE re82 1) = 86653983 ∧
    splitsL (rowBodyE re82 1) "Mon Dec 5 21:01:12 -00:00 2016 try umount root [1] times".toUTF8.toList = true := cert82.facts

theorem C04_row82_search (sel : Sel) (hv : Valid (rowBodyE re82 1) sel) (tail : List UInt8) (ht : TailIn (rowEndSym re82) tail) :
    RowResult row82.re (flat sel ++ tail) ((flat sel).length + tailLen tail) [] (sel ++ [rowEndEw re82 tail]) :=
  auto_E (re := re82) (by rfl) cert82.headOk sel hv tail ht

/-! ### row 83 (dayIgnore:1,month:2,day:3,hour:4,minute:5,second:6,tz:7,year:8): head `bol`, end `(?P<g>[class]|$)` -/

theorem cert83 : (rowsI[4]'(by decide)).Cert := certsI 4 (by decide)

theorem facts83 : keptCounts (rowBodyE re83 1) = [(63, 63), (1, 1), (105, 105), (2, 2), (40, 49), (1, 1), (25, 25), (2, 2), (1, 1), (2, 2), (2, 2), (1, 1), (1, 1), (1, 1), (3, 3)] ∧
    catDigest (rowBodyE re83 1) = 734614540 ∧
    splitsL (rowBodyE re83 1) "Mon Dec 5 21:01:12 -00 2016 try umount root [1] times".toUTF8.toList = true := cert83.facts

theorem C04_row83_search (sel : Sel) (hv : Valid (rowBodyE re83 1) sel) (tail : List UInt8) (ht : TailIn (rowEndSym re83) tail) :
    RowResult row83.re (flat sel ++ tail) ((flat sel).length + tailLen tail) [] (sel ++ [rowEndEw re83 tail]) :=
  auto_E (re := re83) (by rfl) cert83.headOk sel hv tail ht

/-! ### row 84 (dayIgnore:1,month:2,day:3,hour:4,minute:5,second:6,year:7,tz:8): head `bol`, end `(?P<g>[class]|$)` -/

theorem cert84 : (rowsI[5]'(by decide)).Cert := certsI 5 (by decide)

theorem facts84 : keptCounts (rowBodyE re84 1) = [(63, 63), (1, 1), (105, 105), (2, 2), (40, 49), (1, 1), (25, 25), (2, 2), (1, 1), (2, 2), (2, 2), (2, 2), (3, 3), (2, 2), (392, 392)] ∧
    catDigest (rowBodyE re84 1) = 776168188 ∧
    splitsL (rowBodyE re84 1) "Mon Dec 5 21:01:12 2016 PST try umount root [1] times".toUTF8.toList = true := cert84.facts

theorem C04_row84_search (sel : Sel) (hv : Valid (rowBodyE re84 1) sel) (tail : List UInt8) (ht : TailIn (rowEndSym re84) tail) :
    RowResult row84.re (flat sel ++ tail) ((flat sel).length + tailLen tail) [] (sel ++ [rowEndEw re84 tail]) :=
  auto_E (re := re84) (by rfl) cert84.headOk sel hv tail ht

/-! ### row 85 (dayIgnore:1,month:2,day:3,hour:4,minute:5,second:6,year:7,tz:8): head `bol`, end `(?P<g>[class]|$)` -/

theorem cert85 : (rowsI[6]'(by decide)).Cert := certsI 6 (by decide)

theorem facts85 : keptCounts (rowBodyE re85 1) = [(63, 63), (1, 1), (105, 105), (2, 2), (40, 49), (1, 1), (25, 25), (2, 2), (1, 1), (2, 2), (2, 2), (1, 1), (3, 3), (1, 1), (1, 1)] ∧
    catDigest (rowBodyE re85 1) = 868108562 ∧
    splitsL (rowBodyE re85 1) "Mon Dec 5 21:01:12 2016 -0000 try umount root [1] times".toUTF8.toList = true := cert85.facts

theorem C04_row85_search (sel : Sel) (hv : Valid (rowBodyE re85 1) sel) (tail : List UInt8) (ht : TailIn (rowEndSym re85) tail) :
    RowResult row85.re (flat sel ++ tail) ((flat sel).length + tailLen tail) [] (sel ++ [rowEndEw re85 tail]) :=
  auto_E (re := re85) (by rfl) cert85.headOk sel hv tail ht

/-! ### row 86 (dayIgnore:1,month:2,day:3,hour:4,minute:5,second:6,year:7,tz:8): head `bol`, end `(?P<g>[class]|$)` -/

theorem cert86 : (rowsI[7]'(by decide)).Cert := certsI 7 (by decide)

theorem facts86 : keptCounts (rowBodyE re86 1) = [(63, 63), (1, 1), (105, 105), (2, 2), (40, 49), (1, 1), (25, 25), (2, 2), (1, 1), (2, 2), (2, 2), (1, 1), (3, 3), (1, 1), (1, 1)] ∧
    catDigest (rowBodyE re86 1) = 661839743 ∧
    splitsL (rowBodyE re86 1) "Mon Dec 5 21:01:12 2016 -00:00 try umount root [1] times".toUTF8.toList = true := cert86.facts

theorem C04_row86_search (sel : Sel) (hv : Valid (rowBodyE re86 1) sel) (tail : List UInt8) (ht : TailIn (rowEndSym re86) tail) :
    RowResult row86.re (flat sel ++ tail) ((flat sel).length + tailLen tail) [] (sel ++ [rowEndEw re86 tail]) :=
  auto_E (re := re86) (by rfl) cert86.headOk sel hv tail ht

end S4V.Props.RegexCapture3
