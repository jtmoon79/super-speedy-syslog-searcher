/-
GENERATED by tools/mk_regexrows.py from harness/src/rgx_rows.txt (gen/gen_regex.py) — regenerate, do not edit.

C04, regex slice: rows 130–141 of `DATETIME_PARSE_DATAS`. `rowsM` holds the literals of their certificates (`RowFacts`,
`S4V.Lemmas.RegexTable`), `certsM` is ONE kernel evaluation for all of them, and `certN`, `factsN` are its components for row N; a row
without an end-to-end theorem (the epoch rows; a row that failed `catOK`) has no certificate and evaluates its own `factsN`. `C04_rowN_search`: for EVERY
selection of entries of the row's catalogue (`rowBodyE` / `rowBodyP`, `S4V.Lemmas.RegexAuto`) and of concrete words, and every
admissible tail, `search` matches at 0, spans exactly the words (and the byte of a final group), and every capture group spans
the word of its item.
-/
import S4V.Gen.Regex
import S4V.Lemmas.RegexTable

namespace S4V.Props.RegexCapture3
open S4V.Model.Regex S4V.Gen.Regex S4V.Lemmas.RegexStep S4V.Lemmas.RegexSym S4V.Lemmas.RegexRows S4V.Lemmas.RegexAuto
open S4V.Lemmas.RegexE2E S4V.Lemmas.Utf8 S4V.Gen.TimeTables

def rowsM : List RowFacts := [
  { row := row130, counts := [(3, 3), (2, 2), (12, 12), (2, 2), (37, 49), (2, 2), (25, 25), (2, 2), (1, 1), (2, 2), (2, 2), (1, 1), (9, 9), (2, 2), (1, 1)], digest := 858304435,
    line := some "2000/01/04 00:23:24,123456789 -11".toUTF8.toList, fits := true },
  { row := row131, counts := [(3, 3), (2, 2), (12, 12), (2, 2), (37, 49), (2, 2), (25, 25), (2, 2), (1, 1), (2, 2), (2, 2), (1, 1), (9, 9), (2, 2), (392, 392)], digest := 395997010,
    line := some "2000/01/05 00:34:35.123456789 VLAT:".toUTF8.toList, fits := true },
  { row := row132, counts := [(3, 3), (2, 2), (12, 12), (2, 2), (37, 49), (2, 2), (25, 25), (2, 2), (1, 1), (2, 2), (2, 2), (1, 1), (9, 9)], digest := 485994557,
    line := some "2020-01-06 00:05:26.123456789 abcdefg".toUTF8.toList, fits := true },
  { row := row133, counts := [(3, 3), (2, 2), (12, 12), (2, 2), (37, 49), (2, 2), (25, 25), (2, 2), (1, 1), (2, 2), (2, 2), (2, 2), (1, 1)], digest := 363177859,
    line := some "2000/01/07T00:06:02 -1100 abcdefgh".toUTF8.toList, fits := true },
  { row := row134, counts := [(3, 3), (2, 2), (12, 12), (2, 2), (37, 49), (2, 2), (25, 25), (2, 2), (1, 1), (2, 2), (2, 2), (2, 2), (1, 1)], digest := 878957103,
    line := some "2000-01-08-00:07:03 -11:30 aabcdefghi".toUTF8.toList, fits := true },
  { row := row135, counts := [(3, 3), (2, 2), (12, 12), (2, 2), (37, 49), (2, 2), (25, 25), (2, 2), (1, 1), (2, 2), (2, 2), (2, 2), (1, 1)], digest := 851516041,
    line := some "2000/01/09 00:08:04 -11 abcdefghij".toUTF8.toList, fits := true },
  { row := row136, counts := [(3, 3), (2, 2), (12, 12), (2, 2), (37, 49), (2, 2), (25, 25), (2, 2), (1, 1), (2, 2), (2, 2), (2, 2), (392, 392)], digest := 98489544,
    line := some "2000/01/10T00:09:05 VLAT abcdefghijk".toUTF8.toList, fits := true },
  { row := row137, counts := [(3, 3), (2, 2), (12, 12), (2, 2), (37, 49), (2, 2), (25, 25), (2, 2), (1, 1), (2, 2), (2, 2)], digest := 1578730,
    line := some "2020-01-11 00:10:26 abcdefghijkl".toUTF8.toList, fits := true },
  { row := row138, counts := [(3, 3), (2, 2), (9, 12), (2, 2), (37, 49), (2, 2), (10, 25), (2, 2), (1, 1), (2, 2), (2, 2)], digest := 389639769,
    line := some "2020-1-11 0:10:26 abcdefghijkl 0".toUTF8.toList, fits := true },
  { row := row139, counts := [(63, 63), (2, 2), (2, 2), (105, 105), (1, 1), (49, 49), (2, 2), (2, 2), (3, 3), (2, 2), (2, 2), (25, 25), (2, 2), (1, 1), (2, 2), (2, 2), (2, 2), (1, 1)], digest := 197868601,
    line := some "Tuesday Jun 28 2022 01:51:12 +1230".toUTF8.toList, fits := true },
  { row := row140, counts := [(63, 63), (2, 2), (2, 2), (105, 105), (1, 1), (49, 49), (2, 2), (2, 2), (3, 3), (2, 2), (2, 2), (25, 25), (2, 2), (1, 1), (2, 2), (2, 2), (2, 2), (1, 1)], digest := 780392074,
    line := some "Tue, Jun 28 2022 01:51:12 +01:30 FOOBAR".toUTF8.toList, fits := true },
  { row := row141, counts := [(63, 63), (2, 2), (2, 2), (105, 105), (1, 1), (49, 49), (2, 2), (2, 2), (3, 3), (2, 2), (2, 2), (25, 25), (2, 2), (1, 1), (2, 2), (2, 2), (2, 2), (1, 1)], digest := 53673583,
    line := some "Tuesday, Jun 28 2022 01:51:12 +01".toUTF8.toList, fits := true }]

theorem certsM : ∀ i (h : i < rowsM.length), rowsM[i].Cert :=
  RowFacts.certs_of_all (by
    unfold rowsM
    rw [toUTF8_toList_ofList, toUTF8_toList_ofList, toUTF8_toList_ofList, toUTF8_toList_ofList, toUTF8_toList_ofList, toUTF8_toList_ofList, toUTF8_toList_ofList, toUTF8_toList_ofList, toUTF8_toList_ofList, toUTF8_toList_ofList, toUTF8_toList_ofList, toUTF8_toList_ofList]
    decide +kernel)

/-! ### row 130 (year:2,month:3,day:4,hour:5,minute:6,second:7,fractional:8,tz:9): head `softL`, end `(?P<g>[class]|$)` -/

theorem cert130 : (rowsM[0]'(by decide)).Cert := certsM 0 (by decide)

theorem facts130 : keptCounts (rowBodyE re130 1) = [(3, 3), (2, 2), (12, 12), (2, 2), (37, 49), (2, 2), (25, 25), (2, 2), (1, 1), (2, 2), (2, 2), (1, 1), (9, 9), (2, 2), (1, 1)] ∧
    catDigest (rowBodyE re130 1) = 858304435 ∧
    splitsL (rowBodyE re130 1) "2000/01/04 00:23:24,123456789 -11".toUTF8.toList = true := cert130.facts

theorem C04_row130_search (sel : Sel) (hv : Valid (rowBodyE re130 1) sel) (tail : List UInt8) (ht : TailIn (rowEndSym re130) tail) :
    RowResult row130.re (flat sel ++ tail) ((flat sel).length + tailLen tail) [((headParts re130).1, 0, 0)] (sel ++ [rowEndEw re130 tail]) :=
  auto_E (re := re130) (by rfl) cert130.headOk sel hv tail ht

/-! ### row 131 (year:2,month:3,day:4,hour:5,minute:6,second:7,fractional:8,tz:9): head `softL`, end `(?P<g>[class]|$)` -/

theorem cert131 : (rowsM[1]'(by decide)).Cert := certsM 1 (by decide)

theorem facts131 : keptCounts (rowBodyE re131 1) = [(3, 3), (2, 2), (12, 12), (2, 2), (37, 49), (2, 2), (25, 25), (2, 2), (1, 1), (2, 2), (2, 2), (1, 1), (9, 9), (2, 2), (392, 392)] ∧
    catDigest (rowBodyE re131 1) = 395997010 ∧
    splitsL (rowBodyE re131 1) "2000/01/05 00:34:35.123456789 VLAT:".toUTF8.toList = true := cert131.facts

theorem C04_row131_search (sel : Sel) (hv : Valid (rowBodyE re131 1) sel) (tail : List UInt8) (ht : TailIn (rowEndSym re131) tail) :
    RowResult row131.re (flat sel ++ tail) ((flat sel).length + tailLen tail) [((headParts re131).1, 0, 0)] (sel ++ [rowEndEw re131 tail]) :=
  auto_E (re := re131) (by rfl) cert131.headOk sel hv tail ht

/-! ### row 132 (year:2,month:3,day:4,hour:5,minute:6,second:7,fractional:8): head `softL`, end `(?P<g>[class]|$)` -/

theorem cert132 : (rowsM[2]'(by decide)).Cert := certsM 2 (by decide)

theorem facts132 : keptCounts (rowBodyE re132 1) = [(3, 3), (2, 2), (12, 12), (2, 2), (37, 49), (2, 2), (25, 25), (2, 2), (1, 1), (2, 2), (2, 2), (1, 1), (9, 9)] ∧
    catDigest (rowBodyE re132 1) = 485994557 ∧
    splitsL (rowBodyE re132 1) "2020-01-06 00:05:26.123456789 abcdefg".toUTF8.toList = true := cert132.facts

theorem C04_row132_search (sel : Sel) (hv : Valid (rowBodyE re132 1) sel) (tail : List UInt8) (ht : TailIn (rowEndSym re132) tail) :
    RowResult row132.re (flat sel ++ tail) ((flat sel).length + tailLen tail) [((headParts re132).1, 0, 0)] (sel ++ [rowEndEw re132 tail]) :=
  auto_E (re := re132) (by rfl) cert132.headOk sel hv tail ht

/-! ### row 133 (year:2,month:3,day:4,hour:5,minute:6,second:7,tz:8): head `softL`, end `(?P<g>[class]|$)` -/

theorem cert133 : (rowsM[3]'(by decide)).Cert := certsM 3 (by decide)

theorem facts133 : keptCounts (rowBodyE re133 1) = [(3, 3), (2, 2), (12, 12), (2, 2), (37, 49), (2, 2), (25, 25), (2, 2), (1, 1), (2, 2), (2, 2), (2, 2), (1, 1)] ∧
    catDigest (rowBodyE re133 1) = 363177859 ∧
    splitsL (rowBodyE re133 1) "2000/01/07T00:06:02 -1100 abcdefgh".toUTF8.toList = true := cert133.facts

theorem C04_row133_search (sel : Sel) (hv : Valid (rowBodyE re133 1) sel) (tail : List UInt8) (ht : TailIn (rowEndSym re133) tail) :
    RowResult row133.re (flat sel ++ tail) ((flat sel).length + tailLen tail) [((headParts re133).1, 0, 0)] (sel ++ [rowEndEw re133 tail]) :=
  auto_E (re := re133) (by rfl) cert133.headOk sel hv tail ht

/-! ### row 134 (year:2,month:3,day:4,hour:5,minute:6,second:7,tz:8): head `softL`, end `(?P<g>[class]|$)` -/

theorem cert134 : (rowsM[4]'(by decide)).Cert := certsM 4 (by decide)

theorem facts134 : keptCounts (rowBodyE re134 1) = [(3, 3), (2, 2), (12, 12), (2, 2), (37, 49), (2, 2), (25, 25), (2, 2), (1, 1), (2, 2), (2, 2), (2, 2), (1, 1)] ∧
    catDigest (rowBodyE re134 1) = 878957103 ∧
    splitsL (rowBodyE re134 1) "2000-01-08-00:07:03 -11:30 aabcdefghi".toUTF8.toList = true := cert134.facts

theorem C04_row134_search (sel : Sel) (hv : Valid (rowBodyE re134 1) sel) (tail : List UInt8) (ht : TailIn (rowEndSym re134) tail) :
    RowResult row134.re (flat sel ++ tail) ((flat sel).length + tailLen tail) [((headParts re134).1, 0, 0)] (sel ++ [rowEndEw re134 tail]) :=
  auto_E (re := re134) (by rfl) cert134.headOk sel hv tail ht

/-! ### row 135 (year:2,month:3,day:4,hour:5,minute:6,second:7,tz:8): head `softL`, end `(?P<g>[class]|$)` -/

theorem cert135 : (rowsM[5]'(by decide)).Cert := certsM 5 (by decide)

theorem facts135 : keptCounts (rowBodyE re135 1) = [(3, 3), (2, 2), (12, 12), (2, 2), (37, 49), (2, 2), (25, 25), (2, 2), (1, 1), (2, 2), (2, 2), (2, 2), (1, 1)] ∧
    catDigest (rowBodyE re135 1) = 851516041 ∧
    splitsL (rowBodyE re135 1) "2000/01/09 00:08:04 -11 abcdefghij".toUTF8.toList = true := cert135.facts

theorem C04_row135_search (sel : Sel) (hv : Valid (rowBodyE re135 1) sel) (tail : List UInt8) (ht : TailIn (rowEndSym re135) tail) :
    RowResult row135.re (flat sel ++ tail) ((flat sel).length + tailLen tail) [((headParts re135).1, 0, 0)] (sel ++ [rowEndEw re135 tail]) :=
  auto_E (re := re135) (by rfl) cert135.headOk sel hv tail ht

/-! ### row 136 (year:2,month:3,day:4,hour:5,minute:6,second:7,tz:8): head `softL`, end `(?P<g>[class]|$)` -/

theorem cert136 : (rowsM[6]'(by decide)).Cert := certsM 6 (by decide)

theorem facts136 : keptCounts (rowBodyE re136 1) = [(3, 3), (2, 2), (12, 12), (2, 2), (37, 49), (2, 2), (25, 25), (2, 2), (1, 1), (2, 2), (2, 2), (2, 2), (392, 392)] ∧
    catDigest (rowBodyE re136 1) = 98489544 ∧
    splitsL (rowBodyE re136 1) "2000/01/10T00:09:05 VLAT abcdefghijk".toUTF8.toList = true := cert136.facts

theorem C04_row136_search (sel : Sel) (hv : Valid (rowBodyE re136 1) sel) (tail : List UInt8) (ht : TailIn (rowEndSym re136) tail) :
    RowResult row136.re (flat sel ++ tail) ((flat sel).length + tailLen tail) [((headParts re136).1, 0, 0)] (sel ++ [rowEndEw re136 tail]) :=
  auto_E (re := re136) (by rfl) cert136.headOk sel hv tail ht

/-! ### row 137 (year:2,month:3,day:4,hour:5,minute:6,second:7): head `softL`, end `(?P<g>[class]|$)` -/

theorem cert137 : (rowsM[7]'(by decide)).Cert := certsM 7 (by decide)

theorem facts137 : keptCounts (rowBodyE re137 1) = [(3, 3), (2, 2), (12, 12), (2, 2), (37, 49), (2, 2), (25, 25), (2, 2), (1, 1), (2, 2), (2, 2)] ∧
    catDigest (rowBodyE re137 1) = 1578730 ∧
    splitsL (rowBodyE re137 1) "2020-01-11 00:10:26 abcdefghijkl".toUTF8.toList = true := cert137.facts

theorem C04_row137_search (sel : Sel) (hv : Valid (rowBodyE re137 1) sel) (tail : List UInt8) (ht : TailIn (rowEndSym re137) tail) :
    RowResult row137.re (flat sel ++ tail) ((flat sel).length + tailLen tail) [((headParts re137).1, 0, 0)] (sel ++ [rowEndEw re137 tail]) :=
  auto_E (re := re137) (by rfl) cert137.headOk sel hv tail ht

/-! ### row 138 (year:2,month:3,day:4,hour:5,minute:6,second:7): head `softL`, end `(?P<g>[class]|$)` -/

theorem cert138 : (rowsM[8]'(by decide)).Cert := certsM 8 (by decide)

theorem facts138 : keptCounts (rowBodyE re138 1) = [(3, 3), (2, 2), (9, 12), (2, 2), (37, 49), (2, 2), (10, 25), (2, 2), (1, 1), (2, 2), (2, 2)] ∧
    catDigest (rowBodyE re138 1) = 389639769 ∧
    splitsL (rowBodyE re138 1) "2020-1-11 0:10:26 abcdefghijkl 0".toUTF8.toList = true := cert138.facts

theorem C04_row138_search (sel : Sel) (hv : Valid (rowBodyE re138 1) sel) (tail : List UInt8) (ht : TailIn (rowEndSym re138) tail) :
    RowResult row138.re (flat sel ++ tail) ((flat sel).length + tailLen tail) [((headParts re138).1, 0, 0)] (sel ++ [rowEndEw re138 tail]) :=
  auto_E (re := re138) (by rfl) cert138.headOk sel hv tail ht

/-! ### row 139 (dayIgnore:2,month:3,day:4,year:5,hour:6,minute:7,second:8,tz:9): head `softR`, end `(?P<g>[class]|$)` -/

theorem cert139 : (rowsM[9]'(by decide)).Cert := certsM 9 (by decide)

theorem facts139 : keptCounts (rowBodyE re139 1) = [(63, 63), (2, 2), (2, 2), (105, 105), (1, 1), (49, 49), (2, 2), (2, 2), (3, 3), (2, 2), (2, 2), (25, 25), (2, 2), (1, 1), (2, 2), (2, 2), (2, 2), (1, 1)] ∧
    catDigest (rowBodyE re139 1) = 197868601 ∧
    splitsL (rowBodyE re139 1) "Tuesday Jun 28 2022 01:51:12 +1230".toUTF8.toList = true := cert139.facts

theorem C04_row139_search (sel : Sel) (hv : Valid (rowBodyE re139 1) sel) (tail : List UInt8) (ht : TailIn (rowEndSym re139) tail) :
    RowResult row139.re (flat sel ++ tail) ((flat sel).length + tailLen tail) [((headParts re139).1, 0, 0)] (sel ++ [rowEndEw re139 tail]) :=
  auto_E (re := re139) (by rfl) cert139.headOk sel hv tail ht

/-! ### row 140 (dayIgnore:2,month:3,day:4,year:5,hour:6,minute:7,second:8,tz:9): head `softR`, end `(?P<g>[class]|$)` -/

theorem cert140 : (rowsM[10]'(by decide)).Cert := certsM 10 (by decide)

theorem facts140 : keptCounts (rowBodyE re140 1) = [(63, 63), (2, 2), (2, 2), (105, 105), (1, 1), (49, 49), (2, 2), (2, 2), (3, 3), (2, 2), (2, 2), (25, 25), (2, 2), (1, 1), (2, 2), (2, 2), (2, 2), (1, 1)] ∧
    catDigest (rowBodyE re140 1) = 780392074 ∧
    splitsL (rowBodyE re140 1) "Tue, Jun 28 2022 01:51:12 +01:30 FOOBAR".toUTF8.toList = true := cert140.facts

theorem C04_row140_search (sel : Sel) (hv : Valid (rowBodyE re140 1) sel) (tail : List UInt8) (ht : TailIn (rowEndSym re140) tail) :
    RowResult row140.re (flat sel ++ tail) ((flat sel).length + tailLen tail) [((headParts re140).1, 0, 0)] (sel ++ [rowEndEw re140 tail]) :=
  auto_E (re := re140) (by rfl) cert140.headOk sel hv tail ht

/-! ### row 141 (dayIgnore:2,month:3,day:4,year:5,hour:6,minute:7,second:8,tz:9): head `softR`, end `(?P<g>[class]|$)` -/

theorem cert141 : (rowsM[11]'(by decide)).Cert := certsM 11 (by decide)

theorem facts141 : keptCounts (rowBodyE re141 1) = [(63, 63), (2, 2), (2, 2), (105, 105), (1, 1), (49, 49), (2, 2), (2, 2), (3, 3), (2, 2), (2, 2), (25, 25), (2, 2), (1, 1), (2, 2), (2, 2), (2, 2), (1, 1)] ∧
    catDigest (rowBodyE re141 1) = 53673583 ∧
    splitsL (rowBodyE re141 1) "Tuesday, Jun 28 2022 01:51:12 +01".toUTF8.toList = true := cert141.facts

theorem C04_row141_search (sel : Sel) (hv : Valid (rowBodyE re141 1) sel) (tail : List UInt8) (ht : TailIn (rowEndSym re141) tail) :
    RowResult row141.re (flat sel ++ tail) ((flat sel).length + tailLen tail) [((headParts re141).1, 0, 0)] (sel ++ [rowEndEw re141 tail]) :=
  auto_E (re := re141) (by rfl) cert141.headOk sel hv tail ht

end S4V.Props.RegexCapture3
