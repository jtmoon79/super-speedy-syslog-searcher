/-
C06 — "the program neither deadlocks nor stops before every source has been drained":
why no worker may WAIT FOR ANOTHER WORKER before it runs its per-file function.

`C06_progress` / `C06_no_deadlock_skeletons` are about the coordinator model `S4V.Model.Coord`, in which every
spawned worker can always take its next step unless its own channel is full. That premise is a fact about
`exec_fileprocessor_thread` (src/bin/s4.rs): between the spawn and the dispatch `match` there is no channel,
lock, semaphore or sleep operation. The translator extracts it (`S4V.Gen.Worker.WORKER_STARTS_UNCONDITIONALLY`,
`WORKER_DISPATCH_IS_LAST`) and `C06_workers_start_unconditionally` below unfolds it, so a change that throttles
the workers (a pool of open files, a semaphore: seeded change C06-d) breaks this obligation.

The counter-model shows what such a throttle does. Abstract state: how many workers have taken a slot
(`started`), how many have ended (`finished`), how many messages the coordinator has printed (`printed`).
  * a worker takes a slot only while fewer than `p` slots are in use;
  * the coordinator prints only when EVERY one of the `n` sources has delivered its first message
    (the wait condition of `processing_loop`), i.e. when all `n` workers have started;
  * a worker with more messages than its channel holds ends (and frees its slot) only after the coordinator
    has printed something.
With `p < n` no state with a printed message is reachable: the run hangs with nothing on stdout, for every
schedule. With `p ≥ n` (no throttle) printing is reachable.
-/
import S4V.Gen.Worker

namespace S4V.Props.PoolSpec
open S4V.Gen.Worker

/-- regenerated from `exec_fileprocessor_thread` on every run -/
theorem C06_workers_start_unconditionally :
    WORKER_STARTS_UNCONDITIONALLY = true ∧ WORKER_DISPATCH_IS_LAST = true := by decide

structure PS where
  started : Nat
  finished : Nat
  printed : Nat
  deriving DecidableEq, Repr

/-- one step of the throttled system with `n` sources and `p` slots -/
inductive PStep (n p : Nat) : PS → PS → Prop
  | start (s : PS) (hslot : s.started - s.finished < p) (hn : s.started < n) :
      PStep n p s { s with started := s.started + 1 }
  | print (s : PS) (hall : s.started = n) :
      PStep n p s { s with printed := s.printed + 1 }
  | finish (s : PS) (hrun : s.finished < s.started) (hpr : 0 < s.printed) :
      PStep n p s { s with finished := s.finished + 1 }

inductive Reach (n p : Nat) : PS → Prop
  | init : Reach n p ⟨0, 0, 0⟩
  | step {s t : PS} : Reach n p s → PStep n p s t → Reach n p t

/-- With fewer slots than sources nothing is ever printed and no worker ever ends:
every run hangs (the coordinator waits for a source that waits for a slot held by a worker that waits for the
coordinator). -/
theorem bounded_pool_deadlocks (n p : Nat) (h : p < n) (s : PS) (hr : Reach n p s) :
    s.printed = 0 ∧ s.finished = 0 ∧ s.started ≤ p := by
  induction hr with
  | init => exact ⟨rfl, rfl, Nat.zero_le _⟩
  | step _ hst ih =>
    obtain ⟨h1, h2, h3⟩ := ih
    cases hst with
    | start hslot hn => exact ⟨h1, h2, by simp only; omega⟩
    | print hall => exact absurd hall (by omega)
    | finish hrun hpr => exact absurd hpr (by omega)

theorem reach_started (n p k : Nat) (hp : k ≤ p) (hn : k ≤ n) : Reach n p ⟨k, 0, 0⟩ := by
  induction k with
  | zero => exact .init
  | succ k ih =>
    exact .step (ih (by omega) (by omega)) (.start ⟨k, 0, 0⟩ (by simp only; omega) (by simp only; omega))

/-- ... and a state in which some worker still waits for a slot and no step but that `start` could help is reached:
all `p` slots taken, `n - p` sources never started. -/
theorem bounded_pool_stuck_state (n p : Nat) (h : p < n) : Reach n p ⟨p, 0, 0⟩ ∧
    ∀ t, ¬ PStep n p ⟨p, 0, 0⟩ t := by
  refine ⟨reach_started n p p (Nat.le_refl _) (Nat.le_of_lt h), fun t ht => ?_⟩
  cases ht with
  | start hslot _ => exact absurd hslot (by simp)
  | print hall => exact absurd hall (by simp; omega)
  | finish _ hpr => exact absurd hpr (by simp)

/-- without a throttle (at least as many slots as sources) the coordinator gets to print -/
theorem unbounded_pool_prints (n p : Nat) (h : n ≤ p) : Reach n p ⟨n, 0, 1⟩ :=
  .step (reach_started n p n h (Nat.le_refl _)) (.print ⟨n, 0, 0⟩ rfl)

-- the seeded change: 500 slots, 600 sources
example : ∀ s, Reach 600 500 s → s.printed = 0 := fun s hr => (bounded_pool_deadlocks 600 500 (by decide) s hr).1

end S4V.Props.PoolSpec
