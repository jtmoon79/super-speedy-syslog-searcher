/-
GENERATED by tools/mk_regexrows.py from harness/src/rgx_rows.txt (gen/gen_regex.py) — regenerate, do not edit.

C04, regex slice: rows 41–51 of `DATETIME_PARSE_DATAS`. `rowsF` holds the literals of their certificates (`RowFacts`,
`S4V.Lemmas.RegexTable`), `certsF` is ONE kernel evaluation for all of them, and `certN`, `factsN` are its components for row N; a row
without an end-to-end theorem (the epoch rows; a row that failed `catOK`) has no certificate and evaluates its own `factsN`. `C04_rowN_search`: for EVERY
selection of entries of the row's catalogue (`rowBodyE` / `rowBodyP`, `S4V.Lemmas.RegexAuto`) and of concrete words, and every
admissible tail, `search` matches at 0, spans exactly the words (and the byte of a final group), and every capture group spans
the word of its item.
-/
import S4V.Gen.Regex
import S4V.Lemmas.RegexTable

namespace S4V.Props.RegexCapture3
open S4V.Model.Regex S4V.Gen.Regex S4V.Lemmas.RegexStep S4V.Lemmas.RegexSym S4V.Lemmas.RegexRows S4V.Lemmas.RegexAuto
open S4V.Lemmas.RegexE2E S4V.Lemmas.Utf8 S4V.Gen.TimeTables

def rowsF : List RowFacts := [
  { row := row41, counts := [(3, 3), (1, 1), (2, 2), (42, 42), (1, 1), (1, 1), (49, 49), (1, 1), (72, 72), (1, 1), (3, 3), (2, 2), (1, 1), (25, 25), (2, 2), (1, 1), (2, 2), (2, 2), (2, 2), (1, 1)], digest := 171484399,
    line := some "Date:\tMon, 28 Jun 2022 01:51:12 +1230".toUTF8.toList, fits := true },
  { row := row42, counts := [(3, 3), (1, 1), (2, 2), (42, 42), (1, 1), (1, 1), (49, 49), (1, 1), (72, 72), (1, 1), (3, 3), (2, 2), (1, 1), (25, 25), (2, 2), (1, 1), (2, 2), (2, 2), (2, 2), (1, 1)], digest := 418024686,
    line := some "Date:\tMon, 28 Jun 2022 01:51:12 +01:30".toUTF8.toList, fits := true },
  { row := row43, counts := [(3, 3), (1, 1), (2, 2), (42, 42), (1, 1), (1, 1), (49, 49), (1, 1), (72, 72), (2, 2), (2, 2), (3, 3), (2, 2), (2, 2), (25, 25), (2, 2), (1, 1), (2, 2), (2, 2), (2, 2), (392, 392)], digest := 781666732,
    line := some "Date:\tMon, 28 Jun 2022 01:51:12 WIT".toUTF8.toList, fits := true },
  { row := row44, counts := [(6, 6), (2, 2), (3, 3), (2, 2), (2, 2), (3, 3), (2, 2), (12, 12), (2, 2), (37, 49), (2, 2), (1, 2), (25, 25), (2, 2), (1, 1), (2, 2), (2, 2)], digest := 302675760,
    line := some "End Date:2022-07-18 19:35:05\n".toUTF8.toList, fits := true },
  { row := row45, counts := [(3, 3), (2, 2), (12, 12), (2, 2), (37, 49), (2, 2), (25, 25), (2, 2), (1, 1), (2, 2), (2, 2), (1, 1)], digest := 450599430,
    line := some "2017-05-14 04-00-07:".toUTF8.toList, fits := true },
  { row := row46, counts := [(1, 1), (49, 49), (2, 2), (72, 72), (2, 2), (3, 3), (2, 2), (25, 25), (2, 2), (1, 1), (2, 2), (2, 2), (2, 2), (1, 1), (1, 1)], digest := 956942878,
    line := some "[11/Oct/2022:00:10:26 +0100] \"GET / HTTP/1.0\" 200 3343 \"-\" \"Lynx/2.9.0dev.10 libwww-FM/2.14 SSL-MM/1.4.1 GNUTLS/3.7.1\"".toUTF8.toList, fits := true },
  { row := row47, counts := [(1, 1), (49, 49), (2, 2), (72, 72), (2, 2), (3, 3), (2, 2), (25, 25), (2, 2), (1, 1), (2, 2), (2, 2), (2, 2), (392, 392), (1, 1)], digest := 637404530,
    line := some "[11/Oct/2022:00:10:26 CHUT] \"GET / HTTP/1.0\" 200 3343 \"-\" \"Lynx/2.9.0dev.10 libwww-FM/2.14 SSL-MM/1.4.1 GNUTLS/3.7.1\"".toUTF8.toList, fits := true },
  { row := row48, counts := [(1, 1), (49, 49), (2, 2), (72, 72), (2, 2), (3, 3), (2, 2), (25, 25), (2, 2), (1, 1), (2, 2), (2, 2), (2, 2), (1, 1), (1, 1)], digest := 984558287,
    line := some "[11/Oct/2022:00:10:26 +01:00] \"GET / HTTP/1.0\" 200 3343 \"-\" \"Lynx/2.9.0dev.10 libwww-FM/2.14 SSL-MM/1.4.1 GNUTLS/3.7.1\"".toUTF8.toList, fits := true },
  { row := row49, counts := [(1, 1), (49, 49), (2, 2), (72, 72), (2, 2), (3, 3), (2, 2), (25, 25), (2, 2), (1, 1), (2, 2), (2, 2), (2, 2), (1, 1), (1, 1)], digest := 457534167,
    line := some "[11/Oct/2022:00:10:26 +01] \"GET / HTTP/1.0\" 200 3343 \"-\" \"Lynx/2.9.0dev.10 libwww-FM/2.14 SSL-MM/1.4.1 GNUTLS/3.7.1\"".toUTF8.toList, fits := true },
  { row := row50, counts := [(1, 1), (49, 49), (2, 2), (72, 72), (2, 2), (3, 3), (2, 2), (25, 25), (2, 2), (1, 1), (2, 2), (2, 2), (2, 2), (1, 1)], digest := 216787932,
    line := some "[22/Mar/2024 15:11:28] \"GET / HTTP/1.1\" 200 -".toUTF8.toList, fits := true },
  { row := row51, counts := [(1, 1), (49, 49), (2, 2), (72, 72), (2, 2), (3, 3), (2, 2), (25, 25), (2, 2), (1, 1), (2, 2), (2, 2), (1, 1), (9, 9), (2, 2), (1, 1), (1, 1)], digest := 800604493,
    line := some "[11/Oct/2022:00:10:26.123 +0100] \"GET / HTTP/1.0\" 200 3343 \"-\" \"Lynx/2.9.0dev.10 libwww-FM/2.14 SSL-MM/1.4.1 GNUTLS/3.7.1\"".toUTF8.toList, fits := true }]

theorem certsF : ∀ i (h : i < rowsF.length), rowsF[i].Cert :=
  RowFacts.certs_of_all (by
    unfold rowsF
    rw [toUTF8_toList_ofList, toUTF8_toList_ofList, toUTF8_toList_ofList, toUTF8_toList_ofList, toUTF8_toList_ofList, toUTF8_toList_ofList, toUTF8_toList_ofList, toUTF8_toList_ofList, toUTF8_toList_ofList, toUTF8_toList_ofList, toUTF8_toList_ofList]
    decide +kernel)

/-! ### row 41 (dayIgnore:2,day:4,month:5,year:7,hour:8,minute:9,second:10,tz:11): head `bol`, end `(?P<g>[class]|$)` -/

theorem cert41 : (rowsF[0]'(by decide)).Cert := certsF 0 (by decide)

theorem facts41 : keptCounts (rowBodyE re41 1) = [(3, 3), (1, 1), (2, 2), (42, 42), (1, 1), (1, 1), (49, 49), (1, 1), (72, 72), (1, 1), (3, 3), (2, 2), (1, 1), (25, 25), (2, 2), (1, 1), (2, 2), (2, 2), (2, 2), (1, 1)] ∧
    catDigest (rowBodyE re41 1) = 171484399 ∧
    splitsL (rowBodyE re41 1) "Date:\tMon, 28 Jun 2022 01:51:12 +1230".toUTF8.toList = true := cert41.facts

theorem C04_row41_search (sel : Sel) (hv : Valid (rowBodyE re41 1) sel) (tail : List UInt8) (ht : TailIn (rowEndSym re41) tail) :
    RowResult row41.re (flat sel ++ tail) ((flat sel).length + tailLen tail) [] (sel ++ [rowEndEw re41 tail]) :=
  auto_E (re := re41) (by rfl) cert41.headOk sel hv tail ht

/-! ### row 42 (dayIgnore:2,day:4,month:5,year:7,hour:8,minute:9,second:10,tz:11): head `bol`, end `(?P<g>[class]|$)` -/

theorem cert42 : (rowsF[1]'(by decide)).Cert := certsF 1 (by decide)

theorem facts42 : keptCounts (rowBodyE re42 1) = [(3, 3), (1, 1), (2, 2), (42, 42), (1, 1), (1, 1), (49, 49), (1, 1), (72, 72), (1, 1), (3, 3), (2, 2), (1, 1), (25, 25), (2, 2), (1, 1), (2, 2), (2, 2), (2, 2), (1, 1)] ∧
    catDigest (rowBodyE re42 1) = 418024686 ∧
    splitsL (rowBodyE re42 1) "Date:\tMon, 28 Jun 2022 01:51:12 +01:30".toUTF8.toList = true := cert42.facts

theorem C04_row42_search (sel : Sel) (hv : Valid (rowBodyE re42 1) sel) (tail : List UInt8) (ht : TailIn (rowEndSym re42) tail) :
    RowResult row42.re (flat sel ++ tail) ((flat sel).length + tailLen tail) [] (sel ++ [rowEndEw re42 tail]) :=
  auto_E (re := re42) (by rfl) cert42.headOk sel hv tail ht

/-! ### row 43 (dayIgnore:2,day:4,month:5,year:7,hour:8,minute:9,second:10,tz:11): head `bol`, end `(?P<g>[class]|$)` -/

theorem cert43 : (rowsF[2]'(by decide)).Cert := certsF 2 (by decide)

theorem facts43 : keptCounts (rowBodyE re43 1) = [(3, 3), (1, 1), (2, 2), (42, 42), (1, 1), (1, 1), (49, 49), (1, 1), (72, 72), (2, 2), (2, 2), (3, 3), (2, 2), (2, 2), (25, 25), (2, 2), (1, 1), (2, 2), (2, 2), (2, 2), (392, 392)] ∧
    catDigest (rowBodyE re43 1) = 781666732 ∧
    splitsL (rowBodyE re43 1) "Date:\tMon, 28 Jun 2022 01:51:12 WIT".toUTF8.toList = true := cert43.facts

theorem C04_row43_search (sel : Sel) (hv : Valid (rowBodyE re43 1) sel) (tail : List UInt8) (ht : TailIn (rowEndSym re43) tail) :
    RowResult row43.re (flat sel ++ tail) ((flat sel).length + tailLen tail) [] (sel ++ [rowEndEw re43 tail]) :=
  auto_E (re := re43) (by rfl) cert43.headOk sel hv tail ht

/-! ### row 44 (year:3,month:4,day:5,hour:6,minute:7,second:8): head `bol`, end `(?P<g>[class]|$)` -/

theorem cert44 : (rowsF[3]'(by decide)).Cert := certsF 3 (by decide)

theorem facts44 : keptCounts (rowBodyE re44 1) = [(6, 6), (2, 2), (3, 3), (2, 2), (2, 2), (3, 3), (2, 2), (12, 12), (2, 2), (37, 49), (2, 2), (1, 2), (25, 25), (2, 2), (1, 1), (2, 2), (2, 2)] ∧
    catDigest (rowBodyE re44 1) = 302675760 ∧
    splitsL (rowBodyE re44 1) "End Date:2022-07-18 19:35:05\n".toUTF8.toList = true := cert44.facts

theorem C04_row44_search (sel : Sel) (hv : Valid (rowBodyE re44 1) sel) (tail : List UInt8) (ht : TailIn (rowEndSym re44) tail) :
    RowResult row44.re (flat sel ++ tail) ((flat sel).length + tailLen tail) [] (sel ++ [rowEndEw re44 tail]) :=
  auto_E (re := re44) (by rfl) cert44.headOk sel hv tail ht

/-! ### row 45 (year:1,month:2,day:3,hour:4,minute:5,second:6): head `none`, end `(?P<g>[class]|$)` -/

theorem cert45 : (rowsF[4]'(by decide)).Cert := certsF 4 (by decide)

theorem facts45 : keptCounts (rowBodyE re45 0) = [(3, 3), (2, 2), (12, 12), (2, 2), (37, 49), (2, 2), (25, 25), (2, 2), (1, 1), (2, 2), (2, 2), (1, 1)] ∧
    catDigest (rowBodyE re45 0) = 450599430 ∧
    splitsL (rowBodyE re45 0) "2017-05-14 04-00-07:".toUTF8.toList = true := cert45.facts

theorem C04_row45_search (sel : Sel) (hv : Valid (rowBodyE re45 0) sel) (tail : List UInt8) (ht : TailIn (rowEndSym re45) tail) :
    RowResult row45.re (flat sel ++ tail) ((flat sel).length + tailLen tail) [] (sel ++ [rowEndEw re45 tail]) :=
  auto_E (re := re45) (by rfl) cert45.headOk sel hv tail ht

/-! ### row 46 (day:1,month:2,year:4,hour:5,minute:6,second:7,tz:8): head `none`, end `plain` -/

theorem cert46 : (rowsF[5]'(by decide)).Cert := certsF 5 (by decide)

theorem facts46 : keptCounts (rowBodyP re46 0) = [(1, 1), (49, 49), (2, 2), (72, 72), (2, 2), (3, 3), (2, 2), (25, 25), (2, 2), (1, 1), (2, 2), (2, 2), (2, 2), (1, 1), (1, 1)] ∧
    catDigest (rowBodyP re46 0) = 956942878 ∧
    splitsL (rowBodyP re46 0) "[11/Oct/2022:00:10:26 +0100] \"GET / HTTP/1.0\" 200 3343 \"-\" \"Lynx/2.9.0dev.10 libwww-FM/2.14 SSL-MM/1.4.1 GNUTLS/3.7.1\"".toUTF8.toList = true := cert46.facts

theorem C04_row46_search (sel : Sel) (hv : Valid (rowBodyP re46 0) sel) (tail : List UInt8) (ht : TailF (autoTail re46) tail) :
    RowResult row46.re (flat sel ++ tail) (flat sel).length [] sel :=
  auto_P (re := re46) (by rfl) rfl sel hv tail ht

/-! ### row 47 (day:1,month:2,year:4,hour:5,minute:6,second:7,tz:8): head `none`, end `plain` -/

theorem cert47 : (rowsF[6]'(by decide)).Cert := certsF 6 (by decide)

theorem facts47 : keptCounts (rowBodyP re47 0) = [(1, 1), (49, 49), (2, 2), (72, 72), (2, 2), (3, 3), (2, 2), (25, 25), (2, 2), (1, 1), (2, 2), (2, 2), (2, 2), (392, 392), (1, 1)] ∧
    catDigest (rowBodyP re47 0) = 637404530 ∧
    splitsL (rowBodyP re47 0) "[11/Oct/2022:00:10:26 CHUT] \"GET / HTTP/1.0\" 200 3343 \"-\" \"Lynx/2.9.0dev.10 libwww-FM/2.14 SSL-MM/1.4.1 GNUTLS/3.7.1\"".toUTF8.toList = true := cert47.facts

theorem C04_row47_search (sel : Sel) (hv : Valid (rowBodyP re47 0) sel) (tail : List UInt8) (ht : TailF (autoTail re47) tail) :
    RowResult row47.re (flat sel ++ tail) (flat sel).length [] sel :=
  auto_P (re := re47) (by rfl) rfl sel hv tail ht

/-! ### row 48 (day:1,month:2,year:4,hour:5,minute:6,second:7,tz:8): head `none`, end `plain` -/

theorem cert48 : (rowsF[7]'(by decide)).Cert := certsF 7 (by decide)

theorem facts48 : keptCounts (rowBodyP re48 0) = [(1, 1), (49, 49), (2, 2), (72, 72), (2, 2), (3, 3), (2, 2), (25, 25), (2, 2), (1, 1), (2, 2), (2, 2), (2, 2), (1, 1), (1, 1)] ∧
    catDigest (rowBodyP re48 0) = 984558287 ∧
    splitsL (rowBodyP re48 0) "[11/Oct/2022:00:10:26 +01:00] \"GET / HTTP/1.0\" 200 3343 \"-\" \"Lynx/2.9.0dev.10 libwww-FM/2.14 SSL-MM/1.4.1 GNUTLS/3.7.1\"".toUTF8.toList = true := cert48.facts

theorem C04_row48_search (sel : Sel) (hv : Valid (rowBodyP re48 0) sel) (tail : List UInt8) (ht : TailF (autoTail re48) tail) :
    RowResult row48.re (flat sel ++ tail) (flat sel).length [] sel :=
  auto_P (re := re48) (by rfl) rfl sel hv tail ht

/-! ### row 49 (day:1,month:2,year:4,hour:5,minute:6,second:7,tz:8): head `none`, end `plain` -/

theorem cert49 : (rowsF[8]'(by decide)).Cert := certsF 8 (by decide)

theorem facts49 : keptCounts (rowBodyP re49 0) = [(1, 1), (49, 49), (2, 2), (72, 72), (2, 2), (3, 3), (2, 2), (25, 25), (2, 2), (1, 1), (2, 2), (2, 2), (2, 2), (1, 1), (1, 1)] ∧
    catDigest (rowBodyP re49 0) = 457534167 ∧
    splitsL (rowBodyP re49 0) "[11/Oct/2022:00:10:26 +01] \"GET / HTTP/1.0\" 200 3343 \"-\" \"Lynx/2.9.0dev.10 libwww-FM/2.14 SSL-MM/1.4.1 GNUTLS/3.7.1\"".toUTF8.toList = true := cert49.facts

theorem C04_row49_search (sel : Sel) (hv : Valid (rowBodyP re49 0) sel) (tail : List UInt8) (ht : TailF (autoTail re49) tail) :
    RowResult row49.re (flat sel ++ tail) (flat sel).length [] sel :=
  auto_P (re := re49) (by rfl) rfl sel hv tail ht

/-! ### row 50 (day:1,month:2,year:4,hour:5,minute:6,second:7): head `none`, end `plain` -/

theorem cert50 : (rowsF[9]'(by decide)).Cert := certsF 9 (by decide)

theorem facts50 : keptCounts (rowBodyP re50 0) = [(1, 1), (49, 49), (2, 2), (72, 72), (2, 2), (3, 3), (2, 2), (25, 25), (2, 2), (1, 1), (2, 2), (2, 2), (2, 2), (1, 1)] ∧
    catDigest (rowBodyP re50 0) = 216787932 ∧
    splitsL (rowBodyP re50 0) "[22/Mar/2024 15:11:28] \"GET / HTTP/1.1\" 200 -".toUTF8.toList = true := cert50.facts

theorem C04_row50_search (sel : Sel) (hv : Valid (rowBodyP re50 0) sel) (tail : List UInt8) (ht : TailF (autoTail re50) tail) :
    RowResult row50.re (flat sel ++ tail) (flat sel).length [] sel :=
  auto_P (re := re50) (by rfl) rfl sel hv tail ht

/-! ### row 51 (day:1,month:2,year:4,hour:5,minute:6,second:7,fractional:8,tz:9): head `none`, end `plain` -/

theorem cert51 : (rowsF[10]'(by decide)).Cert := certsF 10 (by decide)

theorem facts51 : keptCounts (rowBodyP re51 0) = [(1, 1), (49, 49), (2, 2), (72, 72), (2, 2), (3, 3), (2, 2), (25, 25), (2, 2), (1, 1), (2, 2), (2, 2), (1, 1), (9, 9), (2, 2), (1, 1), (1, 1)] ∧
    catDigest (rowBodyP re51 0) = 800604493 ∧
    splitsL (rowBodyP re51 0) "[11/Oct/2022:00:10:26.123 +0100] \"GET / HTTP/1.0\" 200 3343 \"-\" \"Lynx/2.9.0dev.10 libwww-FM/2.14 SSL-MM/1.4.1 GNUTLS/3.7.1\"".toUTF8.toList = true := cert51.facts

theorem C04_row51_search (sel : Sel) (hv : Valid (rowBodyP re51 0) sel) (tail : List UInt8) (ht : TailF (autoTail re51) tail) :
    RowResult row51.re (flat sel ++ tail) (flat sel).length [] sel :=
  auto_P (re := re51) (by rfl) rfl sel hv tail ht

end S4V.Props.RegexCapture3
