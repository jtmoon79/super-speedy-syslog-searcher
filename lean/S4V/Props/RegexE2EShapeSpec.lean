/-
C04, regex slice: what the row certificates do for the end-to-end theorems `C04_rowN_end_to_end_shaped` (`S4V.Props.RegexE2Ea` …; how
to read them: `S4V.Props.RegexE2ESpec`; the table row → theorem and remaining hypotheses: `S4V.Props.RegexE2EShape`), and what they
cannot do.

The lexical hypothesis `shapeOK` of the generic statement (`e2e_of_result`) does not appear in a row theorem: the component `shaped` of
`certN` (`catOK`, part of the one kernel computation per generated file) checks that every symbolic word of the catalogue that can
fill a named group has the shape of the group's field kind, and `shapeFromCatalogue_sound` turns that into `shapeOK` for every valid
selection. Likewise month 1–12, day 1–31, minute ≤ 59, second ≤ 60 are read off the catalogue (`rangeFromCatalogue`). All 163 rows
with an end-to-end theorem pass both checks: NO row's catalogue admits an ill-shaped word. What remains, `calendarOK` (hour ≤ 23,
numeric zone hours ≤ 23 and minutes ≤ 59, the day exists in that month of that year), is NOT guaranteed by the catalogues and so
cannot be discharged (`…_not_from_catalogue`). Outside it the regex matches, the parse fails and the line starts no message, never a
wrong instant (`…_no_message`, here and in `RegexE2ESpec`; every line replayed on the real `bytes_to_regex_to_datetime`: same replies).
-/
import S4V.Props.RegexE2EShape
import S4V.Props.RegexE2ESpec

namespace S4V.Props.RegexE2EShapeSpec
open S4V.Model.Regex S4V.Gen.Regex S4V.Lemmas.RegexStep S4V.Lemmas.RegexSym S4V.Lemmas.RegexRows S4V.Lemmas.RegexAuto
open S4V.Lemmas.RegexE2E S4V.Props.RegexE2E S4V.Props.RegexE2ESpec S4V.Gen.TimeTables S4V.Model.Time S4V.Lemmas.Utf8

/-- the shaped theorem of row 71 applies to its test line with no lexical side condition at all -/
theorem row71_shaped_applies : ∃ sel rest, flat sel ++ rest = "2000-01-01 00:00:02.123456789 -11:30 foo".toUTF8.toList ∧
    (TailIn (rowEndSym re71) rest → ∀ fbOff, FbOK' fbOff →
      rowPipeline row71 (flat sel ++ rest) fbOff none = some (fieldsOf row71.dtfs (selFields row71 sel) fbOff none).instant) :=
  row71_applies

/-- a row without a year: the fill year is the only extra hypothesis -/
theorem row23_shaped_applies : ∃ sel rest, flat sel ++ rest = "<14>Jan  1 15:00:36 HOST dropbear".toUTF8.toList ∧
    (TailF (autoTail re23) rest → ∀ fbOff, FbOK' fbOff →
      rowPipeline row23 (flat sel ++ rest) fbOff (some 2021) =
        some (fieldsOf row23.dtfs (selFields row23 sel) fbOff (some 2021)).instant) := by
  obtain ⟨sel, rest, hv, he, _, hr, _⟩ := inst_of_instB row23_instance.1
  refine ⟨sel, rest, he, fun ht fbOff hfb =>
    C04_row23_end_to_end_shaped sel hv rest ht fbOff hfb (some 2021) ?_ (calendarOK_of_rangeOK hr)⟩
  intro y hy; cases hy; decide

def hourIn (k : Nat) (o : Option (List UInt8)) : Bool := decide (numOptVal o ≤ k)

/-- one evaluation of row 79's catalogue: its hour words, and (for `C04_row79_without_calendar_full_false`) that
`2023-02-30 12:00:00 x` is a rendering of it with an admissible tail -/
theorem row79_eval :
    (fieldPass row79 (rowBodyE re79 1) "hour" (valS 16 (hourIn 23)) = false ∧
      fieldPass row79 (rowBodyE re79 1) "hour" (valS 16 (hourIn 24)) = true) ∧
    splitP (fun _ => true) (rowBodyE re79 1) (rowEndSym re79) "2023-02-30 12:00:00 x".toUTF8.toList = true := by
  rw [rowBodyE_eq, toUTF8_toList_ofList]
  decide +kernel

/-- `CGP_HOUR` = `00|01|…|23|24`: the catalogue guarantees hour ≤ 24, not hour ≤ 23 -/
theorem C04_hour23_not_from_catalogue :
    fieldPass row79 (rowBodyE re79 1) "hour" (valS 16 (hourIn 23)) = false ∧
    fieldPass row79 (rowBodyE re79 1) "hour" (valS 16 (hourIn 24)) = true := row79_eval.1

/-- `CGP_TZzc` = `[\+\-−][012][[:digit:]]:[[:digit:]]{2}`: the catalogue admits `+00:60`, `+24:00`, … -/
theorem C04_zone_range_not_from_catalogue :
    fieldPass row71 (rowBodyE re71 1) "tz" (valS 10000 (tzRange .zc)) = false := row71_eval.2

/-! ### what the code does outside `calendarOK`: the regex matches, the parse fails, no message -/

theorem C04_zone_hour24_no_message :
    (search row71.re "2000-01-01 00:00:02.123456789 +24:00 foo".toUTF8.toList).isSome = true ∧
    rowPipeline row71 "2000-01-01 00:00:02.123456789 +24:00 foo".toUTF8.toList 0 none = none ∧
    rowPipeline row71 "2000-01-01 00:00:02.123456789 +23:59 foo".toUTF8.toList 0 none =
      some (instantNs 2000 1 1 0 0 2 123456789 86340) := by decide +kernel

theorem C04_zone_minute60_no_message :
    (search row71.re "2000-01-01 00:00:02.123456789 +23:60 foo".toUTF8.toList).isSome = true ∧
    rowPipeline row71 "2000-01-01 00:00:02.123456789 +23:60 foo".toUTF8.toList 0 none = none ∧
    rowPipeline row71 "2000-01-01 00:00:02.123456789 -29:99 foo".toUTF8.toList 0 none = none := by decide +kernel

theorem C04_feb29_nonleap_no_message :
    (search row71.re "2001-02-29 00:00:00.123456789 -11:30 foo".toUTF8.toList).isSome = true ∧
    rowPipeline row71 "2001-02-29 00:00:00.123456789 -11:30 foo".toUTF8.toList 0 none = none ∧
    rowPipeline row71 "2000-02-29 00:00:00.123456789 -11:30 foo".toUTF8.toList 0 none =
      some (instantNs 2000 2 29 0 0 0 123456789 (-41400)) := by decide +kernel

/-- second `60` is INSIDE the theorems (`secIn`: ≤ 60): the first instant of the next minute -/
theorem C04_second60_next_minute :
    rowPipeline row71 "2000-01-01 00:00:60.123456789 -11:30 foo".toUTF8.toList 0 none =
      some (instantNs 2000 1 1 0 1 0 123456789 (-41400)) := by decide +kernel

/-- "row 79 attributes to every rendering of its catalogue the instant the words spell" -/
def C04_row79_without_calendar_full : Prop :=
  ∀ (sel : Sel), Valid (rowBodyE re79 1) sel → ∀ tail : List UInt8, TailIn (rowEndSym re79) tail →
    rowPipeline row79 (flat sel ++ tail) 0 none = some (fieldsOf row79.dtfs (selFields row79 sel) 0 none).instant

/-- witness `2023-02-30 12:00:00 x`: a rendering of the catalogue, no instant (`S4V.Props.RegexE2ESpec.C04_feb30_no_message`) -/
theorem C04_row79_without_calendar_full_false : ¬ C04_row79_without_calendar_full := by
  intro h
  obtain ⟨sel, rest, hv, he, _, ht⟩ := of_splitP row79_eval.2
  have := h sel hv rest ht
  rw [he, C04_feb30_no_message.2.1] at this
  cases this

/-- … and `C04_row79_end_to_end_shaped` is its strongest true form (`_partial`): add `calendarOK` -/
theorem C04_row79_without_calendar_partial (sel : Sel) (hv : Valid (rowBodyE re79 1) sel) (tail : List UInt8)
    (ht : TailIn (rowEndSym re79) tail) (hc : calendarOK row79.dtfs (selFields row79 sel) none = true) :
    rowPipeline row79 (flat sel ++ tail) 0 none = some (fieldsOf row79.dtfs (selFields row79 sel) 0 none).instant :=
  C04_row79_end_to_end_shaped sel hv tail ht 0 ⟨1440, by decide, by decide, by decide⟩ none hc

/-! ### counter-models: one-token edits of the capture-group patterns make `catOK` false -/

/-- row 79 with `CGP_MINUTE` = `(?P<minute>[0123456][[:digit:]])` -/
def re79m6 : Re := (catL [.bol, n1, (.rep (.cls [(32, 32), (45, 45), (47, 47)]) 0 (some 1)), n3, (.rep (.cls [(32, 32), (45, 45), (47, 47)]) 0 (some 1)), n5, (.rep (.cls [(32, 32), (45, 45), (58, 58), (84, 84)]) 0 (some 1)), n7, (.rep (.cls [(58, 58)]) 0 (some 1)), (.group 5 (catL [(.cls [(48, 54)]), (.cls [(48, 57)])])), (.rep (.cls [(58, 58)]) 0 (some 1)), n10, n39])
def row79m6 : RRow := { row79 with re := re79m6 }

/-- the words are still well shaped, but minute `60`…`69` is in the catalogue: `rangeFromCatalogue` fails (offending word
`[0-6][0-9]` of piece 8); on such a line the edited row matches and yields no instant -/
theorem C04_minute_class_0to6_breaks_range :
    shapeFromCatalogue row79m6 (rowBodyE re79m6 1) = true ∧ rangeFromCatalogue row79m6 (rowBodyE re79m6 1) = false ∧
    offenders row79m6 (rowBodyE re79m6 1) "minute" (valS 128 minuteIn) = [(8, [[(48, 54)], [(48, 57)]])] ∧
    (search re79m6 "2023-02-28 12:60:00 x".toUTF8.toList).isSome = true ∧
    rowPipeline row79m6 "2023-02-28 12:60:00 x".toUTF8.toList 0 none = none := by
  rw [rowBodyE_eq, toUTF8_toList_ofList]
  decide +kernel

/-- row 71 with `CGP_FRACTIONAL` = `(?P<fractional>[[:digit:]]{1,13})` -/
def re71f13 : Re := (catL [.bol, n1, (.rep (.cls [(32, 32), (45, 45), (47, 47)]) 0 (some 1)), n3, (.rep (.cls [(32, 32), (45, 45), (47, 47)]) 0 (some 1)), n5, (.rep (.cls [(32, 32), (45, 45), (58, 58), (84, 84)]) 0 (some 1)), n7, (.rep (.cls [(58, 58)]) 0 (some 1)), n8, (.rep (.cls [(58, 58)]) 0 (some 1)), n10, (.cls [(44, 44), (46, 46)]), (.group 7 (.rep (.cls [(48, 57)]) 1 (some 13))), (.rep (.cls [(9, 9), (32, 32)]) 0 (some 1)), n14, n25])
def row71f13 : RRow := { row71 with re := re71f13 }

/-- a 13-digit fraction is in the catalogue and is no fraction the normaliser keeps (`fracNorm` yields nothing beyond 12 digits):
`shapeFromCatalogue` fails; 12 digits are cut to nanoseconds, 13 digits yield no instant -/
theorem C04_fractional_13_breaks_shape :
    shapeFromCatalogue row71f13 (rowBodyE re71f13 1) = false ∧ rangeFromCatalogue row71f13 (rowBodyE re71f13 1) = true ∧
    (offenders row71f13 (rowBodyE re71f13 1) "fractional" (fracOKs row71f13.dtfs.fractional)).map (fun p => (p.1, p.2.length)) = [(12, 13)] ∧
    rowPipeline row71f13 "2000-01-01 00:00:02.123456789012 -11:30 foo".toUTF8.toList 0 none =
      some (instantNs 2000 1 1 0 0 2 123456789 (-41400)) ∧
    rowPipeline row71f13 "2000-01-01 00:00:02.1234567890123 -11:30 foo".toUTF8.toList 0 none = none := by
  rw [rowBodyE_eq, toUTF8_toList_ofList, toUTF8_toList_ofList]
  decide +kernel

end S4V.Props.RegexE2EShapeSpec
