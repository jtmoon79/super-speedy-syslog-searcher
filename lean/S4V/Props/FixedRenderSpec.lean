/-
C08, last sentence: "Each printed line shows that record's own field values and nothing else."

What is printed for one accounting record is `FixedStruct::as_bytes`. Its 16 `match` arms are translated
into render programs (`S4V.Gen.FixedRender.layouts`, gen/gen_fixedrender.py, which also pins the body of
every `set_buffer_at_or_err_*!` macro); `S4V.Model.FixedRender.render` interprets them. Every theorem
below that speaks about "every layout" is decided over the GENERATED table (unfolded, so a change of
`as_bytes` or of a struct definition regenerates a different table and the proof is re-run against it)
and lifted through the general interpreter lemmas of `S4V.Lemmas.FixedRender`.

Two natural readings of the sentence are FALSE as coded (`C08_render_injective_on_shown_full`,
`C08_render_single_line_full`): a text field is shown only up to its first NUL, bytes ≥ 0x80 of a `c_char` array become
NUL, and a `\n` inside a text field is copied verbatim.
-/
import S4V.Lemmas.FixedRender
import S4V.Lemmas.Lists

namespace S4V.Props.FixedRenderSpec
open S4V.Gen.Fixed (Prim)
open S4V.Gen.FixedRender
open S4V.Model.Fixed (Bytes leNat ofStored slice)
open S4V.Model.FixedRender
open S4V.Lemmas.FixedRender

theorem forall_layouts {p : LayoutR → Bool} (h : layouts.all p = true) : ∀ l ∈ layouts, p l = true :=
  List.all_eq_true.mp h

/-- the same 16 layouts, with the same sizes, as the time-field table `S4V.Gen.Fixed.layouts`; the generated epilogue
(`\n`, NUL) and the target assumption `c_char = i8` the theorems below are read with -/
theorem C08_render_tables_agree :
    layouts.length = 16 ∧ (layouts.map (·.name)).Nodup
      ∧ layouts.map (fun l => (l.name, l.size)) = S4V.Gen.Fixed.layouts.map (fun l => (l.name, l.size))
      ∧ epilogue = [10, 0] ∧ cCharSigned = true := by decide +kernel

def insertRange (x : Nat × Nat) : List (Nat × Nat) → List (Nat × Nat)
  | [] => [x]
  | y :: r => if x.1 ≤ y.1 then x :: y :: r else y :: insertRange x r

def sortRanges (xs : List (Nat × Nat)) : List (Nat × Nat) := xs.foldr insertRange []

def tilesFrom : Nat → List (Nat × Nat) → Option Nat
  | s, [] => some s
  | s, (o, n) :: r => if o = s ∧ 0 < n then tilesFrom (s + n) r else none

def fieldsTile (l : LayoutR) : Bool :=
  tilesFrom 0 (sortRanges (l.fields.map (fun f => (f.off, f.size)) ++ l.holes)) == some l.size

def opInField (l : LayoutR) (o : Op) : Bool :=
  ((opReads o).isEmpty || (opTops o).length == 1) &&
  (opTops o).all fun t =>
    match l.fields[t]? with
    | some fld => (opReads o).all fun rg => decide (fld.off ≤ rg.1) && decide (rg.1 + rg.2 ≤ fld.off + fld.size)
    | none => false

def rangesDisjoint (a b : Nat × Nat) : Bool := decide (a.1 + a.2 ≤ b.1) || decide (b.1 + b.2 ≤ a.1)

/-- the one place where the code reads a byte twice: `0b…` bits, then the names, of the same flag byte -/
def sameFlagByte : Op → Op → Bool
  | .bin4 f, .flagNames g _ _ _ => decide (f = g)
  | _, _ => false

def opsDisjoint (o o' : Op) : Bool := (opReads o).all fun a => (opReads o').all (rangesDisjoint a)

def readsDisjoint : List Op → Bool
  | [] => true
  | o :: r => (r.all fun o' => sameFlagByte o o' || opsDisjoint o o') && readsDisjoint r

def inBounds (l : LayoutR) : Bool := (l.prog.flatMap opReads).all fun rg => decide (rg.1 + rg.2 ≤ l.size)

/-- for every layout: every read lies inside the record and inside the one struct field the op names; fields and
alignment holes together cover `[0, size)` exactly once; distinct ops read disjoint bytes (`sameFlagByte` apart) -/
theorem C08_render_fields_in_bounds : ∀ l ∈ layouts,
    inBounds l = true ∧ (l.prog.all (opInField l)) = true ∧ fieldsTile l = true ∧ readsDisjoint l.prog = true := by
  have h : layouts.all (fun l => inBounds l && l.prog.all (opInField l) && fieldsTile l && readsDisjoint l.prog) = true := by
    decide +kernel
  intro l hl
  simpa only [Bool.and_eq_true, and_assoc] using forall_layouts h l hl

theorem C08_render_reads_below_size {l : LayoutR} (hl : l ∈ layouts) :
    ∀ rg ∈ l.prog.flatMap opReads, rg.1 + rg.2 ≤ l.size := by
  intro rg h
  have := List.all_eq_true.mp (C08_render_fields_in_bounds l hl).1 rg h
  simpa using this

/-- the text printed for record `k` of a file (records of `l.size` bytes) is a function of that record's
bytes: any two files that hold the same bytes at `[k·size, (k+1)·size)` print the same text for it -/
theorem C08_render_locality (l : LayoutR) (d d' : Bytes) (k : Nat)
    (h : slice d (k * l.size) l.size = slice d' (k * l.size) l.size) :
    render l (slice d (k * l.size) l.size) = render l (slice d' (k * l.size) l.size) := by rw [h]

def shown (l : LayoutR) : List Nat := l.prog.flatMap opTops

def shownRanges (l : LayoutR) : List (Nat × Nat) :=
  (shown l).filterMap fun t => l.fields[t]?.map fun f => (f.off, f.size)

theorem shown_covers_reads : ∀ l ∈ layouts, covers (shownRanges l) (l.prog.flatMap opReads) = true :=
  forall_layouts (by decide +kernel)

/-- two records that agree on the bytes of the SHOWN fields print the same text: omitted fields,
alignment holes and everything outside the record never reach the output -/
theorem C08_render_depends_only_on_shown_fields {l : LayoutR} (hl : l ∈ layouts) {r r' : Bytes}
    (h : AgreeOn (shownRanges l) r r') : render l r = render l r' :=
  render_congr l (agreeOn_of_covers (shown_covers_reads l hl) h)

def shapeOk (l : LayoutR) : Bool :=
  wellLabelled none (l.prog.flatMap kinds) && litsNonEmpty l.prog
    && decide ((labels l.prog).Nodup) && (labels l.prog).all (fun s => !s.isEmpty)

theorem shape_all : ∀ l ∈ layouts, shapeOk l = true := forall_layouts (by decide +kernel)

/-- The line is the concatenation of pieces — fixed strings of the program (`lit`) and texts of field
values (`val`; `cont` = the flag names continuing the flag bits) — followed by `\n` and NUL. For every
layout and every record: each value piece is immediately preceded by a literal piece (so the line starts
with a label and two values never touch), literals are non-empty, and the labels of the layout (runs of
literals) are pairwise distinct. What a value piece is: `emit`, i.e. the canonical text of the decoded
field — see `value_text_*` below. -/
theorem C08_render_shape {l : LayoutR} (hl : l ∈ layouts) (r : Bytes) :
    render l r = (progPieces r l.prog).flatMap (·.2) ++ [10, 0]
      ∧ wellLabelled none ((progPieces r l.prog).map (·.1)) = true
      ∧ (∀ p ∈ progPieces r l.prog, p.1 = .lit → p.2 ≠ [])
      ∧ (labels l.prog).Nodup ∧ (∀ s ∈ labels l.prog, s ≠ []) := by
  have h := shape_all l hl
  simp only [shapeOk, Bool.and_eq_true, decide_eq_true_eq, and_assoc] at h
  obtain ⟨h1, h2, h3, h4⟩ := h
  refine ⟨?_, ?_, ?_, h3, ?_⟩
  · rw [progPieces_text]; rfl
  · rw [progPieces_kinds]; exact h1
  · exact lit_pieces_ne_nil h2
  · intro s hs
    have := List.all_eq_true.mp h4 s hs
    simpa using this

/-- what the value pieces are (`fieldInt` = the field decoded with its DECLARED primitive type) -/
theorem value_text_num (r : Bytes) (f : IntRef) (c : Prim) : emit r (.num f c) = decInt (fieldInt r f) := rfl
theorem value_text_utType (r : Bytes) (f : IntRef) (p : Prim) : emit r (.utType f p) = utTypeText (fieldInt r f) := rfl
theorem value_text_cstrn (r : Bytes) (s : String) (t off len : Nat) (sg : Bool) :
    emit r (.cstrn s t off len sg) = cstrText r off len sg := rfl
theorem value_text_f32 (r : Bytes) (s : String) (t off : Nat) : emit r (.f32 s t off) = fmtF32 (storedAt r off 4) := rfl

/-- F12 as coded: every rendered record ends with `\n` and a counted NUL -/
theorem C08_render_ends_with_newline_nul (l : LayoutR) (r : Bytes) :
    ∃ line, render l r = line ++ [10, 0] := ⟨progText r l.prog, rfl⟩

def coverOk (l : LayoutR) : Bool :=
  (List.range l.fields.length).all (fun i => (shown l).contains i != l.omitted.contains i)
    && (shown l ++ l.omitted).all (fun i => decide (i < l.fields.length)) && decide (l.omitted.Nodup)

/-- shown ∪ omitted = all fields of the struct, shown ∩ omitted = ∅ -/
theorem C08_render_covers_fields : ∀ l ∈ layouts,
    (∀ i, i < l.fields.length → (i ∈ shown l ↔ i ∉ l.omitted))
      ∧ (∀ i ∈ shown l ++ l.omitted, i < l.fields.length) ∧ l.omitted.Nodup := by
  have h : layouts.all coverOk = true := by decide +kernel
  intro l hl
  have := forall_layouts h l hl
  simp only [coverOk, Bool.and_eq_true, decide_eq_true_eq, List.all_eq_true, List.mem_range, and_assoc] at this
  obtain ⟨h1, h2, h3⟩ := this
  refine ⟨?_, h2, h3⟩
  intro i hi
  have := h1 i hi
  by_cases a : i ∈ shown l <;> by_cases b : i ∈ l.omitted <;> simp_all

def fieldName (l : LayoutR) (i : Nat) : String := (l.fields.getD i default).name

/-- the omitted fields of every layout, by name -/
theorem C08_render_omitted_table :
    layouts.map (fun l => (l.name, l.omitted.map (fieldName l))) =
      [("Fs_Freebsd_x8664_Utmpx", ["__gap1", "__ut_spare"]),
       ("Fs_Linux_Arm64Aarch64_Lastlog", []),
       ("Fs_Linux_Arm64Aarch64_Utmpx", ["__glibc_reserved"]),
       ("Fs_Linux_x86_Acct", ["ac_pad"]),
       ("Fs_Linux_x86_Acct_v3", []),
       ("Fs_Linux_x86_Lastlog", []),
       ("Fs_Linux_x86_Utmpx", ["__glibc_reserved"]),
       ("Fs_Netbsd_x8632_Acct", ["__gap1", "__gap3"]),
       ("Fs_Netbsd_x8632_Lastlogx", []),
       ("Fs_Netbsd_x8632_Utmpx", ["ut_pad"]),
       ("Fs_Netbsd_x8664_Lastlog", []),
       ("Fs_Netbsd_x8664_Lastlogx", ["ll_ss"]),
       ("Fs_Netbsd_x8664_Utmp", []),
       ("Fs_Netbsd_x8664_Utmpx", ["__gap1", "ut_pad"]),
       ("Fs_Openbsd_x86_Lastlog", []),
       ("Fs_Openbsd_x86_Utmp", [])] := by decide +kernel

/-- exactly one omitted field is not padding by name: `netbsd_x8664::lastlogx.ll_ss` (the code says
"ll_ss is not printable"; the netbsd_x8632 arm DOES print its `ll_ss`) -/
theorem C08_render_omitted_non_padding :
    (layouts.flatMap fun l => (l.omitted.filter fun i => !(l.fields.getD i default).pad).map fun i => (l.name, fieldName l i))
      = [("Fs_Netbsd_x8664_Lastlogx", "ll_ss")] := by decide +kernel

def typesAgree (l : LayoutR) : Bool :=
  l.prog.all fun
    | .num f c => decide (f.prim = c)
    | .utType f p => decide (f.prim = p)
    | .addr _ _ _ w _ _ => decide (w = ⟨true, 4⟩)
    | _ => true

/-- the type argument of every `set_buffer_at_or_err_number!` (which the macro uses only for a size
assertion) resolves to the same primitive as the field's declared type — no value is shown with a
width or signedness other than its declaration's -/
theorem C08_render_types_agree : ∀ l ∈ layouts, typesAgree l = true := forall_layouts (by decide +kernel)

def timeOps : List Op → List (Nat × Prim)
  | [] => []
  | .dtBeg :: r => (r.takeWhile (· ≠ .dtEnd)).filterMap fun
      | .num f _ => some (f.off, f.prim)
      | _ => none
  | _ :: r => timeOps r

def timeOpsExpected (t : S4V.Gen.Fixed.Layout) : List (Nat × Prim) :=
  (t.fieldOffset + t.decl.secOff, t.decl.sec) ::
    match t.decl.usec with
    | some (p, o) => [(t.fieldOffset + o, p)]
    | none => []

/-- the number(s) shown between `dt_beg` and `dt_end` are read from the field — offset, width,
signedness — that `from_fixedstructptr` takes the record's time from (`S4V.Gen.Fixed`: `fieldOffset`,
`decl`), seconds then microseconds -/
theorem C08_render_time_is_key_field :
    layouts.map (fun l => timeOps l.prog) = S4V.Gen.Fixed.layouts.map timeOpsExpected := by decide +kernel

theorem readsDisjoint_mid {pre post : List Op} {op : Op} (h : readsDisjoint (pre ++ op :: post) = true)
    (hop : ∀ o, sameFlagByte op o = false) (hop' : ∀ o, sameFlagByte o op = false) :
    ∀ rg ∈ (pre ++ post).flatMap opReads, ∀ a ∈ opReads op, rangesDisjoint rg a = true := by
  intro rg hrg a ha
  induction pre with
  | nil =>
    simp only [List.nil_append, readsDisjoint, Bool.and_eq_true, List.all_eq_true, hop, Bool.false_or, opsDisjoint] at h
    obtain ⟨o, ho, hro⟩ := List.mem_flatMap.mp hrg
    rw [rangesDisjoint, Bool.or_comm]
    exact h.1 o ho a ha rg hro
  | cons p pre ih =>
    simp only [List.cons_append, readsDisjoint, Bool.and_eq_true, List.all_eq_true] at h
    rw [List.cons_append, List.flatMap_cons, List.mem_append] at hrg
    rcases hrg with hrg | hrg
    · have := h.1 op (by simp)
      simp only [hop' p, Bool.false_or, opsDisjoint, List.all_eq_true] at this
      exact this rg hrg a ha
    · exact ih h.2 hrg

/-- Two records (of one layout) that hold the same bytes everywhere except inside ONE shown numeric
field, and whose values of that field differ, are printed differently: decimal text is injective and the
rest of the line is the same on both sides. (`readsDisjoint`, decided for every layout, guarantees that no
other op looks at the field's bytes, so the hypothesis `hsame` is satisfiable for every `num` op.) -/
theorem C08_render_injective_on_shown_num {l : LayoutR} (hl : l ∈ layouts) {pre post : List Op} {f : IntRef} {c : Prim}
    (hp : l.prog = pre ++ .num f c :: post) {r r' : Bytes}
    (hsame : ∀ i, i < l.size → ¬ (f.off ≤ i ∧ i < f.off + f.prim.bytes) → r[i]? = r'[i]?)
    (hdiff : fieldInt r f ≠ fieldInt r' f) : render l r ≠ render l r' := by
  obtain ⟨_, _, _, hrd⟩ := C08_render_fields_in_bounds l hl
  have hin := C08_render_reads_below_size hl
  rw [hp] at hrd hin
  have hdis := readsDisjoint_mid hrd (fun o => rfl) (fun o => by cases o <;> rfl)
  have hag : AgreeOn ((pre ++ post).flatMap opReads) r r' := by
    intro rg hrg i h1 h2
    have hd := hdis rg hrg (f.off, f.prim.bytes) (by simp [opReads])
    obtain ⟨o, ho, hro⟩ := List.mem_flatMap.mp hrg
    have hlt := hin rg (List.mem_flatMap.mpr
      ⟨o, by rw [List.mem_append] at ho ⊢; exact ho.imp_right (List.mem_cons_of_mem _), hro⟩)
    simp only [rangesDisjoint, Bool.or_eq_true, decide_eq_true_eq] at hd
    exact hsame i (by omega) (by omega)
  rw [List.flatMap_append] at hag
  exact render_ne_of_mid hp (agreeOn_append hag).1 (agreeOn_append hag).2 fun h => hdiff (decInt_injective h)

/-- decoding is injective too: equal values of a field ⇒ equal bytes of the field (so "the values
differ" above is the same as "the field's bytes differ") -/
theorem fieldInt_injective {r r' : Bytes} {f : IntRef}
    (h1 : (slice r f.off f.prim.bytes).length = f.prim.bytes) (h2 : (slice r' f.off f.prim.bytes).length = f.prim.bytes)
    (h : fieldInt r f = fieldInt r' f) : slice r f.off f.prim.bytes = slice r' f.off f.prim.bytes := by
  apply leNat_injective _ _ (by rw [h1, h2])
  have b1 := leNat_lt (slice r f.off f.prim.bytes)
  have b2 := leNat_lt (slice r' f.off f.prim.bytes)
  rw [h1] at b1; rw [h2] at b2
  unfold fieldInt storedAt ofStored at h
  have e : (256 : Nat) ^ f.prim.bytes = 2 ^ (8 * f.prim.bytes) := by
    rw [show (256 : Nat) = 2 ^ 8 by rfl, ← Nat.pow_mul]
  rw [e] at b1 b2
  generalize leNat (slice r f.off f.prim.bytes) = a at *
  generalize leNat (slice r' f.off f.prim.bytes) = b at *
  generalize 2 ^ (8 * f.prim.bytes) = P at *
  -- a stored `a < P` read as negative is `a - P < 0`, so readings from different branches differ
  split at h <;> split at h <;> omega

theorem takeWhile_nul (a b : Bytes) (ha : ∀ x ∈ a, x ≠ 0) : (a ++ 0 :: b).takeWhile (· ≠ 0) = a := by
  rw [List.takeWhile_append_of_pos (by simpa using ha)]; simp

/-- the bytes of a text field after its first NUL never reach the line -/
theorem C08_render_cstr_hidden_after_nul {r r' : Bytes} {off len : Nat} {a b b' : Bytes} (sg : Bool)
    (ha : ∀ x ∈ a, x ≠ 0) (h : slice r off len = a ++ 0 :: b) (h' : slice r' off len = a ++ 0 :: b') :
    cstrText r off len sg = cstrText r' off len sg := by
  simp only [cstrText, h, h', takeWhile_nul a _ ha]

def ascii (s : String) : Bytes := s.toList.map fun c => UInt8.ofNat c.toNat

def le : Nat → Nat → Bytes
  | 0, _ => []
  | n + 1, v => UInt8.ofNat (v % 256) :: le n (v / 256)

def padTo (n : Nat) (bs : Bytes) : Bytes := bs ++ List.replicate (n - bs.length) 0

/-- The kernel reads a string literal as `String.ofList` of its characters at no cost, whereas `String.toList` of it
decodes the UTF-8 bytes one `Array.push` at a time: expected texts are compared with the characters. (For a long literal
use `apply eq_ascii`: as a term the unification of `cs` with its characters exceeds the recursion depth.) -/
theorem eq_ascii {bs : Bytes} {cs : List Char} (h : bs = cs.map fun c => UInt8.ofNat c.toNat) :
    bs = ascii (String.ofList cs) := by
  rw [h, ascii, String.toList_ofList]

def netbsdLastlog : LayoutR := layouts.getD 10 default

theorem netbsdLastlog_mem : netbsdLastlog ∈ layouts := Lemmas.Lists.getD_mem _ (by decide)

/-- netbsd_x8664 `lastlog` (32 bytes): `ll_time: i64`, `ll_line: [c_char; 8]`, `ll_host: [c_char; 16]` -/
def lastlogRec (line host : Bytes) : Bytes := le 8 1700000000 ++ padTo 8 line ++ padTo 16 host

example : netbsdLastlog.name = "Fs_Netbsd_x8664_Lastlog" ∧ netbsdLastlog ∈ layouts
    ∧ render netbsdLastlog (lastlogRec (ascii "ttyp0") (ascii "host.example"))
      = ascii "ll_time 1700000000 ll_line 'ttyp0' ll_host 'host.example'\n\x00" :=
  ⟨by decide +kernel, netbsdLastlog_mem, eq_ascii (by decide +kernel)⟩

/-- on the target where `c_char = i8` every byte ≥ 0x80 of a `c_char` text field is written as a NUL
byte (`u8::try_from(i8)` fails, `Err(_) => 0`): "é" (C3 A9) in a host name prints as two NUL bytes -/
theorem C08_render_cstr_high_bit_becomes_nul :
    render netbsdLastlog (lastlogRec (ascii "ttyp0") [0x63, 0x61, 0x66, 0xC3, 0xA9])
      = ascii "ll_time 1700000000 ll_line 'ttyp0' ll_host 'caf\x00\x00'\n\x00" := eq_ascii (by decide +kernel)

/-- "the line determines every shown field" -/
def C08_render_injective_on_shown_full : Prop :=
  ∀ l ∈ layouts, ∀ r r' : Bytes, r.length = l.size → r'.length = l.size →
    render l r = render l r' → AgreeOn (shownRanges l) r r'

/-- FALSE, two ways: bytes after the first NUL are not shown, and all bytes ≥ 0x80 of a `c_char` field
collapse to NUL. Witness for the second: `ll_line` = `80` vs `81`. -/
theorem C08_render_injective_on_shown_full_false : ¬ C08_render_injective_on_shown_full := by
  intro h
  have h1 := h netbsdLastlog netbsdLastlog_mem (lastlogRec [0x80] []) (lastlogRec [0x81] [])
    (by decide +kernel) (by decide +kernel) (by decide +kernel)
  have h2 := h1 (8, 8) (by decide +kernel) 8 (by decide) (by decide)
  exact absurd h2 (by decide +kernel)

/-- "one record, one line" -/
def C08_render_single_line_full : Prop :=
  ∀ l ∈ layouts, ∀ r : Bytes, r.length = l.size → 10 ∉ progText r l.prog

/-- FALSE: text fields are copied verbatim up to the first NUL, so a `\n` stored in a field splits the
record's text (`ll_line` = "a\nb") -/
theorem C08_render_single_line_full_false : ¬ C08_render_single_line_full := by
  intro h
  exact absurd (h netbsdLastlog netbsdLastlog_mem (lastlogRec [0x61, 10, 0x62] []) (by decide +kernel)) (by decide +kernel)

def linuxUtmpx : LayoutR := layouts.getD 6 default

/-- a Linux x86_64 `utmpx` record (384 bytes) -/
def utmpxRec (utType : Nat) (addr : Bytes) : Bytes :=
  le 2 utType ++ [0, 0] ++ le 4 1234 ++ padTo 32 (ascii "pts/0") ++ padTo 4 (ascii "ts/0") ++ padTo 32 (ascii "root")
    ++ padTo 256 (ascii "192.168.1.5") ++ le 2 0 ++ le 2 65535 ++ le 4 0 ++ le 4 1700000000 ++ le 4 123456
    ++ padTo 16 addr ++ padTo 20 []

example : linuxUtmpx.name = "Fs_Linux_x86_Utmpx" ∧ linuxUtmpx ∈ layouts ∧ (utmpxRec 7 [192, 168, 1, 5]).length = linuxUtmpx.size
    ∧ render linuxUtmpx (utmpxRec 7 [192, 168, 1, 5]) = ascii
      "ut_type USER_PROCESS ut_pid 1234 ut_line 'pts/0' ut_id 'ts/0' ut_user 'root' ut_host '192.168.1.5' e_termination 0 e_exit -1 ut_session '0' ut_xtime 1700000000.123456 ut_addr 192.168.1.5\n\x00"
    ∧ renderInto printBufferSize linuxUtmpx (utmpxRec 7 [192, 168, 1, 5])
        = .ok (render linuxUtmpx (utmpxRec 7 [192, 168, 1, 5])) 149 166 := by
  refine ⟨by decide +kernel, Lemmas.Lists.getD_mem _ (by decide), by decide +kernel, ?_, by decide +kernel⟩
  apply eq_ascii
  decide +kernel

/-- `ut_type` outside the name table is shown as a number; an address with a non-zero word 1..3 is shown as
four host-endian 32-bit words in hex (2001:db8::1 is stored as `20 01 0d b8 00 … 01`) -/
example : render linuxUtmpx (utmpxRec 12 [0x20, 0x01, 0x0d, 0xb8, 0, 0, 0, 0, 0, 0, 0, 0, 0, 0, 0, 1]) = ascii
      "ut_type 12 ut_pid 1234 ut_line 'pts/0' ut_id 'ts/0' ut_user 'root' ut_host '192.168.1.5' e_termination 0 e_exit -1 ut_session '0' ut_xtime 1700000000.123456 ut_addr_v6 B80D0120:0:0:1000000\n\x00" := by
  apply eq_ascii
  decide +kernel

def acctV3 : LayoutR := layouts.getD 4 default

/-- a Linux `acct_v3` record (64 bytes): flag byte, `ac_etime` as `f32` bits, `ac_comm` -/
def acctV3Rec (flag : Nat) (etimeBits : Nat) : Bytes :=
  le 1 flag ++ le 1 3 ++ le 2 34816 ++ le 4 0 ++ le 4 1000 ++ le 4 1000 ++ le 4 4321 ++ le 4 1 ++ le 4 1700000000
    ++ le 4 etimeBits ++ le 2 1 ++ le 2 2 ++ le 2 3 ++ le 2 4 ++ le 2 5 ++ le 2 6 ++ le 2 7 ++ le 2 8 ++ padTo 16 (ascii "cat")

example : acctV3.name = "Fs_Linux_x86_Acct_v3" ∧ (acctV3Rec 0x12 0x40490fdb).length = acctV3.size
    ∧ render acctV3 (acctV3Rec 0x12 0x40490fdb) = ascii
      "ac_flag 0b10010 (ASU|AXSIG) ac_version 3 ac_tty 34816 ac_exitcode 0 ac_uid 1000 ac_gid 1000 ac_pid 4321 ac_ppid 1 ac_btime 1700000000 ac_etime 3.1415927 ac_utime 1 ac_stime 2 ac_mem 3 ac_io 4 ac_rw 5 ac_minflt 6 ac_majflt 7 ac_swaps 8 ac_comm 'cat'\n\x00" := by
  refine ⟨by decide +kernel, by decide +kernel, ?_⟩
  apply eq_ascii
  decide +kernel

/-- a flag byte with only unnamed bits prints an empty pair of parentheses; `f32` extremes -/
example : (render acctV3 (acctV3Rec 0x20 0x00000001)).take 60 = ascii
      "ac_flag 0b100000 () ac_version 3 ac_tty 34816 ac_exitcode 0 " := eq_ascii (by decide +kernel)

example : fmtF32 0x00000001 = ascii "0.000000000000000000000000000000000000000000001"
    ∧ fmtF32 0x7f7fffff = ascii "340282350000000000000000000000000000000"
    ∧ fmtF32 0x80000000 = ascii "-0" ∧ fmtF32 0xffc00000 = ascii "NaN" ∧ fmtF32 0xff800000 = ascii "-inf"
    ∧ fmtF32 0x3dcccccd = ascii "0.1" ∧ fmtF32 0x4b800000 = ascii "16777216" := by
  refine ⟨?_, ?_, ?_, ?_, ?_, ?_, ?_⟩ <;> apply eq_ascii <;> decide +kernel

/-- the hypotheses of `C08_render_injective_on_shown_num` are satisfiable: `ll_time` of the 32-byte lastlog -/
example : ∃ l ∈ layouts, ∃ pre post f c, ∃ r r' : Bytes, l.prog = pre ++ .num f c :: post
    ∧ (∀ i, i < l.size → ¬ (f.off ≤ i ∧ i < f.off + f.prim.bytes) → r[i]? = r'[i]?)
    ∧ fieldInt r f ≠ fieldInt r' f ∧ render l r ≠ render l r' :=
  ⟨netbsdLastlog, netbsdLastlog_mem, [netbsdLastlog.prog.getD 0 default, .dtBeg], netbsdLastlog.prog.drop 3,
    ⟨"ll_time", 0, 0, ⟨true, 8⟩⟩, ⟨true, 8⟩, lastlogRec [] [], le 8 1700000001 ++ padTo 24 [],
    by decide +kernel, by decide +kernel, by decide +kernel, by decide +kernel⟩

end S4V.Props.FixedRenderSpec
