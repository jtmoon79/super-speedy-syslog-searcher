/-
Property C03 (decision functions): what the translated date-time window
functions decide, stated as plain inequalities.

All proofs unfold the GENERATED definitions (`S4V.Gen.Filter`, `S4V.Gen.Keys`);
if the source comparison operators change (`<` to `<=`, a bound is dropped,
the null-record test changes) the regenerated definitions fail these
statements and this file stops compiling.
-/
import S4V.Model.SortDrain

namespace S4V.Props.FilterSpec
open S4V.Gen.Filter S4V.Gen.Keys S4V.Model.SortDrain

theorem dtPassFilters_eq (t : Int) (a b : Option Int) :
    dtPassFilters t a b =
      if a.any (t < ·) then .BeforeRange else if b.any (· < t) then .AfterRange else .InRange := by
  cases a <;> cases b <;> rfl

theorem any_eq_true_iff {p : Int → Prop} [DecidablePred p] (o : Option Int) :
    o.any (fun x => decide (p x)) = true ↔ ∃ x, o = some x ∧ p x := by
  cases o <;> simp

theorem any_eq_false_iff {p : Int → Prop} [DecidablePred p] (o : Option Int) :
    o.any (fun x => decide (p x)) = false ↔ ∀ x, o = some x → ¬ p x := by
  cases o <;> simp

theorem window_cases (lo hi : Bool) :
    let r := if lo then Result_Filter_DateTime2.BeforeRange else if hi then .AfterRange else .InRange
    (r = .InRange ↔ lo = false ∧ hi = false) ∧ (r = .BeforeRange ↔ lo = true)
      ∧ (r = .AfterRange ↔ lo = false ∧ hi = true) := by
  cases lo <;> cases hi <;> decide

/-- `dt_pass_filters`: in range iff not before the lower bound and not after the upper bound
(both bounds inclusive; an absent bound does not constrain) -/
theorem dtPassFilters_iff (t : Int) (a b : Option Int) :
    dtPassFilters t a b = .InRange ↔ (∀ x, a = some x → x ≤ t) ∧ (∀ y, b = some y → t ≤ y) := by
  rw [dtPassFilters_eq, (window_cases _ _).1, any_eq_false_iff, any_eq_false_iff]
  simp only [Int.not_lt]

theorem dtPassFilters_before_iff (t : Int) (a b : Option Int) :
    dtPassFilters t a b = .BeforeRange ↔ ∃ x, a = some x ∧ t < x := by
  rw [dtPassFilters_eq, (window_cases _ _).2.1, any_eq_true_iff]

theorem dtPassFilters_after_iff (t : Int) (a b : Option Int) :
    dtPassFilters t a b = .AfterRange ↔ (∀ x, a = some x → x ≤ t) ∧ ∃ y, b = some y ∧ y < t := by
  rw [dtPassFilters_eq, (window_cases _ _).2.2, any_eq_false_iff, any_eq_true_iff]
  simp only [Int.not_lt]

theorem dtPassFilters_spec (t : Int) (a b : Option Int) :
    (dtPassFilters t a b = .InRange ↔ (∀ x, a = some x → x ≤ t) ∧ (∀ y, b = some y → t ≤ y))
    ∧ (dtPassFilters t a b = .BeforeRange ↔ ∃ x, a = some x ∧ t < x)
    ∧ (dtPassFilters t a b = .AfterRange ↔ (∀ x, a = some x → x ≤ t) ∧ ∃ y, b = some y ∧ y < t) :=
  ⟨dtPassFilters_iff t a b, dtPassFilters_before_iff t a b, dtPassFilters_after_iff t a b⟩

/-- `ts_pass_filters` (event logs) and `em_pass_filters` (journal) are `dt_pass_filters` written out
again in their readers: the translated bodies coincide, and so do the three clauses -/
theorem tsPassFilters_eq : tsPassFilters = dtPassFilters := rfl
theorem emPassFilters_eq : emPassFilters = dtPassFilters := rfl

theorem tsPassFilters_iff (t : Int) (a b : Option Int) :
    tsPassFilters t a b = .InRange ↔ (∀ x, a = some x → x ≤ t) ∧ (∀ y, b = some y → t ≤ y) :=
  dtPassFilters_iff t a b

theorem tsPassFilters_before_iff (t : Int) (a b : Option Int) :
    tsPassFilters t a b = .BeforeRange ↔ ∃ x, a = some x ∧ t < x :=
  dtPassFilters_before_iff t a b

theorem tsPassFilters_after_iff (t : Int) (a b : Option Int) :
    tsPassFilters t a b = .AfterRange ↔ (∀ x, a = some x → x ≤ t) ∧ ∃ y, b = some y ∧ y < t :=
  dtPassFilters_after_iff t a b

theorem emPassFilters_iff (t : Int) (a b : Option Int) :
    emPassFilters t a b = .InRange ↔ (∀ x, a = some x → x ≤ t) ∧ (∀ y, b = some y → t ≤ y) :=
  dtPassFilters_iff t a b

theorem emPassFilters_before_iff (t : Int) (a b : Option Int) :
    emPassFilters t a b = .BeforeRange ↔ ∃ x, a = some x ∧ t < x :=
  dtPassFilters_before_iff t a b

theorem emPassFilters_after_iff (t : Int) (a b : Option Int) :
    emPassFilters t a b = .AfterRange ↔ (∀ x, a = some x → x ≤ t) ∧ ∃ y, b = some y ∧ y < t :=
  dtPassFilters_after_iff t a b

theorem dtPassFilters_cases (t : Int) (a b : Option Int) :
    dtPassFilters t a b = .InRange ∨ dtPassFilters t a b = .BeforeRange
      ∨ dtPassFilters t a b = .AfterRange := by
  cases dtPassFilters t a b <;> simp

-- boundaries are inclusive, on both sides
example : dtPassFilters 5 (some 5) (some 5) = .InRange := by decide
example : dtPassFilters 4 (some 5) (some 9) = .BeforeRange := by decide
example : dtPassFilters 10 (some 5) (some 9) = .AfterRange := by decide
example : dtPassFilters 9 (some 5) (some 9) = .InRange := by decide
example : dtPassFilters (-7) none (some (-7)) = .InRange := by decide
-- an inverted window: the lower bound wins
example : dtPassFilters 5 (some 9) (some 1) = .BeforeRange := by decide
example : tsPassFilters 5 (some 5) none = .InRange := by decide
example : emPassFilters 6 none (some 5) = .AfterRange := by decide

/-- `dt_after_or_before`: a time equal to the bound is at-or-after; no bound, `Pass` -/
theorem dtAfterOrBefore_iff (t : Int) (f : Option Int) :
    (dtAfterOrBefore t f = .Pass ↔ f = none)
    ∧ (dtAfterOrBefore t f = .OccursBefore ↔ ∃ x, f = some x ∧ t < x)
    ∧ (dtAfterOrBefore t f = .OccursAtOrAfter ↔ ∃ x, f = some x ∧ x ≤ t) := by
  cases f with
  | none => simp [dtAfterOrBefore]
  | some x =>
    have e : dtAfterOrBefore t (some x) = if decide (t < x) then .OccursBefore else .OccursAtOrAfter := rfl
    rw [e]
    by_cases h : t < x
    · simp [h, Int.not_le.mpr h]
    · simp [h, Int.not_lt.mp h]

theorem emAfterOrBefore_eq : emAfterOrBefore = dtAfterOrBefore := rfl

theorem emAfterOrBefore_iff (t : Int) (f : Option Int) :
    (emAfterOrBefore t f = .Pass ↔ f = none)
    ∧ (emAfterOrBefore t f = .OccursBefore ↔ ∃ x, f = some x ∧ t < x)
    ∧ (emAfterOrBefore t f = .OccursAtOrAfter ↔ ∃ x, f = some x ∧ x ≤ t) :=
  dtAfterOrBefore_iff t f

example : dtAfterOrBefore 5 none = .Pass := by decide
example : dtAfterOrBefore 5 (some 5) = .OccursAtOrAfter := by decide
example : dtAfterOrBefore 4 (some 5) = .OccursBefore := by decide
example : emAfterOrBefore 5 (some 5) = .OccursAtOrAfter := by decide
example : emAfterOrBefore (-1) (some 0) = .OccursBefore := by decide

def lexLe (x y : Int × Int) : Prop := x.1 < y.1 ∨ (x.1 = y.1 ∧ x.2 ≤ y.2)

instance (x y : Int × Int) : Decidable (lexLe x y) := by unfold lexLe; infer_instance

theorem fixedSkipAfter_false_iff (tv f : Int × Int) : fixedSkipAfter tv f = false ↔ lexLe f tv := by
  simp only [fixedSkipAfter, lexLe, decide_eq_false_iff_not]
  omega

theorem fixedSkipBefore_false_iff (tv f : Int × Int) : fixedSkipBefore tv f = false ↔ lexLe tv f := by
  simp only [fixedSkipBefore, lexLe, decide_eq_false_iff_not]
  omega

/-- a record is kept iff it is not a null record and lies within the window, both bounds
inclusive -/
theorem fixedKeep_iff (a b : Option (Int × Int)) (r : Rec) :
    fixedKeep a b r = true ↔
      r.tv ≠ (0, 0) ∧ (∀ f, a = some f → lexLe f r.tv) ∧ (∀ f, b = some f → lexLe r.tv f) := by
  cases a <;> cases b <;>
    simp [fixedKeep, fixedIsNull, fixedSkipAfter_false_iff, fixedSkipBefore_false_iff, and_assoc]

-- a record exactly on either bound is kept; the null record is dropped even when in the window
example : fixedKeep (some (3, 1)) (some (3, 1)) ⟨(3, 1), 7⟩ = true := by decide
example : fixedKeep (some (3, 1)) (some (8, 0)) ⟨(3, 0), 7⟩ = false := by decide
example : fixedKeep (some (3, 1)) (some (8, 0)) ⟨(8, 1), 7⟩ = false := by decide
example : fixedKeep (some (-3, 0)) (some (8, 0)) ⟨(0, 0), 7⟩ = false := by decide
example : fixedKeep none none ⟨(0, 0), 7⟩ = false := by decide
example : fixedKeep none none ⟨(0, 1), 7⟩ = true := by decide

end S4V.Props.FilterSpec
