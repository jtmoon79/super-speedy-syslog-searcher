/-
GENERATED by tools/mk_regexrows.py — regenerate, do not edit.

C04, regex slice — which hypotheses the per-row end-to-end theorems keep (no `shapeOK` hypothesis; `rangeOK` reduced to
`calendarOK`).

TABLE (row → shaped theorem — which hypotheses remain and why | why not):
    0  C04_row0_end_to_end_shaped (DTFSS_YmdHMSf) — remains: calendarOK (hour ≤ 23, day exists in month)
    1  C04_row1_end_to_end_shaped (DTFSS_YmdHMSfz) — remains: calendarOK (hour ≤ 23, zone hh ≤ 23 / mm ≤ 59, day exists in month)
    2  C04_row2_end_to_end_shaped (DTFSS_YmdHMSfzc) — remains: calendarOK (hour ≤ 23, zone hh ≤ 23 / mm ≤ 59, day exists in month)
    3  C04_row3_end_to_end_shaped (DTFSS_YmdHMSfzp) — remains: calendarOK (hour ≤ 23, zone hh ≤ 23 / mm ≤ 59, day exists in month)
    4  C04_row4_end_to_end_shaped (DTFSS_YmdHMSfZ) — remains: calendarOK (hour ≤ 23, day exists in month)
    5  C04_row5_end_to_end_shaped (DTFSS_YmdHMSf) — remains: calendarOK (hour ≤ 23, day exists in month); hlen (catalogue renderings of up to 53 bytes, range_regex.end = 40: F28-like cut, see RegexE2ESpec)
    6  C04_row6_end_to_end_shaped (DTFSS_ybdHMS) — remains: calendarOK (hour ≤ 23, day exists in month)
    7  C04_row7_end_to_end_shaped (DTFSS_YmdHMSfzc) — remains: calendarOK (hour ≤ 23, zone hh ≤ 23 / mm ≤ 59, day exists in month)
    8  C04_row8_end_to_end_shaped (DTFSS_YmdHMSfz) — remains: calendarOK (hour ≤ 23, zone hh ≤ 23 / mm ≤ 59, day exists in month)
    9  C04_row9_end_to_end_shaped (DTFSS_YmdHMSfzp) — remains: calendarOK (hour ≤ 23, zone hh ≤ 23 / mm ≤ 59, day exists in month)
   10  C04_row10_end_to_end_shaped (DTFSS_YmdHMSfZ) — remains: calendarOK (hour ≤ 23, day exists in month)
   11  C04_row11_end_to_end_shaped (DTFSS_YmdHMSf) — remains: calendarOK (hour ≤ 23, day exists in month)
   12  C04_row12_end_to_end_shaped (DTFSS_YmdHMSzc) — remains: calendarOK (hour ≤ 23, zone hh ≤ 23 / mm ≤ 59, day exists in month)
   13  C04_row13_end_to_end_shaped (DTFSS_YmdHMSzp) — remains: calendarOK (hour ≤ 23, zone hh ≤ 23 / mm ≤ 59, day exists in month)
   14  C04_row14_end_to_end_shaped (DTFSS_YmdHMSZ) — remains: calendarOK (hour ≤ 23, day exists in month)
   15  C04_row15_end_to_end_shaped (DTFSS_YmdHMS) — remains: calendarOK (hour ≤ 23, day exists in month)
   16  C04_row16_end_to_end_shaped (DTFSS_BdHMSYzc) — remains: calendarOK (hour ≤ 23, zone hh ≤ 23 / mm ≤ 59, day exists in month); hlen (catalogue renderings of up to 41 bytes, range_regex.end = 40: F28-like cut, see RegexE2ESpec)
   17  C04_row17_end_to_end_shaped (DTFSS_BdHMSYzp) — remains: calendarOK (hour ≤ 23, zone hh ≤ 23 / mm ≤ 59, day exists in month)
   18  C04_row18_end_to_end_shaped (DTFSS_BdHMSYZ) — remains: calendarOK (hour ≤ 23, day exists in month)
   19  C04_row19_end_to_end_shaped (DTFSS_BdHMSY) — remains: calendarOK (hour ≤ 23, day exists in month)
   20  C04_row20_end_to_end_shaped (DTFSS_BdHMSYzc) — remains: calendarOK (hour ≤ 23, zone hh ≤ 23 / mm ≤ 59, day exists in month); hlen (catalogue renderings of up to 42 bytes, range_regex.end = 40: F28-like cut, see RegexE2ESpec)
   21  C04_row21_end_to_end_shaped (DTFSS_BdHMSYzp) — remains: calendarOK (hour ≤ 23, zone hh ≤ 23 / mm ≤ 59, day exists in month)
   22  C04_row22_end_to_end_shaped (DTFSS_BdHMSYZ) — remains: calendarOK (hour ≤ 23, day exists in month); hlen (catalogue renderings of up to 41 bytes, range_regex.end = 40: F28-like cut, see RegexE2ESpec)
   23  C04_row23_end_to_end_shaped (DTFSS_BdHMS) — remains: calendarOK (hour ≤ 23, day exists in month); hfill (no year in the text: 4-digit fill year)
   24  C04_row24_end_to_end_shaped (DTFSS_YmdHMS) — remains: calendarOK (hour ≤ 23, day exists in month)
   25  C04_row25_end_to_end_shaped (DTFSS_YbdHMS) — remains: calendarOK (hour ≤ 23, day exists in month)
   26  C04_row26_end_to_end_shaped (DTFSS_YmdHMSf) — remains: calendarOK (hour ≤ 23, day exists in month)
   27  C04_row27_end_to_end_shaped (DTFSS_BdHMSYZ) — remains: calendarOK (hour ≤ 23, day exists in month)
   28  C04_row28_end_to_end_shaped (DTFSS_BdHMSYzc) — remains: calendarOK (hour ≤ 23, zone hh ≤ 23 / mm ≤ 59, day exists in month)
   29  C04_row29_end_to_end_shaped (DTFSS_BdHMSYz) — remains: calendarOK (hour ≤ 23, zone hh ≤ 23 / mm ≤ 59, day exists in month)
   30  C04_row30_end_to_end_shaped (DTFSS_BdHMSYzp) — remains: calendarOK (hour ≤ 23, zone hh ≤ 23 / mm ≤ 59, day exists in month)
   31  C04_row31_end_to_end_shaped (DTFSS_BdHMSY) — remains: calendarOK (hour ≤ 23, day exists in month)
   32  C04_row32_end_to_end_shaped (DTFSS_BdHMSZ) — remains: calendarOK (hour ≤ 23, day exists in month); hfill (no year in the text: 4-digit fill year)
   33  C04_row33_end_to_end_shaped (DTFSS_BdHMS) — remains: calendarOK (hour ≤ 23, day exists in month); hfill (no year in the text: 4-digit fill year); hlen (catalogue renderings of up to 23 bytes, range_regex.end = 22: F28-like cut, see RegexE2ESpec)
   34  C04_row34_end_to_end_shaped (DTFSS_BdHMSYz) — remains: calendarOK (hour ≤ 23, zone hh ≤ 23 / mm ≤ 59, day exists in month)
   35  C04_row35_end_to_end_shaped (DTFSS_BdHMSYzc) — remains: calendarOK (hour ≤ 23, zone hh ≤ 23 / mm ≤ 59, day exists in month)
   36  C04_row36_end_to_end_shaped (DTFSS_BdHMSYzp) — remains: calendarOK (hour ≤ 23, zone hh ≤ 23 / mm ≤ 59, day exists in month)
   37  C04_row37_end_to_end_shaped (DTFSS_BdHMSYZ) — remains: calendarOK (hour ≤ 23, day exists in month)
   38  C04_row38_end_to_end_shaped (DTFSS_BdHMSYz) — remains: calendarOK (hour ≤ 23, zone hh ≤ 23 / mm ≤ 59, day exists in month)
   39  C04_row39_end_to_end_shaped (DTFSS_BdHMSYzc) — remains: calendarOK (hour ≤ 23, zone hh ≤ 23 / mm ≤ 59, day exists in month)
   40  C04_row40_end_to_end_shaped (DTFSS_BdHMSYZ) — remains: calendarOK (hour ≤ 23, day exists in month)
   41  C04_row41_end_to_end_shaped (DTFSS_BdHMSYz) — remains: calendarOK (hour ≤ 23, zone hh ≤ 23 / mm ≤ 59, day exists in month)
   42  C04_row42_end_to_end_shaped (DTFSS_BdHMSYzc) — remains: calendarOK (hour ≤ 23, zone hh ≤ 23 / mm ≤ 59, day exists in month)
   43  C04_row43_end_to_end_shaped (DTFSS_BdHMSYZ) — remains: calendarOK (hour ≤ 23, day exists in month)
   44  C04_row44_end_to_end_shaped (DTFSS_YmdHMS) — remains: calendarOK (hour ≤ 23, day exists in month)
   45  C04_row45_end_to_end_shaped (DTFSS_YmdHMS) — remains: calendarOK (hour ≤ 23, day exists in month)
   46  C04_row46_end_to_end_shaped (DTFSS_bdHMSYz) — remains: calendarOK (hour ≤ 23, zone hh ≤ 23 / mm ≤ 59, day exists in month)
   47  C04_row47_end_to_end_shaped (DTFSS_bdHMSYZ) — remains: calendarOK (hour ≤ 23, day exists in month)
   48  C04_row48_end_to_end_shaped (DTFSS_bdHMSYzc) — remains: calendarOK (hour ≤ 23, zone hh ≤ 23 / mm ≤ 59, day exists in month)
   49  C04_row49_end_to_end_shaped (DTFSS_bdHMSYzp) — remains: calendarOK (hour ≤ 23, zone hh ≤ 23 / mm ≤ 59, day exists in month)
   50  C04_row50_end_to_end_shaped (DTFSS_bdHMSY) — remains: calendarOK (hour ≤ 23, day exists in month)
   51  C04_row51_end_to_end_shaped (DTFSS_bdHMSYfz) — remains: calendarOK (hour ≤ 23, zone hh ≤ 23 / mm ≤ 59, day exists in month)
   52  C04_row52_end_to_end_shaped (DTFSS_bdHMSYfzc) — remains: calendarOK (hour ≤ 23, zone hh ≤ 23 / mm ≤ 59, day exists in month)
   53  C04_row53_end_to_end_shaped (DTFSS_bdHMSYfzp) — remains: calendarOK (hour ≤ 23, zone hh ≤ 23 / mm ≤ 59, day exists in month)
   54  C04_row54_end_to_end_shaped (DTFSS_bdHMSYf) — remains: calendarOK (hour ≤ 23, day exists in month)
   55  C04_row55_end_to_end_shaped (DTFSS_YmdHMSf) — remains: calendarOK (hour ≤ 23, day exists in month)
   56  C04_row56_end_to_end_shaped (DTFSS_bdHMSYf) — remains: calendarOK (hour ≤ 23, day exists in month)
   57  C04_row57_end_to_end_shaped (DTFSS_bdHMSY) — remains: calendarOK (hour ≤ 23, day exists in month)
   58  C04_row58_end_to_end_shaped (DTFSS_bdHMSYf) — remains: calendarOK (hour ≤ 23, day exists in month)
   59  C04_row59_end_to_end_shaped (DTFSS_YmsdkMS) — remains: calendarOK (hour ≤ 23, day exists in month)
   60  C04_row60_end_to_end_shaped (DTFSS_YbdHMSzc) — remains: calendarOK (hour ≤ 23, zone hh ≤ 23 / mm ≤ 59, day exists in month)
   61  C04_row61_end_to_end_shaped (DTFSS_YbdHMSz) — remains: calendarOK (hour ≤ 23, zone hh ≤ 23 / mm ≤ 59, day exists in month)
   62  C04_row62_end_to_end_shaped (DTFSS_YbdHMSzp) — remains: calendarOK (hour ≤ 23, zone hh ≤ 23 / mm ≤ 59, day exists in month)
   63  C04_row63_end_to_end_shaped (DTFSS_YbdHMSZ) — remains: calendarOK (hour ≤ 23, day exists in month)
   64  C04_row64_end_to_end_shaped (DTFSS_YbdHMS) — remains: calendarOK (hour ≤ 23, day exists in month)
   65  no end-to-end theorem (no capture theorem: `[^\n]+` before the stamp, the matcher backtracks from the end of the line)
   66  no end-to-end theorem (no capture theorem: `[^\n]+` before the stamp, the matcher backtracks from the end of the line)
   67  no end-to-end theorem (no capture theorem: `[^\n]+` before the stamp, the matcher backtracks from the end of the line)
   68  no end-to-end theorem (no capture theorem: `[^\n]+` before the stamp, the matcher backtracks from the end of the line)
   69  no end-to-end theorem (no capture theorem: `[^\n]+` before the stamp, the matcher backtracks from the end of the line)
   70  C04_row70_end_to_end_shaped (DTFSS_YmdHMSfz) — remains: calendarOK (hour ≤ 23, zone hh ≤ 23 / mm ≤ 59, day exists in month)
   71  C04_row71_end_to_end_shaped (DTFSS_YmdHMSfzc) — remains: calendarOK (hour ≤ 23, zone hh ≤ 23 / mm ≤ 59, day exists in month)
   72  C04_row72_end_to_end_shaped (DTFSS_YmdHMSfzp) — remains: calendarOK (hour ≤ 23, zone hh ≤ 23 / mm ≤ 59, day exists in month)
   73  C04_row73_end_to_end_shaped (DTFSS_YmdHMSfZ) — remains: calendarOK (hour ≤ 23, day exists in month)
   74  C04_row74_end_to_end_shaped (DTFSS_YmdHMSf) — remains: calendarOK (hour ≤ 23, day exists in month)
   75  C04_row75_end_to_end_shaped (DTFSS_YmdHMSz) — remains: calendarOK (hour ≤ 23, zone hh ≤ 23 / mm ≤ 59, day exists in month)
   76  C04_row76_end_to_end_shaped (DTFSS_YmdHMSzc) — remains: calendarOK (hour ≤ 23, zone hh ≤ 23 / mm ≤ 59, day exists in month)
   77  C04_row77_end_to_end_shaped (DTFSS_YmdHMSzp) — remains: calendarOK (hour ≤ 23, zone hh ≤ 23 / mm ≤ 59, day exists in month)
   78  C04_row78_end_to_end_shaped (DTFSS_YmdHMSZ) — remains: calendarOK (hour ≤ 23, day exists in month)
   79  C04_row79_end_to_end_shaped (DTFSS_YmdHMS) — remains: calendarOK (hour ≤ 23, day exists in month)
   80  C04_row80_end_to_end_shaped (DTFSS_BdHMSYZ) — remains: calendarOK (hour ≤ 23, day exists in month)
   81  C04_row81_end_to_end_shaped (DTFSS_BdHMSYz) — remains: calendarOK (hour ≤ 23, zone hh ≤ 23 / mm ≤ 59, day exists in month)
   82  C04_row82_end_to_end_shaped (DTFSS_BdHMSYzc) — remains: calendarOK (hour ≤ 23, zone hh ≤ 23 / mm ≤ 59, day exists in month)
   83  C04_row83_end_to_end_shaped (DTFSS_BdHMSYzp) — remains: calendarOK (hour ≤ 23, zone hh ≤ 23 / mm ≤ 59, day exists in month)
   84  C04_row84_end_to_end_shaped (DTFSS_BdHMSYZ) — remains: calendarOK (hour ≤ 23, day exists in month)
   85  C04_row85_end_to_end_shaped (DTFSS_BdHMSYz) — remains: calendarOK (hour ≤ 23, zone hh ≤ 23 / mm ≤ 59, day exists in month)
   86  C04_row86_end_to_end_shaped (DTFSS_BdHMSYzc) — remains: calendarOK (hour ≤ 23, zone hh ≤ 23 / mm ≤ 59, day exists in month)
   87  C04_row87_end_to_end_shaped (DTFSS_BdHMSYzp) — remains: calendarOK (hour ≤ 23, zone hh ≤ 23 / mm ≤ 59, day exists in month)
   88  C04_row88_end_to_end_shaped (DTFSS_BdHMSY) — remains: calendarOK (hour ≤ 23, day exists in month)
   89  C04_row89_end_to_end_shaped (DTFSS_BdHMSY) — remains: calendarOK (hour ≤ 23, day exists in month)
   90  C04_row90_end_to_end_shaped (DTFSS_YbdHMSzc) — remains: calendarOK (hour ≤ 23, zone hh ≤ 23 / mm ≤ 59, day exists in month)
   91  C04_row91_end_to_end_shaped (DTFSS_YbdHMSz) — remains: calendarOK (hour ≤ 23, zone hh ≤ 23 / mm ≤ 59, day exists in month)
   92  C04_row92_end_to_end_shaped (DTFSS_YbdHMSzp) — remains: calendarOK (hour ≤ 23, zone hh ≤ 23 / mm ≤ 59, day exists in month)
   93  C04_row93_end_to_end_shaped (DTFSS_YbdHMSZ) — remains: calendarOK (hour ≤ 23, day exists in month)
   94  C04_row94_end_to_end_shaped (DTFSS_YbdHMS) — remains: calendarOK (hour ≤ 23, day exists in month)
   95  C04_row95_end_to_end_shaped (DTFSS_YmdHM) — remains: calendarOK (hour ≤ 23, day exists in month)
   96  no end-to-end theorem (DTFSS_sf: epoch seconds are read as local time in the fallback zone, F26: `C04_epoch_row100_full_false`, `C04_epoch_rows_partial` in RegexE2ESpec)
   97  no end-to-end theorem (DTFSS_sf: epoch seconds are read as local time in the fallback zone, F26: `C04_epoch_row100_full_false`, `C04_epoch_rows_partial` in RegexE2ESpec)
   98  no end-to-end theorem (DTFSS_sf: epoch seconds are read as local time in the fallback zone, F26: `C04_epoch_row100_full_false`, `C04_epoch_rows_partial` in RegexE2ESpec)
   99  no end-to-end theorem (DTFSS_sf: epoch seconds are read as local time in the fallback zone, F26: `C04_epoch_row100_full_false`, `C04_epoch_rows_partial` in RegexE2ESpec)
  100  no end-to-end theorem (DTFSS_s: epoch seconds are read as local time in the fallback zone, F26: `C04_epoch_row100_full_false`, `C04_epoch_rows_partial` in RegexE2ESpec)
  101  C04_row101_end_to_end_shaped (DTFSS_YmdHMSfz) — remains: calendarOK (hour ≤ 23, zone hh ≤ 23 / mm ≤ 59, day exists in month)
  102  C04_row102_end_to_end_shaped (DTFSS_YmdHMSfZ) — remains: calendarOK (hour ≤ 23, day exists in month)
  103  C04_row103_end_to_end_shaped (DTFSS_YmdHMSfzc) — remains: calendarOK (hour ≤ 23, zone hh ≤ 23 / mm ≤ 59, day exists in month)
  104  C04_row104_end_to_end_shaped (DTFSS_YmdHMSfz) — remains: calendarOK (hour ≤ 23, zone hh ≤ 23 / mm ≤ 59, day exists in month)
  105  C04_row105_end_to_end_shaped (DTFSS_YmdHMSfzp) — remains: calendarOK (hour ≤ 23, zone hh ≤ 23 / mm ≤ 59, day exists in month)
  106  C04_row106_end_to_end_shaped (DTFSS_YmdHMSf) — remains: calendarOK (hour ≤ 23, day exists in month)
  107  C04_row107_end_to_end_shaped (DTFSS_YmdHMSZ) — remains: calendarOK (hour ≤ 23, day exists in month)
  108  C04_row108_end_to_end_shaped (DTFSS_YmdHMSzc) — remains: calendarOK (hour ≤ 23, zone hh ≤ 23 / mm ≤ 59, day exists in month)
  109  C04_row109_end_to_end_shaped (DTFSS_YmdHMSz) — remains: calendarOK (hour ≤ 23, zone hh ≤ 23 / mm ≤ 59, day exists in month)
  110  C04_row110_end_to_end_shaped (DTFSS_YmdHMSzp) — remains: calendarOK (hour ≤ 23, zone hh ≤ 23 / mm ≤ 59, day exists in month)
  111  C04_row111_end_to_end_shaped (DTFSS_YmdHMS) — remains: calendarOK (hour ≤ 23, day exists in month)
  112  C04_row112_end_to_end_shaped (DTFSS_YmdHMSfZ) — remains: calendarOK (hour ≤ 23, day exists in month)
  113  C04_row113_end_to_end_shaped (DTFSS_YmdHMSfzc) — remains: calendarOK (hour ≤ 23, zone hh ≤ 23 / mm ≤ 59, day exists in month)
  114  C04_row114_end_to_end_shaped (DTFSS_YmdHMSfz) — remains: calendarOK (hour ≤ 23, zone hh ≤ 23 / mm ≤ 59, day exists in month)
  115  C04_row115_end_to_end_shaped (DTFSS_YmdHMSfzp) — remains: calendarOK (hour ≤ 23, zone hh ≤ 23 / mm ≤ 59, day exists in month)
  116  C04_row116_end_to_end_shaped (DTFSS_YmdHMSf) — remains: calendarOK (hour ≤ 23, day exists in month)
  117  C04_row117_end_to_end_shaped (DTFSS_YmdHMSZ) — remains: calendarOK (hour ≤ 23, day exists in month)
  118  C04_row118_end_to_end_shaped (DTFSS_YmdHMSzc) — remains: calendarOK (hour ≤ 23, zone hh ≤ 23 / mm ≤ 59, day exists in month)
  119  C04_row119_end_to_end_shaped (DTFSS_YmdHMSz) — remains: calendarOK (hour ≤ 23, zone hh ≤ 23 / mm ≤ 59, day exists in month)
  120  C04_row120_end_to_end_shaped (DTFSS_YmdHMSzp) — remains: calendarOK (hour ≤ 23, zone hh ≤ 23 / mm ≤ 59, day exists in month)
  121  C04_row121_end_to_end_shaped (DTFSS_YmdHMS) — remains: calendarOK (hour ≤ 23, day exists in month)
  122  C04_row122_end_to_end_shaped (DTFSS_mdHMS) — remains: calendarOK (hour ≤ 23, day exists in month); hfill (no year in the text: 4-digit fill year)
  123  C04_row123_end_to_end_shaped (DTFSS_YmdHMSfz) — remains: calendarOK (hour ≤ 23, zone hh ≤ 23 / mm ≤ 59, day exists in month)
  124  C04_row124_end_to_end_shaped (DTFSS_YmdHMSfzc) — remains: calendarOK (hour ≤ 23, zone hh ≤ 23 / mm ≤ 59, day exists in month)
  125  C04_row125_end_to_end_shaped (DTFSS_YmdHMSfzp) — remains: calendarOK (hour ≤ 23, zone hh ≤ 23 / mm ≤ 59, day exists in month)
  126  C04_row126_end_to_end_shaped (DTFSS_YmdHMSfZ) — remains: calendarOK (hour ≤ 23, day exists in month)
  127  C04_row127_end_to_end_shaped (DTFSS_YmdHMSf) — remains: calendarOK (hour ≤ 23, day exists in month)
  128  C04_row128_end_to_end_shaped (DTFSS_YmdHMSfz) — remains: calendarOK (hour ≤ 23, zone hh ≤ 23 / mm ≤ 59, day exists in month)
  129  C04_row129_end_to_end_shaped (DTFSS_YmdHMSfzc) — remains: calendarOK (hour ≤ 23, zone hh ≤ 23 / mm ≤ 59, day exists in month)
  130  C04_row130_end_to_end_shaped (DTFSS_YmdHMSfzp) — remains: calendarOK (hour ≤ 23, zone hh ≤ 23 / mm ≤ 59, day exists in month)
  131  C04_row131_end_to_end_shaped (DTFSS_YmdHMSfZ) — remains: calendarOK (hour ≤ 23, day exists in month)
  132  C04_row132_end_to_end_shaped (DTFSS_YmdHMSf) — remains: calendarOK (hour ≤ 23, day exists in month)
  133  C04_row133_end_to_end_shaped (DTFSS_YmdHMSz) — remains: calendarOK (hour ≤ 23, zone hh ≤ 23 / mm ≤ 59, day exists in month)
  134  C04_row134_end_to_end_shaped (DTFSS_YmdHMSzc) — remains: calendarOK (hour ≤ 23, zone hh ≤ 23 / mm ≤ 59, day exists in month)
  135  C04_row135_end_to_end_shaped (DTFSS_YmdHMSzp) — remains: calendarOK (hour ≤ 23, zone hh ≤ 23 / mm ≤ 59, day exists in month)
  136  C04_row136_end_to_end_shaped (DTFSS_YmdHMSZ) — remains: calendarOK (hour ≤ 23, day exists in month)
  137  C04_row137_end_to_end_shaped (DTFSS_YmdHMS) — remains: calendarOK (hour ≤ 23, day exists in month)
  138  C04_row138_end_to_end_shaped (DTFSS_YmsdkMS) — remains: calendarOK (hour ≤ 23, day exists in month)
  139  C04_row139_end_to_end_shaped (DTFSS_BdHMSYz) — remains: calendarOK (hour ≤ 23, zone hh ≤ 23 / mm ≤ 59, day exists in month)
  140  C04_row140_end_to_end_shaped (DTFSS_BdHMSYzc) — remains: calendarOK (hour ≤ 23, zone hh ≤ 23 / mm ≤ 59, day exists in month)
  141  C04_row141_end_to_end_shaped (DTFSS_BdHMSYzp) — remains: calendarOK (hour ≤ 23, zone hh ≤ 23 / mm ≤ 59, day exists in month)
  142  C04_row142_end_to_end_shaped (DTFSS_BdHMSYZ) — remains: calendarOK (hour ≤ 23, day exists in month)
  143  C04_row143_end_to_end_shaped (DTFSS_BdHMSY) — remains: calendarOK (hour ≤ 23, day exists in month)
  144  C04_row144_end_to_end_shaped (DTFSS_BdHMSYz) — remains: calendarOK (hour ≤ 23, zone hh ≤ 23 / mm ≤ 59, day exists in month)
  145  C04_row145_end_to_end_shaped (DTFSS_BdHMSYzc) — remains: calendarOK (hour ≤ 23, zone hh ≤ 23 / mm ≤ 59, day exists in month)
  146  C04_row146_end_to_end_shaped (DTFSS_BdHMSYzp) — remains: calendarOK (hour ≤ 23, zone hh ≤ 23 / mm ≤ 59, day exists in month)
  147  C04_row147_end_to_end_shaped (DTFSS_BdHMSYZ) — remains: calendarOK (hour ≤ 23, day exists in month)
  148  C04_row148_end_to_end_shaped (DTFSS_BdHMSY) — remains: calendarOK (hour ≤ 23, day exists in month)
  149  C04_row149_end_to_end_shaped (DTFSS_BdHMSYZ) — remains: calendarOK (hour ≤ 23, day exists in month)
  150  C04_row150_end_to_end_shaped (DTFSS_BdHMSYzc) — remains: calendarOK (hour ≤ 23, zone hh ≤ 23 / mm ≤ 59, day exists in month)
  151  C04_row151_end_to_end_shaped (DTFSS_BdHMSYz) — remains: calendarOK (hour ≤ 23, zone hh ≤ 23 / mm ≤ 59, day exists in month)
  152  C04_row152_end_to_end_shaped (DTFSS_BdHMSYzp) — remains: calendarOK (hour ≤ 23, zone hh ≤ 23 / mm ≤ 59, day exists in month)
  153  C04_row153_end_to_end_shaped (DTFSS_BdHMSY) — remains: calendarOK (hour ≤ 23, day exists in month)
  154  C04_row154_end_to_end_shaped (DTFSS_BdHMS) — remains: calendarOK (hour ≤ 23, day exists in month); hfill (no year in the text: 4-digit fill year)
  155  C04_row155_end_to_end_shaped (DTFSS_BdHMSYZ) — remains: calendarOK (hour ≤ 23, day exists in month)
  156  C04_row156_end_to_end_shaped (DTFSS_BdHMSYzc) — remains: calendarOK (hour ≤ 23, zone hh ≤ 23 / mm ≤ 59, day exists in month)
  157  C04_row157_end_to_end_shaped (DTFSS_BdHMSYz) — remains: calendarOK (hour ≤ 23, zone hh ≤ 23 / mm ≤ 59, day exists in month)
  158  C04_row158_end_to_end_shaped (DTFSS_BdHMSYzp) — remains: calendarOK (hour ≤ 23, zone hh ≤ 23 / mm ≤ 59, day exists in month)
  159  C04_row159_end_to_end_shaped (DTFSS_BdHMSYZ) — remains: calendarOK (hour ≤ 23, day exists in month)
  160  C04_row160_end_to_end_shaped (DTFSS_BdHMSYzc) — remains: calendarOK (hour ≤ 23, zone hh ≤ 23 / mm ≤ 59, day exists in month)
  161  C04_row161_end_to_end_shaped (DTFSS_BdHMSYz) — remains: calendarOK (hour ≤ 23, zone hh ≤ 23 / mm ≤ 59, day exists in month)
  162  C04_row162_end_to_end_shaped (DTFSS_BdHMSYzp) — remains: calendarOK (hour ≤ 23, zone hh ≤ 23 / mm ≤ 59, day exists in month)
  163  C04_row163_end_to_end_shaped (DTFSS_BdHMSYZ) — remains: calendarOK (hour ≤ 23, day exists in month)
  164  C04_row164_end_to_end_shaped (DTFSS_BdHMSYzc) — remains: calendarOK (hour ≤ 23, zone hh ≤ 23 / mm ≤ 59, day exists in month)
  165  C04_row165_end_to_end_shaped (DTFSS_BdHMSYz) — remains: calendarOK (hour ≤ 23, zone hh ≤ 23 / mm ≤ 59, day exists in month)
  166  C04_row166_end_to_end_shaped (DTFSS_BdHMSYzp) — remains: calendarOK (hour ≤ 23, zone hh ≤ 23 / mm ≤ 59, day exists in month)
  167  C04_row167_end_to_end_shaped (DTFSS_BdHMSYZ) — remains: calendarOK (hour ≤ 23, day exists in month)
  168  C04_row168_end_to_end_shaped (DTFSS_BdHMSYzc) — remains: calendarOK (hour ≤ 23, zone hh ≤ 23 / mm ≤ 59, day exists in month)
  169  C04_row169_end_to_end_shaped (DTFSS_BdHMSYz) — remains: calendarOK (hour ≤ 23, zone hh ≤ 23 / mm ≤ 59, day exists in month)
  170  C04_row170_end_to_end_shaped (DTFSS_BdHMSYzp) — remains: calendarOK (hour ≤ 23, zone hh ≤ 23 / mm ≤ 59, day exists in month)
  171  C04_row171_end_to_end_shaped (DTFSS_BdHMSY) — remains: calendarOK (hour ≤ 23, day exists in month)
  172  C04_row172_end_to_end_shaped (DTFSS_BdHMS) — remains: calendarOK (hour ≤ 23, day exists in month); hfill (no year in the text: 4-digit fill year)
-/
import S4V.Props.RegexE2E

namespace S4V.Props.RegexE2E

/-- rows with a `C04_rowN_end_to_end_shaped` theorem -/
def shapedRows : List Nat := [0, 1, 2, 3, 4, 5, 6, 7, 8, 9, 10, 11, 12, 13, 14, 15, 16, 17, 18, 19, 20, 21, 22, 23, 24, 25, 26, 27, 28, 29, 30, 31, 32, 33, 34, 35, 36, 37, 38, 39, 40, 41, 42, 43, 44, 45, 46, 47, 48, 49, 50, 51, 52, 53, 54, 55, 56, 57, 58, 59, 60, 61, 62, 63, 64, 70, 71, 72, 73, 74, 75, 76, 77, 78, 79, 80, 81, 82, 83, 84, 85, 86, 87, 88, 89, 90, 91, 92, 93, 94, 95, 101, 102, 103, 104, 105, 106, 107, 108, 109, 110, 111, 112, 113, 114, 115, 116, 117, 118, 119, 120, 121, 122, 123, 124, 125, 126, 127, 128, 129, 130, 131, 132, 133, 134, 135, 136, 137, 138, 139, 140, 141, 142, 143, 144, 145, 146, 147, 148, 149, 150, 151, 152, 153, 154, 155, 156, 157, 158, 159, 160, 161, 162, 163, 164, 165, 166, 167, 168, 169, 170, 171, 172]
/-- date-time rows whose catalogue admits a word that is not well shaped / not in range (`catOK` false: no certificate) -/
def unshapedRows : List Nat := []
/-- shaped rows that keep the fill-year hypothesis (no year in the text) -/
def fillRows : List Nat := [23, 32, 33, 122, 154, 172]
/-- shaped rows that keep the length hypothesis -/
def shapedCutRows : List Nat := [5, 16, 20, 22, 33]

end S4V.Props.RegexE2E
