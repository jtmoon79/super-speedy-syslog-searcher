/-
Properties C08 (accounting records) and C10 (event-log records): the records
that pass the window are printed exactly once each, ordered by time value,
records with equal time value in file / enumeration order.

`C08_order` and `C10_order` rest on `fixedKey_ne` / `fixedKey_klt` and `evtxKey_ne` /
`evtxKey_klt`, which unfold the GENERATED constants `fixedKeyHasOffset` /
`evtxKeyHasIndex` (`S4V.Gen.Keys`). If the source stops putting the file offset /
enumeration index into the map key, the constants are regenerated as `false`, those
four become false statements and this file stops compiling
(`key_without_index_loses` shows the loss that would then occur).
-/
import S4V.Lemmas.SortDrain
import S4V.Props.FilterSpec

namespace S4V.Props.SortSpec
open S4V.Gen.Filter S4V.Gen.Keys S4V.Model.SortDrain S4V.Lemmas.SortDrain
open S4V.Props.FilterSpec (lexLe fixedKeep_iff tsPassFilters_iff)

theorem build_mem_of_distinct {xs : List (Key × Nat)} (h : (xs.map (·.1)).Nodup) :
    (build xs).Perm xs := by
  rw [build_eq_stableSort h]; exact stableSort_perm _ _

theorem build_mem_iff_of_distinct {xs : List (Key × Nat)} (h : (xs.map (·.1)).Nodup)
    (x : Key × Nat) : x ∈ build xs ↔ x ∈ xs :=
  (build_mem_of_distinct h).mem_iff

theorem build_count_of_distinct {xs : List (Key × Nat)} (h : (xs.map (·.1)).Nodup)
    (x : Key × Nat) : (build xs).count x = xs.count x :=
  (build_mem_of_distinct h).count_eq x

-- out-of-order keys, distinct: sorted, complete
example :
    let xs : List (Key × Nat) := [((5, 0, 2), 20), ((3, 1, 0), 21), ((3, 1, 7), 22), ((-4, 9, 0), 23)]
    (xs.map (·.1)).Nodup
    ∧ build xs = [((-4, 9, 0), 23), ((3, 1, 0), 21), ((3, 1, 7), 22), ((5, 0, 2), 20)]
    ∧ build xs = stableSort (·.1) xs := by decide +kernel
-- an equal key replaces (the distinctness hypothesis is needed), the result is still strictly sorted
example :
    let xs : List (Key × Nat) := [((5, 0, 0), 20), ((3, 1, 0), 21), ((5, 0, 0), 22)]
    ¬ (xs.map (·.1)).Nodup
    ∧ build xs = [((3, 1, 0), 21), ((5, 0, 0), 22)]
    ∧ stableSort (·.1) xs = [((3, 1, 0), 21), ((5, 0, 0), 20), ((5, 0, 0), 22)] := by decide +kernel

/-- The pipeline both readers share: entries `(key x, idx x)` of a list in which `idx` increases go
into the map, the map is drained. `hne` (records with different index get different keys) is what
keeps the map from replacing an entry; `hklt` (among such records the key orders like `tkey`, the
later one never first) is what makes the index in the key a mere tie-breaker. -/
theorem drain_build_order {α : Type} {idx : α → Nat} {key tkey : α → Key} {l : List α}
    (hne : ∀ {r s}, idx r < idx s → key r ≠ key s)
    (hklt : ∀ {y x}, idx y < idx x → klt (key x) (key y) = klt (tkey x) (tkey y))
    (h : l.Pairwise (fun r s => idx r < idx s)) :
    drain (build (l.map fun r => (key r, idx r))) = (stableSort tkey l).map idx := by
  have hnd : ((l.map fun r => (key r, idx r)).map (·.1)).Nodup := by
    rw [List.map_map, List.Nodup, List.pairwise_map]
    exact h.imp hne
  -- the map holds the sort by the full key, which is the sort by `tkey`
  rw [drain, build_eq_stableSort hnd, stableSort_map, List.map_map,
    stableSort_congr (R := fun y x => idx y < idx x) (fun _ _ => hklt) h]
  rfl

theorem fixedKey_ne {r s : Rec} (h : r.idx < s.idx) : fixedKey r ≠ fixedKey s := by
  simp [fixedKey, fixedKeyHasOffset]
  omega

theorem fixedKey_klt {y x : Rec} (h : y.idx < x.idx) :
    klt (fixedKey x) (fixedKey y) = klt (x.tv.1, x.tv.2, 0) (y.tv.1, y.tv.2, 0) := by
  rw [Bool.eq_iff_iff, klt_iff, klt_iff]
  simp [fixedKey, fixedKeyHasOffset]
  omega

/-- C08: the print order is: the kept records, stably sorted by time value -/
theorem C08_order {recs : List Rec} (h : recs.Pairwise (fun r s => r.idx < s.idx))
    (a b : Option (Int × Int)) :
    fixedPrint recs a b =
      (stableSort (fun r => (r.tv.1, r.tv.2, 0)) (recs.filter (fixedKeep a b))).map (·.idx) :=
  drain_build_order fixedKey_ne fixedKey_klt (h.sublist List.filter_sublist)

-- out-of-order times, a tie (idx 8 and 24), a null record (idx 16), a window with one record on
-- each bound (idx 8/24 on the lower, idx 32 on the upper) and one outside (idx 40, idx 48)
example :
    let recs : List Rec := [⟨(5, 0), 0⟩, ⟨(3, 1), 8⟩, ⟨(0, 0), 16⟩, ⟨(3, 1), 24⟩, ⟨(8, 0), 32⟩,
      ⟨(3, 0), 40⟩, ⟨(8, 1), 48⟩, ⟨(4, 999999), 56⟩]
    recs.Pairwise (fun r s => r.idx < s.idx)
    ∧ fixedPrint recs (some (3, 1)) (some (8, 0)) = [8, 24, 56, 0, 32]
    ∧ (stableSort (fun r : Rec => (r.tv.1, r.tv.2, 0))
        (recs.filter (fixedKeep (some (3, 1)) (some (8, 0))))).map (·.idx) = [8, 24, 56, 0, 32]
    ∧ fixedPrint recs none none = [40, 8, 24, 56, 0, 32, 48] := by decide +kernel

theorem evtxKey_ne {r s : Ev} (h : r.idx < s.idx) : evtxKey r ≠ evtxKey s := by
  simp [evtxKey, evtxKeyHasIndex]
  omega

theorem evtxKey_klt {y x : Ev} (h : y.idx < x.idx) :
    klt (evtxKey x) (evtxKey y) = klt (x.ts, 0, 0) (y.ts, 0, 0) := by
  rw [Bool.eq_iff_iff, klt_iff, klt_iff]
  simp [evtxKey, evtxKeyHasIndex]
  omega

/-- C10: the print order is: the events within the window, stably sorted by creation time -/
theorem C10_order {evs : List Ev} (h : evs.Pairwise (fun r s => r.idx < s.idx))
    (a b : Option Int) :
    evtxPrint evs a b =
      (stableSort (fun e => (e.ts, 0, 0))
        (evs.filter fun e => tsPassFilters e.ts a b == .InRange)).map (·.idx) :=
  drain_build_order evtxKey_ne evtxKey_klt (h.sublist List.filter_sublist)

-- out-of-order times, a three-way tie (idx 1, 3, 4), both bounds hit (10 and 30), two outside
example :
    let evs : List Ev := [⟨30, 0⟩, ⟨20, 1⟩, ⟨10, 2⟩, ⟨20, 3⟩, ⟨20, 4⟩, ⟨9, 5⟩, ⟨31, 6⟩, ⟨-5, 7⟩]
    evs.Pairwise (fun r s => r.idx < s.idx)
    ∧ evtxPrint evs (some 10) (some 30) = [2, 1, 3, 4, 0]
    ∧ (stableSort (fun e : Ev => (e.ts, 0, 0))
        (evs.filter fun e => tsPassFilters e.ts (some 10) (some 30) == .InRange)).map (·.idx)
        = [2, 1, 3, 4, 0]
    ∧ evtxPrint evs none none = [7, 5, 2, 1, 3, 4, 0, 6] := by decide +kernel

/-- the accounting-record pipeline with the time value alone as map key -/
def buildNoIdx (recs : List Rec) (a b : Option (Int × Int)) : List Nat :=
  drain (build ((recs.filter (fixedKeep a b)).map fun r => ((r.tv.1, r.tv.2, 0), r.idx)))

/-- with the time value alone as key, of two records with the same time value only the later one
survives: three records in, two out -/
theorem key_without_index_loses :
    let recs : List Rec := [⟨(5, 0), 0⟩, ⟨(3, 1), 8⟩, ⟨(5, 0), 16⟩]
    recs.Pairwise (fun r s => r.idx < s.idx)
    ∧ (recs.filter (fixedKeep none none)).length = 3
    ∧ buildNoIdx recs none none = [8, 16]
    ∧ (buildNoIdx recs none none).length = 2
    ∧ fixedPrint recs none none = [8, 0, 16] := by decide +kernel

/-- the same for event-log records -/
def evtxNoIdx (evs : List Ev) (a b : Option Int) : List Nat :=
  drain (build ((evs.filter fun e => tsPassFilters e.ts a b == .InRange).map
    fun e => ((e.ts, 0, 0), e.idx)))

theorem evtx_key_without_index_loses :
    let evs : List Ev := [⟨20, 0⟩, ⟨10, 1⟩, ⟨20, 2⟩]
    evtxNoIdx evs none none = [1, 2] ∧ evtxPrint evs none none = [1, 0, 2] := by decide +kernel

def tvOf (recs : List Rec) (i : Nat) : Int × Int :=
  match recs.find? (fun r => r.idx == i) with
  | some r => r.tv
  | none => (0, 0)

theorem tvOf_idx {recs : List Rec} (h : recs.Pairwise (fun r s => r.idx < s.idx)) {key : Rec → Key}
    {p : Rec → Bool} {r : Rec} (hr : r ∈ stableSort key (recs.filter p)) : tvOf recs r.idx = r.tv := by
  rw [tvOf, Lemmas.Lists.find?_idx h (List.mem_filter.1 (mem_stableSort.1 hr)).1]

/-- C08: every record that is not null and lies within the window is printed exactly once, and
nothing else is printed -/
theorem C08_each_once {recs : List Rec} (h : recs.Pairwise (fun r s => r.idx < s.idx))
    (a b : Option (Int × Int)) :
    (fixedPrint recs a b).Perm ((recs.filter (fixedKeep a b)).map (·.idx)) := by
  rw [C08_order h]
  exact (stableSort_perm _ _).map _

/-- C08, membership form, with the filter spelled out -/
theorem C08_mem_iff {recs : List Rec} (h : recs.Pairwise (fun r s => r.idx < s.idx))
    (a b : Option (Int × Int)) (i : Nat) :
    i ∈ fixedPrint recs a b ↔
      ∃ r ∈ recs, r.idx = i ∧ r.tv ≠ (0, 0) ∧ (∀ f, a = some f → lexLe f r.tv)
        ∧ (∀ f, b = some f → lexLe r.tv f) := by
  rw [(C08_each_once h a b).mem_iff]
  simp only [List.mem_map, List.mem_filter, fixedKeep_iff]
  constructor
  · rintro ⟨r, ⟨hr, hk⟩, e⟩; exact ⟨r, hr, e, hk⟩
  · rintro ⟨r, hr, e, hk⟩; exact ⟨r, ⟨hr, hk⟩, e⟩

theorem C08_nodup {recs : List Rec} (h : recs.Pairwise (fun r s => r.idx < s.idx))
    (a b : Option (Int × Int)) : (fixedPrint recs a b).Nodup := by
  rw [(C08_each_once h a b).nodup_iff, List.Nodup, List.pairwise_map]
  exact (h.sublist List.filter_sublist).imp (fun h => Nat.ne_of_lt h)

/-- C08: the time values along the output never decrease -/
theorem C08_time_sorted {recs : List Rec} (h : recs.Pairwise (fun r s => r.idx < s.idx))
    (a b : Option (Int × Int)) :
    ((fixedPrint recs a b).map (tvOf recs)).Pairwise lexLe := by
  rw [C08_order h, List.map_map, List.pairwise_map]
  refine (stableSort_kle _ _).imp_of_mem fun {r s} hr hs hle => ?_
  rw [Function.comp, Function.comp, tvOf_idx h hr, tvOf_idx h hs]
  rw [klt_false_iff] at hle
  dsimp only at hle
  unfold lexLe
  omega

/-- C08: records with equal time value are printed in file order (for any two, hence in particular
for two adjacent ones) -/
theorem C08_ties_file_order {recs : List Rec} (h : recs.Pairwise (fun r s => r.idx < s.idx))
    (a b : Option (Int × Int)) :
    (fixedPrint recs a b).Pairwise (fun i j => tvOf recs i = tvOf recs j → i < j) := by
  rw [C08_order h, List.pairwise_map]
  refine (stableSort_stable _ (h.sublist List.filter_sublist)).imp_of_mem fun {r s} hr hs hst e => hst ?_
  rw [tvOf_idx h hr, tvOf_idx h hs] at e
  rw [e]

theorem C08_ties_file_order_adjacent {recs : List Rec}
    (h : recs.Pairwise (fun r s => r.idx < s.idx)) (a b : Option (Int × Int))
    (pre post : List Nat) (i j : Nat) (hout : fixedPrint recs a b = pre ++ i :: j :: post)
    (htie : tvOf recs i = tvOf recs j) : i < j := by
  have := C08_ties_file_order h a b
  rw [hout, List.pairwise_append] at this
  exact (List.pairwise_cons.1 this.2.1).1 j List.mem_cons_self htie

example :
    let recs : List Rec := [⟨(5, 0), 0⟩, ⟨(3, 1), 8⟩, ⟨(0, 0), 16⟩, ⟨(3, 1), 24⟩, ⟨(8, 0), 32⟩,
      ⟨(3, 0), 40⟩, ⟨(8, 1), 48⟩, ⟨(4, 999999), 56⟩]
    let out := fixedPrint recs (some (3, 1)) (some (8, 0))
    recs.Pairwise (fun r s => r.idx < s.idx)
    ∧ out = [8, 24, 56, 0, 32]
    ∧ (recs.filter (fixedKeep (some (3, 1)) (some (8, 0)))).map (·.idx) = [0, 8, 24, 32, 56]
    ∧ out.map (tvOf recs) = [(3, 1), (3, 1), (4, 999999), (5, 0), (8, 0)]
    ∧ (out.map (tvOf recs)).Pairwise lexLe
    ∧ out.Pairwise (fun i j => tvOf recs i = tvOf recs j → i < j) := by decide +kernel

def tsOf (evs : List Ev) (i : Nat) : Int :=
  match evs.find? (fun e => e.idx == i) with
  | some e => e.ts
  | none => 0

theorem tsOf_idx {evs : List Ev} (h : evs.Pairwise (fun r s => r.idx < s.idx)) {key : Ev → Key}
    {p : Ev → Bool} {e : Ev} (he : e ∈ stableSort key (evs.filter p)) : tsOf evs e.idx = e.ts := by
  rw [tsOf, Lemmas.Lists.find?_idx h (List.mem_filter.1 (mem_stableSort.1 he)).1]

/-- C10: every event within the window is printed exactly once, and nothing else is printed -/
theorem C10_each_once {evs : List Ev} (h : evs.Pairwise (fun r s => r.idx < s.idx))
    (a b : Option Int) :
    (evtxPrint evs a b).Perm
      ((evs.filter fun e => tsPassFilters e.ts a b == .InRange).map (·.idx)) := by
  rw [C10_order h]
  exact (stableSort_perm _ _).map _

/-- C10, membership form, with the filter spelled out -/
theorem C10_mem_iff {evs : List Ev} (h : evs.Pairwise (fun r s => r.idx < s.idx))
    (a b : Option Int) (i : Nat) :
    i ∈ evtxPrint evs a b ↔
      ∃ e ∈ evs, e.idx = i ∧ (∀ x, a = some x → x ≤ e.ts) ∧ (∀ y, b = some y → e.ts ≤ y) := by
  rw [(C10_each_once h a b).mem_iff]
  simp only [List.mem_map, List.mem_filter, beq_iff_eq, tsPassFilters_iff]
  constructor
  · rintro ⟨r, ⟨hr, hk⟩, e⟩; exact ⟨r, hr, e, hk⟩
  · rintro ⟨r, hr, e, hk⟩; exact ⟨r, ⟨hr, hk⟩, e⟩

theorem C10_nodup {evs : List Ev} (h : evs.Pairwise (fun r s => r.idx < s.idx))
    (a b : Option Int) : (evtxPrint evs a b).Nodup := by
  rw [(C10_each_once h a b).nodup_iff, List.Nodup, List.pairwise_map]
  exact (h.sublist List.filter_sublist).imp (fun h => Nat.ne_of_lt h)

/-- C10: the creation times along the output never decrease -/
theorem C10_time_sorted {evs : List Ev} (h : evs.Pairwise (fun r s => r.idx < s.idx))
    (a b : Option Int) :
    ((evtxPrint evs a b).map (tsOf evs)).Pairwise (· ≤ ·) := by
  rw [C10_order h, List.map_map, List.pairwise_map]
  refine (stableSort_kle _ _).imp_of_mem fun {r s} hr hs hle => ?_
  rw [Function.comp, Function.comp, tsOf_idx h hr, tsOf_idx h hs]
  rw [klt_false_iff] at hle
  dsimp only at hle
  omega

/-- C10: events with equal creation time are printed in enumeration order -/
theorem C10_ties_enum_order {evs : List Ev} (h : evs.Pairwise (fun r s => r.idx < s.idx))
    (a b : Option Int) :
    (evtxPrint evs a b).Pairwise (fun i j => tsOf evs i = tsOf evs j → i < j) := by
  rw [C10_order h, List.pairwise_map]
  refine (stableSort_stable _ (h.sublist List.filter_sublist)).imp_of_mem fun {r s} hr hs hst e => hst ?_
  rw [tsOf_idx h hr, tsOf_idx h hs] at e
  rw [e]

theorem C10_ties_enum_order_adjacent {evs : List Ev}
    (h : evs.Pairwise (fun r s => r.idx < s.idx)) (a b : Option Int)
    (pre post : List Nat) (i j : Nat) (hout : evtxPrint evs a b = pre ++ i :: j :: post)
    (htie : tsOf evs i = tsOf evs j) : i < j := by
  have := C10_ties_enum_order h a b
  rw [hout, List.pairwise_append] at this
  exact (List.pairwise_cons.1 this.2.1).1 j List.mem_cons_self htie

example :
    let evs : List Ev := [⟨30, 0⟩, ⟨20, 1⟩, ⟨10, 2⟩, ⟨20, 3⟩, ⟨20, 4⟩, ⟨9, 5⟩, ⟨31, 6⟩, ⟨-5, 7⟩]
    let out := evtxPrint evs (some 10) (some 30)
    evs.Pairwise (fun r s => r.idx < s.idx)
    ∧ out = [2, 1, 3, 4, 0]
    ∧ (evs.filter fun e => tsPassFilters e.ts (some 10) (some 30) == .InRange).map (·.idx)
        = [0, 1, 2, 3, 4]
    ∧ out.map (tsOf evs) = [10, 20, 20, 20, 30]
    ∧ (out.map (tsOf evs)).Pairwise (· ≤ ·)
    ∧ out.Pairwise (fun i j => tsOf evs i = tsOf evs j → i < j) := by decide +kernel

end S4V.Props.SortSpec
