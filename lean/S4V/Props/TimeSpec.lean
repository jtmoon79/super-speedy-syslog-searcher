/-
C04 — timestamps are interpreted as the instant they denote (post-capture pipeline).

Over `S4V.Model.DtParse` (mirror of `captures_to_buffer_bytes` + `datetime_parse_from_str`)
and the tables regenerated from src/data/datetime.rs (`S4V.Gen.TimeTables`).

Tables: facts decided over the generated rows, sets, zone table and month table by `decide +kernel`
(F27, `May.`: `C04_may_dot`, with the table before the repair as counter-model). The pipeline, in two steps: normalise
(`C04_day_forms` … `C04_tz_ambiguous`: each notation a regex captures is rewritten to the canonical piece of the buffer) and
parse (`C04_normalise_parse`: canonical pieces parse to `instantNs` of the denoted fields; zone-less sets and `_fill` read the
date-time in the fallback zone). Epoch sets: FINDING F26, the instant is shifted by the fallback offset (`C04_epoch_shifted`,
`C04_epoch_full_false`).
The numeric zone notations `±HHMM`, `±HH:MM`, `±HH`, U+2212 are checked here on instances. That they scan to their
offset for all digits (minute tens up to `5`) is `S4V.Lemmas.RegexZones.tzScan_hm`, `S4V.Lemmas.RegexE2E.tzScan_h` (`tz_scan_all`); that
`offString` scans for every whole-minute fallback offset is `RegexZones.fb_piece`, `RegexE2E.offString_scan`.
-/
import S4V.Lemmas.DtParse
import S4V.Lemmas.Time

namespace S4V.Props.TimeSpec
open S4V.Gen.TimeTables S4V.Model.Time S4V.Model.DtParse S4V.Lemmas.DtParse

theorem C04_range_start_zero : rows.all (fun r => r.rangeStart == 0) = true := by decide +kernel

theorem C04_rows_count : rows.length = 173 ∧ allDTFSS.length = 37 := by decide +kernel

theorem C04_rows_sets : rows.all (fun r => allDTFSS.contains (r.dtfsName, r.dtfs)) = true := by decide +kernel

theorem C04_sets_consistent : ∀ p ∈ allDTFSS, Consistent p.2 := by decide +kernel

/-- offset in seconds denoted by a `±HH:MM` value -/
def tzValueOffset (v : Bytes) : Option Int :=
  match v with
  | [s, h1, h2, 58, m1, m2] =>
    if (s = 43 || s = 45) && isDigit h1 && isDigit h2 && isDigit m1 && isDigit m2 then
      let a : Int := numVal [h1, h2] * 3600 + numVal [m1, m2] * 60
      if numVal [m1, m2] ≤ 59 ∧ a ≤ 14 * 3600 then some (if s = 45 then -a else a) else none
    else none
  | _ => none

def lowerB (b : Bytes) : Bytes := b.map fun c => if 65 ≤ c && c ≤ 90 then c + 32 else c
def upperB (b : Bytes) : Bytes := b.map fun c => if 97 ≤ c && c ≤ 122 then c - 32 else c

def tzEntryOK (kv : Bytes × Bytes) : Bool :=
  (kv.2.isEmpty ||
    match tzValueOffset kv.2 with
    | some o => tzScan false kv.2 == some (o, []) && tzScan true kv.2 == some (o, []) &&
        kv.2.all (fun b => b != 32 && b != 9 && b != 10 && b != 13)
    | none => false) &&
  -- both case variants of the key are present and denote the same offset (or are both ambiguous)
  (lookup tzTableB (lowerB kv.1)).map tzValueOffset == some (tzValueOffset kv.2) &&
  (lookup tzTableB (upperB kv.1)).map tzValueOffset == some (tzValueOffset kv.2)

theorem lookup_of_nodup : ∀ {t : List (Bytes × Bytes)} {k v : Bytes}, (t.map (·.1)).Nodup → (k, v) ∈ t → lookup t k = some v
  | (a, b) :: r, k, v, hn, hm => by
    obtain ⟨ha, hr⟩ := List.nodup_cons.mp hn
    simp only [lookup]
    rcases List.mem_cons.mp hm with e | hm'
    · cases e; rw [if_pos rfl]
    · rw [if_neg (fun e => ha (by subst e; exact List.mem_map.mpr ⟨_, hm', rfl⟩)), lookup_of_nodup hr hm']

theorem zip_partner {α β : Type} : ∀ {as : List α} {bs : List β}, as.length = bs.length →
    (∀ a ∈ as, ∃ b, (a, b) ∈ as.zip bs) ∧ (∀ b ∈ bs, ∃ a, (a, b) ∈ as.zip bs)
  | [], [], _ => ⟨nofun, nofun⟩
  | x :: as, y :: bs, h => by
    obtain ⟨l, r⟩ := zip_partner (as := as) (bs := bs) (by simpa using h)
    constructor
    · intro a ha
      rcases List.mem_cons.mp ha with rfl | ha
      · exact ⟨y, by simp⟩
      · obtain ⟨b, hb⟩ := l a ha; exact ⟨b, by simp [hb]⟩
    · intro b hb
      rcases List.mem_cons.mp hb with rfl | hb
      · exact ⟨x, by simp⟩
      · obtain ⟨a, ha⟩ := r b hb; exact ⟨a, by simp [ha]⟩

/-- a key as one number (its bytes as base-257 digits `1..256`): the kernel compares two numerals
in one step, two byte lists in several hundred -/
private def keyNum : Bytes → Nat
  | [] => 0
  | c :: r => c.toNat + 1 + 257 * keyNum r

/-- pairwise different, by `Nat.beq` (the `Decidable` instance of `List.Nodup` costs the kernel three times as much) -/
private def nodupN : List Nat → Bool
  | [] => true
  | a :: r => r.all (fun b => !Nat.beq a b) && nodupN r

private theorem nodupN_sound : ∀ {l : List Nat}, nodupN l = true → l.Nodup
  | [], _ => List.nodup_nil
  | a :: r, h => by
    simp only [nodupN, Bool.and_eq_true, List.all_eq_true, Bool.not_eq_true'] at h
    exact List.nodup_cons.mpr ⟨fun hm => by simpa using h.1 a hm, nodupN_sound h.2⟩

theorem tz_keys_nodup : (tzTableB.map (·.1)).Nodup := by
  have : ((tzTableB.map (·.1)).map keyNum).Nodup := nodupN_sound (by decide +kernel)
  exact List.Pairwise.of_map keyNum (fun _ _ h e => h (congrArg keyNum e)) this

def azost : Bytes := [97, 122, 111, 115, 116]

/-- The table is the 196 upper-case entries followed by the same entries with lower-case keys: `p.1` and `p.2` are the two
entries of one zone. Their values denote the same offset, and are the same text except for `azost`. -/
def pairOK (p : (Bytes × Bytes) × (Bytes × Bytes)) : Bool :=
  p.2.1 == lowerB p.1.1 && lowerB p.2.1 == p.2.1 && p.1.1 == upperB p.2.1 && upperB p.1.1 == p.1.1 &&
    tzValueOffset p.2.2 == tzValueOffset p.1.2 && ((p.2.2 != p.1.2) == (p.2.1 == azost))

/-- No look-up is evaluated: the keys are pairwise different (`tz_keys_nodup`), so a look-up finds the entry that one pass
over the 196 pairs shows to be there. -/
theorem tz_case_variants {kv : Bytes × Bytes} (hkv : kv ∈ tzTableB) :
    ∃ vl vu, lookup tzTableB (lowerB kv.1) = some vl ∧ lookup tzTableB (upperB kv.1) = some vu ∧
      tzValueOffset vl = tzValueOffset kv.2 ∧ tzValueOffset vu = tzValueOffset kv.2 ∧
      (vl != kv.2 || vu != kv.2) = (lowerB kv.1 == azost) := by
  obtain ⟨pl, pr⟩ := zip_partner (as := tzTableB.take 196) (bs := tzTableB.drop 196) (by decide +kernel)
  have key : ∀ u l, (u, l) ∈ (tzTableB.take 196).zip (tzTableB.drop 196) →
      lookup tzTableB l.1 = some l.2 ∧ lookup tzTableB u.1 = some u.2 ∧ pairOK (u, l) = true := fun u l h =>
    have hm := List.of_mem_zip h
    ⟨lookup_of_nodup tz_keys_nodup (List.mem_of_mem_drop hm.2), lookup_of_nodup tz_keys_nodup (List.mem_of_mem_take hm.1),
      List.all_eq_true.mp (by decide +kernel : ((tzTableB.take 196).zip (tzTableB.drop 196)).all pairOK = true) _ h⟩
  rw [← List.take_append_drop 196 tzTableB] at hkv
  rcases List.mem_append.mp hkv with h | h
  · obtain ⟨l, hz⟩ := pl kv h
    obtain ⟨h1, h2, hp⟩ := key kv l hz
    simp only [pairOK, Bool.and_eq_true, beq_iff_eq, and_assoc] at hp
    obtain ⟨e1, -, -, e4, e5, e6⟩ := hp
    exact ⟨l.2, kv.2, by rw [← e1, h1], by rw [e4, h2], e5, rfl, by rw [← e1, ← e6]; simp⟩
  · obtain ⟨u, hz⟩ := pr kv h
    obtain ⟨h1, h2, hp⟩ := key u kv hz
    simp only [pairOK, Bool.and_eq_true, beq_iff_eq, and_assoc] at hp
    obtain ⟨-, e2, e3, -, e5, e6⟩ := hp
    exact ⟨kv.2, u.2, by rw [e2, h1], by rw [← e3, h2], rfl, e5.symm, by rw [e2, ← e6]; simp [bne_comm]⟩

/-- what `tzEntryOK` asks of the value alone -/
def tzValueOK (v : Bytes) : Bool :=
  v.isEmpty ||
    match tzValueOffset v with
    | some o => tzScan false v == some (o, []) && tzScan true v == some (o, []) &&
        v.all (fun b => b != 32 && b != 9 && b != 10 && b != 13)
    | none => false

/-- every non-empty value of `MAP_TZZ_TO_TZz` is `±HH:MM` with |offset| ≤ 14 h and scans, as `%z` / `%:z` and as `%#z`, to
that offset; the upper-case and the lower-case key of a zone denote the same offset -/
theorem C04_tz_table : tzTableB.all tzEntryOK = true := by
  have hv : ∀ kv ∈ tzTableB, tzValueOK kv.2 = true := by decide +kernel
  rw [List.all_eq_true]
  intro kv hkv
  obtain ⟨vl, vu, hl, hu, h1, h2, -⟩ := tz_case_variants hkv
  simp only [tzEntryOK, hl, hu, Option.map_some, h1, h2, BEq.rfl, Bool.and_true]
  exact hv kv hkv

/-- the only textual difference between the case variants: `AZOST` is `+00:00`, `azost` is `-00:00` -/
theorem C04_tz_case_text :
    tzTableB.filter (fun kv => lookup tzTableB (lowerB kv.1) != some kv.2 || lookup tzTableB (upperB kv.1) != some kv.2)
      = [([65, 90, 79, 83, 84], [43, 48, 48, 58, 48, 48]), ([97, 122, 111, 115, 116], [45, 48, 48, 58, 48, 48])] := by
  refine (List.filter_congr fun kv hkv => ?_).trans
    (by decide +kernel : tzTableB.filter (fun kv => lowerB kv.1 == azost) = _)
  obtain ⟨vl, vu, hl, hu, -, -, h⟩ := tz_case_variants hkv
  rw [hl, hu, ← h]
  rfl

theorem C04_tz_table_size : tzTableB.length = 392 ∧ tzTable.length = 392 := by decide +kernel

def monthSpec : List (Bytes × Nat) :=
  [("jan".toUTF8.toList, 1), ("feb".toUTF8.toList, 2), ("mar".toUTF8.toList, 3), ("apr".toUTF8.toList, 4),
   ("may".toUTF8.toList, 5), ("jun".toUTF8.toList, 6), ("jul".toUTF8.toList, 7), ("aug".toUTF8.toList, 8),
   ("sep".toUTF8.toList, 9), ("oct".toUTF8.toList, 10), ("nov".toUTF8.toList, 11), ("dec".toUTF8.toList, 12)]

/-- the month a name denotes: by its first three letters, case-insensitively -/
def monthOfName (name : Bytes) : Option Nat :=
  (monthSpec.find? fun p => p.1 = (lowerB name).take 3).map (·.2)

def monthEntryOK (kv : Bytes × Bytes) : Bool :=
  match monthOfName kv.1 with
  | some m => kv.2 == dec2 m
  | none => false

theorem C04_month_table : monthNamesB.all monthEntryOK = true := by decide +kernel

theorem C04_month_table_size : monthNamesB.length = 105 ∧ monthNames.length = 105 := by decide +kernel

def capitalB (b : Bytes) : Bytes :=
  match b with
  | [] => []
  | c :: r => upperB [c] ++ r

/-- the six written forms of an abbreviation the month regex `CGP_MONTHb` accepts
(`(jan|Jan|JAN|…)[\.]?`): lower / Capitalised / UPPER, each with and without a trailing dot -/
def abbrevForms (abbr : Bytes) : List Bytes :=
  [abbr, capitalB abbr, upperB abbr, abbr ++ [46], capitalB abbr ++ [46], upperB abbr ++ [46]]

/-- every form of every abbreviation has an arm and maps to its month — `may.`/`May.`/`MAY.` included
(72 forms) -/
theorem C04_month_abbrev_complete :
    monthSpec.all (fun p => (abbrevForms p.1).all fun f => lookup monthNamesB f == some (dec2 p.2)) = true := by
  decide +kernel

/-- F27, repaired in /repo b9821264. `May.` is matched by `CGP_MONTHb` (`(…|may|May|MAY|…)[\.]?`) and
`month_bB_to_month_m_bytes` has the arm `b"may." | b"May." | b"MAY." => MONTH_05_m`: the month piece is `05` like for
every other dotted abbreviation. Before the repair the arm was missing and the match fell to `data_ => panic!`. -/
theorem C04_may_dot (set : DTFSSet) (c : Captures)
    (hm : set.month = .b ∨ set.month = .B)
    (hc : c.month = some [77, 97, 121, 46] ∨ c.month = some [109, 97, 121, 46] ∨ c.month = some [77, 65, 89, 46]) :
    monthPiece set.month c = some (dec2 5) := by
  rcases hm with hm | hm <;> rcases hc with hc | hc | hc <;> rw [hm] <;>
    simp only [monthPiece, hc, Option.bind_some] <;> decide +kernel

example : ("May.".toUTF8.toList, "may.".toUTF8.toList, "MAY.".toUTF8.toList)
    = (([77, 97, 121, 46], [109, 97, 121, 46], [77, 65, 89, 46]) : Bytes × Bytes × Bytes) := by decide +kernel

/-- the hypotheses of `C04_may_dot` are satisfiable (the RFC 3164-with-year set, capture `May.`) -/
example : monthPiece DTFSS_BdHMSY.month { month := some [77, 97, 121, 46] } = some [48, 53] := by decide +kernel

/-- `may.`, `May.`, `MAY.` -/
def mayDotNames : List Bytes := [[109, 97, 121, 46], [77, 97, 121, 46], [77, 65, 89, 46]]

/-- Counter-model: the month table as it was before /repo b9821264, i.e. without the three dotted May names. -/
def monthNamesB_beforeRepair : List (Bytes × Bytes) :=
  monthNamesB.filter fun kv => !mayDotNames.contains kv.1

/-- with that table (102 names) the look-up of `May.` / `may.` / `MAY.` fails — the code took the
`data_ => panic!` arm — while every other name is looked up as in `monthNamesB` -/
theorem C04_may_dot_before_repair :
    monthNamesB_beforeRepair.length = 102 ∧
    lookup monthNamesB_beforeRepair [77, 97, 121, 46] = none ∧
    lookup monthNamesB_beforeRepair [109, 97, 121, 46] = none ∧
    lookup monthNamesB_beforeRepair [77, 65, 89, 46] = none ∧
    (monthNamesB.all fun kv => mayDotNames.contains kv.1 ||
        lookup monthNamesB_beforeRepair kv.1 == lookup monthNamesB kv.1) = true := by
  decide +kernel

/-- **C04 (normalise ∘ parse), date-time sets.** For every generated set of the date-time family:
if the buffer pieces are the canonical ones for year `Y`, month `M`, day `D`, `H:N:S`, `NS`
nanoseconds and zone offset `OFF` (for zone-less / `_fill` sets `OFF` is the fallback offset),
and `Y-M-D` is a real date, the instant attributed is `instantNs Y M D H N S NS OFF`. -/
theorem C04_normalise_parse (name : String) (set : DTFSSet) (hmem : (name, set) ∈ allDTFSS) (hdt : set.epoch = .none_)
    (c : Captures) (fbOff : Int) (fill : Option Int)
    (yb sb fb zb : Bytes) (Y : Int) (M D H N : Nat) (S NS OFF : Int)
    (hyP : yearPiece set.year c fill = some yb) (hy : YearPieceOK set.year yb Y)
    (hmP : monthPiece set.month c = some (dec2 M)) (hM : 1 ≤ M ∧ M ≤ 12)
    (hdP : dayPiece set.day c = some (dec2 D)) (hD : 1 ≤ D ∧ D ≤ 31)
    (hhP : hourPiece set.hour c = some (dec2 H)) (hH : H ≤ 23)
    (hnP : minutePiece set.minute c = some (dec2 N)) (hN : N ≤ 59)
    (hsP : secondPiece set.second c = some sb) (hs : SecPieceOK set.second sb S)
    (hfP : fracPiece set.fractional c = some fb) (hf : FracPieceOK set.fractional fb NS)
    (hzP : tzPiece set.tz c (offString fbOff) = some zb) (hzl : zb.length ≤ 9)
    (hz : ∀ perm, (set.tz = .zp → perm = true) → TzPieceOK set.tz perm zb fbOff OFF)
    (hvalid : validDate Y M D = true) :
    capturesToInstant set c fbOff fill = some (instantNs Y M D H N S NS OFF) := by
  have hcons : Consistent set := C04_sets_consistent (name, set) hmem
  have hpat : parsePattern set.pattern = some (dtItems set true) ∨
      (set.tz ≠ .zp ∧ parsePattern set.pattern = some (dtItems set false)) := by
    rcases hcons with ⟨_, _, _, _, _, _, hpat⟩ | ⟨he, _⟩
    · exact hpat
    · rw [hdt] at he; cases he
  have hep : epochPiece set.epoch c = some [] := by rw [hdt]; rfl
  -- the pieces fit the buffer
  have ly : yb.length ≤ 4 := by
    cases hk : set.year <;> rw [hk] at hy
    case none_ => exact hy.elim
    all_goals obtain ⟨n, _, rfl, _⟩ := hy; simp [dec2, dec4]
  have ls : sb.length ≤ 2 := by
    cases hk : set.second <;> rw [hk] at hs
    case none_ => simp [hs.1]
    all_goals obtain ⟨n, _, rfl, _⟩ := hs; simp [dec2]
  have lf : fb.length ≤ 10 := by
    cases hk : set.fractional <;> rw [hk] at hf
    · obtain ⟨f9, _, hl, rfl, _⟩ := hf; simp [hl]
    · obtain ⟨rfl, _⟩ := hf; simp
  have hbuf : capturesToBuffer set c (offString fbOff) fill =
      some (yb ++ (dec2 M ++ (dec2 D ++ (84 :: (dec2 H ++ (dec2 N ++ (sb ++ (fb ++ zb)))))))) := by
    unfold capturesToBuffer
    rw [hep, hyP, hmP, hdP, hhP, hnP, hsP, hfP, hzP]
    simp only [List.nil_append]
    have : (yb ++ (dec2 M ++ (dec2 D ++ (84 :: (dec2 H ++ (dec2 N ++ (sb ++ (fb ++ zb)))))))).length ≤ BUFLEN := by
      simp [dec2, BUFLEN]; omega
    rw [if_pos this]
  unfold capturesToInstant
  rw [hbuf]
  simp only [Option.bind_some]
  rcases hpat with hpat | ⟨hzp, hpat⟩
  · exact parse_dt_buffer set true hpat yb sb fb zb Y M D H N S NS OFF fbOff hy hM hD hH hN hs hf
      (hz true (fun _ => rfl)) hvalid
  · exact parse_dt_buffer set false hpat yb sb fb zb Y M D H N S NS OFF fbOff hy hM hD hH hN hs hf
      (hz false (fun h => absurd h hzp)) hvalid

/-- day `08`, `8` and ` 8` all give the piece `08` -/
theorem C04_day_forms (c : Captures) (D : Nat) (hD : D ≤ 99)
    (h : c.day = some (dec2 D) ∨ (D < 10 ∧ (c.day = some [dchar D] ∨ c.day = some [32, dchar D]))) :
    dayPiece .e_or_d c = some (dec2 D) := by
  rcases h with h | ⟨h10, h | h⟩
  · have h32 : dchar (D / 10) ≠ 32 := (notBlank_dchar _).1
    simp [dayPiece, h, dec2, h32]
  · simp [dayPiece, h, dec2_small D h10]
  · simp [dayPiece, h, dec2_small D h10]

/-- the padding of `monthPiece .ms` and `hourPiece .k` -/
theorem natDec_pad (n : Nat) (h : n < 100) : (if (natDec n).length = 1 then 48 :: natDec n else natDec n) = dec2 n := by
  by_cases h10 : n < 10
  · simp [natDec_lt10 n h10, dec2_small n h10]
  · simp [natDec_2 n (by omega) h, dec2]

/-- month `1`–`12` without padding (`DTFS_Month::ms`) -/
theorem C04_month_ms (c : Captures) (M : Nat) (hM : 1 ≤ M ∧ M ≤ 12) (h : c.month = some (natDec M)) :
    monthPiece .ms c = some (dec2 M) := by
  simp [monthPiece, h, natDec_pad M (by omega)]

/-- a month name in any accepted form gives the two digits of the month it names -/
theorem C04_month_name (c : Captures) (name v : Bytes) (h : c.month = some name) (hk : lookup monthNamesB name = some v) :
    monthPiece .b c = some v ∧ monthPiece .B c = some v := by
  simp [monthPiece, h, hk]

/-- hour `0`–`23` without padding (`DTFS_Hour::k`) -/
theorem C04_hour_k (c : Captures) (H : Nat) (hH : H ≤ 23) (h : c.hour = some (natDec H)) :
    hourPiece .k c = some (dec2 H) := by
  simp [hourPiece, h, natDec_pad H (by omega)]

/-- a year-less set takes the four digits of the fill year (`process_missing_year`'s year) -/
theorem C04_year_fill (c : Captures) (Y : Nat) (h1 : 1000 ≤ Y) (h2 : Y ≤ 9999) (hc : c.year = none) :
    yearPiece .fill c (some (Y : Int)) = some (dec4 Y) ∧ YearPieceOK .fill (dec4 Y) Y := by
  constructor
  · have : ¬ ((Y : Int) < 0) := by omega
    simp [yearPiece, hc, intDec, this, natDec_4 Y h1 (by omega)]
  · exact ⟨Y, by omega, rfl, rfl⟩

/-- 1–9 fraction digits are kept as written: right-padded with zeros to nanoseconds -/
theorem C04_fraction_pad (c : Captures) (f : Bytes) (hd : AllDigits f) (hl : f.length ≤ 9) (h : c.fractional = some f) :
    fracPiece .f c = some (46 :: (f ++ List.replicate (9 - f.length) 48)) ∧
      FracPieceOK .f (46 :: (f ++ List.replicate (9 - f.length) 48)) (numVal (f ++ List.replicate (9 - f.length) 48)) := by
  constructor
  · simp [fracPiece, h, fracNorm, hl]
  · refine ⟨f ++ List.replicate (9 - f.length) 48, ?_, by simp; omega, rfl, rfl⟩
    intro b hb
    rcases List.mem_append.mp hb with hb | hb
    · exact hd b hb
    · have := List.eq_of_mem_replicate hb; subst this; decide

theorem numVal_pad (f : Bytes) (k : Nat) : numVal (f ++ List.replicate k 48) = numVal f * 10 ^ k := by
  induction k with
  | zero => simp
  | succ k ih =>
    rw [List.replicate_succ', ← List.append_assoc]
    unfold numVal at ih ⊢
    rw [List.foldl_append, ih]
    simp [List.foldl, Int.pow_succ, Int.mul_assoc]

/-- 10–12 fraction digits are truncated (not rounded) to the first nine -/
theorem C04_fraction_truncate (c : Captures) (f : Bytes) (hd : AllDigits f) (h10 : 10 ≤ f.length) (h12 : f.length ≤ 12)
    (h : c.fractional = some f) :
    fracPiece .f c = some (46 :: f.take 9) ∧ FracPieceOK .f (46 :: f.take 9) (numVal (f.take 9)) := by
  constructor
  · have a : ¬ f.length ≤ 9 := by omega
    simp [fracPiece, h, fracNorm, a, h12]
  · refine ⟨f.take 9, fun b hb => hd b (List.mem_of_mem_take hb), by simp; omega, rfl, rfl⟩

/-- a zone abbreviation with a non-empty table value is read at that value -/
theorem C04_tz_named (c : Captures) (name v tzs : Bytes) (h : c.tz = some name) (hk : lookup tzTableB name = some v)
    (hv : v ≠ []) : tzPiece .Z c tzs = some v := by
  have : v.isEmpty = false := by cases v <;> simp_all
  simp only [tzPiece, h, hk, Option.map_some, this]
  rfl

/-- an ambiguous abbreviation (empty table value) or an unknown one is read in the fallback zone -/
theorem C04_tz_ambiguous (c : Captures) (name tzs : Bytes) (h : c.tz = some name)
    (hk : lookup tzTableB name = some [] ∨ lookup tzTableB name = none) : tzPiece .Z c tzs = some tzs := by
  rcases hk with hk | hk <;> simp [tzPiece, h, hk]

/-! ### instances (non-vacuity; also the numeric zone forms on concrete values) -/

def caps (y mo d h mi s : String) (f tz : Option String) : Captures :=
  { year := some y.toUTF8.toList, month := some mo.toUTF8.toList, day := some d.toUTF8.toList, hour := some h.toUTF8.toList,
    minute := some mi.toUTF8.toList, second := some s.toUTF8.toList, fractional := f.map (·.toUTF8.toList),
    tz := tz.map (·.toUTF8.toList) }

-- RFC 3339 with fraction and `+05:30`; U+2212 minus; `±HHMM`; `±HH`; named zone; ambiguous zone -> fallback
example : capturesToInstant DTFSS_YmdHMSfzc (caps "2024" "02" "29" "23" "59" "59" (some "5") (some "+05:30")) 0 none
    = some (instantNs 2024 2 29 23 59 59 500000000 19800) := by decide +kernel
example : capturesToInstant DTFSS_YmdHMSzc (caps "2000" "01" "01" "00" "00" "00" none (some "−08:00")) 3600 none
    = some (instantNs 2000 1 1 0 0 0 0 (-28800)) := by decide +kernel
example : capturesToInstant DTFSS_YmdHMSz (caps "2099" "12" "30" "12" "00" "00" none (some "-0945")) 0 none
    = some (instantNs 2099 12 30 12 0 0 0 (-35100)) := by decide +kernel
example : capturesToInstant DTFSS_YmdHMSzp (caps "1970" "01" "02" "00" "00" "00" none (some "+14")) 0 none
    = some (instantNs 1970 1 2 0 0 0 0 50400) := by decide +kernel
example : capturesToInstant DTFSS_bdHMSYZ (caps "2024" "Sep." " 8" "07" "08" "09" none (some "PST")) 7200 none
    = some (instantNs 2024 9 8 7 8 9 0 (-28800)) := by decide +kernel
example : capturesToInstant DTFSS_bdHMSYZ (caps "2024" "SEPTEMBER" "8" "07" "08" "09" none (some "IST")) 19800 none
    = some (instantNs 2024 9 8 7 8 9 0 19800) := by decide +kernel
-- zone-less: read in the fallback zone; year-less: fill year
example : capturesToInstant DTFSS_YmdHMS (caps "2024" "02" "29" "23" "59" "59" none none) (-28800) none
    = some (instantNs 2024 2 29 23 59 59 0 (-28800)) := by decide +kernel
example : capturesToInstant DTFSS_BdHMS { caps "" "jan" " 1" "00" "30" "00" none none with year := none } 19800 (some 2021)
    = some (instantNs 2021 1 1 0 30 0 0 19800) := by decide +kernel

/-- FINDING F26. A Unix-epoch timestamp is parsed as a *naive local* date-time and then placed in the
fallback zone: the attributed instant is the denoted one minus the `--tz-offset`. -/
theorem C04_epoch_shifted :
    capturesToInstant DTFSS_s { epoch := some "1000000000".toUTF8.toList } 18000 none
      = some ((1000000000 - 18000) * 1000000000) ∧
    capturesToInstant DTFSS_sf { epoch := some "1000000000".toUTF8.toList, fractional := some "25".toUTF8.toList } (-3600) none
      = some ((1000000000 + 3600) * 1000000000 + 250000000) := by decide +kernel

/-- "an epoch timestamp is attributed the instant it denotes, whatever the fallback offset" -/
def C04_epoch_full : Prop :=
  ∀ (fbOff : Int), capturesToInstant DTFSS_s { epoch := some "1000000000".toUTF8.toList } fbOff none
    = some (1000000000 * 1000000000)

theorem C04_epoch_full_false : ¬ C04_epoch_full := by
  intro h
  have := h 18000
  revert this
  decide +kernel

/-- with `--tz-offset` 0 (the checks' default) it is the denoted instant -/
theorem C04_epoch_partial : capturesToInstant DTFSS_s { epoch := some "1000000000".toUTF8.toList } 0 none
    = some (1000000000 * 1000000000) := by decide +kernel

/-! the calendar under `instantNs`, for all `Int` years and days -/

theorem C04_civil_roundtrip₁ (y m d : Int) (h : validDate y m d = true) :
    civilFromDays (daysFromCivil y m d) = (y, m, d) := S4V.Lemmas.Time.civil_roundtrip₁ y m d h

theorem C04_civil_roundtrip₂ (z : Int) :
    let (y, m, d) := civilFromDays z
    validDate y m d = true ∧ daysFromCivil y m d = z := S4V.Lemmas.Time.civil_roundtrip₂ z

theorem C04_days_epoch : daysFromCivil 1970 1 1 = 0 := S4V.Lemmas.Time.daysFromCivil_epoch

theorem C04_days_strictMono (y₁ m₁ d₁ y₂ m₂ d₂ : Int) (h₁ : validDate y₁ m₁ d₁ = true) (h₂ : validDate y₂ m₂ d₂ = true) :
    daysFromCivil y₁ m₁ d₁ < daysFromCivil y₂ m₂ d₂ ↔ S4V.Lemmas.Time.LexLt y₁ m₁ d₁ y₂ m₂ d₂ :=
  S4V.Lemmas.Time.daysFromCivil_lt_iff_lex y₁ m₁ d₁ y₂ m₂ d₂ h₁ h₂

theorem C04_epochSeconds_strictMono (y₁ m₁ d₁ hh₁ mm₁ ss₁ y₂ m₂ d₂ hh₂ mm₂ ss₂ off : Int)
    (h₁ : validDate y₁ m₁ d₁ = true) (h₂ : validDate y₂ m₂ d₂ = true)
    (t₁ : S4V.Lemmas.Time.ValidTime hh₁ mm₁ ss₁) (t₂ : S4V.Lemmas.Time.ValidTime hh₂ mm₂ ss₂)
    (hlt : S4V.Lemmas.Time.LexLt y₁ m₁ d₁ y₂ m₂ d₂ ∨
      ((y₁, m₁, d₁) = (y₂, m₂, d₂) ∧ (hh₁ < hh₂ ∨ (hh₁ = hh₂ ∧ (mm₁ < mm₂ ∨ (mm₁ = mm₂ ∧ ss₁ < ss₂)))))) :
    epochSeconds y₁ m₁ d₁ hh₁ mm₁ ss₁ off < epochSeconds y₂ m₂ d₂ hh₂ mm₂ ss₂ off :=
  S4V.Lemmas.Time.epochSeconds_strictMono _ _ _ _ _ _ _ _ _ _ _ _ _ h₁ h₂ t₁ t₂ hlt

end S4V.Props.TimeSpec
