/-
GENERATED by tools/mk_regexrows.py from harness/src/rgx_rows.txt (gen/gen_regex.py) — regenerate, do not edit.

C04, regex slice: rows 14–22 of `DATETIME_PARSE_DATAS`. `rowsC` holds the literals of their certificates (`RowFacts`,
`S4V.Lemmas.RegexTable`), `certsC` is ONE kernel evaluation for all of them, and `certN`, `factsN` are its components for row N; a row
without an end-to-end theorem (the epoch rows; a row that failed `catOK`) has no certificate and evaluates its own `factsN`. `C04_rowN_search`: for EVERY
selection of entries of the row's catalogue (`rowBodyE` / `rowBodyP`, `S4V.Lemmas.RegexAuto`) and of concrete words, and every
admissible tail, `search` matches at 0, spans exactly the words (and the byte of a final group), and every capture group spans
the word of its item.
-/
import S4V.Gen.Regex
import S4V.Lemmas.RegexTable

namespace S4V.Props.RegexCapture3
open S4V.Model.Regex S4V.Gen.Regex S4V.Lemmas.RegexStep S4V.Lemmas.RegexSym S4V.Lemmas.RegexRows S4V.Lemmas.RegexAuto
open S4V.Lemmas.RegexE2E S4V.Lemmas.Utf8 S4V.Gen.TimeTables

def rowsC : List RowFacts := [
  { row := row14, counts := [(1, 1), (3, 3), (1, 1), (2, 2), (3, 3), (1, 1), (12, 12), (1, 1), (46, 49), (2, 2), (25, 25), (2, 2), (1, 1), (2, 2), (2, 2), (2, 2), (392, 392)], digest := 800671958,
    line := some "<14>2023-02-01T15:00:36 PST (HOST) (192.168.0.1) [dropbear[23732]: authpriv:info] [23732]:  Exit (root): Disconnect received \u2e28<14>Jan  1 15:00:36 HOST dropbea".toUTF8.toList, fits := true },
  { row := row15, counts := [(1, 1), (3, 3), (1, 1), (2, 2), (3, 3), (1, 1), (12, 12), (1, 1), (46, 49), (2, 2), (25, 25), (2, 2), (1, 1), (2, 2), (2, 2)], digest := 306770116,
    line := some "<14>2023-02-01T15:00:36 (HOST) (192.168.0.1) [dropbear[23732]: authpriv:info] [23732]:  Exit (root): Disconnect received \u2e28<14>Jan  1 15:00:36 HOST dropbear[23".toUTF8.toList, fits := true },
  { row := row16, counts := [(1, 1), (3, 3), (1, 1), (2, 2), (105, 105), (2, 2), (40, 49), (1, 1), (25, 25), (2, 2), (1, 1), (2, 2), (2, 2), (2, 2), (3, 3), (2, 2), (1, 1)], digest := 908151097,
    line := some "<14>Jan  1 15:00:36 2023 -02:00 HOST dropbear[23732]: Exit (root): Disconnect received".toUTF8.toList, fits := false },
  { row := row17, counts := [(1, 1), (3, 3), (1, 1), (2, 2), (105, 105), (2, 2), (40, 49), (1, 1), (25, 25), (2, 2), (1, 1), (2, 2), (2, 2), (2, 2), (3, 3), (2, 2), (1, 1)], digest := 429286363,
    line := some "<14>Jan  1 15:00:36 2023 -02 HOST dropbear[23732]: Exit (root): Disconnect received".toUTF8.toList, fits := true },
  { row := row18, counts := [(1, 1), (3, 3), (1, 1), (2, 2), (105, 105), (2, 2), (40, 49), (1, 1), (25, 25), (2, 2), (1, 1), (2, 2), (2, 2), (2, 2), (3, 3), (2, 2), (392, 392)], digest := 381137945,
    line := some "<14>Jan  1 15:00:36 2023 WGST HOST dropbear[23732]: Exit (root): Disconnect received".toUTF8.toList, fits := true },
  { row := row19, counts := [(1, 1), (3, 3), (1, 1), (2, 2), (105, 105), (2, 2), (40, 49), (1, 1), (25, 25), (2, 2), (1, 1), (2, 2), (2, 2), (2, 2), (3, 3)], digest := 670644843,
    line := some "<14>Jan  1 15:00:36 2023 HOST dropbear[23732]: Exit (root): Disconnect received".toUTF8.toList, fits := true },
  { row := row20, counts := [(1, 1), (3, 3), (1, 1), (2, 2), (105, 105), (2, 2), (40, 49), (1, 1), (25, 25), (2, 2), (1, 1), (2, 2), (2, 2), (2, 2), (1, 1), (2, 2), (3, 3)], digest := 506808220,
    line := some "<14>Jan  1 15:00:36 -02:00 2023 HOST dropbear[23732]: Exit (root): Disconnect received".toUTF8.toList, fits := false },
  { row := row21, counts := [(1, 1), (3, 3), (1, 1), (2, 2), (105, 105), (2, 2), (40, 49), (1, 1), (25, 25), (2, 2), (1, 1), (2, 2), (2, 2), (2, 2), (1, 1), (2, 2), (3, 3)], digest := 625678226,
    line := some "<14>Jan  1 15:00:36 -02 2023 HOST dropbear[23732]: Exit (root): Disconnect received".toUTF8.toList, fits := true },
  { row := row22, counts := [(1, 1), (3, 3), (1, 1), (2, 2), (105, 105), (2, 2), (40, 49), (1, 1), (25, 25), (2, 2), (1, 1), (2, 2), (2, 2), (2, 2), (392, 392), (2, 2), (3, 3)], digest := 730410905,
    line := some "<14>Jan  1 15:00:36 WGST 2023 HOST dropbear[23732]: Exit (root): Disconnect received".toUTF8.toList, fits := false }]

theorem certsC : ∀ i (h : i < rowsC.length), rowsC[i].Cert :=
  RowFacts.certs_of_all (by
    unfold rowsC
    rw [toUTF8_toList_ofList, toUTF8_toList_ofList, toUTF8_toList_ofList, toUTF8_toList_ofList, toUTF8_toList_ofList, toUTF8_toList_ofList, toUTF8_toList_ofList, toUTF8_toList_ofList, toUTF8_toList_ofList]
    decide +kernel)

/-! ### row 14 (year:1,month:2,day:3,hour:4,minute:5,second:6,tz:7): head `bol`, end `(?P<g>[class]|$)` -/

theorem cert14 : (rowsC[0]'(by decide)).Cert := certsC 0 (by decide)

theorem facts14 : keptCounts (rowBodyE re14 1) = [(1, 1), (3, 3), (1, 1), (2, 2), (3, 3), (1, 1), (12, 12), (1, 1), (46, 49), (2, 2), (25, 25), (2, 2), (1, 1), (2, 2), (2, 2), (2, 2), (392, 392)] ∧
    catDigest (rowBodyE re14 1) = 800671958 ∧
    splitsL (rowBodyE re14 1) "<14>2023-02-01T15:00:36 PST (HOST) (192.168.0.1) [dropbear[23732]: authpriv:info] [23732]:  Exit (root): Disconnect received \u2e28<14>Jan  1 15:00:36 HOST dropbea".toUTF8.toList = true := cert14.facts

theorem C04_row14_search (sel : Sel) (hv : Valid (rowBodyE re14 1) sel) (tail : List UInt8) (ht : TailIn (rowEndSym re14) tail) :
    RowResult row14.re (flat sel ++ tail) ((flat sel).length + tailLen tail) [] (sel ++ [rowEndEw re14 tail]) :=
  auto_E (re := re14) (by rfl) cert14.headOk sel hv tail ht

/-! ### row 15 (year:1,month:2,day:3,hour:4,minute:5,second:6): head `bol`, end `(?P<g>[class]|$)` -/

theorem cert15 : (rowsC[1]'(by decide)).Cert := certsC 1 (by decide)

theorem facts15 : keptCounts (rowBodyE re15 1) = [(1, 1), (3, 3), (1, 1), (2, 2), (3, 3), (1, 1), (12, 12), (1, 1), (46, 49), (2, 2), (25, 25), (2, 2), (1, 1), (2, 2), (2, 2)] ∧
    catDigest (rowBodyE re15 1) = 306770116 ∧
    splitsL (rowBodyE re15 1) "<14>2023-02-01T15:00:36 (HOST) (192.168.0.1) [dropbear[23732]: authpriv:info] [23732]:  Exit (root): Disconnect received \u2e28<14>Jan  1 15:00:36 HOST dropbear[23".toUTF8.toList = true := cert15.facts

theorem C04_row15_search (sel : Sel) (hv : Valid (rowBodyE re15 1) sel) (tail : List UInt8) (ht : TailIn (rowEndSym re15) tail) :
    RowResult row15.re (flat sel ++ tail) ((flat sel).length + tailLen tail) [] (sel ++ [rowEndEw re15 tail]) :=
  auto_E (re := re15) (by rfl) cert15.headOk sel hv tail ht

/-! ### row 16 (month:1,day:2,hour:3,minute:4,second:5,year:6,tz:7): head `bol`, end `(?P<g>[class]|$)` -/

theorem cert16 : (rowsC[2]'(by decide)).Cert := certsC 2 (by decide)

theorem facts16 : keptCounts (rowBodyE re16 1) = [(1, 1), (3, 3), (1, 1), (2, 2), (105, 105), (2, 2), (40, 49), (1, 1), (25, 25), (2, 2), (1, 1), (2, 2), (2, 2), (2, 2), (3, 3), (2, 2), (1, 1)] ∧
    catDigest (rowBodyE re16 1) = 908151097 ∧
    splitsL (rowBodyE re16 1) "<14>Jan  1 15:00:36 2023 -02:00 HOST dropbear[23732]: Exit (root): Disconnect received".toUTF8.toList = true := cert16.facts

theorem C04_row16_search (sel : Sel) (hv : Valid (rowBodyE re16 1) sel) (tail : List UInt8) (ht : TailIn (rowEndSym re16) tail) :
    RowResult row16.re (flat sel ++ tail) ((flat sel).length + tailLen tail) [] (sel ++ [rowEndEw re16 tail]) :=
  auto_E (re := re16) (by rfl) cert16.headOk sel hv tail ht

/-! ### row 17 (month:1,day:2,hour:3,minute:4,second:5,year:6,tz:7): head `bol`, end `(?P<g>[class]|$)` -/

theorem cert17 : (rowsC[3]'(by decide)).Cert := certsC 3 (by decide)

theorem facts17 : keptCounts (rowBodyE re17 1) = [(1, 1), (3, 3), (1, 1), (2, 2), (105, 105), (2, 2), (40, 49), (1, 1), (25, 25), (2, 2), (1, 1), (2, 2), (2, 2), (2, 2), (3, 3), (2, 2), (1, 1)] ∧
    catDigest (rowBodyE re17 1) = 429286363 ∧
    splitsL (rowBodyE re17 1) "<14>Jan  1 15:00:36 2023 -02 HOST dropbear[23732]: Exit (root): Disconnect received".toUTF8.toList = true := cert17.facts

theorem C04_row17_search (sel : Sel) (hv : Valid (rowBodyE re17 1) sel) (tail : List UInt8) (ht : TailIn (rowEndSym re17) tail) :
    RowResult row17.re (flat sel ++ tail) ((flat sel).length + tailLen tail) [] (sel ++ [rowEndEw re17 tail]) :=
  auto_E (re := re17) (by rfl) cert17.headOk sel hv tail ht

/-! ### row 18 (month:1,day:2,hour:3,minute:4,second:5,year:6,tz:7): head `bol`, end `(?P<g>[class]|$)` -/

theorem cert18 : (rowsC[4]'(by decide)).Cert := certsC 4 (by decide)

theorem facts18 : keptCounts (rowBodyE re18 1) = [(1, 1), (3, 3), (1, 1), (2, 2), (105, 105), (2, 2), (40, 49), (1, 1), (25, 25), (2, 2), (1, 1), (2, 2), (2, 2), (2, 2), (3, 3), (2, 2), (392, 392)] ∧
    catDigest (rowBodyE re18 1) = 381137945 ∧
    splitsL (rowBodyE re18 1) "<14>Jan  1 15:00:36 2023 WGST HOST dropbear[23732]: Exit (root): Disconnect received".toUTF8.toList = true := cert18.facts

theorem C04_row18_search (sel : Sel) (hv : Valid (rowBodyE re18 1) sel) (tail : List UInt8) (ht : TailIn (rowEndSym re18) tail) :
    RowResult row18.re (flat sel ++ tail) ((flat sel).length + tailLen tail) [] (sel ++ [rowEndEw re18 tail]) :=
  auto_E (re := re18) (by rfl) cert18.headOk sel hv tail ht

/-! ### row 19 (month:1,day:2,hour:3,minute:4,second:5,year:6): head `bol`, end `(?P<g>[class]|$)` -/

theorem cert19 : (rowsC[5]'(by decide)).Cert := certsC 5 (by decide)

theorem facts19 : keptCounts (rowBodyE re19 1) = [(1, 1), (3, 3), (1, 1), (2, 2), (105, 105), (2, 2), (40, 49), (1, 1), (25, 25), (2, 2), (1, 1), (2, 2), (2, 2), (2, 2), (3, 3)] ∧
    catDigest (rowBodyE re19 1) = 670644843 ∧
    splitsL (rowBodyE re19 1) "<14>Jan  1 15:00:36 2023 HOST dropbear[23732]: Exit (root): Disconnect received".toUTF8.toList = true := cert19.facts

theorem C04_row19_search (sel : Sel) (hv : Valid (rowBodyE re19 1) sel) (tail : List UInt8) (ht : TailIn (rowEndSym re19) tail) :
    RowResult row19.re (flat sel ++ tail) ((flat sel).length + tailLen tail) [] (sel ++ [rowEndEw re19 tail]) :=
  auto_E (re := re19) (by rfl) cert19.headOk sel hv tail ht

/-! ### row 20 (month:1,day:2,hour:3,minute:4,second:5,tz:6,year:7): head `bol`, end `(?P<g>[class]|$)` -/

theorem cert20 : (rowsC[6]'(by decide)).Cert := certsC 6 (by decide)

theorem facts20 : keptCounts (rowBodyE re20 1) = [(1, 1), (3, 3), (1, 1), (2, 2), (105, 105), (2, 2), (40, 49), (1, 1), (25, 25), (2, 2), (1, 1), (2, 2), (2, 2), (2, 2), (1, 1), (2, 2), (3, 3)] ∧
    catDigest (rowBodyE re20 1) = 506808220 ∧
    splitsL (rowBodyE re20 1) "<14>Jan  1 15:00:36 -02:00 2023 HOST dropbear[23732]: Exit (root): Disconnect received".toUTF8.toList = true := cert20.facts

theorem C04_row20_search (sel : Sel) (hv : Valid (rowBodyE re20 1) sel) (tail : List UInt8) (ht : TailIn (rowEndSym re20) tail) :
    RowResult row20.re (flat sel ++ tail) ((flat sel).length + tailLen tail) [] (sel ++ [rowEndEw re20 tail]) :=
  auto_E (re := re20) (by rfl) cert20.headOk sel hv tail ht

/-! ### row 21 (month:1,day:2,hour:3,minute:4,second:5,tz:6,year:7): head `bol`, end `(?P<g>[class]|$)` -/

theorem cert21 : (rowsC[7]'(by decide)).Cert := certsC 7 (by decide)

theorem facts21 : keptCounts (rowBodyE re21 1) = [(1, 1), (3, 3), (1, 1), (2, 2), (105, 105), (2, 2), (40, 49), (1, 1), (25, 25), (2, 2), (1, 1), (2, 2), (2, 2), (2, 2), (1, 1), (2, 2), (3, 3)] ∧
    catDigest (rowBodyE re21 1) = 625678226 ∧
    splitsL (rowBodyE re21 1) "<14>Jan  1 15:00:36 -02 2023 HOST dropbear[23732]: Exit (root): Disconnect received".toUTF8.toList = true := cert21.facts

theorem C04_row21_search (sel : Sel) (hv : Valid (rowBodyE re21 1) sel) (tail : List UInt8) (ht : TailIn (rowEndSym re21) tail) :
    RowResult row21.re (flat sel ++ tail) ((flat sel).length + tailLen tail) [] (sel ++ [rowEndEw re21 tail]) :=
  auto_E (re := re21) (by rfl) cert21.headOk sel hv tail ht

/-! ### row 22 (month:1,day:2,hour:3,minute:4,second:5,tz:6,year:7): head `bol`, end `(?P<g>[class]|$)` -/

theorem cert22 : (rowsC[8]'(by decide)).Cert := certsC 8 (by decide)

theorem facts22 : keptCounts (rowBodyE re22 1) = [(1, 1), (3, 3), (1, 1), (2, 2), (105, 105), (2, 2), (40, 49), (1, 1), (25, 25), (2, 2), (1, 1), (2, 2), (2, 2), (2, 2), (392, 392), (2, 2), (3, 3)] ∧
    catDigest (rowBodyE re22 1) = 730410905 ∧
    splitsL (rowBodyE re22 1) "<14>Jan  1 15:00:36 WGST 2023 HOST dropbear[23732]: Exit (root): Disconnect received".toUTF8.toList = true := cert22.facts

theorem C04_row22_search (sel : Sel) (hv : Valid (rowBodyE re22 1) sel) (tail : List UInt8) (ht : TailIn (rowEndSym re22) tail) :
    RowResult row22.re (flat sel ++ tail) ((flat sel).length + tailLen tail) [] (sel ++ [rowEndEw re22 tail]) :=
  auto_E (re := re22) (by rfl) cert22.headOk sel hv tail ht

end S4V.Props.RegexCapture3
