/-
C04, regex slice — capture theorems for rows whose catalogues are DERIVED from the generated
regex (`symEntriesOf`), with overrides written by hand (`autoPieces`), and checked per row (`rowOk`): RFC 5424-style `<PRI>`
rows 15 / 12, RFC 3164 rows 19 (with year) / 23 (year-less), RFC 2822 row 38, epoch row 100, the ad-hoc notations of rows 94
(`2023 Aug 31 20:01:05`) and 58 (`08-Feb-2023 12:13:09.827`).

Each theorem: for EVERY selection `sel` of catalogue entries and concrete words (`Valid body sel`: one
entry of the piece's catalogue per item of the row, and a byte string the entry's symbolic word
denotes) and every admissible tail, `search` on `flat sel ++ tail` matches at 0, spans exactly the
words, and the slots are `capsAt` — so `groupText … g` is the word of the piece that records group
`g` (second half of each statement). The catalogues are everything the item's regex can consume (all literals / case
forms / counts, the ASCII part of every class) minus the overrides noted at each row, where a
rendering would be captured differently (see the `_full_false` statements in `RegexCapture2`).
-/
import S4V.Gen.Regex
import S4V.Props.RegexCapture2

namespace S4V.Props.RegexCapture2Auto
open S4V.Model.Regex S4V.Gen.Regex S4V.Lemmas.RegexStep S4V.Lemmas.RegexSym S4V.Lemmas.RegexRows
open S4V.Lemmas.RegexAuto (rowResult_end rowResult_of_rowOk groupText_of_rowResult head_bol endItem rowOkF_eq)
open S4V.Props.RegexCapture2 (sepT)

/-- day forms `08` / `8` (no space padding: after a greedy `[[:blank:]]+` the pad belongs to the blanks) -/
def dayNoPad (g : Nat) : List Entry := grp g (cws (day2Words ++ day1Words))
def notBlankSym : Sym := [(0,8),(10,31),(33,255)]

/-- rows `^ body (?P<g>class|$)`: the two halves of `RowResult` -/
theorem auto_end_search {re : Re} {body : List Piece} {g : Nat} {rs : List (Nat × Nat)} {s : Sym}
    (hre : re = catL (.bol :: (body.map Piece.item ++ [endItem g rs]))) (hs : asciiPart rs = s)
    (hok : rowOk body s = true ∧ rowSlotsOk body = true)
    (sel : Sel) (hv : Valid body sel) (tail : List UInt8) (ht : TailIn s tail) :
    search re (flat sel ++ tail) = some ⟨0, (flat sel).length + tailLen tail, capsAt 0 [] (sel ++ [endEw g s tail])⟩ ∧
    ∀ g', groupText (flat sel ++ tail) (capsAt 0 [] (sel ++ [endEw g s tail])) g' = selText g' (sel ++ [endEw g s tail]) :=
  have h := rowResult_end hok.1 (allOK_of_valid hok.2 hv) tail ht (head_bol hre (by simp)) hs
  ⟨h.1, groupText_of_rowResult h⟩

/-- rows `^ body` (no final group): the tail only has to satisfy the follow condition `tF` -/
theorem auto_search {re : Re} {body : List Piece} {tF : Sym}
    (hre : re = catL (.bol :: body.map Piece.item)) (hne : body ≠ [])
    (hok : rowOk body tF = true ∧ rowSlotsOk body = true) (sel : Sel) (hv : Valid body sel)
    (tail : List UInt8) (ht : TailF tF tail) :
    search re (flat sel ++ tail) = some ⟨0, (flat sel).length, capsAt 0 [] sel⟩ ∧
    ∀ g', groupText (flat sel ++ tail) (capsAt 0 [] sel) g' = selText g' sel :=
  have h := rowResult_of_rowOk hok.1 (allOK_of_valid hok.2 hv) ht (head_bol hre (by simpa using hne))
  ⟨h.1, groupText_of_rowResult h⟩

/-! ### RFC 5424 style: rows 15 (`<PRI>YYYY-MM-DDTHH:MM:SS`) and 12 (… `±HH:MM`) -/

def body15 : List Piece := autoPieces (bodyItems re15) [(9, nonNull (symEntriesOf sepT))]
theorem re15_eq : re15 = catL (.bol :: (body15.map Piece.item ++ [lastItem re15])) := by rfl
/-- Rows 15 and 12 agree up to the seconds, which are never empty: what can follow the 14 pieces before them is the same
in both rows, and they are checked once. -/
theorem ok15_12 : rowOk (body15.take 14) (follow (body15.drop 14) nonAlnum) = true := by rw [← rowOkF_eq]; decide +kernel
theorem ok15 : rowOk body15 nonAlnum = true ∧ rowSlotsOk body15 = true :=
  ⟨rowOk_split 14 ok15_12 (by rw [← rowOkF_eq]; decide +kernel), by decide +kernel⟩

theorem C04_rfc5424_search (sel : Sel) (hv : Valid body15 sel) (tail : List UInt8) (ht : TailIn nonAlnum tail) :
    search row15.re (flat sel ++ tail) = some ⟨0, (flat sel).length + tailLen tail, capsAt 0 [] (sel ++ [endEw 7 nonAlnum tail])⟩ ∧
    ∀ g', groupText (flat sel ++ tail) (capsAt 0 [] (sel ++ [endEw 7 nonAlnum tail])) g' = selText g' (sel ++ [endEw 7 nonAlnum tail]) :=
  auto_end_search re15_eq rfl ok15 sel hv tail ht

/-- row 12 ends with the zone group: any tail -/
def body12 : List Piece := autoPieces ((itemsOf re12).drop 1) [(9, nonNull (symEntriesOf sepT))]
theorem re12_eq : re12 = catL (.bol :: body12.map Piece.item) := by rfl
theorem ok12 : rowOk body12 anyByte = true ∧ rowSlotsOk body12 = true :=
  ⟨rowOk_split 14 (show rowOk (body12.take 14) (follow (body12.drop 14) anyByte) = true from ok15_12)
    (by rw [← rowOkF_eq]; decide +kernel), by decide +kernel⟩

theorem C04_rfc5424_zc_search (sel : Sel) (hv : Valid body12 sel) (tail : List UInt8) :
    search row12.re (flat sel ++ tail) = some ⟨0, (flat sel).length, capsAt 0 [] sel⟩ ∧
    ∀ g', groupText (flat sel ++ tail) (capsAt 0 [] sel) g' = selText g' sel :=
  auto_search re12_eq (by decide) ok12 sel hv tail (tailF_any tail)

/-! ### RFC 3164: rows 19 (`<PRI>Mmm dd HH:MM:SS YYYY`) and 23 (year-less) -/

def body19 : List Piece := autoPieces (bodyItems re19) [(6, dayNoPad 2)]
theorem re19_eq : re19 = catL (.bol :: (body19.map Piece.item ++ [lastItem re19])) := by rfl
/-- the same for rows 19 and 23: 12 pieces, then the seconds -/
theorem ok19_23 : rowOk (body19.take 12) (follow (body19.drop 12) nonDigit) = true := by rw [← rowOkF_eq]; decide +kernel
theorem ok19 : rowOk body19 nonDigit = true ∧ rowSlotsOk body19 = true :=
  ⟨rowOk_split 12 ok19_23 (by rw [← rowOkF_eq]; decide +kernel), by decide +kernel⟩

theorem C04_rfc3164_year_search (sel : Sel) (hv : Valid body19 sel) (tail : List UInt8) (ht : TailIn nonDigit tail) :
    search row19.re (flat sel ++ tail) = some ⟨0, (flat sel).length + tailLen tail, capsAt 0 [] (sel ++ [endEw 7 nonDigit tail])⟩ ∧
    ∀ g', groupText (flat sel ++ tail) (capsAt 0 [] (sel ++ [endEw 7 nonDigit tail])) g' = selText g' (sel ++ [endEw 7 nonDigit tail]) :=
  auto_end_search re19_eq rfl ok19 sel hv tail ht

/-- row 23 ends with `[[:blank:]]*`: the tail must not start with a blank (it would be taken too) -/
def body23 : List Piece := autoPieces ((itemsOf re23).drop 1) [(6, dayNoPad 2)]
theorem re23_eq : re23 = catL (.bol :: body23.map Piece.item) := by rfl
theorem ok23 : rowOk body23 notBlankSym = true ∧ rowSlotsOk body23 = true :=
  ⟨rowOk_split 12 (show rowOk (body23.take 12) (follow (body23.drop 12) notBlankSym) = true from ok19_23)
    (by rw [← rowOkF_eq]; decide +kernel), by decide +kernel⟩

theorem C04_rfc3164_search (sel : Sel) (hv : Valid body23 sel) (tail : List UInt8) (ht : TailF notBlankSym tail) :
    search row23.re (flat sel ++ tail) = some ⟨0, (flat sel).length, capsAt 0 [] sel⟩ ∧
    ∀ g', groupText (flat sel ++ tail) (capsAt 0 [] sel) g' = selText g' sel :=
  auto_search re23_eq (by decide) ok23 sel hv tail ht

/-! ### RFC 2822: row 38 (`Wed, 21 Oct 2015 07:28:00 +0000`) -/

def body38 : List Piece := autoPieces (bodyItems re38) []
theorem re38_eq : re38 = catL (.bol :: (body38.map Piece.item ++ [lastItem re38])) := by rfl
theorem ok38 : rowOk body38 nonDigit = true ∧ rowSlotsOk body38 = true :=
  ⟨by rw [← rowOkF_eq]; decide +kernel, by decide +kernel⟩

theorem C04_rfc2822_search (sel : Sel) (hv : Valid body38 sel) (tail : List UInt8) (ht : TailIn nonDigit tail) :
    search row38.re (flat sel ++ tail) = some ⟨0, (flat sel).length + tailLen tail, capsAt 0 [] (sel ++ [endEw 11 nonDigit tail])⟩ ∧
    ∀ g', groupText (flat sel ++ tail) (capsAt 0 [] (sel ++ [endEw 11 nonDigit tail])) g' = selText g' (sel ++ [endEw 11 nonDigit tail]) :=
  auto_end_search re38_eq rfl ok38 sel hv tail ht

/-! ### epoch seconds: row 100 (`1716853121 …`) -/

def body100 : List Piece := autoPieces ((itemsOf re100).drop 1) []
theorem re100_eq : re100 = catL (.bol :: body100.map Piece.item) := by rfl
theorem ok100 : rowOk body100 anyByte = true ∧ rowSlotsOk body100 = true :=
  ⟨by rw [← rowOkF_eq]; decide +kernel, by decide +kernel⟩

theorem C04_epoch_search (sel : Sel) (hv : Valid body100 sel) (tail : List UInt8) :
    search row100.re (flat sel ++ tail) = some ⟨0, (flat sel).length, capsAt 0 [] sel⟩ ∧
    ∀ g', groupText (flat sel ++ tail) (capsAt 0 [] sel) g' = selText g' sel :=
  auto_search re100_eq (by decide) ok100 sel hv tail (tailF_any tail)

/-! ### ad-hoc notations with a named month and a 4-digit year: rows 94 and 58 -/

def body94 : List Piece := autoPieces (bodyItems re94) [(4, dayNoPad 4), (5, nonNull (symEntriesOf ((bodyItems re94).getD 5 .eps)))]
theorem re94_eq : re94 = catL (.bol :: (body94.map Piece.item ++ [lastItem re94])) := by rfl
theorem ok94 : rowOk body94 nonAlnum = true ∧ rowSlotsOk body94 = true :=
  ⟨by rw [← rowOkF_eq]; decide +kernel, by decide +kernel⟩

theorem C04_adhoc_YbdHMS_search (sel : Sel) (hv : Valid body94 sel) (tail : List UInt8) (ht : TailIn nonAlnum tail) :
    search row94.re (flat sel ++ tail) = some ⟨0, (flat sel).length + tailLen tail, capsAt 0 [] (sel ++ [endEw 9 nonAlnum tail])⟩ ∧
    ∀ g', groupText (flat sel ++ tail) (capsAt 0 [] (sel ++ [endEw 9 nonAlnum tail])) g' = selText g' (sel ++ [endEw 9 nonAlnum tail]) :=
  auto_end_search re94_eq rfl ok94 sel hv tail ht

/-- the class of row 58's final group: not a letter, digit, `+` or `-` -/
def end58 : Sym := [(0,42),(44,44),(46,47),(58,64),(91,96),(123,127)]
def body58 : List Piece := autoPieces (bodyItems re58) []
theorem re58_eq : re58 = catL (.bol :: (body58.map Piece.item ++ [lastItem re58])) := by rfl
theorem ok58 : rowOk body58 end58 = true ∧ rowSlotsOk body58 = true :=
  ⟨by rw [← rowOkF_eq]; decide +kernel, by decide +kernel⟩

theorem C04_adhoc_dbYHMSf_search (sel : Sel) (hv : Valid body58 sel) (tail : List UInt8) (ht : TailIn end58 tail) :
    search row58.re (flat sel ++ tail) = some ⟨0, (flat sel).length + tailLen tail, capsAt 0 [] (sel ++ [endEw 9 end58 tail])⟩ ∧
    ∀ g', groupText (flat sel ++ tail) (capsAt 0 [] (sel ++ [endEw 9 end58 tail])) g' = selText g' (sel ++ [endEw 9 end58 tail]) :=
  auto_end_search re58_eq rfl ok58 sel hv tail ht

/-! ### the hypotheses are satisfiable: the rows' own test lines split along the derived catalogues -/

def splitsB (body : List Piece) (line : String) : Bool :=
  match chooseSel body line.toUTF8.toList with
  | some (sel, rest) => validB body sel && (flat sel ++ rest == line.toUTF8.toList)
  | none => false

theorem valid_of_splitsB {body : List Piece} {line : String} (h : splitsB body line = true) :
    ∃ sel rest, Valid body sel ∧ flat sel ++ rest = line.toUTF8.toList :=
  S4V.Lemmas.RegexAuto.valid_of_splitsL h

set_option maxRecDepth 100000 in
example : splitsB body15 "<14>2023-02-01T15:00:36 (HOST)" = true ∧ splitsB body12 "<14>2023-02-01T15:00:36-08:00 (HOST)" = true ∧
    splitsB body19 "<14>Jan  1 15:00:36 2023 HOST dropbear" = true ∧ splitsB body23 "<14>Jan  1 15:00:36 HOST dropbear" = true ∧
    splitsB body38 "Mon, 28 Jun 2022 01:51:12 +1230" = true ∧ splitsB body100 "1716853121 execve(" = true ∧
    splitsB body94 "2023 Aug 31 20:01:05 [ERROR]" = true ∧ splitsB body58 "08-Feb-2023 12:13:09.827 INFO" = true := by
  decide +kernel

end S4V.Props.RegexCapture2Auto
