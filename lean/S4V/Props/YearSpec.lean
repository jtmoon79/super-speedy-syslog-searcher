/-
C11 — year-less timestamps receive the right year.

Model: `S4V.Model.Year.processMissingYearL lead off mtimeYear msgs after` (mirror of
`SyslogProcessor::process_missing_year`; `processMissingYear = processMissingYearL false`), a
function of the control skeleton `S4V.Gen.Year` regenerated from the loop body (order of the jump
test and the exits, comparison operators, year step, `--dt-after` break variants), of
`S4V.Gen.Filter.dtAfterOrBefore`, and of the threshold `S4V.Gen.Consts.BACKWARDS_TIME_JUMP_S`
regenerated from `BACKWARDS_TIME_JUMP_MEANS_NEW_YEAR`. The general theorems below go through
`S4V.Lemmas.Year.verdict_nf`, which unfolds the generated skeleton, the concrete ones evaluate it: a source
edit that moves the start-of-file exit in front of the jump test, adds a break on `dt == --dt-after`, changes
`>` to `>=`, the year step or the break variants regenerates different constants and the proofs fail.

For plain files (`Plain`: no 29 February, so every line parses with every fill year) the loop reduces to its simple
form (`walk_eq_walkS`).

Not modelled here (checked end to end by vlib/props/C11.py): where the mtime comes from
per container, printing order, and that window/merge use the stored dates.
-/
import S4V.Lemmas.Year

namespace S4V.Props.YearSpec
open S4V.Model.Time S4V.Model.Year S4V.Lemmas.Time S4V.Lemmas.Year
open S4V.Gen.Consts
open S4V.Gen.Year (Decision)

/-- the generated `BACKWARDS_TIME_JUMP_MEANS_NEW_YEAR` is 25 hours -/
theorem C11_threshold : BACKWARDS_TIME_JUMP_S = 25 * 3600 := by decide

/-- the control skeleton regenerated from `process_missing_year` -/
theorem C11_skeleton :
    S4V.Gen.Year.DECISIONS = [.jump, .startExit, .afterFilter] ∧
    S4V.Gen.Year.JUMP_TEST_BEFORE_START_EXIT = true ∧
    S4V.Gen.Year.JUMP_LATER_STRICT = true ∧ S4V.Gen.Year.JUMP_DIFF_STRICT = true ∧
    S4V.Gen.Year.JUMP_YEAR_STEP = -1 ∧
    S4V.Gen.Year.AFTER_FILTER_BREAKS_ON = ["OccursBefore"] := by decide

/-- every message of the file is a real month/day other than 29 February -/
def Plain (off : Int) (ms : List Msg) : Prop := ∀ m ∈ ms, AlwaysParse off m

theorem alwaysParse_of_valid (off y : Int) (m : Msg) (h : validDate y m.mo m.day = true)
    (h29 : ¬ (m.mo = 2 ∧ m.day = 29)) : AlwaysParse off m := by
  intro y'
  have := valid_shift y' h29 h
  refine ⟨daysFromCivil y' m.mo m.day * 86400 + m.sod - off, ?_⟩
  simp [dateWith, this]

theorem pmy_simple (lead : Bool) (off Y : Int) (ms : List Msg) (after : Option Int) (hp : Plain off ms) :
    processMissingYearL lead off Y ms after
      = (walkS BACKWARDS_TIME_JUMP_S off after (fuelFor ms) ms.reverse Y none).reverse :=
  walk_eq_walkS lead BACKWARDS_TIME_JUMP_S off after (fuelFor ms) ms.reverse Y fun m hm => hp m (by simpa using hm)

/-- The last message of a plain file is dated in the year of the file's mtime. (Not so when the
last line is a 29 February: `C11_last_feb29_lost`.) -/
theorem C11_last_year (lead : Bool) (off Y : Int) (ms : List Msg) (m : Msg) (after : Option Int)
    (hp : Plain off (ms ++ [m])) :
    (processMissingYearL lead off Y (ms ++ [m]) after).getLast? = some (dateWith off Y m) := by
  rw [pmy_simple lead off Y _ after hp]
  unfold fuelFor
  rw [List.reverse_append]
  simp only [List.reverse_cons, List.reverse_nil, List.nil_append, List.singleton_append]
  obtain ⟨dt, hd⟩ := hp m (by simp) Y
  rw [walkS_head hd rfl, hd]
  simp

/-- a file (in file order) of messages with their true years, acceptable to `C11_years` -/
def WellDated (ts : List TMsg) : Prop :=
  (∀ t ∈ ts, t.Ok) ∧ Adj (Step BACKWARDS_TIME_JUMP_S) ts

theorem plain_of_wellDated (off : Int) (ts : List TMsg) (hw : WellDated ts) : Plain off (ts.map TMsg.msg) := by
  intro m hm
  simp at hm
  obtain ⟨t, ht, rfl⟩ := hm
  have h := hw.1 t ht
  exact alwaysParse_of_valid off t.y t.msg h.1 h.2.1

/-- **C11 (window).** With `--dt-after A` the backward pass stops at the first message (walking
back) that is before `A`: that message and all later ones carry their true dates, earlier
ones are left undated (`none`) — they are before the window in a chronological file. -/
theorem C11_window (lead : Bool) (off Y : Int) (after : Option Int) (ts : List TMsg) (hw : WellDated ts)
    (hY : ∀ t, ts.getLast? = some t → Y = t.y) :
    processMissingYearL lead off Y (ts.map TMsg.msg) after
      = (stopSpec after (ts.reverse.map (TMsg.instant off))).reverse := by
  rw [pmy_simple lead off Y _ after (plain_of_wellDated off ts hw)]
  rw [← List.map_reverse]
  have hadj : Adj (fun b a => Step BACKWARDS_TIME_JUMP_S a b) ts.reverse :=
    (adj_reverse (fun b a => Step BACKWARDS_TIME_JUMP_S a b) ts).mpr hw.2
  rw [walk_true_years BACKWARDS_TIME_JUMP_S off after (by decide) ts.reverse (fuelFor (ts.map TMsg.msg)) Y none
    (by simp [fuelFor]) (fun t ht => hw.1 t (List.mem_reverse.mp ht)) hadj
    fun r hr => .inl ⟨rfl, hY r (List.head?_reverse ▸ hr)⟩]

/-- **C11 (years).** If no message is a 29 February, the true year never decreases along the
file, time never runs backwards by more than 25 h, consecutive messages are less than
365 days − 25 h apart, and the mtime lies in the last message's year, then every message is
dated with its true year (so the year steps back exactly at each December→January wrap). -/
theorem C11_years (lead : Bool) (off Y : Int) (ts : List TMsg) (hw : WellDated ts)
    (hY : ∀ t, ts.getLast? = some t → Y = t.y) :
    processMissingYearL lead off Y (ts.map TMsg.msg) none = ts.map fun t => some (t.instant off) := by
  rw [C11_window lead off Y none ts hw hY, stopSpec_none, List.map_reverse, List.map_reverse, List.reverse_reverse,
    List.map_map]
  rfl

/-- the hypotheses of `C11_years` are satisfiable: a file spanning two year boundaries,
with a 20-hour backward step and an 11-month gap -/
def sample : List TMsg :=
  [⟨2019, 12, 30, 36000⟩, ⟨2019, 12, 31, 86399⟩, ⟨2020, 1, 1, 0⟩, ⟨2020, 1, 1, 1⟩,
   ⟨2020, 12, 1, 0⟩, ⟨2021, 1, 5, 1800⟩, ⟨2021, 1, 4, 9000⟩]

example : WellDated sample := by
  unfold WellDated
  constructor
  · decide +kernel
  · unfold sample; decide +kernel

example : processMissingYear 0 2021 (sample.map TMsg.msg) none = sample.map fun t => some (t.instant 0) := by
  decide +kernel

/-- **C11 (monotone).** Whatever the mtime and the order of a plain file's messages, the dates
stored by the pass never step back by more than the threshold from one dated message to the next
dated one. (With 29 February lines the statement is not proved: a sysline found with a common
fill year also takes following 29 February lines that were stored with a leap year, `blank`.) -/
theorem C11_monotone (lead : Bool) (off Y : Int) (ms : List Msg) (after : Option Int) (hp : Plain off ms) :
    Adj (fun a b => a ≤ b + BACKWARDS_TIME_JUMP_S) ((processMissingYearL lead off Y ms after).filterMap id) := by
  rw [pmy_simple lead off Y ms after hp]
  rw [List.filterMap_reverse, adj_reverse]
  exact walk_revOK BACKWARDS_TIME_JUMP_S off after (by decide) (fuelFor ms) ms.reverse Y none

/-! ### 29 February (Issue #245) -/

/-- `C11_years` without the "no 29 February" hypothesis -/
def C11_years_full : Prop :=
  ∀ (off Y : Int) (ts : List TMsg),
    (∀ t ∈ ts, validDate t.y t.mo t.day = true ∧ 0 ≤ t.sod ∧ t.sod < 86400) →
    Adj (Step BACKWARDS_TIME_JUMP_S) ts →
    (∀ t, ts.getLast? = some t → Y = t.y) →
    processMissingYear off Y (ts.map TMsg.msg) none = ts.map fun t => some (t.instant off)

/-- witness: `Jan  2` 2024, `Feb 29` 2024, `Feb 20` 2025 with an mtime in 2025. Read with 2025
the 29 February is not a date, so its line is swallowed by the `Jan  2` message, which then is
not more than 25 h after `Feb 20 2025` and keeps the year 2025. -/
def feb29Witness : List TMsg := [⟨2024, 1, 2, 0⟩, ⟨2024, 2, 29, 43200⟩, ⟨2025, 2, 20, 0⟩]

theorem C11_feb29_witness :
    processMissingYear 0 2025 (feb29Witness.map TMsg.msg) none
      = [some 1735776000, none, some 1740009600] := by decide +kernel   -- 2025-01-02 (true year 2024), 2025-02-20

/-- `C11_years_full` is false of the model, and of the code: `feb29Witness` is replayed on the binary by vlib/props/C11.py -/
theorem C11_years_full_false : ¬ C11_years_full := by
  intro h
  have := h 0 2025 feb29Witness (by decide) (by unfold feb29Witness; decide) (by decide)
  revert this
  decide +kernel

/-- a 29 February at the head of the file followed by a later-year message is never re-dated
(the forward pass then parses it with the dummy year 1972) -/
theorem C11_feb29_first_undated :
    processMissingYear 0 2025 [⟨2, 29, 43200⟩, ⟨1, 5, 1800⟩] none = [none, some 1736037000] := by decide +kernel   -- 2025-01-05

/-- a 29 February as LAST line, mtime in a leap year: it is stored with the leap year, then the
message before it steps the year back (December→…) and, re-read with the common year, takes the
29 February line as a continuation line — the last message loses its sysline (found by the
in-process correspondence; same root as Issue #245) -/
theorem C11_last_feb29_lost :
    processMissingYear 0 2044 [⟨10, 31, 0⟩, ⟨2, 29, 0⟩] none = [some 2329862400, none] := by decide +kernel   -- 2043-10-31

/-- `C11_last_year` without the plain-file hypothesis is false of the model (and of the code) -/
theorem C11_last_year_full_false :
    ¬ (∀ (off Y : Int) (ms : List Msg) (m : Msg), validDate Y m.mo m.day = true →
        (processMissingYear off Y (ms ++ [m]) none).getLast? = some (dateWith off Y m)) := by
  intro h
  have := h 0 2044 [⟨10, 31, 0⟩] ⟨2, 29, 0⟩ (by decide)
  revert this
  decide +kernel

/-- text before the first message and a 29 February first: the message after it is found AGAIN
after the year was stepped back for the 29 February, and is re-dated one year early -/
theorem C11_refind_redates :
    processMissingYearL true 0 2004 [⟨2, 29, 0⟩, ⟨1, 4, 0⟩, ⟨1, 15, 0⟩] none
      = [none, some 1041638400, some 1074124800] := by decide +kernel   -- 2003-01-04, 2004-01-15

/-- planted defect 1: `if fo_prev < charsz_fo { break; }` moved in front of the jump test -/
def skelStartExitFirst : Skel := { skel with decisions := [.startExit, .jump, .afterFilter] }

/-- With the start-of-file exit in front of the jump test the first message of the file is never
compared with its successor: a 2-message file whose first message, read with the mtime's year `Y`,
is more than the threshold AFTER the second one (the December→January wrap lies between them)
keeps the year `Y` for message 1 — one year late; the stored dates then step back by more than the
threshold, i.e. `C11_monotone` is false of that skeleton. -/
theorem start_exit_before_jump_misdates_first (off Y : Int) (m1 m2 : Msg) (t1 t2 : Int)
    (h1 : dateWith off Y m1 = some t1) (h2 : dateWith off Y m2 = some t2)
    (hwrap : t1 - t2 > BACKWARDS_TIME_JUMP_S) :
    processMissingYearG skelStartExitFirst false off Y [m1, m2] none = [some t1, some t2] ∧
      ¬ Adj (fun a b => a ≤ b + BACKWARDS_TIME_JUMP_S)
          ((processMissingYearG skelStartExitFirst false off Y [m1, m2] none).filterMap id) := by
  have hres : processMissingYearG skelStartExitFirst false off Y [m1, m2] none = [some t1, some t2] := by
    simp [processMissingYearG, fuelFor, walkG, findParse, h1, h2, verdict, verdictL, decision,
      skelStartExitFirst, skel, jumpedG, breaksAfterG, afterVariant, S4V.Gen.Filter.dtAfterOrBefore,
      S4V.Gen.Year.AFTER_FILTER_BREAKS_ON, blank]
  refine ⟨hres, ?_⟩
  rw [hres]
  simp only [List.filterMap_cons, id, List.filterMap_nil, Adj]
  omega

/-- the same file under the skeleton of the current source: message 1 is re-read with `Y - 1` -/
theorem current_source_dates_first (off Y : Int) (m1 m2 : Msg) (t1 t2 t1' : Int)
    (h1 : dateWith off Y m1 = some t1) (h2 : dateWith off Y m2 = some t2)
    (hwrap : t1 - t2 > BACKWARDS_TIME_JUMP_S)
    (h1' : dateWith off (Y - 1) m1 = some t1') (h2' : (dateWith off (Y - 1) m2).isSome = true) (hle : t1' ≤ t2) :
    processMissingYear off Y [m1, m2] none = [some t1', some t2] := by
  have hlt : t2 < t1 := by have : (0 : Int) < BACKWARDS_TIME_JUMP_S := by decide
                           omega
  have hnj : ¬ (t2 < t1' ∧ BACKWARDS_TIME_JUMP_S < t1' - t2) := by omega
  have hstep : Y + skel.yearStep = Y - 1 := rfl
  simp [processMissingYear, processMissingYearL, processMissingYearG, fuelFor, walkG, verdict_nf, hstep, findParse, blank,
    h1, h2, h1', h2', jumpedNF, beforeWindow, hlt, hwrap, hnj]

example : processMissingYearG skelStartExitFirst false 0 2021 [⟨12, 31, 86399⟩, ⟨1, 1, 0⟩] none
    = [some 1640995199, some 1609459200] := by decide +kernel   -- 2021-12-31T23:59:59 (wrong), 2021-01-01T00:00:00

example : processMissingYear 0 2021 [⟨12, 31, 86399⟩, ⟨1, 1, 0⟩] none
    = [some 1609459199, some 1609459200] := by decide +kernel   -- 2020-12-31T23:59:59

/-- planted defect 2: an extra `if filter_dt_after_opt.as_ref() == Some(syslinep.dt()) { break; }` -/
def skelBreakOnEqual : Skel := { skel with decisions := [.jump, .startExit, .equalAfter, .afterFilter] }

/-- With a break on `dt == --dt-after`, of two messages at the same instant `A` only the later one
is re-dated under `-a A`; the earlier one — inside the window — keeps the filler year. -/
theorem break_on_equal_after_loses (lead : Bool) (off Y : Int) (m : Msg) (A : Int)
    (h : dateWith off Y m = some A) :
    processMissingYearG skelBreakOnEqual lead off Y [m, m] (some A) = [none, some A] := by
  simp [processMissingYearG, fuelFor, walkG, findParse, h, verdict, verdictL, decision,
    skelBreakOnEqual, skel, jumpedG, blank]

/-- the current source re-dates both -/
theorem current_source_keeps_equal (lead : Bool) (off Y : Int) (m : Msg) (A : Int)
    (h : dateWith off Y m = some A) :
    processMissingYearL lead off Y [m, m] (some A) = [some A, some A] := by
  have hJ : ¬ (BACKWARDS_TIME_JUMP_S < 0) := by decide
  cases lead <;>
    simp [processMissingYearL, processMissingYearG, fuelFor, walkG, verdict_nf, findParse, refind, blank, h, jumpedNF,
      beforeWindow, hJ]

end S4V.Props.YearSpec
