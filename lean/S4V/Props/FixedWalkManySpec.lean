/-
Properties C08 and C12 — the record walk of `FixedStructReader` for EVERY block size `≥ 1`.

`S4V.Props.FixedWalkSpec` states `readData_spec`, `preprocess_spec`, `walk_spec`, `C08_walk_is_stable_sort` for requests
spanning at most two blocks (block size `≥` record size). `S4V.Lemmas.FixedWalkRead` proves every arm of
`BlockReader::read_data` / `read_data_to_buffer` exact (Many: first partial block, `skip(1).take(len-2)` whole blocks, last
partial block), so `ReadsExact d I span` holds for every `span`, and the theorems are stated here without the
`bs ≥ sz` / `bs ≥ tvSz` hypotheses (`*_any`). C12 follows from `runOut_spec`: what `new` + the worker loop deliver is
`specOut`, a function of the file alone.

The Many arm as coded is exact: `readData_spec_any` is the unrestricted statement and it holds, so there is no
`_full_false` here.

Counter-models (`many_*_wrong`): the off-by-one edits of the five regenerated facts of the Many arm
(`S4V.Model.FixedWalkMany.ManyCfg`) each make `ReadDataSpecAny` false on a 3- or 6-byte file.
-/
import S4V.Model.FixedWalkMany
import S4V.Props.FixedWalkSpec

namespace S4V.Props.FixedWalkManySpec
open S4V.Gen.Blocks S4V.Gen.Stream S4V.Gen.Keys S4V.Gen.FixedWalk S4V.Model.Lines S4V.Model.Stream
  S4V.Model.SortDrain S4V.Model.FixedWalk S4V.Model.FixedWalkMany S4V.Lemmas.SortDrain S4V.Lemmas.Stream
  S4V.Lemmas.StreamKeep S4V.Lemmas.FixedWalk S4V.Lemmas.FixedWalkRead S4V.Props.FixedWalkSpec

/-- the specification of one `read_data_to_buffer(beg, end, false, buffer[..len])` on a file with content `d` -/
def readSpec (d : Bytes) (beg e len : Nat) : R3 Bytes :=
  if beg ≥ min e d.length then R3.done
  else if len < min e d.length - beg then R3.err
  else R3.found (sl d beg (min e d.length))

/-- from any state of a faithful reader (plain file: any history of reads and drops; streamed file with blocks kept: any
history), for EVERY block size `bs ≥ 1` (`Faithful.hbs`) and EVERY request `[beg, end)` — one block, two blocks or any
number of blocks — `read_data_to_buffer` returns exactly `d[beg, min end |d|)`: `Done` iff that range is empty, `Err`
iff the buffer is shorter than the range; the reader invariant is re-established. -/
theorem readData_spec_any {d : Bytes} {bs : Nat} {I : Rd → Prop} (hF : Faithful d bs I) (r : Rd) (beg e len : Nat)
    (hr : I r) (hlen : 1 ≤ len) :
    ∃ r', I r' ∧ readDataToBuffer r beg e false len = (readSpec d beg e len, r') := by
  obtain ⟨r', h1, _, h3⟩ := read_exact hF r beg e len hr hlen
  exact ⟨r', h1, h3⟩

theorem plain_exact_any (d : Bytes) (bs : Nat) (hbs : 1 ≤ bs) (span : Nat) : ReadsExact d (PlainI d bs) span :=
  readsExact (faithful_plain d bs hbs) span

theorem keep_exact_any (d : Bytes) (bs : Nat) (hbs : 1 ≤ bs) (span : Nat) : ReadsExact d (KeepI d bs) span :=
  readsExact (faithful_keep d bs hbs) span

theorem readData_plain_any (d : Bytes) (bs : Nat) (hbs : 1 ≤ bs) (beg e len : Nat) (hlen : 1 ≤ len) :
    (readDataToBuffer (Rd.new .plain bs d [] []) beg e false len).1 = readSpec d beg e len := by
  obtain ⟨r', _, h⟩ := readData_spec_any (faithful_plain d bs hbs) (Rd.new .plain bs d [] []) beg e len
    ⟨PInv.new bs d [] [] hbs, rfl⟩ hlen
  rw [h]

-- non-vacuity: block size 1, a 5-block request (Many arm), then a request running past the end of the file
example : ∃ r', PlainI [1, 2, 3, 4, 5, 6, 7] 1 r' ∧
    readDataToBuffer (Rd.new .plain 1 [1, 2, 3, 4, 5, 6, 7] [] []) 1 6 false 5 = (R3.found [2, 3, 4, 5, 6], r') :=
  readData_spec_any (faithful_plain [1, 2, 3, 4, 5, 6, 7] 1 (by decide)) _ 1 6 5 ⟨PInv.new 1 _ [] [] (by decide), rfl⟩ (by decide)
example : ∀ bs ∈ [1, 2, 3],
    (readDataSeq (Rd.new .plain bs [1, 2, 3, 4, 5, 6, 7] [] []) [(1, 6, false, 5), (2, 99, false, 7), (0, 7, false, 6), (7, 9, false, 1)]).1
      = [.found [2, 3, 4, 5, 6], .found [3, 4, 5, 6, 7], .err, .done] := by decide +kernel

/-- `readData_spec_any` for an implementation `f` of `read_data_to_buffer`, on fresh plain readers -/
def ReadDataSpecAny (f : Rd → Nat → Nat → Bool → Nat → R3 Bytes × Rd) : Prop :=
  ∀ (bs : Nat) (d : Bytes) (beg e len : Nat), 1 ≤ bs → 1 ≤ len →
    (f (Rd.new .plain bs d [] []) beg e false len).1 = readSpec d beg e len

theorem readDataSpecAny_source : ReadDataSpecAny (readDataToBufferC mcfg0) := by
  intro bs d beg e len hbs hlen
  rw [readDataToBufferC_mcfg0]
  exact readData_plain_any d bs hbs beg e len hlen

/-- counter-model — `take(len_ - 2)` → `take(len_ - 1)`: the last block is copied twice (one byte too many, or `Err` on a
buffer of the right size) -/
theorem many_take_len_minus_one_wrong : ¬ ReadDataSpecAny (readDataToBufferC { mcfg0 with midLess := 1 }) := by
  intro h
  exact absurd (h 1 [1, 2, 3] 0 3 3 (by decide) (by decide)) (by decide +kernel)

example : (readDataToBufferC { mcfg0 with midLess := 1 } (Rd.new .plain 1 [1, 2, 3] [] []) 0 3 false 3).1 = .err
    ∧ (readDataToBufferC { mcfg0 with midLess := 1 } (Rd.new .plain 1 [1, 2, 3] [] []) 0 3 false 4).1 = .found [1, 2, 3, 3] := by
  decide +kernel

/-- counter-model — `take(len_ - 2)` → `take(len_ - 3)`: a middle block is lost -/
theorem many_take_len_minus_three_wrong : ¬ ReadDataSpecAny (readDataToBufferC { mcfg0 with midLess := 3 }) := by
  intro h
  exact absurd (h 1 [1, 2, 3] 0 3 3 (by decide) (by decide)) (by decide +kernel)

/-- counter-model — `skip(1)` → `skip(0)`: the first block is copied twice -/
theorem many_skip_zero_wrong : ¬ ReadDataSpecAny (readDataToBufferC { mcfg0 with midSkip := 0 }) := by
  intro h
  exact absurd (h 1 [1, 2, 3] 0 3 4 (by decide) (by decide)) (by decide +kernel)

/-- counter-model — `skip(1)` → `skip(2)` -/
theorem many_skip_two_wrong : ¬ ReadDataSpecAny (readDataToBufferC { mcfg0 with midSkip := 2 }) := by
  intro h
  exact absurd (h 1 [1, 2, 3] 0 3 3 (by decide) (by decide)) (by decide +kernel)

/-- counter-model — `while bo1 <= bo2` → `while bo1 < bo2`: the last block is never read, the data stops short -/
theorem many_loop_exclusive_wrong : ¬ ReadDataSpecAny (readDataToBufferC { mcfg0 with loopInclusive := false }) := by
  intro h
  exact absurd (h 1 [1, 2, 3] 0 3 3 (by decide) (by decide)) (by decide +kernel)

example : (readDataToBufferC { mcfg0 with loopInclusive := false } (Rd.new .plain 1 [1, 2, 3] [] []) 0 3 false 3).1
    = .found [1, 2] := by decide +kernel

/-- counter-model — first part one byte shorter (`len - bi1 - 1`): a byte at the first block boundary is lost -/
theorem many_first_short_wrong :
    ¬ ReadDataSpecAny (readDataToBufferC { mcfg0 with firstN := fun bi1 _ len => len - bi1 - 1 }) := by
  intro h
  exact absurd (h 2 [1, 2, 3, 4, 5, 6] 0 6 6 (by decide) (by decide)) (by decide +kernel)

/-- counter-model — first part one byte longer (`len - bi1 + 1`): the slice `[bi1 .. bi1 + n]` leaves the block, a panic -/
theorem many_first_long_wrong :
    ¬ ReadDataSpecAny (readDataToBufferC { mcfg0 with firstN := fun bi1 _ len => len - bi1 + 1 }) := by
  intro h
  exact absurd (h 2 [1, 2, 3, 4, 5, 6] 0 6 6 (by decide) (by decide)) (by decide +kernel)

/-- counter-model — last part one byte shorter (`bi2 - 1`): the last byte is lost -/
theorem many_last_short_wrong :
    ¬ ReadDataSpecAny (readDataToBufferC { mcfg0 with lastN := fun _ bi2 _ => bi2 - 1 }) := by
  intro h
  exact absurd (h 2 [1, 2, 3, 4, 5, 6] 0 6 6 (by decide) (by decide)) (by decide +kernel)

/-- counter-model — last part one byte longer (`bi2 + 1`): a byte beyond `end` is returned -/
theorem many_last_long_wrong :
    ¬ ReadDataSpecAny (readDataToBufferC { mcfg0 with lastN := fun _ bi2 _ => bi2 + 1 }) := by
  intro h
  exact absurd (h 2 [1, 2, 3, 4, 5, 6] 0 5 6 (by decide) (by decide)) (by decide +kernel)

/-- the generated facts of the Many arm the theorems above rest on -/
theorem generated_facts_many :
    RD_MANY_LOOP_INCLUSIVE = true ∧ MANY_MID_SKIP = 1 ∧ MANY_MID_LESS = 2
    ∧ manyFirstN 3 5 8 = 5 ∧ manyFirstBeg 3 5 5 8 = 3 ∧ manyFirstEnd 3 5 5 8 = 8 ∧ manyFirstDstFromAt = false
    ∧ manyMidN 3 5 8 = 8 ∧ manyMidBeg 3 5 8 8 = 0 ∧ manyMidEnd 3 5 8 8 = 8 ∧ manyMidDstFromAt = true
    ∧ manyLastN 3 5 8 = 5 ∧ manyLastBeg 3 5 5 8 = 0 ∧ manyLastEnd 3 5 5 8 = 5 ∧ manyLastDstFromAt = true
    ∧ LEN_CHECK_STRICT = true := by decide

/-- `preprocess_spec` for every block size `≥ 1` (a time value may span any number of blocks) -/
theorem preprocess_spec_any {d : Bytes} {bs : Nat} {I : Rd → Prop} (hF : Faithful d bs I) (p : P)
    (a b : Option (Int × Int)) (hsz : 1 ≤ p.sz) (htv : 1 ≤ p.tvSz) (hin : p.tvOff + p.tvSz ≤ p.sz)
    (hdiv : d.length % p.sz = 0) (r : Rd) (hr : I r) :
    ∃ r' k, I r' ∧ r'.bs = r.bs ∧
      preprocess cfg0 p a b r =
        (.found (k, build (((recsOf p d).filter (fixedKeep a b)).map fun x => (fixedKey x, x.idx))), r')
      ∧ k.total = (nonNull (recsOf p d)).length
      ∧ k.invalid = noneCount p d (offs p.sz (d.length / p.sz) 0)
      ∧ k.noPass = ((nonNull (recsOf p d)).filter (fun x => !fixedKeep a b x)).length
      ∧ k.ooo = descents none (nonNull (recsOf p d)) :=
  preprocess_spec (readsExact hF p.tvSz) p a b hsz htv hin (Nat.le_refl _) hdiv r hr

/-- `walk_spec` for every block size `≥ 1` (a record may span any number of blocks) -/
theorem walk_spec_any {d : Bytes} {bs : Nat} {I : Rd → Prop} (hF : Faithful d bs I) (p : P)
    (a b : Option (Int × Int)) (hsz : 1 ≤ p.sz) (htv : 1 ≤ p.tvSz) (hin : p.tvOff + p.tvSz ≤ p.sz)
    (hdiv : d.length % p.sz = 0) (r : Rd) (hr : I r) (scored : List (Nat × Bytes)) (hsc : CacheOk p d scored)
    (buflen : Nat) (hbuf : p.sz ≤ buflen) {fr : FR} {k : Cnt} {fef mx : Nat}
    (hnew : frNew cfg0 p a b r scored = .ok fr k fef mx) :
    fr.map = build (((recsOf p d).filter (fixedKeep a b)).map fun x => (fixedKey x, x.idx))
    ∧ ∃ fr', walk cfg0 p buflen fr = (fr.map.map (emitOf p d), .done, fr') :=
  walk_spec (readsExact hF p.sz) p a b hsz htv hin (Nat.le_refl _) hdiv r hr scored hsc buflen hbuf hnew

/-- for every block size `≥ 1`, plain or streamed (blocks kept): the offsets the worker visits are the non-null
in-window records of the file stably sorted by time value (equal times in file order) -/
theorem C08_walk_is_stable_sort_any {d : Bytes} {bs : Nat} {I : Rd → Prop} (hF : Faithful d bs I) (p : P)
    (a b : Option (Int × Int)) (hsz : 1 ≤ p.sz) (htv : 1 ≤ p.tvSz) (hin : p.tvOff + p.tvSz ≤ p.sz)
    (hdiv : d.length % p.sz = 0) (r : Rd) (hr : I r) (scored : List (Nat × Bytes)) (hsc : CacheOk p d scored)
    (buflen : Nat) (hbuf : p.sz ≤ buflen) {fr : FR} {k : Cnt} {fef mx : Nat}
    (hnew : frNew cfg0 p a b r scored = .ok fr k fef mx) :
    ∃ fr', walk cfg0 p buflen fr = (fr.map.map (emitOf p d), .done, fr')
      ∧ fr.map.map (·.2) =
          (stableSort (fun x : Rec => (x.tv.1, x.tv.2, 0)) ((recsOf p d).filter (fixedKeep a b))).map (·.idx) :=
  C08_walk_is_stable_sort (readsExact hF p.sz) p a b hsz htv hin (Nat.le_refl _) hdiv r hr scored hsc buflen hbuf hnew

-- non-vacuity: the toy layout (2-byte records) at block size 1 — every record spans two blocks, and with `pW` below
-- (5-byte records) every record is assembled by the Many arm
example : (match frNew cfg0 pT none none (rdNew cfg0 .plain 1 dT [] []) [] with | .ok .. => true | _ => false) = true := by
  decide +kernel

/-- what `FixedStructReader::new` + the worker loop deliver -/
inductive Out where
  /-- `new` succeeded: entries sent, how the loop ended, the counters of `preprocess_timevalues`,
  `first_entry_fileoffset`, `map_tvpair_fo_max_len` -/
  | sent (es : List Emit) (e : End) (k : Cnt) (firstEntryFo maxLen : Nat)
  | noValid
  | notInWindow
  | io
  | panic
  deriving DecidableEq, Repr, Inhabited

/-- `new` from reader state `r` (with `scored` cached by `score_file`), then the worker loop -/
def runOut (p : P) (a b : Option (Int × Int)) (r : Rd) (scored : List (Nat × Bytes)) (buflen : Nat) : Out :=
  match frNew cfg0 p a b r scored with
  | .ok fr k fef mx => let w := walk cfg0 p buflen fr; .sent w.1 w.2.1 k fef mx
  | .errNoValid => .noValid
  | .errNotInWindow => .notInWindow
  | .errIo => .io
  | .panic => .panic

def specMap (p : P) (a b : Option (Int × Int)) (d : Bytes) : Map :=
  build (((recsOf p d).filter (fixedKeep a b)).map fun x => (fixedKey x, x.idx))

def specCnt (p : P) (a b : Option (Int × Int)) (d : Bytes) : Cnt :=
  { total := (nonNull (recsOf p d)).length,
    invalid := noneCount p d (offs p.sz (d.length / p.sz) 0),
    noPass := ((nonNull (recsOf p d)).filter (fun x => !fixedKeep a b x)).length,
    ooo := descents none (nonNull (recsOf p d)) }

/-- what must be delivered for a file with content `d`: no reader, no block size -/
def specOut (p : P) (a b : Option (Int × Int)) (d : Bytes) : Out :=
  if (specMap p a b d).isEmpty then (if (specCnt p a b d).noPass > 0 then .notInWindow else .noValid)
  else .sent ((specMap p a b d).map (emitOf p d)) .done (specCnt p a b d) (firstEntryFo d.length (specMap p a b d))
    (specMap p a b d).length

/-- for every faithful reader (any block size `≥ 1`, any state), any cached records that are records of the file, and a
buffer of at least one record: `new` + the worker loop deliver exactly `specOut`, a function of the file content, the
layout and the window alone. -/
theorem runOut_spec {d : Bytes} {bs : Nat} {I : Rd → Prop} (hF : Faithful d bs I) (p : P)
    (a b : Option (Int × Int)) (hsz : 1 ≤ p.sz) (htv : 1 ≤ p.tvSz) (hin : p.tvOff + p.tvSz ≤ p.sz)
    (hdiv : d.length % p.sz = 0) (r : Rd) (hr : I r) (scored : List (Nat × Bytes)) (hsc : CacheOk p d scored)
    (buflen : Nat) (hbuf : p.sz ≤ buflen) :
    runOut p a b r scored buflen = specOut p a b d := by
  obtain ⟨r', ⟨t, i, n, o⟩, h1, -, h3, c1, c2, c3, c4⟩ := preprocess_spec_any hF p a b hsz htv hin hdiv r hr
  simp only at c1 c2 c3 c4
  subst c1 c2 c3 c4
  change _ = (R3.found (specCnt p a b d, specMap p a b d), r') at h3
  rw [runOut, frNew, h3, specOut]
  simp only [(hF.st r' h1).2]
  by_cases hemp : (specMap p a b d).isEmpty = true
  · rw [if_pos hemp, if_pos hemp]
    by_cases hnp : (specCnt p a b d).noPass > 0
    · rw [if_pos hnp, if_pos hnp]
    · rw [if_neg hnp, if_neg hnp]
  · -- the state `new` hands to the worker is well formed
    obtain ⟨fr', hw⟩ := walk_exact (readsExact hF p.sz) p hsz (Nat.le_refl _) hdiv buflen hbuf
      { rd := r', map := specMap p a b d, cache := scored.filter fun e => (specMap p a b d).any fun x => x.2 == e.1,
        use := useBuild r'.bs p.sz (specMap p a b d),
        processed := (scored.filter fun e => (specMap p a b d).any fun x => x.2 == e.1).length }
      ⟨h1, built_mapOk p d a b hsz, hsc.filter _⟩
    rw [if_neg hemp, if_neg hemp]
    simp only [hw]

/-- any two faithful readers of the same content (plain at block size `bs₁`, plain or streamed-with-blocks-kept at block
size `bs₂`, each in any reachable state, with any cached records) deliver the same: same error kind of `new`, or the
same sequence sent, loop end, counters, first entry offset and map size. -/
theorem C12_fixed_reader_independent {d : Bytes} {bs₁ bs₂ : Nat} {I₁ I₂ : Rd → Prop} (hF₁ : Faithful d bs₁ I₁)
    (hF₂ : Faithful d bs₂ I₂) (p : P) (a b : Option (Int × Int)) (hsz : 1 ≤ p.sz) (htv : 1 ≤ p.tvSz)
    (hin : p.tvOff + p.tvSz ≤ p.sz) (hdiv : d.length % p.sz = 0) (r₁ r₂ : Rd) (hr₁ : I₁ r₁) (hr₂ : I₂ r₂)
    (scored₁ scored₂ : List (Nat × Bytes)) (hsc₁ : CacheOk p d scored₁) (hsc₂ : CacheOk p d scored₂)
    (buflen : Nat) (hbuf : p.sz ≤ buflen) :
    runOut p a b r₁ scored₁ buflen = runOut p a b r₂ scored₂ buflen := by
  rw [runOut_spec hF₁ p a b hsz htv hin hdiv r₁ hr₁ scored₁ hsc₁ buflen hbuf,
    runOut_spec hF₂ p a b hsz htv hin hdiv r₂ hr₂ scored₂ hsc₂ buflen hbuf]

/-- the plain reader `new` builds: for ANY two block sizes `≥ 1` (smaller than, equal to or larger than a record;
records aligned with blocks or not) the outcome of `new` and the sequence the worker sends are the same. -/
theorem C12_fixed_blocksz_independent (d : Bytes) (p : P) (a b : Option (Int × Int)) (hsz : 1 ≤ p.sz) (htv : 1 ≤ p.tvSz)
    (hin : p.tvOff + p.tvSz ≤ p.sz) (hdiv : d.length % p.sz = 0) (bs₁ bs₂ : Nat) (h₁ : 1 ≤ bs₁) (h₂ : 1 ≤ bs₂)
    (scored₁ scored₂ : List (Nat × Bytes)) (hsc₁ : CacheOk p d scored₁) (hsc₂ : CacheOk p d scored₂)
    (buflen : Nat) (hbuf : p.sz ≤ buflen) :
    runOut p a b (rdNew cfg0 .plain bs₁ d [] []) scored₁ buflen
      = runOut p a b (rdNew cfg0 .plain bs₂ d [] []) scored₂ buflen :=
  C12_fixed_reader_independent (faithful_plain d bs₁ h₁) (faithful_plain d bs₂ h₂) p a b hsz htv hin hdiv _ _
    (plain_new d bs₁ h₁) (plain_new d bs₂ h₂) scored₁ scored₂ hsc₁ hsc₂ buflen hbuf

/-- the same between a plain file and a streamed one (gz / bz2 / lz4, any chunking of the decoder) at any block sizes -/
theorem C12_fixed_plain_vs_streamed (d : Bytes) (p : P) (a b : Option (Int × Int)) (hsz : 1 ≤ p.sz) (htv : 1 ≤ p.tvSz)
    (hin : p.tvOff + p.tvSz ≤ p.sz) (hdiv : d.length % p.sz = 0) (bs₁ bs₂ : Nat) (h₁ : 1 ≤ bs₁) (h₂ : 1 ≤ bs₂)
    (kind : Kind) (hk : kind = .gz ∨ kind = .bz2 ∨ kind = .lz4) (cs csPre : List Nat)
    (scored₁ scored₂ : List (Nat × Bytes)) (hsc₁ : CacheOk p d scored₁) (hsc₂ : CacheOk p d scored₂)
    (buflen : Nat) (hbuf : p.sz ≤ buflen) :
    runOut p a b (rdNew cfg0 .plain bs₁ d [] []) scored₁ buflen
      = runOut p a b (rdNew cfg0 kind bs₂ d cs csPre) scored₂ buflen :=
  C12_fixed_reader_independent (faithful_plain d bs₁ h₁) (faithful_keep d bs₂ h₂) p a b hsz htv hin hdiv _ _
    (plain_new d bs₁ h₁) (keep_new kind d bs₂ cs csPre h₂ hk) scored₁ scored₂ hsc₁ hsc₂ buflen hbuf

/-- a toy layout with 5-byte records, the time (seconds) in byte 1: at block size 1 every record spans 5 blocks, at block
size 2 or 3 three or two -/
def pW : P :=
  { sz := 5, tvOff := 1, tvSz := 2,
    tvOf := fun b => match b with | [x, y] => some (x.toNat, y.toNat) | _ => none,
    newOk := fun _ => true }

/-- three records: times (3,0), (1,0), (2,0) -/
def dW : Bytes := [10, 3, 0, 11, 12, 20, 1, 0, 21, 22, 30, 2, 0, 31, 32]

/-- `runOut` on the toy file: the same for block sizes 1 (Many arm, 5 blocks per record), 2, 3, 4 (Many / Two), 5, 7, 64 -/
theorem runOut_example :
    ∀ bs ∈ [1, 2, 3, 4, 5, 7, 64], runOut pW none none (rdNew cfg0 .plain bs dW [] []) [] 8 =
      .sent [.msg 5 [20, 1, 0, 21, 22] false, .msg 10 [30, 2, 0, 31, 32] true, .msg 0 [10, 3, 0, 11, 12] false] .done
        { total := 3, ooo := 1 } 0 3 := by decide +kernel

/-- … and it is `specOut` (the hypotheses of `runOut_spec` hold for `pW`, `dW`) -/
example : runOut pW none none (rdNew cfg0 .plain 1 dW [] []) [] 8 = specOut pW none none dW :=
  runOut_spec (faithful_plain dW 1 (by decide)) pW none none (by decide) (by decide) (by decide) (by decide) _
    (plain_new dW 1 (by decide)) [] (fun _ h => by cases h) 8 (by decide)

/-- a window that excludes everything: `new` fails the same way at every block size -/
example : ∀ bs ∈ [1, 2, 5, 64], runOut pW (some (9, 0)) none (rdNew cfg0 .plain bs dW [] []) [] 8 = .notInWindow := by decide +kernel

end S4V.Props.FixedWalkManySpec
