/-
GENERATED by tools/mk_regexrows.py from harness/src/rgx_rows.txt (gen/gen_regex.py) — regenerate, do not edit.

C04, regex slice: rows 87–101 of `DATETIME_PARSE_DATAS`. `rowsJ` holds the literals of their certificates (`RowFacts`,
`S4V.Lemmas.RegexTable`), `certsJ` is ONE kernel evaluation for all of them, and `certN`, `factsN` are its components for row N; a row
without an end-to-end theorem (the epoch rows; a row that failed `catOK`) has no certificate and evaluates its own `factsN`. `C04_rowN_search`: for EVERY
selection of entries of the row's catalogue (`rowBodyE` / `rowBodyP`, `S4V.Lemmas.RegexAuto`) and of concrete words, and every
admissible tail, `search` matches at 0, spans exactly the words (and the byte of a final group), and every capture group spans
the word of its item.
-/
import S4V.Gen.Regex
import S4V.Lemmas.RegexTable

namespace S4V.Props.RegexCapture3
open S4V.Model.Regex S4V.Gen.Regex S4V.Lemmas.RegexStep S4V.Lemmas.RegexSym S4V.Lemmas.RegexRows S4V.Lemmas.RegexAuto
open S4V.Lemmas.RegexE2E S4V.Lemmas.Utf8 S4V.Gen.TimeTables

def rowsJ : List RowFacts := [
  { row := row87, counts := [(63, 63), (1, 1), (105, 105), (2, 2), (40, 49), (1, 1), (25, 25), (2, 2), (1, 1), (2, 2), (2, 2), (1, 1), (3, 3), (1, 1), (1, 1)], digest := 310147088,
    line := some "Mon Dec 5 21:01:12 2016 -00 try umount root [1] times".toUTF8.toList, fits := true },
  { row := row88, counts := [(63, 63), (1, 1), (105, 105), (2, 2), (40, 49), (1, 1), (25, 25), (2, 2), (1, 1), (2, 2), (2, 2), (1, 1), (3, 3)], digest := 15242555,
    line := some "Mon Dec 5 21:01:12 2016 try umount root [1] times".toUTF8.toList, fits := true },
  { row := row89, counts := [(63, 63), (1, 1), (105, 105), (2, 2), (40, 49), (1, 1), (25, 25), (2, 2), (1, 1), (2, 2), (2, 2), (1, 1), (3, 3)], digest := 15242555,
    line := some "Mon Dec 5 21:01:12 2016 try umount root [1] times".toUTF8.toList, fits := true },
  { row := row90, counts := [(3, 3), (2, 2), (105, 105), (3, 3), (37, 49), (3, 3), (25, 25), (2, 2), (1, 1), (2, 2), (2, 2), (3, 3), (1, 1)], digest := 997676771,
    line := some "2023 Aug 31 20:01:05 -00:00 [ERROR] dev-disk-a error 0x08320105".toUTF8.toList, fits := true },
  { row := row91, counts := [(3, 3), (2, 2), (105, 105), (3, 3), (37, 49), (3, 3), (25, 25), (2, 2), (1, 1), (2, 2), (2, 2), (3, 3), (1, 1)], digest := 345263732,
    line := some "2023 Aug 31 20:01:05 -0000 [ERROR] dev-disk-a error 0x08320105".toUTF8.toList, fits := true },
  { row := row92, counts := [(3, 3), (2, 2), (105, 105), (3, 3), (37, 49), (3, 3), (25, 25), (2, 2), (1, 1), (2, 2), (2, 2), (3, 3), (1, 1)], digest := 996437417,
    line := some "2023 Aug 31 20:01:05 -00 [ERROR] dev-disk-a error 0x08320105".toUTF8.toList, fits := true },
  { row := row93, counts := [(3, 3), (2, 2), (105, 105), (3, 3), (37, 49), (3, 3), (25, 25), (2, 2), (1, 1), (2, 2), (2, 2), (3, 3), (392, 392)], digest := 669685002,
    line := some "2023 Aug 31 20:01:05 UTC [ERROR] dev-disk-a error 0x08320105".toUTF8.toList, fits := true },
  { row := row94, counts := [(3, 3), (2, 2), (105, 105), (3, 3), (37, 49), (3, 3), (25, 25), (2, 2), (1, 1), (2, 2), (2, 2)], digest := 507098990,
    line := some "2023 Aug 31 20:01:05 [ERROR] dev-disk-a error 0x08320105".toUTF8.toList, fits := true },
  { row := row95, counts := [(1, 1), (3, 3), (1, 1), (12, 12), (1, 1), (46, 49), (2, 2), (25, 25), (2, 2), (1, 1), (1, 1)], digest := 459879696,
    line := some "[2019-03-01 16:56] [PACMAN] synchronizing package lists".toUTF8.toList, fits := true },
  { row := row101, counts := [(3, 3), (2, 2), (12, 12), (2, 2), (37, 49), (2, 2), (25, 25), (2, 2), (1, 1), (2, 2), (2, 2), (1, 1), (1, 1), (2, 2), (1, 1)], digest := 189004646,
    line := some "2022-10-12 09:26:44:980-0700    1       181 [AGENT_INSTALLING_STARTED]  101      {ADF3720E-8453-44C7-82EF-F9F5DA2D8551} ".toUTF8.toList, fits := true }]

theorem certsJ : ∀ i (h : i < rowsJ.length), rowsJ[i].Cert :=
  RowFacts.certs_of_all (by
    unfold rowsJ
    rw [toUTF8_toList_ofList, toUTF8_toList_ofList, toUTF8_toList_ofList, toUTF8_toList_ofList, toUTF8_toList_ofList, toUTF8_toList_ofList, toUTF8_toList_ofList, toUTF8_toList_ofList, toUTF8_toList_ofList]
    decide +kernel)

/-! ### row 87 (dayIgnore:1,month:2,day:3,hour:4,minute:5,second:6,year:7,tz:8): head `bol`, end `(?P<g>[class]|$)` -/

theorem cert87 : (rowsJ[0]'(by decide)).Cert := certsJ 0 (by decide)

theorem facts87 : keptCounts (rowBodyE re87 1) = [(63, 63), (1, 1), (105, 105), (2, 2), (40, 49), (1, 1), (25, 25), (2, 2), (1, 1), (2, 2), (2, 2), (1, 1), (3, 3), (1, 1), (1, 1)] ∧
    catDigest (rowBodyE re87 1) = 310147088 ∧
    splitsL (rowBodyE re87 1) "Mon Dec 5 21:01:12 2016 -00 try umount root [1] times".toUTF8.toList = true := cert87.facts

theorem C04_row87_search (sel : Sel) (hv : Valid (rowBodyE re87 1) sel) (tail : List UInt8) (ht : TailIn (rowEndSym re87) tail) :
    RowResult row87.re (flat sel ++ tail) ((flat sel).length + tailLen tail) [] (sel ++ [rowEndEw re87 tail]) :=
  auto_E (re := re87) (by rfl) cert87.headOk sel hv tail ht

/-! ### row 88 (dayIgnore:1,month:2,day:3,hour:4,minute:5,second:6,year:7): head `bol`, end `(?P<g>[class]|$)` -/

theorem cert88 : (rowsJ[1]'(by decide)).Cert := certsJ 1 (by decide)

theorem facts88 : keptCounts (rowBodyE re88 1) = [(63, 63), (1, 1), (105, 105), (2, 2), (40, 49), (1, 1), (25, 25), (2, 2), (1, 1), (2, 2), (2, 2), (1, 1), (3, 3)] ∧
    catDigest (rowBodyE re88 1) = 15242555 ∧
    splitsL (rowBodyE re88 1) "Mon Dec 5 21:01:12 2016 try umount root [1] times".toUTF8.toList = true := cert88.facts

theorem C04_row88_search (sel : Sel) (hv : Valid (rowBodyE re88 1) sel) (tail : List UInt8) (ht : TailIn (rowEndSym re88) tail) :
    RowResult row88.re (flat sel ++ tail) ((flat sel).length + tailLen tail) [] (sel ++ [rowEndEw re88 tail]) :=
  auto_E (re := re88) (by rfl) cert88.headOk sel hv tail ht

/-! ### row 89 (dayIgnore:1,month:2,day:3,hour:4,minute:5,second:6,year:7): head `bol`, end `(?P<g>[class]|$)` -/

theorem cert89 : (rowsJ[2]'(by decide)).Cert := certsJ 2 (by decide)

theorem facts89 : keptCounts (rowBodyE re89 1) = [(63, 63), (1, 1), (105, 105), (2, 2), (40, 49), (1, 1), (25, 25), (2, 2), (1, 1), (2, 2), (2, 2), (1, 1), (3, 3)] ∧
    catDigest (rowBodyE re89 1) = 15242555 ∧
    splitsL (rowBodyE re89 1) "Mon Dec 5 21:01:12 2016 try umount root [1] times".toUTF8.toList = true := cert89.facts

theorem C04_row89_search (sel : Sel) (hv : Valid (rowBodyE re89 1) sel) (tail : List UInt8) (ht : TailIn (rowEndSym re89) tail) :
    RowResult row89.re (flat sel ++ tail) ((flat sel).length + tailLen tail) [] (sel ++ [rowEndEw re89 tail]) :=
  auto_E (re := re89) (by rfl) cert89.headOk sel hv tail ht

/-! ### row 90 (year:1,month:2,day:4,hour:6,minute:7,second:8,tz:10): head `bol`, end `(?P<g>[class]|$)` -/

theorem cert90 : (rowsJ[3]'(by decide)).Cert := certsJ 3 (by decide)

theorem facts90 : keptCounts (rowBodyE re90 1) = [(3, 3), (2, 2), (105, 105), (3, 3), (37, 49), (3, 3), (25, 25), (2, 2), (1, 1), (2, 2), (2, 2), (3, 3), (1, 1)] ∧
    catDigest (rowBodyE re90 1) = 997676771 ∧
    splitsL (rowBodyE re90 1) "2023 Aug 31 20:01:05 -00:00 [ERROR] dev-disk-a error 0x08320105".toUTF8.toList = true := cert90.facts

theorem C04_row90_search (sel : Sel) (hv : Valid (rowBodyE re90 1) sel) (tail : List UInt8) (ht : TailIn (rowEndSym re90) tail) :
    RowResult row90.re (flat sel ++ tail) ((flat sel).length + tailLen tail) [] (sel ++ [rowEndEw re90 tail]) :=
  auto_E (re := re90) (by rfl) cert90.headOk sel hv tail ht

/-! ### row 91 (year:1,month:2,day:4,hour:6,minute:7,second:8,tz:10): head `bol`, end `(?P<g>[class]|$)` -/

theorem cert91 : (rowsJ[4]'(by decide)).Cert := certsJ 4 (by decide)

theorem facts91 : keptCounts (rowBodyE re91 1) = [(3, 3), (2, 2), (105, 105), (3, 3), (37, 49), (3, 3), (25, 25), (2, 2), (1, 1), (2, 2), (2, 2), (3, 3), (1, 1)] ∧
    catDigest (rowBodyE re91 1) = 345263732 ∧
    splitsL (rowBodyE re91 1) "2023 Aug 31 20:01:05 -0000 [ERROR] dev-disk-a error 0x08320105".toUTF8.toList = true := cert91.facts

theorem C04_row91_search (sel : Sel) (hv : Valid (rowBodyE re91 1) sel) (tail : List UInt8) (ht : TailIn (rowEndSym re91) tail) :
    RowResult row91.re (flat sel ++ tail) ((flat sel).length + tailLen tail) [] (sel ++ [rowEndEw re91 tail]) :=
  auto_E (re := re91) (by rfl) cert91.headOk sel hv tail ht

/-! ### row 92 (year:1,month:2,day:4,hour:6,minute:7,second:8,tz:10): head `bol`, end `(?P<g>[class]|$)` -/

theorem cert92 : (rowsJ[5]'(by decide)).Cert := certsJ 5 (by decide)

theorem facts92 : keptCounts (rowBodyE re92 1) = [(3, 3), (2, 2), (105, 105), (3, 3), (37, 49), (3, 3), (25, 25), (2, 2), (1, 1), (2, 2), (2, 2), (3, 3), (1, 1)] ∧
    catDigest (rowBodyE re92 1) = 996437417 ∧
    splitsL (rowBodyE re92 1) "2023 Aug 31 20:01:05 -00 [ERROR] dev-disk-a error 0x08320105".toUTF8.toList = true := cert92.facts

theorem C04_row92_search (sel : Sel) (hv : Valid (rowBodyE re92 1) sel) (tail : List UInt8) (ht : TailIn (rowEndSym re92) tail) :
    RowResult row92.re (flat sel ++ tail) ((flat sel).length + tailLen tail) [] (sel ++ [rowEndEw re92 tail]) :=
  auto_E (re := re92) (by rfl) cert92.headOk sel hv tail ht

/-! ### row 93 (year:1,month:2,day:4,hour:6,minute:7,second:8,tz:10): head `bol`, end `(?P<g>[class]|$)` -/

theorem cert93 : (rowsJ[6]'(by decide)).Cert := certsJ 6 (by decide)

theorem facts93 : keptCounts (rowBodyE re93 1) = [(3, 3), (2, 2), (105, 105), (3, 3), (37, 49), (3, 3), (25, 25), (2, 2), (1, 1), (2, 2), (2, 2), (3, 3), (392, 392)] ∧
    catDigest (rowBodyE re93 1) = 669685002 ∧
    splitsL (rowBodyE re93 1) "2023 Aug 31 20:01:05 UTC [ERROR] dev-disk-a error 0x08320105".toUTF8.toList = true := cert93.facts

theorem C04_row93_search (sel : Sel) (hv : Valid (rowBodyE re93 1) sel) (tail : List UInt8) (ht : TailIn (rowEndSym re93) tail) :
    RowResult row93.re (flat sel ++ tail) ((flat sel).length + tailLen tail) [] (sel ++ [rowEndEw re93 tail]) :=
  auto_E (re := re93) (by rfl) cert93.headOk sel hv tail ht

/-! ### row 94 (year:1,month:2,day:4,hour:6,minute:7,second:8): head `bol`, end `(?P<g>[class]|$)` -/

theorem cert94 : (rowsJ[7]'(by decide)).Cert := certsJ 7 (by decide)

theorem facts94 : keptCounts (rowBodyE re94 1) = [(3, 3), (2, 2), (105, 105), (3, 3), (37, 49), (3, 3), (25, 25), (2, 2), (1, 1), (2, 2), (2, 2)] ∧
    catDigest (rowBodyE re94 1) = 507098990 ∧
    splitsL (rowBodyE re94 1) "2023 Aug 31 20:01:05 [ERROR] dev-disk-a error 0x08320105".toUTF8.toList = true := cert94.facts

theorem C04_row94_search (sel : Sel) (hv : Valid (rowBodyE re94 1) sel) (tail : List UInt8) (ht : TailIn (rowEndSym re94) tail) :
    RowResult row94.re (flat sel ++ tail) ((flat sel).length + tailLen tail) [] (sel ++ [rowEndEw re94 tail]) :=
  auto_E (re := re94) (by rfl) cert94.headOk sel hv tail ht

/-! ### row 95 (year:1,month:2,day:3,hour:4,minute:5): head `bol`, end `plain` -/

theorem cert95 : (rowsJ[8]'(by decide)).Cert := certsJ 8 (by decide)

theorem facts95 : keptCounts (rowBodyP re95 1) = [(1, 1), (3, 3), (1, 1), (12, 12), (1, 1), (46, 49), (2, 2), (25, 25), (2, 2), (1, 1), (1, 1)] ∧
    catDigest (rowBodyP re95 1) = 459879696 ∧
    splitsL (rowBodyP re95 1) "[2019-03-01 16:56] [PACMAN] synchronizing package lists".toUTF8.toList = true := cert95.facts

theorem C04_row95_search (sel : Sel) (hv : Valid (rowBodyP re95 1) sel) (tail : List UInt8) (ht : TailF (autoTail re95) tail) :
    RowResult row95.re (flat sel ++ tail) (flat sel).length [] sel :=
  auto_P (re := re95) (by rfl) rfl sel hv tail ht

/-! ### row 96 (epoch:1,fractional:2): head `none`, end `plain` -/

theorem facts96 : keptCounts (rowBodyP re96 0) = [(1, 1), (1, 1), (2, 2), (1, 1), (1, 1), (1, 1), (5, 5), (1, 1), (1, 1)] ∧
    catDigest (rowBodyP re96 0) = 189700882 ∧
    splitsL (rowBodyP re96 0) " msg=audit(1681160194.260:3932): op=start ver=3.0.7 format=enriched kernel=5.14.0-162.6.1.el9_1.x86_64 auid=4294967295 pid=718 uid=0 ses=429496".toUTF8.toList = true := by
  rw [rowBodyP_eq, toUTF8_toList_ofList]
  decide +kernel

theorem C04_row96_search (sel : Sel) (hv : Valid (rowBodyP re96 0) sel) (tail : List UInt8) (ht : TailF (autoTail re96) tail) :
    RowResult row96.re (flat sel ++ tail) (flat sel).length [] sel :=
  auto_P (re := re96) (by rfl) rfl sel hv tail ht

/-! ### row 97 (epoch:1,fractional:2): head `bol`, end `plain` -/

theorem facts97 : keptCounts (rowBodyP re97 1) = [(2, 2), (1, 1), (1, 1), (1, 1), (1, 1)] ∧
    catDigest (rowBodyP re97 1) = 305282825 ∧
    splitsL (rowBodyP re97 1) "1716853121.780 execve(\"/usr/bin/ls\", [\"ls\"], 0x7ffe4c501508 /* 41 vars */) = 0".toUTF8.toList = true := by
  rw [rowBodyP_eq, toUTF8_toList_ofList]
  decide +kernel

theorem C04_row97_search (sel : Sel) (hv : Valid (rowBodyP re97 1) sel) (tail : List UInt8) (ht : TailF (autoTail re97) tail) :
    RowResult row97.re (flat sel ++ tail) (flat sel).length [] sel :=
  auto_P (re := re97) (by rfl) rfl sel hv tail ht

/-! ### row 98 (epoch:1,fractional:2): head `bol`, end `plain` -/

theorem facts98 : keptCounts (rowBodyP re98 1) = [(2, 2), (1, 1), (1, 1), (1, 1), (1, 1)] ∧
    catDigest (rowBodyP re98 1) = 317114866 ∧
    splitsL (rowBodyP re98 1) "1716853121.780157 execve(\"/usr/bin/ls\", [\"ls\"], 0x7ffe4c501508 /* 41 vars */) = 0".toUTF8.toList = true := by
  rw [rowBodyP_eq, toUTF8_toList_ofList]
  decide +kernel

theorem C04_row98_search (sel : Sel) (hv : Valid (rowBodyP re98 1) sel) (tail : List UInt8) (ht : TailF (autoTail re98) tail) :
    RowResult row98.re (flat sel ++ tail) (flat sel).length [] sel :=
  auto_P (re := re98) (by rfl) rfl sel hv tail ht

/-! ### row 99 (epoch:1,fractional:2): head `bol`, end `plain` -/

theorem facts99 : keptCounts (rowBodyP re99 1) = [(2, 2), (1, 1), (1, 1), (1, 1), (1, 1)] ∧
    catDigest (rowBodyP re99 1) = 548798322 ∧
    splitsL (rowBodyP re99 1) "1716853121.780157012 execve(\"/usr/bin/ls\", [\"ls\"], 0x7ffe4c501508 /* 41 vars */) = 0".toUTF8.toList = true := by
  rw [rowBodyP_eq, toUTF8_toList_ofList]
  decide +kernel

theorem C04_row99_search (sel : Sel) (hv : Valid (rowBodyP re99 1) sel) (tail : List UInt8) (ht : TailF (autoTail re99) tail) :
    RowResult row99.re (flat sel ++ tail) (flat sel).length [] sel :=
  auto_P (re := re99) (by rfl) rfl sel hv tail ht

/-! ### row 100 (epoch:1): head `bol`, end `plain` -/

theorem facts100 : keptCounts (rowBodyP re100 1) = [(2, 2), (1, 1), (1, 1)] ∧
    catDigest (rowBodyP re100 1) = 989873044 ∧
    splitsL (rowBodyP re100 1) "1716853121 execve(\"/usr/bin/ls\", [\"ls\"], 0x7ffe4c501508 /* 41 vars */) = 0".toUTF8.toList = true := by
  rw [rowBodyP_eq, toUTF8_toList_ofList]
  decide +kernel

theorem C04_row100_search (sel : Sel) (hv : Valid (rowBodyP re100 1) sel) (tail : List UInt8) (ht : TailF (autoTail re100) tail) :
    RowResult row100.re (flat sel ++ tail) (flat sel).length [] sel :=
  auto_P (re := re100) (by rfl) rfl sel hv tail ht

/-! ### row 101 (year:2,month:3,day:4,hour:5,minute:6,second:7,fractional:8,tz:9): head `softR`, end `(?P<g>[class]|$)` -/

theorem cert101 : (rowsJ[9]'(by decide)).Cert := certsJ 9 (by decide)

theorem facts101 : keptCounts (rowBodyE re101 1) = [(3, 3), (2, 2), (12, 12), (2, 2), (37, 49), (2, 2), (25, 25), (2, 2), (1, 1), (2, 2), (2, 2), (1, 1), (1, 1), (2, 2), (1, 1)] ∧
    catDigest (rowBodyE re101 1) = 189004646 ∧
    splitsL (rowBodyE re101 1) "2022-10-12 09:26:44:980-0700    1       181 [AGENT_INSTALLING_STARTED]  101      {ADF3720E-8453-44C7-82EF-F9F5DA2D8551} ".toUTF8.toList = true := cert101.facts

theorem C04_row101_search (sel : Sel) (hv : Valid (rowBodyE re101 1) sel) (tail : List UInt8) (ht : TailIn (rowEndSym re101) tail) :
    RowResult row101.re (flat sel ++ tail) ((flat sel).length + tailLen tail) [((headParts re101).1, 0, 0)] (sel ++ [rowEndEw re101 tail]) :=
  auto_E (re := re101) (by rfl) cert101.headOk sel hv tail ht

end S4V.Props.RegexCapture3
