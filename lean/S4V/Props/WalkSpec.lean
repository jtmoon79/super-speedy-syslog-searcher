/-
C15 — directories and stdin path lists expand to the same run as explicit files.

Statements are about `S4V.Model.Walk` (hand model of `process_path`, of jwalk's sorted
walk, of the `-` handling in `cli_process_args` and of PathId assignment) over the flags
regenerated from the source (`S4V.Gen.PathTables.walkIncludesHidden`).

"Sorted path order" is what the code relies on: jwalk sorts each directory's entries by
`file_name` (byte order) and walks depth-first. `C15_walk_order` shows that this is the
component-wise lexicographic order of paths (Rust's `Path` ordering) — which is *not* the
byte order of the joined path strings (`C15_not_string_order`).
-/
import S4V.Lemmas.Walk
import S4V.Props.C16
import S4V.Model.WalkTar

namespace S4V.Props.WalkSpec
open S4V.Model.Walk S4V.Model.Path S4V.Model.PathTypes S4V.Gen.PathTables
open S4V.Lemmas.Walk S4V.Props.C16

/-- The walk lists files in strictly increasing component-wise path order, whenever the
entries of each directory have distinct names (which a file system guarantees). -/
theorem C15_walk_order (includeHidden : Bool) (t : Node) (h : okN t = true) :
    (walk includeHidden t).Pairwise (fun p q => pathLt p q = true) :=
  walkN_sorted includeHidden t h

/-- `d/{a-b, a/x, a.log}` -/
def exTree : Node := .dir [100] [.file [97, 45, 98], .dir [97] [.file [120]], .file [97, 46, 108, 111, 103]]

example : okN exTree = true := by decide

/-- … so no path is listed twice. -/
theorem C15_walk_nodup (includeHidden : Bool) (t : Node) (h : okN t = true) :
    (walk includeHidden t).Nodup :=
  (C15_walk_order includeHidden t h).imp (fun {a b} hab e => by
    subst e; simp [pathLt_irrefl] at hab)

/-- `pathLt` is a strict order (irreflexive, transitive), so "sorted" determines the list. -/
theorem C15_order_strict :
    (∀ p, pathLt p p = false) ∧ (∀ p q r, pathLt p q = true → pathLt q r = true → pathLt p r = true) :=
  ⟨pathLt_irrefl, pathLt_trans⟩

/-- Remark: component order is not the byte order of the joined strings. `a/x` is walked
before `a-b` (and before `a.log`), although `"a-b" < "a.log" < "a/x"` as strings
(`-` 0x2D, `.` 0x2E, `/` 0x2F). -/
theorem C15_not_string_order :
    walk true exTree = [[[100], [97], [120]], [[100], [97, 45, 98]], [[100], [97, 46, 108, 111, 103]]]
    ∧ pathLt [[97], [120]] [[97, 45, 98]] = true
    ∧ bytesLt (joinPath [[97, 45, 98]]) (joinPath [[97], [120]]) = true := by decide

/-- With hidden entries included, the walk is a rearrangement of the files of the tree:
together with `C15_walk_nodup`, every file appears exactly once. -/
theorem C15_walk_complete (t : Node) : (walk true t).Perm (files t) :=
  walkN_perm t

/-- The same for the flag the source actually sets. -/
def C15_full : Prop := ∀ t : Node, okN t = true → (walk walkIncludesHidden t).Perm (files t)

/-- `d/{a.log, .b.log, .hid/c.log}` -/
def hiddenWitness : Node :=
  .dir [100] [.file [97, 46, 108, 111, 103], .file [46, 98, 46, 108, 111, 103],
    .dir [46, 104, 105, 100] [.file [99, 46, 108, 111, 103]]]

/-- If the walk skipped hidden entries (jwalk's default, which the source used to rely on:
finding F10, repaired) the statement would be false: `d/.b.log` and `d/.hid/c.log` are files of
the tree and would not be walked. -/
theorem skip_hidden_loses : ¬ (walk false hiddenWitness).Perm (files hiddenWitness) := by
  intro h
  have hp := h.length_eq
  revert hp
  decide

theorem C15_full_if_included (h : walkIncludesHidden = true) : C15_full := by
  intro t _
  rw [h]
  exact C15_walk_complete t

/-- `process_path` calls `.skip_hidden(false)` (generated flag, unfolded, so dropping the call breaks
this proof): every regular file beneath a directory is walked. -/
theorem C15_full_holds : C15_full :=
  C15_full_if_included (by unfold walkIncludesHidden; decide)

/-- The model describes a sorted, link-following walk: the source must ask jwalk for both
(generated flags, unfolded). -/
theorem C15_walk_flags : walkSorted = true ∧ walkFollowsLinks = true := by
  unfold walkSorted walkFollowsLinks
  decide

/-- what would be walked from the witness with hidden entries skipped: only `d/a.log` -/
example : walk false hiddenWitness = [[[100], [97, 46, 108, 111, 103]]] := by decide

/-- Trees without hidden names below the root are walked completely, whatever the flag. -/
theorem C15_partial (includeHidden : Bool) (t : Node) (h : noHiddenN t = true) :
    (walk includeHidden t).Perm (files t) := by
  unfold walk
  rw [walkN_noHidden includeHidden t h]
  exact walkN_perm t

example : noHiddenN exTree = true := by decide

/-- jwalk's notion of hidden: a UTF-8 name starting with `.`; `.\xFF.log` is not hidden. -/
example : isHidden [46, 98] = true ∧ isHidden [46, 0xFF, 46, 108, 111, 103] = false := by decide

/-- The sorted list of the files of a tree is unique, and (no hidden names) it is the walk. -/
theorem C15_walk_is_sorted_files (includeHidden : Bool) (t : Node) (hok : okN t = true)
    (hh : noHiddenN t = true) (l : List (List Bytes)) (hl : l.Perm (files t))
    (hs : l.Pairwise (fun p q => pathLt p q = true)) : walk includeHidden t = l :=
  sorted_perm_eq (C15_walk_order includeHidden t hok) hs ((C15_partial includeHidden t hh).trans hl.symm)

/-- `name`'s type when walked is not `Unparsable` -/
def keptWhenWalked (p : List Bytes) : Bool := keep p

/-- the argument that names the file `parent/p` itself (no symbolic link involved: the
canonical name is the name given) -/
def fileArg (parent p : List Bytes) : Arg := .file (parent ++ p) (p.getLastD [])

/-- For a tree without hidden names: what is read when the directory is named equals what
is read when the sorted list of its files, restricted to those whose name is not of a known
non-log type, is named explicitly — same paths, same order, same file types. -/
theorem C15_dir_eq_explicit (includeHidden : Bool) (parent : List Bytes) (t : Node)
    (hok : okN t = true) (hh : noHiddenN t = true)
    (l : List (List Bytes)) (hl : l.Perm (files t)) (hs : l.Pairwise (fun p q => pathLt p q = true)) :
    (expandArgs includeHidden [.dir parent t]).filter (·.out.attempted)
      = expandArgs includeHidden ((l.filter keptWhenWalked).map (fileArg parent)) := by
  have hw := C15_walk_is_sorted_files includeHidden t hok hh l hl hs
  have hf : (fun e : Entry => e.out.attempted) ∘ (fun e : Entry => (⟨parent ++ e.path, e.out⟩ : Entry)) ∘ classifyWalked
      = keptWhenWalked := funext classifyWalked_attempted
  simp only [expandArgs, List.flatMap_cons, List.flatMap_nil, List.append_nil, expandArg, expandDirAll, hw,
    List.map_map, List.flatMap_map, fileArg, List.filter_map, hf, ← List.map_eq_flatMap]
  refine List.map_congr_left fun p hp => ?_
  simp only [Function.comp, classifyWalked_path]
  exact classifyWalked_eq_named parent p (List.mem_filter.mp hp).2

example : okN exTree = true ∧ noHiddenN exTree = true
    ∧ (walk true exTree).Pairwise (fun p q => pathLt p q = true) := by decide

/-- The expansion of the directory `d/{a-b, a/x, a.log, p.png}`: `p.png` is listed as not
supported and not read; naming it is read as text. -/
example :
    expandDir false (.dir [100] [.file [97, 45, 98], .dir [97] [.file [120]], .file [112, 46, 112, 110, 103]])
      = [⟨[[100], [97], [120]], .valid ⟨.text, .normal⟩⟩, ⟨[[100], [97, 45, 98]], .valid ⟨.text, .normal⟩⟩]
    ∧ classifyNamed [[100], [112, 46, 112, 110, 103]] [112, 46, 112, 110, 103]
      = ⟨[[100], [112, 46, 112, 110, 103]], .valid ⟨.text, .normal⟩⟩ := by decide

/-- A file named explicitly is never dropped, whatever its suffix … -/
theorem C15_explicit_always (p : List Bytes) (canon : Bytes) :
    (classifyNamed p canon).out.attempted = true :=
  classifyNamed_attempted p canon

/-- … and it is never read as `Unparsable` (from `C16_explicit_always`). -/
theorem C15_explicit_type (p : List Bytes) (canon : Bytes) (r : Result)
    (h : (classifyNamed p canon).out = .valid r) : r.kind ≠ .unparsable := by
  unfold classifyNamed at h
  cases hc : classify canon true with
  | none => simp [hc] at h
  | some r' =>
    rw [hc] at h
    have hne := C16_explicit_always canon r' hc
    have he : r = r' := by
      obtain ⟨k, a⟩ := r'
      cases k <;> simp at h <;> exact h.symm
    exact he ▸ hne

example : (classifyNamed [[112]] [112]).out = .valid ⟨.text, .normal⟩ := by decide

/-- The statement one would like for links: a walked file is read as it would be if named.
As coded it fails for symbolic links: the walk classifies the link's own name, naming the link
classifies the name of its target (`canonicalize()`). -/
def C15_link_same_type_full : Prop :=
  ∀ (p : List Bytes) (canon : Bytes), keep p = true →
    (classifyWalked p).out = (classifyNamed p canon).out

/-- Witness: the link `l.log -> t.gz` is read as plain text when its directory is walked and
as gzip when named. -/
theorem C15_link_same_type_full_false : ¬ C15_link_same_type_full := by
  intro h
  have := h [[108, 46, 108, 111, 103]] [116, 46, 103, 122] (by decide)
  revert this
  decide

/-- It holds whenever the target's name classifies like the link's name (in particular when
there is no link). -/
theorem C15_link_same_type_partial (p : List Bytes) (canon : Bytes) (hk : keep p = true)
    (hc : classify canon true = classify (p.getLastD []) true) :
    (classifyWalked p).out = (classifyNamed p canon).out := by
  have h := classifyWalked_eq_named [] p hk
  simp only [List.nil_append] at h
  have h2 : (classifyNamed p canon).out = (classifyNamed p (p.getLastD [])).out := by
    unfold classifyNamed; rw [hc]
  rw [h2, ← h]

example : keep [[97, 46, 108, 111, 103]] = true
    ∧ classify [98, 46, 116, 120, 116] true = classify ([[97, 46, 108, 111, 103]].getLastD []) true := by decide

/-- The first `-` is replaced in place by the stdin lines; every later `-` is dropped (the
program prints a warning). Lines are taken verbatim: a line `-` stays a path named `-`. -/
theorem C15_stdin (lines pre post : List Bytes) (hpre : DASH ∉ pre) :
    spliceStdin lines (pre ++ DASH :: post) = pre ++ lines ++ post.filter (· ≠ DASH) := by
  unfold spliceStdin
  rw [spliceAux_prefix lines false pre _ hpre, spliceAux]
  simp [spliceAux_seen, List.append_assoc]

/-- Without `-`, stdin is not consulted. -/
theorem C15_stdin_unused (lines args : List Bytes) (h : DASH ∉ args) : spliceStdin lines args = args := by
  have := spliceAux_prefix lines false args [] h
  simpa [spliceStdin, spliceAux] using this

/-- Paths supplied on stdin are equivalent to the same paths given as arguments at the
position of the `-` (given that none of them is itself `-`). -/
theorem C15_stdin_equiv (fs : Bytes → Arg) (includeHidden : Bool) (lines pre post : List Bytes)
    (hpre : DASH ∉ pre) (hpost : DASH ∉ post) (hlines : DASH ∉ lines) :
    expandRun fs includeHidden lines (pre ++ DASH :: post)
      = expandRun fs includeHidden [] (pre ++ lines ++ post) := by
  unfold expandRun
  rw [C15_stdin lines pre post hpre, filter_ne_of_not_mem post hpost]
  rw [C15_stdin_unused [] (pre ++ lines ++ post)]
  simp only [List.mem_append, not_or]
  exact ⟨⟨hpre, hlines⟩, hpost⟩

/-- `s4 a.log - b.log - c.log` with `x`, `-` on stdin: the second `-` argument is ignored,
the stdin line `-` is kept as a path. -/
example : spliceStdin [[120], DASH] [[97], DASH, [98], DASH, [99]] = [[97], [120], DASH, [98], [99]] := by
  decide

example : DASH ∉ ([[97]] : List Bytes) ∧ DASH ∉ ([[98]] : List Bytes) ∧ DASH ∉ ([[120]] : List Bytes) := by
  decide

/-- `BufRead::lines`: `\n` and `\r\n` ends, no empty last line, reading stops at a line that
is not UTF-8. -/
example : stdinLines [97, 10, 98, 13, 10, 10, 99] = [[97], [98], [], [99]]
    ∧ stdinLines [97, 10] = [[97]] ∧ stdinLines [97, 10, 0xFF, 10, 98] = [[97]] := by decide

/-- PathIds are the positions in the concatenated list … -/
theorem C15_pathid (es : List Entry) :
    (withIds es).map (·.1) = es ∧ (withIds es).map (·.2) = List.range es.length := by
  unfold withIds
  exact ⟨List.zipIdx_map_fst 0 es, by rw [List.zipIdx_map_snd, List.range_eq_range']⟩

/-- … so all entries of an earlier argument have smaller PathIds than those of a later one … -/
theorem C15_pathid_args (includeHidden : Bool) (as bs : List Arg) :
    withIds (expandArgs includeHidden (as ++ bs))
      = withIds (expandArgs includeHidden as)
        ++ (expandArgs includeHidden bs).zipIdx (expandArgs includeHidden as).length := by
  unfold withIds expandArgs
  rw [List.flatMap_append, List.zipIdx_append]
  simp

/-- … and the sources that are read are the attempted entries in list order with strictly
increasing PathIds: equal expansions give the same tie order. -/
theorem C15_pathid_sources (es : List Entry) :
    (sources es).map (·.1) = es.filter (·.out.attempted)
    ∧ ((sources es).map (·.2)).Pairwise (· < ·) := by
  constructor
  · unfold sources withIds
    have : (fun x : Entry × Nat => x.1.out.attempted) = (fun e : Entry => e.out.attempted) ∘ Prod.fst := rfl
    rw [this, ← List.filter_map, List.zipIdx_map_fst]
  · unfold sources
    have h : ((withIds es).map (·.2)).Pairwise (· < ·) := by
      rw [(C15_pathid es).2]; exact List.pairwise_lt_range
    exact List.Pairwise.map _ (fun a b hab => hab) ((List.pairwise_map.mp h).filter _)

/-! ### tar archives: members reached by walking a directory vs. by naming the archive

Model: `S4V.Model.WalkTar` (`process_path_tar` and its two call sites in `process_path`) over the
constants regenerated from the source (`S4V.Gen.WalkTar`). -/

section Tar
open S4V.Model.WalkTar S4V.Gen.WalkTar

/-- `d/b.tar` -/
def tarPathEx : List Bytes := [[100], [98, 46, 116, 97, 114]]

/-- an archive with the one regular, non-empty member `dump.bin` -/
def dumpArchive : Archive := ⟨[⟨[[100, 117, 109, 112, 46, 98, 105, 110]], .regular, false⟩], false⟩

example : toStringLossy (joinPath tarPathEx) = joinPath tarPathEx := by decide

/-- Counter-model (the walk arm reading `process_path_tar(&path_to_fpath(std_path_entry), false, fta)`):
if the walk arm passed the literal `false` instead of its parameter, then — as `main` calls
`process_path` — there is an archive whose walked expansion differs from the named one. -/
theorem tar_flag_false_loses :
    walkedTarWith false false mainUnparseableAreText tarPathEx dumpArchive
      ≠ namedTar mainUnparseableAreText tarPathEx dumpArchive := by
  decide

/-- … namely: walked with `false`, `d/b.tar|dump.bin` is listed as not supported and never read;
named, it is read as text from the tar. -/
example :
    walkedTarWith false false true tarPathEx dumpArchive
      = [⟨[100, 47, 98, 46, 116, 97, 114, 124, 100, 117, 109, 112, 46, 98, 105, 110], .notSupported⟩]
    ∧ namedTar true tarPathEx dumpArchive
      = [⟨[100, 47, 98, 46, 116, 97, 114, 124, 100, 117, 109, 112, 46, 98, 105, 110], .valid ⟨.text, .tar⟩⟩]
    ∧ walkedTar true tarPathEx dumpArchive = namedTar true tarPathEx dumpArchive := by decide

/-- The flag is the only way the two call sites can differ: with equal flags and a UTF-8 path the
expansions agree whatever the call-site shapes are. -/
theorem C15_tar_members_of_flags (pw lw pn ln u : Bool) (p : List Bytes) (ar : Archive)
    (hp : toStringLossy (joinPath p) = joinPath p) (hf : flagArg pw lw u = flagArg pn ln u) :
    walkedTarWith pw lw u p ar = namedTarWith pn ln u p ar := by
  unfold walkedTarWith namedTarWith fpath
  rw [hp, hf]

example : flagArg true false true = flagArg true true true := by decide

/-- **C15 for tar members.** For every archive content, every flag value of the caller and every
path, the results for a `.tar` met while walking a directory are the results for the same `.tar`
named explicitly: same members, same order, same types, same sub-paths. Both call sites must hand
`process_path_tar` the same `unparseable_are_text` (generated constants, unfolded: a source change
at either call site regenerates another value and breaks this proof).
Hypothesis: the path is valid UTF-8, i.e. `path_to_fpath` (lossy) leaves it as it is — every path
that can be named on the command line is (arguments are `String`s). -/
theorem C15_tar_members (u : Bool) (p : List Bytes) (ar : Archive)
    (hp : toStringLossy (joinPath p) = joinPath p) :
    walkedTar u p ar = namedTar u p ar :=
  C15_tar_members_of_flags _ _ _ _ u p ar hp
    (by unfold walkTarPassesFlag walkTarFlagLit namedTarPassesFlag namedTarFlagLit; rfl)

/-- What the generator checked in the member loop of `process_path_tar` (it raises an error
otherwise) and the separator between the archive's path and the member's. -/
theorem C15_tar_shape : tarSkipsNonRegular = true ∧ tarZeroSizeIsEmpty = true ∧ tarMemberUsesFlag = true
    ∧ subpathSep = [124] := by
  unfold tarSkipsNonRegular tarZeroSizeIsEmpty tarMemberUsesFlag subpathSep
  decide

/-- The final `match` of `process_path_tar` (generated table): a member is read exactly when its own
name classifies with `archival_type: Normal`; a compressed member (`x.log.gz` inside the tar) is
answered with "cannot extract", whatever its family. -/
theorem C15_tar_rows (f : Family) (a : Arch) : lookupRow f a = some (a == .normal) := by
  cases f <;> cases a <;> decide

/-- Non-regular entries (directories, links, …) give no result, whatever their name and size. -/
theorem C15_tar_other_skipped (tp : Bytes) (ua : Bool) (n : List Bytes) (z : Bool) :
    memberResult tp ua ⟨n, .other, z⟩ = none := rfl

/-- A regular member of size 0 is reported `FileErrEmpty` without looking at its name. -/
theorem C15_tar_empty (tp : Bytes) (ua : Bool) (n : List Bytes) :
    memberResult tp ua ⟨n, .regular, true⟩ = some ⟨fullPath tp ⟨n, .regular, true⟩, .empty⟩ := rfl

/-- The order of results is the stored order of the members; an iteration error comes last. -/
theorem C15_tar_order (tp : Bytes) (ua : Bool) (ms₁ ms₂ : List Member) (b : Bool) :
    processPathTar tp ua ⟨ms₁ ++ ms₂, b⟩ = processPathTar tp ua ⟨ms₁, false⟩ ++ processPathTar tp ua ⟨ms₂, b⟩ := by
  simp [processPathTar, List.filterMap_append]

/-- As `main` calls it (`unparseable_are_text = true`), no regular non-empty member is dropped for
its suffix (`FileErrNotSupported(_, None)` never arises): `C16_explicit_always` inside the tar. -/
theorem C15_tar_main_never_drops (m : Member) : memberOut mainUnparseableAreText m ≠ .notSupported := by
  unfold mainUnparseableAreText memberOut
  cases hc : classify (m.name.getLastD []) true with
  | none => simp
  | some r =>
    have hne := C16_explicit_always _ r hc
    obtain ⟨k, a⟩ := r
    cases k <;> simp_all [familyOf, C15_tar_rows] <;> (generalize (a == Arch.normal) = b; cases b <;> simp)

/-- `x.tar` holding: directory `sub/`, `sub/app.log`, empty `e.log`, `dump.bin`, `x.log.gz`,
`in.tar`; then a corrupt header. Named by `main` (flag `true`). -/
example :
    (processPathTar [120] true
      ⟨[⟨[[115, 117, 98], []], .other, true⟩,
        ⟨[[115, 117, 98], [97, 112, 112, 46, 108, 111, 103]], .regular, false⟩,
        ⟨[[101, 46, 108, 111, 103]], .regular, true⟩,
        ⟨[[100, 117, 109, 112, 46, 98, 105, 110]], .regular, false⟩,
        ⟨[[120, 46, 108, 111, 103, 46, 103, 122]], .regular, false⟩,
        ⟨[[105, 110, 46, 116, 97, 114]], .regular, false⟩], true⟩).map (·.out)
      = [.valid ⟨.text, .tar⟩, .empty, .valid ⟨.text, .tar⟩, .cannotExtract .gz, .nested, .err] := by decide

/-- One walked entry, archives expanded: unless it is a `.tar` there is nothing to expand, and a
`.tar` expands as it would when named. -/
theorem C15_tar_entry (u : Bool) (fs : TarFs) (e : Entry)
    (hp : toStringLossy (joinPath e.path) = joinPath e.path) :
    expandWalked u fs e = expandNamed u fs e := by
  unfold expandWalked expandNamed
  cases e.out <;> simp [C15_tar_members u e.path (fs e.path) hp]

example : toStringLossy (joinPath (⟨tarPathEx, .tar .normal⟩ : Entry).path) = joinPath (⟨tarPathEx, .tar .normal⟩ : Entry).path := by
  decide

/-- A kept file met in the walk — plain or `.tar` — contributes exactly the results of naming it
(given that its path is valid UTF-8). -/
theorem C15_tar_walked_eq_named (u : Bool) (fs : TarFs) (par p : List Bytes) (hk : keep p = true)
    (hp : toStringLossy (joinPath (par ++ p)) = joinPath (par ++ p)) :
    expandWalked u fs ⟨par ++ p, (classifyWalked p).out⟩
      = expandArgFull false u fs (fileArg par p) := by
  unfold fileArg expandArgFull
  rw [classifyWalked_eq_named par p hk]
  exact C15_tar_entry u fs _ (by rw [classifyNamed_path]; exact hp)

example : keep [[98, 46, 116, 97, 114]] = true
    ∧ toStringLossy (joinPath ([[100]] ++ [[98, 46, 116, 97, 114]])) = joinPath ([[100]] ++ [[98, 46, 116, 97, 114]]) := by
  decide

/-- A file met in the walk whose name is of a known non-log type contributes nothing that is read. -/
theorem C15_tar_walked_dropped (u : Bool) (fs : TarFs) (par p : List Bytes) (hk : keep p = false) :
    (expandWalked u fs ⟨par ++ p, (classifyWalked p).out⟩).filter Res.attempted = [] := by
  have ha := classifyWalked_attempted p
  rw [hk] at ha
  unfold expandWalked
  cases ho : (classifyWalked p).out <;> simp_all [Res.attempted, Outcome.attempted]

example : keep [[112, 46, 112, 110, 103]] = false := by decide

theorem flatMap_filter_keep {α β : Type} (k : α → Bool) (q : β → Bool) (f g : α → List β) :
    ∀ l : List α, (∀ a ∈ l, k a = true → f a = g a) → (∀ a ∈ l, k a = false → (f a).filter q = []) →
      (l.flatMap f).filter q = ((l.filter k).flatMap g).filter q
  | [], _, _ => rfl
  | a :: l, hkeep, hdrop => by
    have ih := flatMap_filter_keep k q f g l (fun b hb => hkeep b (List.mem_cons_of_mem a hb))
      (fun b hb => hdrop b (List.mem_cons_of_mem a hb))
    cases h : k a
    · simp [h, hdrop a List.mem_cons_self h, ih]
    · simp [h, hkeep a List.mem_cons_self h, ih]

/-- **Directory = explicit list, archives included.** For a tree without hidden names whose paths are
valid UTF-8: what is read when the directory is named — plain files and the members of every `.tar`
below it — is what is read when the sorted list of its kept files is named explicitly (each `.tar`
then being expanded by the named branch), in the same order with the same types.
Extends `C15_dir_eq_explicit` to `S4V.Model.WalkTar`; `fs` is any content of the tar-named files. -/
theorem C15_dir_eq_explicit_tar (includeHidden u : Bool) (fs : TarFs) (parent : List Bytes) (t : Node)
    (hok : okN t = true) (hh : noHiddenN t = true)
    (l : List (List Bytes)) (hl : l.Perm (files t)) (hs : l.Pairwise (fun p q => pathLt p q = true))
    (hutf : ∀ p ∈ l, toStringLossy (joinPath (parent ++ p)) = joinPath (parent ++ p)) :
    (expandArgsFull includeHidden u fs [.dir parent t]).filter Res.attempted
      = (expandArgsFull includeHidden u fs ((l.filter keptWhenWalked).map (fileArg parent))).filter Res.attempted := by
  have hw := C15_walk_is_sorted_files includeHidden t hok hh l hl hs
  simp only [expandArgsFull, List.flatMap_cons, List.flatMap_nil, List.append_nil, expandArgFull, expandDirAll, hw,
    List.flatMap_map, classifyWalked_path]
  exact flatMap_filter_keep keptWhenWalked Res.attempted _ _ l
    (fun p hm hk => C15_tar_walked_eq_named u fs parent p (by simpa [keptWhenWalked] using hk) (hutf p hm))
    (fun p _ hk => C15_tar_walked_dropped u fs parent p (by simpa [keptWhenWalked] using hk))

/-- the hypotheses are satisfiable: `d/{a-b, a/x, a.log}` below the parent `p` -/
example : okN exTree = true ∧ noHiddenN exTree = true
    ∧ (walk true exTree).Perm (files exTree) ∧ (walk true exTree).Pairwise (fun p q => pathLt p q = true)
    ∧ ∀ p ∈ walk true exTree, toStringLossy (joinPath ([[112]] ++ p)) = joinPath ([[112]] ++ p) := by
  refine ⟨by decide, by decide, C15_walk_complete exTree, by decide, by decide⟩

/-- `d/{a.log, b.tar, p.png}` with `b.tar` = {`dump.bin`}: naming `d` reads `d/a.log` and `d/b.tar|dump.bin`
(as text), exactly what naming `d/a.log d/b.tar` reads; `d/p.png` is listed and not read. -/
example :
    let fs : TarFs := fun _ => dumpArchive
    let d : Node := .dir [100] [.file [97, 46, 108, 111, 103], .file [98, 46, 116, 97, 114], .file [112, 46, 112, 110, 103]]
    (expandArgsFull true true fs [.dir [] d]).filter Res.attempted
      = [.plain [[100], [97, 46, 108, 111, 103]] (.valid ⟨.text, .normal⟩),
         .member ⟨[100, 47, 98, 46, 116, 97, 114, 124, 100, 117, 109, 112, 46, 98, 105, 110], .valid ⟨.text, .tar⟩⟩]
    ∧ (expandArgsFull true true fs [.dir [] d]).filter Res.attempted
      = (expandArgsFull true true fs [fileArg [] [[100], [97, 46, 108, 111, 103]], fileArg [] [[100], [98, 46, 116, 97, 114]]]).filter
          Res.attempted := by
  decide

/-- **C15/C07** — an archive that cannot be opened (e.g. a walked `*.tar` below a path component that is not
UTF-8: the lossy path does not exist) is answered with one `FileErr`; it does not abort the run. Generated from
`process_path_tar`'s open statement (was finding F20: `File::open(path).unwrap()`). -/
theorem C15_tar_open_no_abort : S4V.Gen.WalkTar.tarOpenUnwraps = false := by decide

/-- with the `unwrap()` form (before the repair) a walked tree holding a tar-named file below a non-UTF-8
directory makes the whole expansion abort -/
theorem tar_open_unwrap_aborts :
    (expandDirAll true (.dir [0xFF, 100] [.file [100, 46, 116, 97, 114]])).any tarOpenPanics = true := by decide

end Tar

end S4V.Props.WalkSpec
