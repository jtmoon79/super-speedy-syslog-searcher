/-
GENERATED by tools/mk_regexrows.py — regenerate, do not edit.

C04, regex slice: rows 48–76 of `DATETIME_PARSE_DATAS` END TO END, from the text of a line to the instant.
`C04_rowN_end_to_end_shaped`: for every valid selection of the row's catalogue, admissible tail, fallback zone and fill year, if the
words spell a calendar date-time (`calendarOK`), the iteration of `find_datetime_in_line` for the row (`rowPipeline`) yields the
instant the captured words spell: `RowFacts.Cert.e2e` / `.e2e_end` of `certN` applied to `C04_rowN_search`. Year-less rows keep a
four-digit fill year as hypothesis, rows with renderings longer than `range_regex.end` keep `hlen`. How to read the statement,
non-vacuity and the FALSE statements: `S4V.Props.RegexE2ESpec`, `S4V.Props.RegexE2EShapeSpec`.
-/
import S4V.Props.RegexCapture3f
import S4V.Props.RegexCapture3g
import S4V.Props.RegexCapture3h

namespace S4V.Props.RegexE2E
open S4V.Model.Regex S4V.Gen.Regex S4V.Lemmas.RegexStep S4V.Lemmas.RegexSym S4V.Lemmas.RegexRows S4V.Lemmas.RegexAuto
open S4V.Lemmas.RegexE2E S4V.Props.RegexCapture3 S4V.Gen.TimeTables

theorem C04_row48_end_to_end_shaped (sel : Sel) (hv : Valid (rowBodyP re48 0) sel) (tail : List UInt8) (ht : TailF (autoTail re48) tail)
    (fbOff : Int) (hfb : FbOK' fbOff) (fill : Option Int)
    (hc : calendarOK row48.dtfs (selFields row48 sel) fill = true) :
    rowPipeline row48 (flat sel ++ tail) fbOff fill = some (fieldsOf row48.dtfs (selFields row48 sel) fbOff fill).instant :=
  cert48.e2e hv (cert48.flat_le rfl hv) (C04_row48_search sel hv _ (tailF_take ht _)) fbOff hfb fill rfl hc

theorem C04_row49_end_to_end_shaped (sel : Sel) (hv : Valid (rowBodyP re49 0) sel) (tail : List UInt8) (ht : TailF (autoTail re49) tail)
    (fbOff : Int) (hfb : FbOK' fbOff) (fill : Option Int)
    (hc : calendarOK row49.dtfs (selFields row49 sel) fill = true) :
    rowPipeline row49 (flat sel ++ tail) fbOff fill = some (fieldsOf row49.dtfs (selFields row49 sel) fbOff fill).instant :=
  cert49.e2e hv (cert49.flat_le rfl hv) (C04_row49_search sel hv _ (tailF_take ht _)) fbOff hfb fill rfl hc

theorem C04_row50_end_to_end_shaped (sel : Sel) (hv : Valid (rowBodyP re50 0) sel) (tail : List UInt8) (ht : TailF (autoTail re50) tail)
    (fbOff : Int) (hfb : FbOK' fbOff) (fill : Option Int)
    (hc : calendarOK row50.dtfs (selFields row50 sel) fill = true) :
    rowPipeline row50 (flat sel ++ tail) fbOff fill = some (fieldsOf row50.dtfs (selFields row50 sel) fbOff fill).instant :=
  cert50.e2e hv (cert50.flat_le rfl hv) (C04_row50_search sel hv _ (tailF_take ht _)) fbOff hfb fill rfl hc

theorem C04_row51_end_to_end_shaped (sel : Sel) (hv : Valid (rowBodyP re51 0) sel) (tail : List UInt8) (ht : TailF (autoTail re51) tail)
    (fbOff : Int) (hfb : FbOK' fbOff) (fill : Option Int)
    (hc : calendarOK row51.dtfs (selFields row51 sel) fill = true) :
    rowPipeline row51 (flat sel ++ tail) fbOff fill = some (fieldsOf row51.dtfs (selFields row51 sel) fbOff fill).instant :=
  cert51.e2e hv (cert51.flat_le rfl hv) (C04_row51_search sel hv _ (tailF_take ht _)) fbOff hfb fill rfl hc

theorem C04_row52_end_to_end_shaped (sel : Sel) (hv : Valid (rowBodyP re52 0) sel) (tail : List UInt8) (ht : TailF (autoTail re52) tail)
    (fbOff : Int) (hfb : FbOK' fbOff) (fill : Option Int)
    (hc : calendarOK row52.dtfs (selFields row52 sel) fill = true) :
    rowPipeline row52 (flat sel ++ tail) fbOff fill = some (fieldsOf row52.dtfs (selFields row52 sel) fbOff fill).instant :=
  cert52.e2e hv (cert52.flat_le rfl hv) (C04_row52_search sel hv _ (tailF_take ht _)) fbOff hfb fill rfl hc

theorem C04_row53_end_to_end_shaped (sel : Sel) (hv : Valid (rowBodyP re53 0) sel) (tail : List UInt8) (ht : TailF (autoTail re53) tail)
    (fbOff : Int) (hfb : FbOK' fbOff) (fill : Option Int)
    (hc : calendarOK row53.dtfs (selFields row53 sel) fill = true) :
    rowPipeline row53 (flat sel ++ tail) fbOff fill = some (fieldsOf row53.dtfs (selFields row53 sel) fbOff fill).instant :=
  cert53.e2e hv (cert53.flat_le rfl hv) (C04_row53_search sel hv _ (tailF_take ht _)) fbOff hfb fill rfl hc

theorem C04_row54_end_to_end_shaped (sel : Sel) (hv : Valid (rowBodyP re54 0) sel) (tail : List UInt8) (ht : TailF (autoTail re54) tail)
    (fbOff : Int) (hfb : FbOK' fbOff) (fill : Option Int)
    (hc : calendarOK row54.dtfs (selFields row54 sel) fill = true) :
    rowPipeline row54 (flat sel ++ tail) fbOff fill = some (fieldsOf row54.dtfs (selFields row54 sel) fbOff fill).instant :=
  cert54.e2e hv (cert54.flat_le rfl hv) (C04_row54_search sel hv _ (tailF_take ht _)) fbOff hfb fill rfl hc

theorem C04_row55_end_to_end_shaped (sel : Sel) (hv : Valid (rowBodyP re55 0) sel) (tail : List UInt8) (ht : TailF (autoTail re55) tail)
    (fbOff : Int) (hfb : FbOK' fbOff) (fill : Option Int)
    (hc : calendarOK row55.dtfs (selFields row55 sel) fill = true) :
    rowPipeline row55 (flat sel ++ tail) fbOff fill = some (fieldsOf row55.dtfs (selFields row55 sel) fbOff fill).instant :=
  cert55.e2e hv (cert55.flat_le rfl hv) (C04_row55_search sel hv _ (tailF_take ht _)) fbOff hfb fill rfl hc

theorem C04_row56_end_to_end_shaped (sel : Sel) (hv : Valid (rowBodyP re56 0) sel) (tail : List UInt8) (ht : TailF (autoTail re56) tail)
    (fbOff : Int) (hfb : FbOK' fbOff) (fill : Option Int)
    (hc : calendarOK row56.dtfs (selFields row56 sel) fill = true) :
    rowPipeline row56 (flat sel ++ tail) fbOff fill = some (fieldsOf row56.dtfs (selFields row56 sel) fbOff fill).instant :=
  cert56.e2e hv (cert56.flat_le rfl hv) (C04_row56_search sel hv _ (tailF_take ht _)) fbOff hfb fill rfl hc

theorem C04_row57_end_to_end_shaped (sel : Sel) (hv : Valid (rowBodyP re57 0) sel) (tail : List UInt8) (ht : TailF (autoTail re57) tail)
    (fbOff : Int) (hfb : FbOK' fbOff) (fill : Option Int)
    (hc : calendarOK row57.dtfs (selFields row57 sel) fill = true) :
    rowPipeline row57 (flat sel ++ tail) fbOff fill = some (fieldsOf row57.dtfs (selFields row57 sel) fbOff fill).instant :=
  cert57.e2e hv (cert57.flat_le rfl hv) (C04_row57_search sel hv _ (tailF_take ht _)) fbOff hfb fill rfl hc

theorem C04_row58_end_to_end_shaped (sel : Sel) (hv : Valid (rowBodyE re58 1) sel) (tail : List UInt8) (ht : TailIn (rowEndSym re58) tail)
    (fbOff : Int) (hfb : FbOK' fbOff) (fill : Option Int)
    (hc : calendarOK row58.dtfs (selFields row58 sel) fill = true) :
    rowPipeline row58 (flat sel ++ tail) fbOff fill = some (fieldsOf row58.dtfs (selFields row58 sel) fbOff fill).instant :=
  cert58.e2e_end hv (cert58.flat_le rfl hv) (C04_row58_search sel hv _ (tailIn_take ht _)) fbOff hfb fill rfl hc

theorem C04_row59_end_to_end_shaped (sel : Sel) (hv : Valid (rowBodyE re59 1) sel) (tail : List UInt8) (ht : TailIn (rowEndSym re59) tail)
    (fbOff : Int) (hfb : FbOK' fbOff) (fill : Option Int)
    (hc : calendarOK row59.dtfs (selFields row59 sel) fill = true) :
    rowPipeline row59 (flat sel ++ tail) fbOff fill = some (fieldsOf row59.dtfs (selFields row59 sel) fbOff fill).instant :=
  cert59.e2e_end hv (cert59.flat_le rfl hv) (C04_row59_search sel hv _ (tailIn_take ht _)) fbOff hfb fill rfl hc

theorem C04_row60_end_to_end_shaped (sel : Sel) (hv : Valid (rowBodyE re60 1) sel) (tail : List UInt8) (ht : TailIn (rowEndSym re60) tail)
    (fbOff : Int) (hfb : FbOK' fbOff) (fill : Option Int)
    (hc : calendarOK row60.dtfs (selFields row60 sel) fill = true) :
    rowPipeline row60 (flat sel ++ tail) fbOff fill = some (fieldsOf row60.dtfs (selFields row60 sel) fbOff fill).instant :=
  cert60.e2e_end hv (cert60.flat_le rfl hv) (C04_row60_search sel hv _ (tailIn_take ht _)) fbOff hfb fill rfl hc

theorem C04_row61_end_to_end_shaped (sel : Sel) (hv : Valid (rowBodyE re61 1) sel) (tail : List UInt8) (ht : TailIn (rowEndSym re61) tail)
    (fbOff : Int) (hfb : FbOK' fbOff) (fill : Option Int)
    (hc : calendarOK row61.dtfs (selFields row61 sel) fill = true) :
    rowPipeline row61 (flat sel ++ tail) fbOff fill = some (fieldsOf row61.dtfs (selFields row61 sel) fbOff fill).instant :=
  cert61.e2e_end hv (cert61.flat_le rfl hv) (C04_row61_search sel hv _ (tailIn_take ht _)) fbOff hfb fill rfl hc

theorem C04_row62_end_to_end_shaped (sel : Sel) (hv : Valid (rowBodyE re62 1) sel) (tail : List UInt8) (ht : TailIn (rowEndSym re62) tail)
    (fbOff : Int) (hfb : FbOK' fbOff) (fill : Option Int)
    (hc : calendarOK row62.dtfs (selFields row62 sel) fill = true) :
    rowPipeline row62 (flat sel ++ tail) fbOff fill = some (fieldsOf row62.dtfs (selFields row62 sel) fbOff fill).instant :=
  cert62.e2e_end hv (cert62.flat_le rfl hv) (C04_row62_search sel hv _ (tailIn_take ht _)) fbOff hfb fill rfl hc

theorem C04_row63_end_to_end_shaped (sel : Sel) (hv : Valid (rowBodyE re63 1) sel) (tail : List UInt8) (ht : TailIn (rowEndSym re63) tail)
    (fbOff : Int) (hfb : FbOK' fbOff) (fill : Option Int)
    (hc : calendarOK row63.dtfs (selFields row63 sel) fill = true) :
    rowPipeline row63 (flat sel ++ tail) fbOff fill = some (fieldsOf row63.dtfs (selFields row63 sel) fbOff fill).instant :=
  cert63.e2e_end hv (cert63.flat_le rfl hv) (C04_row63_search sel hv _ (tailIn_take ht _)) fbOff hfb fill rfl hc

theorem C04_row64_end_to_end_shaped (sel : Sel) (hv : Valid (rowBodyE re64 1) sel) (tail : List UInt8) (ht : TailIn (rowEndSym re64) tail)
    (fbOff : Int) (hfb : FbOK' fbOff) (fill : Option Int)
    (hc : calendarOK row64.dtfs (selFields row64 sel) fill = true) :
    rowPipeline row64 (flat sel ++ tail) fbOff fill = some (fieldsOf row64.dtfs (selFields row64 sel) fbOff fill).instant :=
  cert64.e2e_end hv (cert64.flat_le rfl hv) (C04_row64_search sel hv _ (tailIn_take ht _)) fbOff hfb fill rfl hc

theorem C04_row70_end_to_end_shaped (sel : Sel) (hv : Valid (rowBodyE re70 1) sel) (tail : List UInt8) (ht : TailIn (rowEndSym re70) tail)
    (fbOff : Int) (hfb : FbOK' fbOff) (fill : Option Int)
    (hc : calendarOK row70.dtfs (selFields row70 sel) fill = true) :
    rowPipeline row70 (flat sel ++ tail) fbOff fill = some (fieldsOf row70.dtfs (selFields row70 sel) fbOff fill).instant :=
  cert70.e2e_end hv (cert70.flat_le rfl hv) (C04_row70_search sel hv _ (tailIn_take ht _)) fbOff hfb fill rfl hc

theorem C04_row71_end_to_end_shaped (sel : Sel) (hv : Valid (rowBodyE re71 1) sel) (tail : List UInt8) (ht : TailIn (rowEndSym re71) tail)
    (fbOff : Int) (hfb : FbOK' fbOff) (fill : Option Int)
    (hc : calendarOK row71.dtfs (selFields row71 sel) fill = true) :
    rowPipeline row71 (flat sel ++ tail) fbOff fill = some (fieldsOf row71.dtfs (selFields row71 sel) fbOff fill).instant :=
  cert71.e2e_end hv (cert71.flat_le rfl hv) (C04_row71_search sel hv _ (tailIn_take ht _)) fbOff hfb fill rfl hc

theorem C04_row72_end_to_end_shaped (sel : Sel) (hv : Valid (rowBodyE re72 1) sel) (tail : List UInt8) (ht : TailIn (rowEndSym re72) tail)
    (fbOff : Int) (hfb : FbOK' fbOff) (fill : Option Int)
    (hc : calendarOK row72.dtfs (selFields row72 sel) fill = true) :
    rowPipeline row72 (flat sel ++ tail) fbOff fill = some (fieldsOf row72.dtfs (selFields row72 sel) fbOff fill).instant :=
  cert72.e2e_end hv (cert72.flat_le rfl hv) (C04_row72_search sel hv _ (tailIn_take ht _)) fbOff hfb fill rfl hc

theorem C04_row73_end_to_end_shaped (sel : Sel) (hv : Valid (rowBodyE re73 1) sel) (tail : List UInt8) (ht : TailIn (rowEndSym re73) tail)
    (fbOff : Int) (hfb : FbOK' fbOff) (fill : Option Int)
    (hc : calendarOK row73.dtfs (selFields row73 sel) fill = true) :
    rowPipeline row73 (flat sel ++ tail) fbOff fill = some (fieldsOf row73.dtfs (selFields row73 sel) fbOff fill).instant :=
  cert73.e2e_end hv (cert73.flat_le rfl hv) (C04_row73_search sel hv _ (tailIn_take ht _)) fbOff hfb fill rfl hc

theorem C04_row74_end_to_end_shaped (sel : Sel) (hv : Valid (rowBodyE re74 1) sel) (tail : List UInt8) (ht : TailIn (rowEndSym re74) tail)
    (fbOff : Int) (hfb : FbOK' fbOff) (fill : Option Int)
    (hc : calendarOK row74.dtfs (selFields row74 sel) fill = true) :
    rowPipeline row74 (flat sel ++ tail) fbOff fill = some (fieldsOf row74.dtfs (selFields row74 sel) fbOff fill).instant :=
  cert74.e2e_end hv (cert74.flat_le rfl hv) (C04_row74_search sel hv _ (tailIn_take ht _)) fbOff hfb fill rfl hc

theorem C04_row75_end_to_end_shaped (sel : Sel) (hv : Valid (rowBodyE re75 1) sel) (tail : List UInt8) (ht : TailIn (rowEndSym re75) tail)
    (fbOff : Int) (hfb : FbOK' fbOff) (fill : Option Int)
    (hc : calendarOK row75.dtfs (selFields row75 sel) fill = true) :
    rowPipeline row75 (flat sel ++ tail) fbOff fill = some (fieldsOf row75.dtfs (selFields row75 sel) fbOff fill).instant :=
  cert75.e2e_end hv (cert75.flat_le rfl hv) (C04_row75_search sel hv _ (tailIn_take ht _)) fbOff hfb fill rfl hc

theorem C04_row76_end_to_end_shaped (sel : Sel) (hv : Valid (rowBodyE re76 1) sel) (tail : List UInt8) (ht : TailIn (rowEndSym re76) tail)
    (fbOff : Int) (hfb : FbOK' fbOff) (fill : Option Int)
    (hc : calendarOK row76.dtfs (selFields row76 sel) fill = true) :
    rowPipeline row76 (flat sel ++ tail) fbOff fill = some (fieldsOf row76.dtfs (selFields row76 sel) fbOff fill).instant :=
  cert76.e2e_end hv (cert76.flat_le rfl hv) (C04_row76_search sel hv _ (tailIn_take ht _)) fbOff hfb fill rfl hc

end S4V.Props.RegexE2E
