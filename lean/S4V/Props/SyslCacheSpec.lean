/-
Property theorems for the cached `SyslineReader` model (`S4V.Model.SyslCached`), part of C02:
how far the stored state (`syslines`, `syslines_by_range`, the LRU) is TRANSPARENT.
* Never a wrong message: from every reachable store, `find_sysline(fo)` answers what a
  cache-free reader answers, or panics (`findSyslineCached_sound`, `runOps_sound`).
* It answers exactly the cache-free answer when `fo` lies at or after every range whose
  message was dropped (`findSyslineCached_transparent`), hence for every history without
  drops (`runOps_transparent_nodrop`) and for the forward-only discipline of
  `exec_syslogprocessor` (`runOps_transparent`, `streaming_discipline`).
* Full transparency is FALSE of the code, in two ways (`transparent_full_false`,
  `transparent_nodrop_full_false`); both witnesses are reproduced on the real reader
  (harness `syslc`).
-/
import S4V.Lemmas.SyslCached

namespace S4V.Props.SyslCacheSpec
open S4V.Model.Syslines S4V.Model.SyslCached S4V.Lemmas.Syslines S4V.Gen.SyslCache
open S4V.Lemmas.SyslCached (Ans StaleBelow IbSafe IbSafeAll boundAt NoDrop)

abbrev Inv := @S4V.Lemmas.SyslCached.Inv

/-- running example: a head-less line, message `[2..5]` (instant 3, one continuation
line at 5), message `[6..8]` (instant 7) -/
def exL : List LineInfo := [⟨0, 1, none⟩, ⟨2, 4, some 3⟩, ⟨5, 5, none⟩, ⟨6, 8, some 7⟩]

example : WFLines exL := by decide
example : messages exL = [⟨2, 5, 3⟩, ⟨6, 8, 7⟩] := by decide

/-- the four facts regenerated from the source that the model is parameterised by
(`S4V.Gen.SyslCache`): `FIND_SYSLINE_LRU_CACHE_SZ`, … -/
theorem lruCap_eq : lruCap = 4 := by decide
/-- `drop_sysline` leaves `syslines_by_range` alone (regenerated from the source) -/
theorem drop_keeps_range : DROP_REMOVES_BY_RANGE = false := rfl
/-- `check_store` indexes `self.syslines[fo]` on a by-range hit -/
theorem by_range_hit_indexes : BY_RANGE_HIT_INDEXES_SYSLINES = true := rfl
/-- … and `CACHE_ENABLE_DEFAULT` -/
example : empty.lruEnabled = true := rfl

theorem inv_iff (ls : List LineInfo) (st : Store) :
    Inv ls st ↔
      -- every stored message is a message of the file (bounds and instant)
      (∀ s ∈ st.syslines, s ∈ messages ls) ∧
      -- every range is `[beg, end+1) ↦ beg` of a message of the file (stored or dropped)
      (∀ e ∈ st.byRange, ∃ m ∈ messages ls, e = (m.beg, m.fin + 1, m.beg)) ∧
      -- every LRU entry is the answer a cache-free reader gives for its key
      (∀ p ∈ st.lru, p.2 = ofRes (findSysline ls p.1)) ∧
      st.lru.length ≤ lruCap ∧ st.lru.Pairwise (fun p q => p.1 ≠ q.1) :=
  ⟨fun h => ⟨h.sl_true, h.rng_true, h.lru_true, h.lru_len, h.lru_keys⟩,
   fun ⟨a, b, c, d, e⟩ => ⟨a, b, c, d, e⟩⟩

theorem inv_empty (ls : List LineInfo) : Inv ls empty ∧ Inv ls emptyNoLru :=
  ⟨S4V.Lemmas.SyslCached.inv_empty ls _, S4V.Lemmas.SyslCached.inv_empty ls _⟩

theorem staleBelow_empty (k : Nat) : StaleBelow empty k ∧ StaleBelow emptyNoLru k :=
  ⟨S4V.Lemmas.SyslCached.staleBelow_empty _ k, S4V.Lemmas.SyslCached.staleBelow_empty _ k⟩

/-- from every store satisfying the invariant (warm caches, after any drops): the answer is
the cache-free answer or a panic — never another message — and the invariant is kept -/
theorem findSyslineCached_sound {ls : List LineInfo} (hwf : WFLines ls) {st : Store}
    (h : Inv ls st) (fo : Nat) :
    let (r, st') := findSyslineCached ls st fo
    (r = ofRes (findSysline ls fo) ∨ r = .panic) ∧ Inv ls st' :=
  let g := S4V.Lemmas.SyslCached.findSyslineCached_spec hwf h fo
  ⟨g.sound, g.inv⟩

/-- main theorem (partial form): when every range whose message is no longer stored ends at
or before `k`, a request at `fo ≥ k` answers exactly what a cache-free reader answers — same
message bounds, instant and `fo_next`, or `Done` — and no new stale range appears -/
theorem findSyslineCached_transparent {ls : List LineInfo} (hwf : WFLines ls) {st : Store}
    (fo : Nat) (h : Inv ls st) {k : Nat} (hk : StaleBelow st k) (hfo : k ≤ fo) :
    let (r, st') := findSyslineCached ls st fo
    r = ofRes (findSysline ls fo) ∧ Inv ls st' ∧ StaleBelow st' k :=
  let g := S4V.Lemmas.SyslCached.findSyslineCached_spec hwf h fo
  ⟨(g.stale k hk).2 hfo, g.inv, (g.stale k hk).1⟩

theorem findSyslineCached_transparent_nostale {ls : List LineInfo} (hwf : WFLines ls)
    {st : Store} (fo : Nat) (h : Inv ls st) (hk : StaleBelow st 0) :
    (findSyslineCached ls st fo).1 = ofRes (findSysline ls fo) :=
  (findSyslineCached_transparent hwf fo h hk (Nat.zero_le _)).1

/-- the "ran into a processed sysline" switch of part A never fires on a store satisfying the
invariant: part A with the store in view is part A -/
theorem switch_never_fires {ls : List LineInfo} (hwf : WFLines ls) {st : Store} (h : Inv ls st)
    {fo : Nat} (hmiss : rmContains st.byRange fo = false) (fuel : Nat) :
    slPartAC ls (rmContains st.byRange) fuel fo false 0 = slPartA ls fuel fo false 0 :=
  S4V.Lemmas.SyslCached.slPartAC_eq hwf (S4V.Lemmas.SyslCached.knownTrue_of_inv h) _ _ _ _
    (fun _ => hmiss)

/-- the store after `find_sysline(3)` on a fresh reader of `exL` -/
def st1 : Store := (findSyslineCached exL empty 3).2

example : st1 = ⟨[⟨2, 5, 3⟩], [(2, 6, 2)], [(3, .found 6 ⟨2, 5, 3⟩)], true⟩ := by decide
example : Inv exL st1 := (findSyslineCached_sound (by decide) (inv_empty exL).1 3).2
/-- LRU hit (key 3), by-range hit (offset 5, then cached under key 5), full walk (offset 0:
head-less prefix, forwards to the first message), `Done` past the end (cached too) -/
example : (findSyslineCached exL st1 3).1 = .found 6 ⟨2, 5, 3⟩ ∧
    (findSyslineCached exL st1 5).1 = .found 6 ⟨2, 5, 3⟩ ∧
    lruGet (findSyslineCached exL st1 5).2.lru 5 = some (.found 6 ⟨2, 5, 3⟩) ∧
    (findSyslineCached exL st1 0).1 = .found 6 ⟨2, 5, 3⟩ ∧
    (findSyslineCached exL st1 9).1 = .done ∧
    lruGet (findSyslineCached exL st1 9).2.lru 9 = some .done := by decide
example : (findSyslineCached exL st1 5).1 = ofRes (findSysline exL 5) :=
  findSyslineCached_transparent_nostale (by decide) 5
    (findSyslineCached_sound (by decide) (inv_empty exL).1 3).2 (by decide)

/-- `find_sysline_in_block(fo)` at a *safe* offset (the forward-only walk and the full walk
start the message at the same line): the answer is the cache-free `find_sysline` answer, or
`Done` (the in-block walk gave up), or a panic (stale range); the invariant is kept -/
theorem findSyslineIBCached_sound {ls : List LineInfo} (hwf : WFLines ls) {st : Store}
    (h : Inv ls st) (fo : Nat) (w : Bool) (hsafe : IbSafe ls fo) :
    let (r, st') := findSyslineIBCached ls st fo w
    (r = ofRes (findSysline ls fo) ∨ r = .panic ∨ r = .done) ∧ Inv ls st' :=
  (S4V.Lemmas.SyslCached.findSyslineIBCached_spec hwf h fo w hsafe).elim
    (fun g => ⟨g.sound.imp_right Or.inl, g.inv⟩)
    (fun g => by rw [g]; exact ⟨Or.inr (Or.inr rfl), h⟩)

/-- offsets inside a timestamped line, and offsets at or past the end, are safe -/
theorem ibSafe_of_head {ls : List LineInfo} (hwf : WFLines ls) {fo : Nat} {l : LineInfo} {t : Int}
    (hl : lineAt ls fo = some l) (ht : l.dt = some t) : IbSafe ls fo :=
  S4V.Lemmas.SyslCached.ibSafe_of_head hl ht

theorem ibSafe_of_beyond {ls : List LineInfo} (hwf : WFLines ls) {fo : Nat}
    (h : fileSz ls ≤ fo) : IbSafe ls fo :=
  S4V.Lemmas.SyslCached.ibSafe_of_beyond hwf h

example : IbSafe exL 0 ∧ IbSafe exL 3 ∧ IbSafe exL 7 ∧ ¬ IbSafe exL 5 := by decide
example : IbSafe exL 3 := ibSafe_of_head (l := ⟨2, 4, some 3⟩) (by decide) (by decide) rfl

theorem dropData_inv {ls : List LineInfo} (hwf : WFLines ls) {bs : Nat} (hbs : 1 ≤ bs) {st : Store}
    (h : Inv ls st) (bo : Nat) {k : Nat} (hk : StaleBelow st k) :
    Inv ls (dropData bs st bo) ∧ StaleBelow (dropData bs st bo) (max k ((bo + 1) * bs)) :=
  S4V.Lemmas.SyslCached.dropData_spec hwf hbs h bo hk

theorem clearSyslines_inv {ls : List LineInfo} {st : Store} (h : Inv ls st) :
    Inv ls (clearSyslines st) ∧ StaleBelow (clearSyslines st) 0 :=
  S4V.Lemmas.SyslCached.clearSyslines_spec h 0

theorem removeSysline_inv {ls : List LineInfo} (hwf : WFLines ls) {st : Store} (h : Inv ls st)
    (fo : Nat) {k : Nat} (hk : StaleBelow st k) :
    Inv ls (removeSysline st fo).2 ∧ StaleBelow (removeSysline st fo).2 k :=
  S4V.Lemmas.SyslCached.removeSysline_spec hwf h fo hk

example : dropData 4 st1 1 = ⟨[], [(2, 6, 2)], [(3, .found 6 ⟨2, 5, 3⟩)], true⟩ := by decide
example : Inv exL (dropData 4 st1 1) ∧ StaleBelow (dropData 4 st1 1) (max 0 ((1 + 1) * 4)) :=
  dropData_inv (by decide) (by decide) (findSyslineCached_sound (by decide) (inv_empty exL).1 3).2 1
    (by decide)
example : (removeSysline st1 2).2 = ⟨[], [], [], true⟩ ∧ clearSyslines st1 = ⟨[], [], [], true⟩ := by
  decide

/-- every history from a fresh reader (LRU enabled or disabled) whose in-block requests are
safe: every `find_sysline(fo)` answers the cache-free answer or panics; it answers the
cache-free answer when `fo` is at or after `(bo + 1) * bs` for every earlier `drop_data(bo)` -/
theorem runOps_transparent {ls : List LineInfo} (hwf : WFLines ls) {bs : Nat} (hbs : 1 ≤ bs)
    (ops : List Op) (lru : Bool) (hs : IbSafeAll ls ops) (i fo : Nat)
    (hi : ops[i]? = some (.find fo)) :
    let outs := (runOps ls bs (if lru then empty else emptyNoLru) ops).1
    (outs[i]? = some (.res (ofRes (findSysline ls fo))) ∨ outs[i]? = some (.res .panic)) ∧
    (boundAt bs 0 ops i ≤ fo → outs[i]? = some (.res (ofRes (findSysline ls fo)))) := by
  have hI : Inv ls (if lru then empty else emptyNoLru) := by
    split <;> exact S4V.Lemmas.SyslCached.inv_empty ls _
  have hk : StaleBelow (if lru then empty else emptyNoLru) 0 := by
    split <;> exact S4V.Lemmas.SyslCached.staleBelow_empty _ 0
  exact (S4V.Lemmas.SyslCached.runOps_spec hwf hbs ops hI hk hs).2 i fo hi

theorem runOps_sound {ls : List LineInfo} (hwf : WFLines ls) {bs : Nat} (hbs : 1 ≤ bs)
    (ops : List Op) (lru : Bool) (hs : IbSafeAll ls ops) (i fo : Nat)
    (hi : ops[i]? = some (.find fo)) :
    let outs := (runOps ls bs (if lru then empty else emptyNoLru) ops).1
    outs[i]? = some (.res (ofRes (findSysline ls fo))) ∨ outs[i]? = some (.res .panic) :=
  (runOps_transparent hwf hbs ops lru hs i fo hi).1

/-- histories without `drop_data`: fully transparent — every history of `find_sysline`,
safe `find_sysline_in_block`, `clear_syslines`, `remove_sysline` -/
theorem runOps_transparent_nodrop {ls : List LineInfo} (hwf : WFLines ls) {bs : Nat} (hbs : 1 ≤ bs)
    (ops : List Op) (lru : Bool) (hs : IbSafeAll ls ops) (hnd : NoDrop ops)
    (i fo : Nat) (hi : ops[i]? = some (.find fo)) :
    (runOps ls bs (if lru then empty else emptyNoLru) ops).1[i]?
      = some (.res (ofRes (findSysline ls fo))) := by
  apply (runOps_transparent hwf hbs ops lru hs i fo hi).2
  rw [S4V.Lemmas.SyslCached.boundAt_noDrop bs 0 ops hnd i]
  exact Nat.zero_le _

theorem runOps_inv {ls : List LineInfo} (hwf : WFLines ls) {bs : Nat} (hbs : 1 ≤ bs)
    (ops : List Op) (hs : IbSafeAll ls ops) : Inv ls (runOps ls bs empty ops).2 :=
  (S4V.Lemmas.SyslCached.runOps_spec hwf hbs ops (inv_empty ls).1 (staleBelow_empty 0).1 hs).1

theorem runOps_transparent_nodrop_bytes (P : S4V.Model.Lines.Bytes → Option Int)
    (d : S4V.Model.Lines.Bytes) {bs : Nat} (hbs : 1 ≤ bs) (ops : List Op) (lru : Bool)
    (hs : IbSafeAll (linesFrom P d) ops) (hnd : NoDrop ops)
    (i fo : Nat) (hi : ops[i]? = some (.find fo)) :
    (runOps (linesFrom P d) bs (if lru then empty else emptyNoLru) ops).1[i]?
      = some (.res (ofRes (findSysline (linesFrom P d) fo))) :=
  runOps_transparent_nodrop (linesFrom_wf P d) hbs ops lru hs hnd i fo hi

/-- a non-trivial reachable store: walk, by-range hit, LRU hit, safe in-block request,
remove, walk again, past the end -/
def exOps : List Op := [.find 3, .find 5, .find 3, .findib 7 true, .remove 2, .find 4, .find 9, .find 0]

example : (runOps exL 4 empty exOps).2 =
    ⟨[⟨2, 5, 3⟩, ⟨6, 8, 7⟩], [(2, 6, 2), (6, 9, 6)],
     [(0, .found 6 ⟨2, 5, 3⟩), (9, .done), (4, .found 6 ⟨2, 5, 3⟩)], true⟩ := by decide
example : Inv exL (runOps exL 4 empty exOps).2 := runOps_inv (by decide) (by decide) _ (by decide)
example : (runOps exL 4 empty exOps).1[5]? = some (.res (ofRes (findSysline exL 4))) :=
  runOps_transparent_nodrop (by decide) (by decide) exOps true (by decide) (by decide) 5 4 rfl

/-- the discipline of `exec_syslogprocessor` (forward-only finds; `drop_data_try` drops blocks
at least two before the block where the previous message begins): finds after the drop are
answered exactly -/
def streamOps : List Op := [.find 0, .find 6, .drop 0, .find 9]

theorem streaming_discipline :
    (runOps exL 2 empty streamOps).1 =
      [.res (ofRes (findSysline exL 0)), .res (ofRes (findSysline exL 6)), .unit,
       .res (ofRes (findSysline exL 9))] := by decide

example : boundAt 2 0 streamOps 3 = 2 := by decide
example : (runOps exL 2 empty streamOps).1[3]? = some (.res (ofRes (findSysline exL 9))) :=
  (runOps_transparent (by decide) (by decide) streamOps true (by decide) 3 9 rfl).2 (by decide)

/-- the statement one would like: every `find_sysline` of every history answers what a
cache-free reader answers -/
def transparent_full : Prop :=
  ∀ (ls : List LineInfo) (bs : Nat) (ops : List Op), WFLines ls → 1 ≤ bs → ∀ (i fo : Nat),
    ops[i]? = some (Op.find fo) →
    (runOps ls bs empty ops).1[i]? = some (Out.res (ofRes (findSysline ls fo)))

/-- WITNESS (reproduced on the real `SyslineReader`, harness `syslc`): `find_sysline(2)`,
`drop_data(0)`, `find_sysline(2)` on `exL` with block size 16 — the third call panics:
`drop_sysline` removed the message from `syslines` and the LRU but left its range in
`syslines_by_range`; `check_store` hits the range and reads `self.syslines[fo]` -/
def dropWitness : List Op := [.find 2, .drop 0, .find 2]

theorem drop_then_find_panics :
    (runOps exL 16 empty dropWitness).1 = [.res (.found 6 ⟨2, 5, 3⟩), .unit, .res .panic] ∧
    (runOps exL 16 emptyNoLru dropWitness).1 = [.res (.found 6 ⟨2, 5, 3⟩), .unit, .res .panic] ∧
    ofRes (findSysline exL 2) = .found 6 ⟨2, 5, 3⟩ := by decide

theorem transparent_full_false : ¬ transparent_full := by
  intro h
  exact absurd (h exL 16 dropWitness (by decide) (by decide) 2 2 rfl) (by decide)

/-- counter-model: were `drop_sysline` to remove the range too, the witness history would be
answered by a fresh walk -/
def dropSyslineFixed (st : Store) (s : Sysl) : Store :=
  { st with syslines := slRemove st.syslines s.beg, lru := lruPop st.lru s.beg,
            byRange := rmRemove st.byRange s.beg (s.fin + 1) }

theorem drop_removing_range_repairs_witness :
    let st := (findSyslineCached exL empty 2).2
    (findSyslineCached exL (dropSysline st ⟨2, 5, 3⟩) 2).1 = .panic ∧
    (findSyslineCached exL (dropSyslineFixed st ⟨2, 5, 3⟩) 2).1 = ofRes (findSysline exL 2) := by
  decide

/-- the statement without drops but with unrestricted in-block requests -/
def transparent_nodrop_full : Prop :=
  ∀ (ls : List LineInfo) (bs : Nat) (ops : List Op), WFLines ls → 1 ≤ bs →
    NoDrop ops → ∀ (i fo : Nat), ops[i]? = some (Op.find fo) →
    (runOps ls bs empty ops).1[i]? = some (Out.res (ofRes (findSysline ls fo)))

/-- WITNESS (reproduced on the real reader): `find_sysline_in_block(5)` — offset 5 is the
continuation line of message `[2..5]`; the in-block walk goes forwards only, builds message
`[6..8]` and caches it in the LRU under key 5; `find_sysline(5)` then returns `[6..8]`
where a cache-free reader returns `[2..5]`. With the LRU disabled the answer is right. -/
def ibWitness : List Op := [.findib 5 true, .find 5]

theorem findib_poisons_lru :
    (runOps exL 16 empty ibWitness).1 = [.res (.found 9 ⟨6, 8, 7⟩), .res (.found 9 ⟨6, 8, 7⟩)] ∧
    ofRes (findSysline exL 5) = .found 6 ⟨2, 5, 3⟩ ∧
    (runOps exL 16 emptyNoLru ibWitness).1 = [.res (.found 9 ⟨6, 8, 7⟩), .res (.found 6 ⟨2, 5, 3⟩)] ∧
    ¬ IbSafe exL 5 ∧ ¬ Inv exL (runOps exL 16 empty ibWitness).2 := by
  refine ⟨by decide, by decide, by decide, by decide, ?_⟩
  intro h
  exact absurd (h.lru_true (5, .found 9 ⟨6, 8, 7⟩) (by decide)) (by decide)

theorem transparent_nodrop_full_false : ¬ transparent_nodrop_full := by
  intro h
  exact absurd (h exL 16 ibWitness (by decide) (by decide) (by decide) 1 5 rfl) (by decide)

/-- the invariant matters: a store holding a FALSE message (`[2..4]`: the continuation line is
missing) answers it, and then lets the "ran into a processed sysline" switch fire for the line it
lacks -/
theorem false_message_poisons :
    let bad : Store := ⟨[⟨2, 4, 3⟩], [(2, 5, 2)], [], true⟩
    (findSyslineCached exL bad 3).1 = .found 5 ⟨2, 4, 3⟩ ∧
    ofRes (findSysline exL 3) = .found 6 ⟨2, 5, 3⟩ ∧
    (findSyslineCached exL bad 5).1 = .found 9 ⟨6, 8, 7⟩ ∧
    ofRes (findSysline exL 5) = .found 6 ⟨2, 5, 3⟩ ∧ ¬ Inv exL bad := by
  refine ⟨by decide, by decide, by decide, by decide, ?_⟩
  intro h
  exact absurd (h.sl_true ⟨2, 4, 3⟩ (by decide)) (by decide)

end S4V.Props.SyslCacheSpec
