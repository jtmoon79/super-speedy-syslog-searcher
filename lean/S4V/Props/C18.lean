/-
C18 — temporary files: when the process exits, no temporary file it created is
left on disk — after a normal run (although the main thread does not join the
workers) and after a SIGINT, at whatever moment the handler runs and at whatever
moment the process exits after it (`C18_full_holds`).

The source refuses to create a temporary file once the handler has run (the
NAMED_TEMP_FILES_CLOSED flag, set and tested under the NAMED_TEMP_FILES lock;
regenerated as `createRefusedAfterHandler`). Without that flag the statement
needs the proviso "no worker creates its file after the handler ran"
(`C18_sigint_param`) and is false without it (`C18_full_without_flag_false`).

The theorems about `runGen` unfold the generated constants `createUnderLock`,
`dropBeforeSummary` and `createRefusedAfterHandler` inside their proofs:
regenerating any of them as `false` breaks them, and `gap_without_lock` /
`summary_before_drop` / `late_create_without_flag` show the leftover each of
the three other orders produces.
-/
import S4V.Lemmas.Tmp

namespace S4V.Props.C18
open S4V.Model.Tmp S4V.Gen.Tmp S4V.Lemmas.Tmp

/-- the source, as regenerated: creation+listing under the lock, reader dropped before the final
summary, creation refused once the handler ran. Proved by unfolding the three generated constants:
regenerating any of them as `false` breaks this (and everything below that rests on it). -/
theorem runGen_eq : runGen = runC true true := rfl

/-- parametric form of `NoLateCreate` (order of operations as parameters); see there -/
def NoLateCreateP (ul df : Bool) (n : Nat) (evs : List Ev) : Prop := noLate ul df (init n) evs = true

/-- `NoLateCreate n evs`: in the run of `evs` by `n` workers (source order), no `work i` event that
moves worker `i` out of phase `.start` — i.e. that creates worker `i`'s temporary file — occurs
after the `.sigint` event.

Formalisation: a predicate over the run's intermediate states. `noLate ul df s evs` walks `evs`
from `s` with `step` and checks, in the state reached before each event, that the event is not a
`lateCreate` (`= work i` with `handlerRan = true` and worker `i` in phase `.start`); it says nothing
past the point where the run is rejected.
`NoLateCreate_iff` restates it without the auxiliary function, with "after the `.sigint` event"
taken literally (`Ev.sigint ∈ pre`), and `runNoLate_eq_some_iff` (Lemmas) shows it is the same as
running with a `step` that rejects late creations. -/
def NoLateCreate (n : Nat) (evs : List Ev) : Prop := NoLateCreateP createUnderLock dropBeforeSummary n evs

instance (ul df n evs) : Decidable (NoLateCreateP ul df n evs) := by unfold NoLateCreateP; infer_instance
instance (n evs) : Decidable (NoLateCreate n evs) := by unfold NoLateCreate; infer_instance

theorem NoLateCreateP_iff (ul df : Bool) (n : Nat) (evs : List Ev) :
    NoLateCreateP ul df n evs ↔
      ∀ pre i post t, evs = pre ++ Ev.work i :: post → Ev.sigint ∈ pre →
        run ul df (init n) pre = some t → t.phase.getD i .done ≠ .start := by
  unfold NoLateCreateP
  rw [noLate_iff]
  constructor
  · intro H pre i post t heq hsig hrun hst
    have := H pre (.work i) post t heq hrun
    simp only [lateCreate, (handlerRan_run hrun).2 (.inr hsig), hst] at this
    cases this
  · intro H pre e post t heq hrun
    cases e with
    | work i =>
      cases hr : t.handlerRan with
      | false => simp [lateCreate, hr]
      | true =>
        have hsig := ((handlerRan_run hrun).1 hr).resolve_left (by simp [init])
        simpa only [lateCreate, hr, Bool.true_and, beq_eq_false_iff_ne] using H pre i post t heq hsig hrun
    | _ => rfl

theorem NoLateCreate_iff (n : Nat) (evs : List Ev) :
    NoLateCreate n evs ↔
      ∀ pre i post t, evs = pre ++ Ev.work i :: post → Ev.sigint ∈ pre →
        run createUnderLock dropBeforeSummary (init n) pre = some t → t.phase.getD i .done ≠ .start :=
  NoLateCreateP_iff _ _ n evs

theorem NoLateCreate_of_no_sigint (n : Nat) (evs : List Ev) (hno : Ev.sigint ∉ evs) : NoLateCreate n evs :=
  noLate_of_no_sigint _ _ (init n) evs rfl hno

/-- order without the closed flag, as parameters: the proviso is needed (`late_create_without_flag`) -/
theorem C18_sigint_param (n : Nat) (evs : List Ev) (s : St)
    (hrun : run true true (init n) evs = some s) (hex : s.exited = true)
    (hnl : NoLateCreateP true true n evs) : leftovers s = 0 :=
  leftovers_zero_of_noLate hrun hex hnl

/-- the statement of C18 for the model: every exited run — with or without a SIGINT, the handler
running at any moment, the process exiting at any moment after it — leaves no temporary file -/
def C18_full : Prop :=
  ∀ (n : Nat) (evs : List Ev) (s : St), runGen (init n) evs = some s → s.exited = true → leftovers s = 0

/-- the source's order of operations (creation and listing under the lock, reader dropped before the
final summary, creation refused once the handler ran): C18 holds at full strength -/
theorem C18_full_holds : C18_full := by
  intro n evs s hrun hex
  rw [runGen_eq] at hrun
  exact leftovers_zero_closed hrun hex

/-- the same, in the words of the property: after a SIGINT at any moment -/
theorem C18_sigint (n : Nat) (evs : List Ev) (s : St)
    (hrun : runGen (init n) evs = some s) (hex : s.exited = true) : leftovers s = 0 :=
  C18_full_holds n evs s hrun hex

/-- the source's order: a normal run leaves no temporary file, although the main thread exits after
the last summary without waiting for the workers -/
theorem C18_normal (n : Nat) (evs : List Ev) (s : St)
    (hrun : runGen (init n) evs = some s) (hex : s.exited = true) (hno : Ev.sigint ∉ evs) :
    leftovers s = 0 := by
  have _ := hno
  exact C18_full_holds n evs s hrun hex

/-- SIGINT first, then the worker reaches `decompress_to_ntf`: it is refused, nothing is created -/
example : runGen (init 1) [.sigint, .work 0, .exit] = some ⟨[.done], [false], [false], true, true⟩ := by decide

/-! ## without the closed flag the unrestricted statement is false -/

/-- the statement of C18 for the order of operations without the closed flag -/
def C18_full_without_flag : Prop :=
  ∀ (n : Nat) (evs : List Ev) (s : St), run true true (init n) evs = some s → s.exited = true → leftovers s = 0

/-- one worker, SIGINT first: the handler finds nothing listed, the worker then creates and lists
its file, the main thread sees EXIT_EARLY and exits — the file stays -/
theorem late_create_without_flag :
    run true true (init 1) [.sigint, .work 0, .exit] = some ⟨[.listed], [true], [true], true, true⟩ := by
  decide

theorem C18_full_without_flag_false : ¬ C18_full_without_flag := by
  intro h
  exact absurd (h 1 [.sigint, .work 0, .exit] _ late_create_without_flag (by decide)) (by decide)

/-- the witness is excluded by the proviso of `C18_sigint_param`, as it should be -/
example : ¬ NoLateCreateP true true 1 [.sigint, .work 0, .exit] := by decide

/-- creation outside the NAMED_TEMP_FILES lock: the handler can run between creation and listing,
sees nothing listed, and the file stays -/
theorem gap_without_lock :
    ∃ evs s, run false true (init 1) evs = some s ∧ s.exited = true ∧ leftovers s = 1 :=
  ⟨[.work 0, .sigint, .exit], ⟨[.created], [true], [false], true, true⟩, by decide, by decide, by decide⟩

/-- no late creation is involved in that gap: the file was created before the handler ran -/
example : NoLateCreateP false true 1 [.work 0, .sigint, .exit] := by decide

/-- summary sent before the reader is dropped: the main thread exits after the last summary while
the worker's file still exists — a leftover in a normal run -/
theorem summary_before_drop :
    ∃ evs s, run true false (init 1) evs = some s ∧ s.exited = true ∧ Ev.sigint ∉ evs ∧ leftovers s = 1 :=
  ⟨[.work 0, .work 0, .exit], ⟨[.summarised], [true], [true], false, true⟩,
    by decide, by decide, by decide, by decide⟩

/-- the three per-worker lists keep length `n` along any run, in any order of operations -/
theorem lengths_preserved (ul df : Bool) (n : Nat) (evs : List Ev) (s : St)
    (hrun : run ul df (init n) evs = some s) :
    s.phase.length = n ∧ s.onDisk.length = n ∧ s.listed.length = n :=
  lens_run hrun (lens_init n)

/-- repaired order: a file on disk is always listed (so the handler removes it), its worker is in
phase `.listed`, and only the phases start / listed / deleted / done are reachable -/
theorem listed_of_onDisk (n : Nat) (evs : List Ev) (s : St) (hrun : run true true (init n) evs = some s) (i : Nat) :
    (s.onDisk.getD i false = true → s.listed.getD i false = true ∧ s.phase.getD i .done = .listed) ∧
    (s.phase.getD i .done = .start ∨ s.phase.getD i .done = .listed ∨
      s.phase.getD i .done = .deleted ∨ s.phase.getD i .done = .done) := by
  have hinv := inv0_run hrun (inv0_init n)
  refine ⟨fun h => ⟨(hinv.disk i h).2, (hinv.disk i h).1⟩, ?_⟩
  have := hinv.ph i
  cases hp : s.phase.getD i .done <;> simp_all

/-- a complete normal run with two workers, interleaved; the main thread exits after the last summary -/
example : (runGen (init 2) [.work 0, .work 1, .work 0, .work 1, .work 0, .work 1, .exit]).map
    (fun s => (s.exited, leftovers s)) = some (true, 0) := by decide

/-- a SIGINT in the middle: worker 0 has already deleted its file, worker 1's file is listed and is
removed by the handler; the process exits while worker 1 is still in phase `.listed` -/
example : (runGen (init 2) [.work 0, .work 1, .work 0, .sigint, .work 0, .exit]).map
    (fun s => (s.exited, leftovers s, s.phase)) = some (true, 0, [.done, .listed]) := by decide

example : NoLateCreate 2 [.work 0, .work 1, .work 0, .sigint, .work 0, .exit] := by decide

/-- two workers, the second reaches `decompress_to_ntf` only after the handler ran: worker 0's listed
file is removed by the handler, worker 1 is refused; nothing is left -/
example : (runGen (init 2) [.work 0, .sigint, .work 1, .exit]).map
    (fun s => (s.exited, leftovers s, s.phase)) = some (true, 0, [.listed, .done]) := by decide

/-- the main thread cannot exit in the middle of a normal run -/
example : runGen (init 2) [.work 0, .work 1, .work 0, .exit] = none := by decide

/-- **C18_handler_installed.** `processing_loop` installs the SIGINT handler whenever there is any path to process, before
any worker thread is spawned (regenerated from the source on every run). `C18_full_holds` models Ctrl-C as "the handler
runs"; that is only what happens if a handler was installed for THIS run. -/
theorem C18_handler_installed : handlerInstalledWheneverWorkers = true := by decide

/-- without a handler Ctrl-C has its default disposition: the process dies on the spot and whatever is on disk stays -/
def killed (s : St) : St := { s with exited := true }

/-- counter-model (seeded change C18-c: handler installed only when some source is a COMPRESSED journal / evtx, so a run over
tar-archived ones has none): one worker step after the start the temporary file exists; a kill there leaves it behind -/
theorem no_handler_leaves_file :
    (runGen (init 1) [.work 0]).map (fun s => leftovers (killed s)) = some 1 := by decide

end S4V.Props.C18
