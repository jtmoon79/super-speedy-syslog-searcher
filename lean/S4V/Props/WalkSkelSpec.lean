/-
C15 (and C01 tie order) over the REGENERATED form of `process_path` / the stdin splice.

`S4V.Gen.WalkSkel.skel` / `.splice` are translated from the source text by gen/gen_walkskel.py; the
interpreter `S4V.Model.WalkSkel` reads every decision from them. Here:

* `C15_process_path_skeleton_is_model`: interpreter(skeleton) = the hand model (`Model.WalkTar.expandArgFull`)
  for a named file, and for a directory whose jwalk stream lists the files of `walk` (kinds file / dir);
  `C15_stream_of_tree` discharges that hypothesis for the pre-order, name-sorted stream of a finite tree;
* `C15_splice_skeleton_is_model`: interpreter(splice) = `spliceStdin`;
* hence the `WalkSpec` theorems hold of the regenerated form (`C15_skel_*`);
* counter-models: the skeleton re-translated from EDITED source text (`S4V.Gen.WalkSkelMutants`) — every one
  makes the interpreter differ from the hand model on a concrete input.
-/
import S4V.Props.WalkSpec
import S4V.Model.WalkSkel
import S4V.Gen.WalkSkelMutants

namespace S4V.Props.WalkSkelSpec
open S4V.Model.Walk S4V.Model.Path S4V.Model.PathTypes S4V.Gen.PathTables
open S4V.Model.WalkTar S4V.Gen.WalkTar S4V.Gen.WalkSkel S4V.Model.WalkSkel
open S4V.Lemmas.Walk

theorem collect_append (s : Sink) (a b : List (Sink × SRes)) :
    collect s (a ++ b) = collect s a ++ collect s b := by
  simp [collect, List.filterMap_append]

theorem collect_tag_same (s : Sink) (rs : List SRes) : collect s (tag s rs) = rs := by
  induction rs with
  | nil => rfl
  | cons r rs ih => simpa [collect, tag] using ih

theorem classifyWith_false (p : List Bytes) : classifyWith false p = classifyWalked p := by
  unfold classifyWith classifyWalked
  rfl

/-- one turn of the regenerated loop body: a directory pushes nothing; a regular file pushes, to the returned
vector, exactly what the hand model's `expandWalked` lists for it (a `.tar`: its members, in place) -/
theorem body_real (u : Bool) (fs : TarFs) (par : List Bytes) (w : WEntry)
    (hk : w.kind = .file ∨ w.kind = .dir) :
    collect .paths (bodyEmit u fs par w skel.steps none)
      = if w.kind = .file then
          (expandWalked u fs ⟨par ++ w.path, (classifyWalked w.path).out⟩).map .res
        else [] := by
  rcases hk with h | h
  · simp only [skel, bodyEmit, h, classifyWith_false]
    generalize (classifyWalked w.path).out = o
    cases o <;>
      simp [expandWalked, collect_tag_same, walkedTar, walkTarPassesFlag, walkTarFlagLit, Function.comp_def]
  · simp [skel, bodyEmit, h, collect]

theorem filesOf_cons (w : WEntry) (ws : List WEntry) :
    filesOf (w :: ws) = (if w.kind = .file then [w.path] else []) ++ filesOf ws := by
  by_cases h : w.kind = .file <;> simp [filesOf, h]

/-- The regenerated walk loop + epilogue = the hand model's loop over the files of the stream, in stream order. -/
theorem C15_loop_skeleton_is_model (u : Bool) (fs : TarFs) (par : List Bytes) (ws : List WEntry)
    (hk : ∀ w ∈ ws, w.kind = .file ∨ w.kind = .dir) :
    runLoop skel u fs par ws
      = ((filesOf ws).flatMap fun p => expandWalked u fs ⟨par ++ p, (classifyWalked p).out⟩).map .res := by
  have hafter : skel.after.contains After.appendDeferred = false := by decide
  simp only [runLoop, hafter, emits]
  induction ws with
  | nil => simp [collect, filesOf]
  | cons w ws ih =>
    have hw := hk w (by simp)
    have ih' := ih (fun x hx => hk x (by simp [hx]))
    simp only [Bool.false_eq_true, if_false, List.append_nil] at ih' ⊢
    rw [List.flatMap_cons, collect_append, body_real u fs par w hw, ih', filesOf_cons]
    by_cases h : w.kind = .file <;> simp [h]

/-- the regenerated `std_path.is_file()` branch = the hand model's named branch -/
theorem C15_named_skeleton_is_model (u : Bool) (fs : TarFs) (p : List Bytes) (c : Bytes) :
    namedSkel skel u fs p c = (expandNamed u fs (classifyNamed p c)).map .res := by
  simp only [namedSkel, skel, classifyNamed, expandNamed]
  cases hc : classify c true with
  | none => simp
  | some r =>
    obtain ⟨k, a⟩ := r
    cases k <;>
      simp [namedTar, namedTarPassesFlag, namedTarFlagLit, Function.comp_def]

/-- what the file system is to the interpreter, given what it is to the hand model -/
def argOf (ws : List WEntry) : Arg → SArg
  | .file p c => .file p c
  | .dir par _ => .dir par ws

/-- **The regenerated `process_path` is the hand model.** For a named file unconditionally; for a directory
`t` (below `par`) provided the jwalk stream `ws` consists of regular files and directories and lists the files
that `walk` lists, in that order (`C15_stream_of_tree`: the pre-order name-sorted stream of `t` does). -/
theorem C15_process_path_skeleton_is_model (includeHidden u : Bool) (fs : TarFs) (a : Arg) (ws : List WEntry)
    (hk : ∀ w ∈ ws, w.kind = .file ∨ w.kind = .dir)
    (hf : ∀ par t, a = .dir par t → filesOf ws = walk includeHidden t) :
    processPathSkel skel u fs (argOf ws a) = (expandArgFull includeHidden u fs a).map .res := by
  cases a with
  | file p c => exact C15_named_skeleton_is_model u fs p c
  | dir par t =>
    simp only [argOf, processPathSkel, expandArgFull, expandDirAll]
    rw [C15_loop_skeleton_is_model u fs par ws hk, hf par t rfl, List.flatMap_map]
    simp only [classifyWalked_path]

/-- **The regenerated loop of `main` is the hand model** (`expandArgsFull` with the flag `main` passes): the
arguments are expanded in order, every result list appended in order. `aws` pairs each argument with its jwalk
stream (irrelevant for a named file). -/
theorem C15_main_skeleton_is_model (includeHidden : Bool) (fs : TarFs) (aws : List (Arg × List WEntry))
    (h : ∀ aw ∈ aws, (∀ w ∈ aw.2, w.kind = .file ∨ w.kind = .dir)
      ∧ ∀ par t, aw.1 = .dir par t → filesOf aw.2 = walk includeHidden t) :
    mainSkel skel mainLoop fs (aws.map fun aw => argOf aw.2 aw.1)
      = (expandArgsFull includeHidden mainUnparseableAreText fs (aws.map (·.1))).map .res := by
  have e1 : mainLoop.argsReversed = false := rfl
  have e2 : mainLoop.resultsReversed = false := rfl
  have e3 : mainLoop.flag = mainUnparseableAreText := rfl
  simp only [mainSkel, e1, e2, e3, Bool.false_eq_true, if_false, expandArgsFull]
  induction aws with
  | nil => rfl
  | cons aw rest ih =>
    have haw := h aw (by simp)
    have ih' := ih (fun x hx => h x (by simp [hx]))
    simp only [List.map_cons, List.flatMap_cons, List.map_append, ih',
      C15_process_path_skeleton_is_model includeHidden mainUnparseableAreText fs aw.1 aw.2 haw.1 haw.2]

/-- a missing / unreadable argument: one error result, nothing walked -/
theorem C15_skel_missing (u : Bool) (fs : TarFs) :
    processPathSkel skel u fs (.missing .notFound) = [.argErr .notExist]
    ∧ processPathSkel skel u fs (.missing .denied) = [.argErr .noPermissions]
    ∧ processPathSkel skel u fs (.missing .other) = [.argErr .err] := by
  refine ⟨rfl, rfl, rfl⟩

theorem insertE_map (f : List WEntry → List (List Bytes)) (x : EBlock) : ∀ l : List EBlock,
    (insertE x l).map (fun b => (b.1, f b.2)) = insertBlock (x.1, f x.2) (l.map fun b => (b.1, f b.2))
  | [] => rfl
  | y :: ys => by
    simp only [insertE, List.map_cons, insertBlock]
    split
    · rfl
    · simp [insertE_map f x ys]

theorem sortE_map (f : List WEntry → List (List Bytes)) : ∀ l : List EBlock,
    (sortE l).map (fun b => (b.1, f b.2)) = sortBlocks (l.map fun b => (b.1, f b.2))
  | [] => rfl
  | x :: xs => by simp [sortE, sortBlocks, insertE_map, sortE_map f xs]

theorem filesOf_append (a b : List WEntry) : filesOf (a ++ b) = filesOf a ++ filesOf b := by
  simp [filesOf, List.filterMap_append]

theorem filesOf_flatMap (bs : List EBlock) :
    filesOf (bs.flatMap (·.2)) = flatten (bs.map fun b => (b.1, filesOf b.2)) := by
  induction bs with
  | nil => rfl
  | cons b bs ih => simp [List.flatMap_cons, filesOf_append, flatten, ih] at *

theorem filesOf_pre (n : Bytes) (ws : List WEntry) : filesOf (ws.map (pre n)) = (filesOf ws).map (n :: ·) := by
  induction ws with
  | nil => rfl
  | cons w ws ih =>
    simp only [List.map_cons, filesOf_cons, ih, pre]
    by_cases h : w.kind = .file <;> simp [h]

mutual
theorem entriesN_files (ih : Bool) : ∀ t : Node, filesOf (entriesN ih t) = walkN ih t
  | .file n => by simp [entriesN, walkN, filesOf]
  | .dir n cs => by
    simp only [entriesN, walkN, filesOf_cons, filesOf_pre, filesOf_flatMap, sortE_map, entriesL_files ih cs]
    simp
theorem entriesL_files (ih : Bool) : ∀ cs : List Node,
    (entriesL ih cs).map (fun b => (b.1, filesOf b.2)) = walkL ih cs
  | [] => rfl
  | c :: cs => by
    simp only [entriesL, walkL, List.map_append, entriesL_files ih cs]
    split <;> simp [entriesN_files ih c]
end

theorem pre_kind (n : Bytes) (l : List WEntry) (h : ∀ w ∈ l, w.kind = .file ∨ w.kind = .dir) :
    ∀ w ∈ l.map (pre n), w.kind = .file ∨ w.kind = .dir := by
  intro w hw
  obtain ⟨x, hx, rfl⟩ := List.mem_map.mp hw
  exact h x hx

theorem insertE_perm (x : EBlock) : ∀ l : List EBlock, (insertE x l).Perm (x :: l)
  | [] => .refl _
  | y :: ys => by
    unfold insertE
    split
    · exact .refl _
    · exact ((insertE_perm x ys).cons y).trans (.swap x y ys)

theorem sortE_perm : ∀ l : List EBlock, (sortE l).Perm l
  | [] => .refl _
  | x :: xs => (insertE_perm x (sortE xs)).trans ((sortE_perm xs).cons x)

mutual
theorem entriesN_kinds (ih : Bool) : ∀ t : Node, ∀ w ∈ entriesN ih t, w.kind = .file ∨ w.kind = .dir
  | .file n => by simp [entriesN]
  | .dir n cs => by
    intro w hw
    simp only [entriesN, List.mem_cons] at hw
    rcases hw with rfl | hw
    · simp
    · refine pre_kind n _ ?_ w hw
      intro x hx
      obtain ⟨b, hb, hxb⟩ := List.mem_flatMap.mp hx
      exact entriesL_kinds ih cs b ((sortE_perm _).mem_iff.mp hb) x hxb
theorem entriesL_kinds (ih : Bool) : ∀ cs : List Node, ∀ b ∈ entriesL ih cs,
    ∀ w ∈ b.2, w.kind = .file ∨ w.kind = .dir
  | [] => by simp [entriesL]
  | c :: cs => by
    intro b hb
    simp only [entriesL, List.mem_append] at hb
    rcases hb with hb | hb
    · split at hb
      · simp only [List.mem_singleton] at hb
        subst hb
        exact entriesN_kinds ih c
      · simp at hb
    · exact entriesL_kinds ih cs b hb
end

/-- The pre-order, name-sorted stream of a finite tree (directories included) is a stream of regular files and
directories whose files are exactly `walk`, in order. -/
theorem C15_stream_of_tree (includeHidden : Bool) (t : Node) :
    (∀ w ∈ entriesN includeHidden t, w.kind = .file ∨ w.kind = .dir)
    ∧ filesOf (entriesN includeHidden t) = walk includeHidden t :=
  ⟨entriesN_kinds includeHidden t, entriesN_files includeHidden t⟩

/-- `process_path(dir)` read off the regenerated skeleton, on the tree's own stream = the hand model -/
theorem C15_process_path_skeleton_is_model_tree (includeHidden u : Bool) (fs : TarFs) (par : List Bytes) (t : Node) :
    processPathSkel skel u fs (.dir par (entriesN includeHidden t))
      = (expandArgFull includeHidden u fs (.dir par t)).map .res := by
  have h := C15_process_path_skeleton_is_model includeHidden u fs (.dir par t) (entriesN includeHidden t)
    (entriesN_kinds includeHidden t) (by intro par' t' e; cases e; exact entriesN_files includeHidden t)
  simpa [argOf] using h

/-- the walker options of the regenerated loop head: links followed, hidden entries included, sorted -/
theorem C15_skel_walk_options :
    skel.followLinks = true ∧ skel.skipHiddenFalse = true ∧ skel.sorted = true
    ∧ skel.skipHiddenFalse = walkIncludesHidden := by decide

/-- the plain files the regenerated loop lists come in strictly increasing path order (`C15_walk_order`) -/
theorem C15_skel_walk_order (t : Node) (h : okN t = true) :
    (filesOf (entriesN skel.skipHiddenFalse t)).Pairwise (fun p q => pathLt p q = true) := by
  rw [entriesN_files]
  exact S4V.Props.WalkSpec.C15_walk_order _ t h

/-- every file of the tree is listed by the regenerated loop (`C15_full_holds`) -/
theorem C15_skel_walk_complete (t : Node) : (filesOf (entriesN skel.skipHiddenFalse t)).Perm (files t) := by
  rw [entriesN_files]
  exact S4V.Props.WalkSpec.C15_walk_complete t

/-- naming a directory = naming the sorted list of its kept files (`C15_dir_eq_explicit_tar`), stated of the
regenerated `process_path` on both sides -/
theorem C15_skel_dir_eq_explicit_tar (includeHidden u : Bool) (fs : TarFs) (parent : List Bytes) (t : Node)
    (hok : okN t = true) (hh : noHiddenN t = true)
    (l : List (List Bytes)) (hl : l.Perm (files t)) (hs : l.Pairwise (fun p q => pathLt p q = true))
    (hutf : ∀ p ∈ l, toStringLossy (joinPath (parent ++ p)) = joinPath (parent ++ p)) :
    (processPathSkel skel u fs (.dir parent (entriesN includeHidden t)))
      = ((expandArgsFull includeHidden u fs [.dir parent t])).map .res
    ∧ (expandArgsFull includeHidden u fs [.dir parent t]).filter Res.attempted
      = (((l.filter S4V.Props.WalkSpec.keptWhenWalked).map (S4V.Props.WalkSpec.fileArg parent)).flatMap
          fun a => expandArgFull includeHidden u fs a).filter Res.attempted := by
  refine ⟨?_, ?_⟩
  · simp [expandArgsFull, C15_process_path_skeleton_is_model_tree]
  · exact S4V.Props.WalkSpec.C15_dir_eq_explicit_tar includeHidden u fs parent t hok hh l hl hs hutf

theorem spliceSkelAux_real (stdin : List Bytes) : ∀ (seen : Bool) (args : List Bytes),
    spliceSkelAux splice stdin seen args = spliceAux stdin seen args
  | _, [] => rfl
  | seen, a :: rest => by
    have h1 := spliceSkelAux_real stdin seen rest
    have h2 := spliceSkelAux_real stdin true rest
    simp only [spliceSkelAux, spliceAux, splice, DASH]
    by_cases ha : a = [45]
    · cases seen <;> simp_all [splice]
    · simp_all [splice]

/-- **The regenerated `"-"` arm is the hand model**: stdin lines are pushed at the position of the first `-`. -/
theorem C15_splice_skeleton_is_model (stdin args : List Bytes) :
    spliceSkel splice stdin args = spliceStdin stdin args := by
  unfold spliceSkel spliceStdin
  rw [spliceSkelAux_real]
  simp [splice]

/-- `C15_stdin` of the regenerated form -/
theorem C15_skel_stdin (lines pre post : List Bytes) (hpre : DASH ∉ pre) :
    spliceSkel splice lines (pre ++ DASH :: post) = pre ++ lines ++ post.filter (· ≠ DASH) := by
  rw [C15_splice_skeleton_is_model]
  exact S4V.Props.WalkSpec.C15_stdin lines pre post hpre

/-! ### non-vacuity -/

/-- `d/{b.log, a.tar, a/z.log}` with `a.tar` holding `x.png`, `y.log` -/
def exTree : Node := .dir [100] [.file [98, 46, 108, 111, 103], .file [97, 46, 116, 97, 114],
  .dir [97] [.file [122, 46, 108, 111, 103]]]
def exFs : TarFs := fun _ =>
  ⟨[⟨[[120, 46, 112, 110, 103]], .regular, false⟩, ⟨[[121, 46, 108, 111, 103]], .regular, false⟩], false⟩

/-- the stream has directories in it (five entries), the tar is expanded between its neighbours, four results -/
example : (entriesN true exTree).length = 5
    ∧ (processPathSkel skel true exFs (.dir [] (entriesN true exTree))).length = 4
    ∧ processPathSkel skel true exFs (.dir [] (entriesN true exTree))
        = (expandArgFull true true exFs (.dir [] exTree)).map .res := by decide

example : spliceSkel splice [[120], [121]] [[97], [45], [98], [45]] = [[97], [120], [121], [98]] := by decide

/-! ### counter-models: the skeleton re-translated from EDITED source text

Each `S4V.Gen.WalkSkelMutants.<name>` is what gen_walkskel.py translates from the source with one edit.
The interpreter run on it differs from the hand model on a concrete input: the proofs above cannot survive
the corresponding regression (they unfold `skel` / `splice`), and the property itself fails. -/

open S4V.Gen.WalkSkelMutants

/-- `d/{a.tar, b.log}` as jwalk streams it -/
def mStream : List WEntry := [⟨[[100]], .dir⟩, ⟨[[100], [97, 46, 116, 97, 114]], .file⟩,
  ⟨[[100], [98, 46, 108, 111, 103]], .file⟩]
def mTree : Node := .dir [100] [.file [97, 46, 116, 97, 114], .file [98, 46, 108, 111, 103]]

example : mStream = entriesN true mTree := by decide

/-- seeded C01-c: the tar's members are pushed to a second vector appended after the loop — they come AFTER
`b.log` although `a.tar` sorts before it; the result is a permutation in the wrong order -/
theorem tar_deferred_breaks_order :
    processPathSkel tarDeferred true exFs (.dir [] mStream)
      ≠ (expandArgFull true true exFs (.dir [] mTree)).map .res
    ∧ processPathSkel tarDeferred true exFs (.dir [] mStream)
      = ((expandArgFull true true exFs (.dir [] mTree)).map SRes.res).rotateLeft 2 := by decide

/-- walked files classified with `true`: a known non-log name (`x.png`) is listed as a valid text file -/
theorem walked_are_text_lists_nonlogs :
    processPathSkel walkedAreText true exFs (.dir [] [⟨[[100], [120, 46, 112, 110, 103]], .file⟩])
      = [.res (.plain [[100], [120, 46, 112, 110, 103]] (.valid ⟨.text, .normal⟩))]
    ∧ processPathSkel skel true exFs (.dir [] [⟨[[100], [120, 46, 112, 110, 103]], .file⟩])
      = [.res (.plain [[100], [120, 46, 112, 110, 103]] .notSupported)] := by decide

/-- the `!is_file()` block removed: the walked directory itself is listed as a text file -/
theorem dirs_as_files_lists_dirs :
    processPathSkel dirsAsFiles true exFs (.dir [] [⟨[[100]], .dir⟩])
      = [.res (.plain [[100]] (.valid ⟨.text, .normal⟩))]
    ∧ processPathSkel skel true exFs (.dir [] [⟨[[100]], .dir⟩]) = [] := by decide

/-- the `is_dir` skip removed: every directory is listed as `FileErrNotAFile` (takes a PathId) -/
theorem dirs_not_a_file_lists_dirs :
    processPathSkel dirsNotAFile true exFs (.dir [] [⟨[[100]], .dir⟩]) = [.notAFile [[100]]] := by decide

/-- a named file classified with `false`: `s4 x.png` would answer `FileValid(x.png, Unparsable)` -/
theorem named_not_text_differs :
    processPathSkel namedNotText true exFs (.file [[120, 46, 112, 110, 103]] [120, 46, 112, 110, 103])
      ≠ (expandArgFull true true exFs (.file [[120, 46, 112, 110, 103]] [120, 46, 112, 110, 103])).map .res := by decide

/-- the walk arm hands `true` instead of the caller's flag: with `u = false` a non-log member is listed valid -/
theorem walk_tar_flag_true_differs :
    processPathSkel walkTarFlagTrue false exFs (.dir [] mStream)
      ≠ (expandArgFull true false exFs (.dir [] mTree)).map .res := by decide

/-- `paths.iter().rev()` in `main`: the runs of two named files swap (their PathIds, hence tie order) -/
theorem args_reversed_swaps :
    mainSkel skel argsReversed exFs [.file [[97]] [97], .file [[98]] [98]]
      = (mainSkel skel mainLoop exFs [.file [[97]] [97], .file [[98]] [98]]).reverse
    ∧ mainSkel skel argsReversed exFs [.file [[97]] [97], .file [[98]] [98]]
      ≠ mainSkel skel mainLoop exFs [.file [[97]] [97], .file [[98]] [98]] := by decide

/-- `process_path(path, false)` in `main`: a non-log member of a named tar is dropped -/
theorem main_not_text_drops_member :
    mainSkel skel mainNotText exFs [.file [[97, 46, 116, 97, 114]] [97, 46, 116, 97, 114]]
      ≠ mainSkel skel mainLoop exFs [.file [[97, 46, 116, 97, 114]] [97, 46, 116, 97, 114]] := by decide

/-- seeded C15-c / C01-b: the stdin block after the argument loop appends instead of splicing -/
theorem stdin_after_loop_appends :
    spliceSkel stdinAfterLoop [[120]] [[45], [98]] = [[98], [120]]
    ∧ spliceStdin [[120]] [[45], [98]] = [[120], [98]] := by decide

/-- in general: with the block after the loop, stdin paths are last whatever the position of `-` -/
theorem stdin_after_loop_general (lines pre post : List Bytes) (hpre : DASH ∉ pre) :
    spliceSkel stdinAfterLoop lines (pre ++ DASH :: post) = pre ++ post.filter (· ≠ DASH) ++ lines := by
  have hd : stdinAfterLoop.dash = DASH := rfl
  have h1 : stdinAfterLoop.secondSkipped = true := rfl
  have h2 : stdinAfterLoop.marks = true := rfl
  have h3 : stdinAfterLoop.readsInArm = false := rfl
  have h4 : stdinAfterLoop.readsAfterLoop = true := rfl
  have aux : ∀ (seen : Bool) (args : List Bytes),
      spliceSkelAux stdinAfterLoop lines seen args = args.filter (· ≠ DASH) := by
    intro seen args
    induction args generalizing seen with
    | nil => rfl
    | cons a rest ih =>
      by_cases ha : a = DASH
      · cases seen <;> simp [spliceSkelAux, hd, h1, h2, h3, ha, ih]
      · simp [spliceSkelAux, hd, ha, ih]
  simp only [spliceSkel, aux, seenAtEnd, hd, h2, h4, List.filter_append]
  simp
  intro a ha e
  exact hpre (e ▸ ha)

/-- the guard removed: a second `-` reads stdin again (here: pushes the lines twice) -/
theorem second_dash_reads_twice :
    spliceSkel secondDashReads [[120]] [[45], [45]] = [[120], [120]]
    ∧ spliceStdin [[120]] [[45], [45]] = [[120]] := by decide

end S4V.Props.WalkSkelSpec
