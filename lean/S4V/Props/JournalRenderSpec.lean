/-
C09 ("the fields shown by the export rendering and the text shown by the cat rendering are exactly those stored
in the entry"; C13 relies on every rendering ending in a newline) — the ten text renderings of a journal entry.

Model: `S4V.Model.JournalRender` (mirror of `JournalReader::{next_dispatch, next_short, next_verbose, next_export,
next_cat, get_source_realtime_timestamp}` and of `realtime_or_source_realtime_timestamp_to_datetimel`). Every
literal of the source — the three caps (200), the keys, the fallback order, brackets and separators, the seven
strftime patterns, the 102-key verbose order, the dating override, `ErrIgnore` for an entry without MESSAGE,
"the buffer is local to the call" — is regenerated (`S4V.Gen.JournalRender`); the theorems below unfold them, so an
edit of any of these regenerates a different model and the proofs fail.

Each renderer gets its exact text. Where the unrestricted claim fails (more than 200 fields, a repeated key) the
`_full` statement is refuted by a witness that was reproduced on the real reader.
-/
import S4V.Model.JournalRender
import S4V.Lemmas.Time

namespace S4V.Props.JournalRenderSpec
open S4V.Gen.JournalRender S4V.Model.JournalRender S4V.Model.Time

theorem splitAtByte_some {sep : UInt8} {d k v : Bytes} (h : splitAtByte sep d = some (k, v)) :
    d = k ++ [sep] ++ v ∧ sep ∉ k := by
  induction d generalizing k with
  | nil => simp [splitAtByte] at h
  | cons b r ih =>
    unfold splitAtByte at h
    by_cases hb : b = sep
    · simp [hb] at h; obtain ⟨rfl, rfl⟩ := h; simp [hb]
    · simp only [hb, if_false, Option.map_eq_some_iff, Prod.mk.injEq, Prod.exists] at h
      obtain ⟨k', _, hk, rfl, rfl⟩ := h
      obtain ⟨rfl, h2⟩ := ih hk
      simp [h2, Ne.symm hb]

theorem splitAtByte_key_eq {sep : UInt8} (k v : Bytes) (hk : sep ∉ k) :
    splitAtByte sep (k ++ [sep] ++ v) = some (k, v) := by
  induction k with
  | nil => simp [splitAtByte]
  | cons b r ih =>
    have ⟨hb, hr⟩ : b ≠ sep ∧ sep ∉ r := by simpa [eq_comm] using hk
    simpa [splitAtByte, hb] using ih hr

theorem find?_skip {α} (p : α → Bool) (pre : List α) (x : α) (post : List α) (hpre : ∀ d ∈ pre, p d = false) (hx : p x = true) :
    (pre ++ [x] ++ post).find? p = some x := by
  rw [List.append_assoc, List.find?_append, List.find?_eq_none.mpr (by simpa using hpre)]; simp [hx]

def EndsNL (t : Bytes) : Prop := ∃ p, t = p ++ [10]

theorem EndsNL.getLast? {t : Bytes} (h : EndsNL t) : t.getLast? = some 10 := by
  obtain ⟨p, rfl⟩ := h; simp

theorem endsNL_append {a b : Bytes} (h : EndsNL b) : EndsNL (a ++ b) := by
  obtain ⟨p, rfl⟩ := h; exact ⟨a ++ p, by simp⟩

theorem endsNL_flatten {α} (f : α → Bytes) (hf : ∀ x, EndsNL (f x)) (a : Bytes) (ha : EndsNL a) (l : List α) :
    EndsNL (a ++ (l.map f).flatten) := by
  induction l generalizing a with
  | nil => simpa using ha
  | cons x r ih =>
    have : a ++ ((x :: r).map f).flatten = (a ++ f x) ++ (r.map f).flatten := by simp
    rw [this]
    exact ih _ (endsNL_append (hf x))

/-- **C09 (cat)**: when libsystemd finds a MESSAGE item `d`, it is `MESSAGE=v` and the cat rendering is exactly
`v` followed by one newline — for every entry, every zone. -/
theorem C09_cat_is_message (off : Int) (e : Entry) (d : Bytes) (h : getData KEY_MESSAGE e.data = some d) :
    ∃ v, d = KEY_MESSAGE ++ [61] ++ v ∧ d ∈ e.data ∧ render .Cat off e = .found (v ++ [10]) := by
  have hp : d.take (KEY_MESSAGE.length + 1) = KEY_MESSAGE ++ [61] := by simpa using List.find?_some h
  obtain ⟨v, rfl⟩ : ∃ v, d = KEY_MESSAGE ++ [61] ++ v := ⟨d.drop _, by rw [← hp, List.take_append_drop]⟩
  have hs : splitAtByte FIELD_MID (KEY_MESSAGE ++ [61] ++ v) = some (KEY_MESSAGE, v) :=
    splitAtByte_key_eq KEY_MESSAGE v (by decide)
  exact ⟨v, rfl, List.mem_of_find?_eq_some h, by simp only [render, dispatch, renderCat, h, hs, CAT_TERM]⟩

/-- the first stored item named MESSAGE wins (libsystemd's `sd_journal_get_data`) -/
theorem C09_cat_first_message (off : Int) (e : Entry) (pre post : List Bytes) (v : Bytes)
    (hd : e.data = pre ++ [KEY_MESSAGE ++ [61] ++ v] ++ post)
    (hpre : ∀ d ∈ pre, d.take (KEY_MESSAGE.length + 1) ≠ KEY_MESSAGE ++ [61]) :
    render .Cat off e = .found (v ++ [10]) := by
  have hg : getData KEY_MESSAGE e.data = some (KEY_MESSAGE ++ [61] ++ v) := by
    rw [hd, getData]
    apply find?_skip
    · intro d hd; simpa using hpre d hd
    · simp [KEY_MESSAGE]
  obtain ⟨v', hv, -, hr⟩ := C09_cat_is_message off e _ hg
  rw [hr, ← List.append_cancel_left hv]

/-- **C09 (cat)**: an entry without MESSAGE is skipped (`ErrIgnore`), it does not stop the run (`Err` would: seeded
change C09-a). Unfolds the generated `CAT_MISSING_IS_SKIP`. -/
theorem C09_cat_without_message (off : Int) (e : Entry) (h : getData KEY_MESSAGE e.data = none) :
    render .Cat off e = .skip := by
  simp [render, dispatch, renderCat, h, CAT_MISSING_IS_SKIP]

example : render .Cat 0 { cursor := none, realtime := 1, monotonic := none, data := [str "FOO=bar"] } = .skip := by decide +kernel
example : render .Cat 0 { cursor := none, realtime := 1, monotonic := none, data := [str "A=1", str "MESSAGE=hi=x", str "MESSAGE=2"] }
    = .found (str "hi=x\n") := by decide +kernel

/-- **C09 (export)**: the synthetic lines, then every one of the first 200 enumerated items, each followed by a
newline, then an empty line — raw bytes, nothing added. Unfolds the generated cap and terminators. -/
theorem C09_export_all_fields (off : Int) (e : Entry) :
    render .Export off e = .found (exportHeader e ++ ((e.data.take 200).map (· ++ [10])).flatten ++ [10]) := by
  simp [render, dispatch, renderExport, exportFields, EXPORT_CAP, EXPORT_FIELD_END, EXPORT_TERM]

/-- nothing is dropped when the entry has at most 200 fields -/
theorem C09_export_nothing_dropped (off : Int) (e : Entry) (h : e.data.length ≤ 200) :
    render .Export off e = .found (exportHeader e ++ (e.data.map (· ++ [10])).flatten ++ [10]) := by
  rw [C09_export_all_fields, List.take_of_length_le h]

/-- the three synthetic lines (cursor and monotonic time present) -/
theorem C09_export_header (c : Bytes) (rt mu : Nat) (data : List Bytes) :
    exportHeader { cursor := some c, realtime := rt, monotonic := some mu, data := data }
      = str "__CURSOR=" ++ c ++ [10] ++ str "__REALTIME_TIMESTAMP=" ++ decimal rt ++ [10]
        ++ str "__MONOTONIC_TIMESTAMP=" ++ decimal mu ++ [10] := by
  have h1 : str "__CURSOR=" = EXPORT_CURSOR.1 ++ [EXPORT_CURSOR.2.1] := by decide +kernel
  have h2 : str "__REALTIME_TIMESTAMP=" = EXPORT_REALTIME.1 ++ [EXPORT_REALTIME.2.1] := by decide +kernel
  have h3 : str "__MONOTONIC_TIMESTAMP=" = EXPORT_MONOTONIC.1 ++ [EXPORT_MONOTONIC.2.1] := by decide +kernel
  simp only [h1, h2, h3, exportHeader, kvLine, List.append_assoc]
  rfl

/-- the unrestricted statement: every stored item is shown -/
def C09_export_full : Prop :=
  ∀ e : Entry, renderExport e = exportHeader e ++ (e.data.map (· ++ [10])).flatten ++ [10]

/-- FALSE: the 201st field is silently dropped (journald accepts up to 1024 fields per entry; reproduced on the
real reader with a journal written by the real journald, see the `jrender` correspondence) -/
theorem C09_export_full_false : ¬ C09_export_full := by
  intro h
  have := congrArg List.length (h { cursor := none, realtime := 0, monotonic := none, data := List.replicate 201 [] })
  revert this
  decide +kernel

def opt (pre : Bytes) (v : Option Bytes) (post : Bytes) : Bytes :=
  match v with
  | some x => pre ++ x ++ post
  | none => []

theorem opt_eq (pre : Bytes) (v : Option Bytes) (post : Bytes) :
    opt pre v post = (v.map (pre ++ · ++ post)).getD [] := by
  cases v <;> rfl

theorem writeSeg_cons (s : Slots) (sl : Slot) (pre post : Bytes) (r : List (Slot × Bytes × Bytes)) :
    writeSeg s ((sl, pre, post) :: r) = ((s.get sl).map (pre ++ · ++ post)).getD (writeSeg s r) := by
  cases h : s.get sl <;> simp [writeSeg, h]

/-- **C09 (short)**: the text after the timestamp, for every combination of present/missing values:
` HOST` if any; ` IDENT` from `SYSLOG_IDENTIFIER`, else from `_COMM`, else nothing; `[PID]` from `_PID`, else from
`SYSLOG_PID`, else nothing (no brackets); `: MESSAGE` if any (no colon otherwise); newline. Unfolds the generated
segments (slots, fallback order, brackets). `opt pre v post` is `pre ++ v ++ post` for a present `v` and nothing for a
missing one; the two slots that have a fallback are a `match` whose `none` arm is the fallback's `opt`. The bytes: 32
space, 91 `[`, 93 `]`, 58 `:`, 10 newline. -/
theorem C09_short_fields (s : Slots) :
    shortTail s =
      opt [32] s.hostname []
      ++ (match s.ident with | some i => 32 :: i | none => opt [32] s.comm [])
      ++ (match s.pid with | some p => 91 :: (p ++ [93]) | none => opt [91] s.syslogPid [93])
      ++ opt [58, 32] s.message []
      ++ [10] := by
  simp only [shortTail, SHORT_SEGS, SHORT_TERM, List.map, List.flatten, writeSeg_cons, writeSeg.eq_1, opt_eq, Slots.get]
  cases s.ident <;> cases s.pid <;> simp

/-- the short line (not the monotonic variant, whose first part is `monoText`) is the timestamp text followed by that
tail: the definition of `renderShort` with its flag set to `false` -/
theorem C09_short_line (fmt : Bytes) (off : Int) (e : Entry) :
    renderShort fmt false off e = dtText fmt off e ++ shortTail (shortSlots e) := by
  simp [renderShort]

theorem C09_short_keys :
    slotKey .hostname = str "_HOSTNAME" ∧ slotKey .ident = str "SYSLOG_IDENTIFIER" ∧ slotKey .comm = str "_COMM"
    ∧ slotKey .pid = str "_PID" ∧ slotKey .syslogPid = str "SYSLOG_PID" ∧ slotKey .message = str "MESSAGE" := by decide +kernel

/-- the invariant of `shortScan` behind `C09_short_slots_sound` -/
def SlotsFrom (data : List Bytes) (s : Slots) : Prop :=
  ∀ sl v, s.get sl = some v → slotKey sl ++ [61] ++ v ∈ data

theorem get_set (s : Slots) (sl sl' : Slot) (v : Bytes) :
    (s.set sl v).get sl' = if sl' = sl then some v else s.get sl' := by
  cases sl <;> cases sl' <;> simp [Slots.set, Slots.get]

theorem storeKey_from (data : List Bytes) (s : Slots) (k v : Bytes) (hs : SlotsFrom data s)
    (hm : k ++ [61] ++ v ∈ data) : SlotsFrom data (storeKey s k v) := by
  unfold storeKey
  cases hf : SHORT_ARMS.find? (fun sl => slotKey sl = k) with
  | none => exact hs
  | some sl =>
    have hk : slotKey sl = k := by simpa using List.find?_some hf
    intro sl' v' hg
    rw [get_set] at hg
    by_cases h : sl' = sl
    · simp [h] at hg; subst hg; rw [h, hk]; exact hm
    · simp [h] at hg; exact hs sl' v' hg

theorem shortScan_from (data : List Bytes) (fuel : Nat) (l : List Bytes) (s : Slots)
    (hl : ∀ d ∈ l, d ∈ data) (hs : SlotsFrom data s) : SlotsFrom data (shortScan fuel l s) := by
  induction fuel generalizing l s with
  | zero => simpa [shortScan] using hs
  | succ n ih =>
    cases l with
    | nil => simpa [shortScan] using hs
    | cons d r =>
      have hr : ∀ x ∈ r, x ∈ data := fun x hx => hl x (by simp [hx])
      simp only [shortScan]
      cases hsp : splitAtByte FIELD_MID d with
      | none => exact ih r s hr hs
      | some kv =>
        obtain ⟨k, v⟩ := kv
        have hd := (splitAtByte_some hsp).1
        have hs' : SlotsFrom data (storeKey s k v) :=
          storeKey_from data s k v hs (by have := hl d (by simp); rw [hd] at this; simpa [FIELD_MID] using this)
        simp only []
        split
        · exact hs'
        · exact ih r _ hr hs'

/-- **C09 (short, soundness)**: every value the short rendering prints is the value of a stored item with that
slot's key — nothing is invented, no value is attributed to another key. -/
theorem C09_short_slots_sound (e : Entry) (sl : Slot) (v : Bytes) (h : (shortSlots e).get sl = some v) :
    slotKey sl ++ [61] ++ v ∈ e.data :=
  shortScan_from e.data SHORT_CAP e.data {} (fun _ h => h) (by intro sl v h; cases sl <;> simp [Slots.get] at h) sl v h

def mk (data : List String) : Entry := { cursor := none, realtime := 0, monotonic := none, data := data.map str }

/-- the unrestricted statement: a stored MESSAGE is printed by the short rendering -/
def C09_short_message_full : Prop :=
  ∀ (e : Entry) (v : Bytes), KEY_MESSAGE ++ [61] ++ v ∈ e.data → ∃ v', (shortSlots e).message = some v'

/-- FALSE: a MESSAGE enumerated after 200 other fields is not printed at all (the line is `timestamp host…` with
no text) — reproduced on the real reader: a 316-field entry prints `Sep 30 00:31:49 vm` only. -/
theorem C09_short_message_full_false : ¬ C09_short_message_full := by
  intro h
  obtain ⟨v', hv⟩ := h (mk (List.replicate 200 "A=" ++ ["MESSAGE=x"])) (str "x") (by decide +kernel)
  have hn : (shortSlots (mk (List.replicate 200 "A=" ++ ["MESSAGE=x"]))).message = none := by decide +kernel
  rw [hn] at hv
  cases hv

/-- A repeated MESSAGE: the short rendering prints the LAST enumerated value, cat the FIRST (reproduced on the real
reader with the corpus journal's `dup` entry). -/
theorem C09_short_cat_disagree :
    (shortSlots (mk ["MESSAGE=a", "MESSAGE=b"])).message = some (str "b")
    ∧ render .Cat 0 (mk ["MESSAGE=a", "MESSAGE=b"]) = .found (str "a\n") := by decide +kernel

example : renderShort (str "%s") false 0 (mk ["_HOSTNAME=h", "_COMM=c", "SYSLOG_PID=7", "MESSAGE=m"]) = str "0 h c[7]: m\n" := by decide +kernel
example : renderShort (str "%s") false 0 (mk ["MESSAGE=m"]) = str "0: m\n" := by decide +kernel
example : renderShort (str "%s") false 0 (mk ["_PID=1", "_COMM=c", "SYSLOG_IDENTIFIER=i", "X"]) = str "0 i[1]\n" := by decide +kernel

theorem renderShort_endsNL (fmt : Bytes) (mono : Bool) (off : Int) (e : Entry) :
    EndsNL (renderShort fmt mono off e) :=
  ⟨_, (List.append_assoc _ _ _).symm⟩

theorem renderVerbose_endsNL (off : Int) (e : Entry) : EndsNL (renderVerbose off e) :=
  endsNL_flatten verboseLine (fun _ => ⟨_, rfl⟩) (verboseHeader off e) ⟨_, rfl⟩ _

theorem renderCat_endsNL {e : Entry} {t : Bytes} (h : renderCat e = .found t) : EndsNL t := by
  unfold renderCat at h
  split at h
  · split at h <;> cases h
  · exact ⟨_, Outcome.found.inj h.symm⟩

/-- **C09 / C13**: whatever a rendering prints ends in `\n` — every mode, every entry (any fields, any bytes,
missing cursor / monotonic time / MESSAGE included), every zone. Unfolds the four generated terminators. -/
theorem C09_render_ends_with_newline (mode : Mode) (off : Int) (e : Entry) (t : Bytes)
    (h : render mode off e = .found t) : t.getLast? = some 10 := by
  apply EndsNL.getLast?
  -- by renderer, not by mode: the seven short modes differ only in the pattern
  unfold render at h
  split at h
  · exact Outcome.found.inj h ▸ renderShort_endsNL ..
  · exact Outcome.found.inj h ▸ renderVerbose_endsNL off e
  · exact ⟨_, Outcome.found.inj h.symm⟩
  · exact renderCat_endsNL h

/-- **C09**: the sequence of outcomes of a run is the entry-wise rendering — whatever the reader held before
(`carry`), whatever entries came earlier. Unfolds the generated `BUFFER_LOCAL`. -/
theorem C09_render_depends_only_on_entry (mode : Mode) (off : Int) (carry : Bytes) (es : List Entry) :
    runReader mode off carry es = es.map (render mode off) := by
  unfold runReader
  induction es generalizing carry with
  | nil => rfl
  | cons e r ih =>
    simp only [runReaderG, List.map_cons, ih]
    congr 1
    simp only [stepReaderG, BUFFER_LOCAL, if_true]
    cases render mode off e <;> simp

/-- counter-model: were the buffer kept in the reader and not cleared, the second entry would start with the
first entry's text -/
theorem stale_buffer_leaks :
    runReaderG false .Cat 0 [] [mk ["MESSAGE=a"], mk ["MESSAGE=b"]] = [.found (str "a\n"), .found (str "a\nb\n")]
    ∧ runReader .Cat 0 [] [mk ["MESSAGE=a"], mk ["MESSAGE=b"]] = [.found (str "a\n"), .found (str "b\n")] := by
  decide +kernel

/-- **C09**: the datetime text of every mode (the seven short variants and verbose) is computed from
`__REALTIME_TIMESTAMP` (`sd_journal_get_realtime_usec`) alone — never from `_SOURCE_REALTIME_TIMESTAMP` or any other
field. Unfolds the generated `DT_OVERRIDE` (Rust `DT_USES_SOURCE_OVERRIDE`). -/
theorem C09_timestamp_is_realtime (fmt : Bytes) (off : Int) (e : Entry) :
    dtText fmt off e = strftime (civilOf e.realtime off) fmt := by
  simp [dtText, actualUs, actualUsG, DT_OVERRIDE]

/-- the same, said of two entries: they may differ in every field and the text is still the same -/
theorem C09_timestamp_ignores_fields (fmt : Bytes) (off : Int) (e e' : Entry) (h : e.realtime = e'.realtime) :
    dtText fmt off e = dtText fmt off e' := by
  rw [C09_timestamp_is_realtime, C09_timestamp_is_realtime, h]

/-- counter-model: with the override absent (`None`) the text would follow the source field -/
theorem source_override_changes_text :
    actualUsG 0 { cursor := none, realtime := 1680331472784185, monotonic := none, data := [str "_SOURCE_REALTIME_TIMESTAMP=1680331472788150"] } = 1680331472788150
    ∧ actualUs { cursor := none, realtime := 1680331472784185, monotonic := none, data := [str "_SOURCE_REALTIME_TIMESTAMP=1680331472788150"] } = 1680331472784185 := by
  decide +kernel

theorem sod_split (secs : Int) :
    let n := (secs % 86400).toNat
    n / 3600 ≤ 23 ∧ n / 60 % 60 ≤ 59 ∧ n % 60 ≤ 59
    ∧ secs / 86400 * 86400 + (n / 3600 : Nat) * 3600 + (n / 60 % 60 : Nat) * 60 + (n % 60 : Nat) = secs := by
  intro n; omega

/-- **C09**: the calendar fields that are printed denote the instant: the civil date is valid, the time of day is in
range, and `epochSeconds` of (date, time, zone) is `__REALTIME_TIMESTAMP / 10^6` — for every instant and every zone. -/
theorem C09_timestamp_denotes_instant (us : Nat) (off : Int) :
    let c := civilOf us off
    validDate c.year c.month c.day = true ∧ c.hour ≤ 23 ∧ c.minute ≤ 59 ∧ c.second ≤ 59 ∧ c.micro ≤ 999999
    ∧ epochSeconds c.year c.month c.day c.hour c.minute c.second off = Int.ofNat (us / 1000000)
    ∧ c.unix = us / 1000000 := by
  intro c
  -- the fields of `c` are, by definition, those of `civilFromDays (secs / 86400)` and of `sod_split secs`
  have hr := S4V.Lemmas.Time.civil_roundtrip₂ ((Int.ofNat (us / 1000000) + off) / 86400)
  obtain ⟨hH, hM, hS, hsum⟩ := sod_split (Int.ofNat (us / 1000000) + off)
  rw [← hr.2] at hsum
  exact ⟨hr.1, hH, hM, hS, Nat.le_of_lt_succ (Nat.mod_lt _ (by decide)), Int.sub_eq_iff_eq_add.2 hsum, rfl⟩

/-- the `short-iso` timestamp spelled out (pattern regenerated from `DATETIME_FORMAT_SHORT_ISO`) -/
theorem C09_short_iso_text (off : Int) (e : Entry) :
    ∃ t, render .ShortIso off e = .found (t ++ shortTail (shortSlots e)) ∧
      let c := civilOf e.realtime off
      t = fmtYear c.year ++ [45] ++ zpad 2 c.month.toNat ++ [45] ++ zpad 2 c.day.toNat ++ [32]
          ++ zpad 2 c.hour ++ [58] ++ zpad 2 c.minute ++ [58] ++ zpad 2 c.second := by
  refine ⟨dtText [37, 89, 45, 37, 109, 45, 37, 100, 32, 37, 72, 58, 37, 77, 58, 37, 83] off e, by simp [render, dispatch, renderShort], ?_⟩
  rw [C09_timestamp_is_realtime]
  simp [strftime, strftimeAux, fmtSpec]

/-- the `verbose` header spelled out: `Sat 2023-04-01 06:44:32.788150 +00:00 [cursor]` -/
theorem C09_verbose_text (off : Int) (e : Entry) (cur : Bytes) (hc : e.cursor = some cur) :
    let c := civilOf e.realtime off
    verboseHeader off e = str (WEEKDAYS.getD c.weekday "?") ++ [32] ++ fmtYear c.year ++ [45] ++ zpad 2 c.month.toNat ++ [45] ++ zpad 2 c.day.toNat ++ [32]
          ++ zpad 2 c.hour ++ [58] ++ zpad 2 c.minute ++ [58] ++ zpad 2 c.second ++ [46] ++ zpad 6 c.micro ++ [32] ++ fmtOffName off
          ++ [32, 91] ++ cur ++ [93, 10] := by
  intro c
  simp only [verboseHeader, hc, C09_timestamp_is_realtime]
  simp [strftime, strftimeAux, fmtSpec, VERBOSE_FMT, VERBOSE_SEP, VERBOSE_CURSOR_OPEN, VERBOSE_CURSOR_CLOSE, VERBOSE_HEADER_END, c, civilOf]

/-- `short-monotonic`: `[` + seconds.microseconds right-aligned in 12 columns + `]`, or 12 blanks when libsystemd
gives no monotonic time; the datetime pattern plays no role -/
theorem C09_monotonic_text (off : Int) (e : Entry) :
    render .ShortMonotonic off e = .found (
      (match e.monotonic with
        | some mu => [91] ++ padLeft 12 32 (decimal (mu / 1000000) ++ [46] ++ zpad 6 (mu % 1000000)) ++ [93]
        | none => str "[            ]") ++ shortTail (shortSlots e)) := by
  have hn : MONO_NONE = str "[            ]" := by decide
  cases hmo : e.monotonic <;>
    simp [render, dispatch, renderShort, monoText, monoNumber, hmo, hn, MONO_OPEN, MONO_CLOSE, MONO_WIDTH, MONO_PREC, MONO_DIV]

example : dtText (str "%a %Y-%m-%d %H:%M:%S.%6f %Z") 0 { cursor := none, realtime := 1680331472788150, monotonic := none, data := [] }
    = str "Sat 2023-04-01 06:44:32.788150 +00:00" := by decide +kernel
example : dtText (str "%b %d %H:%M:%S %z %s") (-28800) { cursor := none, realtime := 1680331472788150, monotonic := none, data := [] }
    = str "Mar 31 22:44:32 -0800 1680331472" := by decide +kernel
example : monoNumber 74212842 = str "   74.212842" := by decide +kernel

def Keys (m : List KV) : List Bytes := m.map (·.1)

theorem any_key {m : List KV} {k : Bytes} : (m.any fun p => p.1 = k) = true ↔ k ∈ Keys m := by
  simp [Keys]

theorem mapGet_some {m : List KV} {k v : Bytes} (h : mapGet m k = some v) : (k, v) ∈ m := by
  simp only [mapGet, Option.map_eq_some_iff] at h
  obtain ⟨p, hp, rfl⟩ := h
  have h1 : p.1 = k := by simpa using List.find?_some hp
  exact h1 ▸ List.mem_of_find?_eq_some hp

theorem mapGet_eq_none {m : List KV} {k : Bytes} : mapGet m k = none ↔ k ∉ Keys m := by
  constructor
  · intro h hk
    simp only [mapGet, Option.map_eq_none_iff, List.find?_eq_none, decide_eq_true_eq] at h
    obtain ⟨p, hp, rfl⟩ := List.mem_map.mp hk
    exact h p hp rfl
  · intro h
    cases hg : mapGet m k with
    | none => rfl
    | some v => exact absurd (List.mem_map.mpr ⟨_, mapGet_some hg, rfl⟩) h

theorem mapRemove_of_not_mem {m : List KV} {k : Bytes} (h : k ∉ Keys m) : mapRemove m k = m := by
  simp only [mapRemove, List.filter_eq_self, decide_eq_true_eq]
  exact fun p hp hk => h (List.mem_map.mpr ⟨p, hp, hk⟩)

theorem mapInsert_of_not_mem {m : List KV} {k : Bytes} (v : Bytes) (h : k ∉ Keys m) :
    mapInsert m k v = m ++ [(k, v)] := by
  rw [mapInsert, if_neg (mt any_key.1 h)]

theorem keys_mapRemove_sublist (m : List KV) (k : Bytes) : (Keys (mapRemove m k)).Sublist (Keys m) :=
  List.Sublist.map _ List.filter_sublist

theorem perm_remove {m : List KV} {k v : Bytes} (hn : (Keys m).Nodup) (hg : mapGet m k = some v) :
    m.Perm ((k, v) :: mapRemove m k) := by
  induction m with
  | nil => simp [mapGet] at hg
  | cons p r ih =>
    have hn' : (Keys r).Nodup := (List.nodup_cons.mp hn).2
    have hp : p.1 ∉ Keys r := (List.nodup_cons.mp hn).1
    by_cases hk : p.1 = k
    · have hv : p = (k, v) := by
        simp only [mapGet, List.find?_cons, hk, decide_true, Option.map_some, Option.some.injEq] at hg
        exact Prod.ext hk hg
      have : mapRemove (p :: r) k = r := by
        have h2 : mapRemove (p :: r) k = mapRemove r k := by simp [mapRemove, hk]
        rw [h2]; exact mapRemove_of_not_mem (hk ▸ hp)
      rw [this, hv]
    · have hg' : mapGet r k = some v := by
        simpa only [mapGet, List.find?_cons, hk, decide_false] using hg
      have h2 : mapRemove (p :: r) k = p :: mapRemove r k := by simp [mapRemove, hk]
      rw [h2]
      exact ((ih hn' hg').cons p).trans (List.Perm.swap _ _ _)

theorem insertSorted_perm (x : KV) (l : List KV) : (insertSorted x l).Perm (x :: l) := by
  induction l with
  | nil => simp [insertSorted]
  | cons y r ih =>
    simp only [insertSorted]
    split
    · exact List.Perm.refl _
    · exact (ih.cons y).trans (List.Perm.swap _ _ _)

theorem sortKV_perm (l : List KV) : (sortKV l).Perm l := by
  induction l with
  | nil => simp [sortKV]
  | cons x r ih =>
    simp only [sortKV, List.foldr_cons]
    exact (insertSorted_perm x _).trans (ih.cons x)

theorem orderedPass_perm (ks : List Bytes) (m : List KV) (hn : (Keys m).Nodup) :
    ((orderedPass ks m).1 ++ (orderedPass ks m).2).Perm m := by
  induction ks generalizing m with
  | nil => simp [orderedPass]
  | cons k ks ih =>
    simp only [orderedPass]
    cases hg : mapGet m k with
    | none => exact ih m hn
    | some v =>
      have hn' : (Keys (mapRemove m k)).Nodup := hn.sublist (keys_mapRemove_sublist m k)
      simp only [List.cons_append]
      exact ((ih _ hn').cons (k, v)).trans (perm_remove hn hg).symm

/-- the regenerated `FIELD_ORDER_VERBOSE`: 102 keys, none twice (so no `remove` is attempted twice), the synthetic
monotonic key is one of them, the key written last is not -/
theorem C09_verbose_order_facts :
    VERBOSE_ORDER.length = 102 ∧ VERBOSE_ORDER.Nodup ∧ VERBOSE_MONO_KEY ∈ VERBOSE_ORDER ∧ VERBOSE_LAST_KEY ∉ VERBOSE_ORDER
    ∧ VERBOSE_LAST_KEY = KEY_SOURCE_REALTIME ∧ VERBOSE_TRIM_SET = [0, 13, 10, 32] := by decide +kernel

/-- the verbose writer emits every pair of its map exactly once (map = key-unique list) -/
theorem verboseOrder_perm (m : List KV) (hn : (Keys m).Nodup) : (verboseOrder m).Perm m := by
  have hn1 : (Keys (mapRemove m VERBOSE_LAST_KEY)).Nodup := hn.sublist (keys_mapRemove_sublist m _)
  have hp := orderedPass_perm VERBOSE_ORDER (mapRemove m VERBOSE_LAST_KEY) hn1
  have hmid : ((orderedPass VERBOSE_ORDER (mapRemove m VERBOSE_LAST_KEY)).1
      ++ sortKV (orderedPass VERBOSE_ORDER (mapRemove m VERBOSE_LAST_KEY)).2).Perm (mapRemove m VERBOSE_LAST_KEY) :=
    (List.Perm.append_left _ (sortKV_perm _)).trans hp
  simp only [verboseOrder]
  cases hg : mapGet m VERBOSE_LAST_KEY with
  | none =>
    simp only [List.append_nil]
    have hrm := mapRemove_of_not_mem (mapGet_eq_none.1 hg)
    rw [hrm] at hmid ⊢
    exact hmid
  | some s =>
    exact (List.perm_append_comm.trans ((hmid.cons _))).trans (perm_remove hn hg).symm

theorem mapInsert_keys_nodup (m : List KV) (k v : Bytes) (hn : (Keys m).Nodup) : (Keys (mapInsert m k v)).Nodup := by
  by_cases hk : k ∈ Keys m
  · have : Keys (m.map fun p => if p.1 = k then (k, v) else p) = Keys m := by
      simp only [Keys, List.map_map]
      exact List.map_congr_left fun p _ => by by_cases h : p.1 = k <;> simp [h]
    rw [mapInsert, if_pos (any_key.2 hk), this]; exact hn
  · rw [mapInsert_of_not_mem v hk, Keys, List.map_append]
    exact List.nodup_append.mpr ⟨hn, by simp, fun a ha b hb h => hk (by simp at hb; exact hb ▸ h ▸ ha)⟩

theorem foldl_insert_nodup (l : List Bytes) (m : List KV) (hn : (Keys m).Nodup) :
    (Keys (l.foldl (fun m d => mapInsert m (verboseKV d).1 (verboseKV d).2) m)).Nodup := by
  induction l generalizing m with
  | nil => exact hn
  | cons d r ih => exact ih _ (mapInsert_keys_nodup m _ _ hn)

/-- the map built from an entry never holds a key twice (`HashMap`) -/
theorem verboseMap_keys_nodup (e : Entry) : (Keys (verboseMap e)).Nodup := by
  have h := foldl_insert_nodup (e.data.take VERBOSE_CAP) [] (by simp [Keys])
  unfold verboseMap
  simp only []
  split
  · exact h
  · split
    · exact mapInsert_keys_nodup _ _ _ h
    · exact h

theorem foldl_insert_distinct (l : List Bytes) (m : List KV) (hn : (Keys m ++ Keys (l.map verboseKV)).Nodup) :
    l.foldl (fun m d => mapInsert m (verboseKV d).1 (verboseKV d).2) m = m ++ l.map verboseKV := by
  induction l generalizing m with
  | nil => simp
  | cons d r ih =>
    have hk : (verboseKV d).1 ∉ Keys m := fun hk =>
      (List.nodup_append.mp hn).2.2 _ hk (verboseKV d).1 (by simp [Keys]) rfl
    rw [List.foldl_cons, mapInsert_of_not_mem _ hk, ih]
    · simp
    · simpa [Keys, List.append_assoc] using hn

/-- **C09 (verbose)**: for an entry with at most 200 fields whose keys are distinct (and none is the synthetic
`__MONOTONIC_TIMESTAMP`), the rendering is the header line followed by one line `    KEY=VALUE\n` for every stored
field and for the monotonic time — a permutation of exactly those, nothing dropped, nothing added (values as stored,
except the trailing blanks/NULs of `_SELINUX_CONTEXT`, see `verboseKV`). Unfolds the generated cap and keys. -/
theorem C09_verbose_all_fields (off : Int) (e : Entry) (mu : Nat) (hmu : e.monotonic = some mu)
    (hlen : e.data.length ≤ 200) (hd : (Keys (e.data.map verboseKV)).Nodup)
    (hm : VERBOSE_MONO_KEY ∉ Keys (e.data.map verboseKV)) :
    ∃ lines : List KV, render .Verbose off e = .found (verboseHeader off e ++ (lines.map verboseLine).flatten)
      ∧ lines.Perm (e.data.map verboseKV ++ [(VERBOSE_MONO_KEY, decimal mu)]) := by
  refine ⟨verboseOrder (verboseMap e), by simp [render, dispatch, renderVerbose], ?_⟩
  have hfold : (e.data.take VERBOSE_CAP).foldl (fun m d => mapInsert m (verboseKV d).1 (verboseKV d).2) [] = e.data.map verboseKV := by
    rw [List.take_of_length_le (by simpa [VERBOSE_CAP] using hlen), foldl_insert_distinct _ _ (by simpa [Keys] using hd)]
    simp
  have hmap : verboseMap e = e.data.map verboseKV ++ [(VERBOSE_MONO_KEY, decimal mu)] := by
    unfold verboseMap
    simp only [hfold, hmu]
    simp only [mapGet_eq_none.2 hm, Option.isSome_none, Bool.false_eq_true, if_false, mapInsert_of_not_mem _ hm]
  rw [← hmap]
  exact verboseOrder_perm _ (verboseMap_keys_nodup e)

-- the hypotheses of `C09_verbose_all_fields` are satisfiable by a non-trivial entry
example : let e : Entry := { cursor := some (str "s=1"), realtime := 1680331472788150, monotonic := some 74212842, data := [str "_UID=0", str "MESSAGE=m", str "ZZ=1"] }
    e.data.length ≤ 200 ∧ (Keys (e.data.map verboseKV)).Nodup ∧ VERBOSE_MONO_KEY ∉ Keys (e.data.map verboseKV) := by decide +kernel

/-- the unrestricted statement: every stored item has its line -/
def C09_verbose_full : Prop :=
  ∀ (e : Entry) (d : Bytes), d ∈ e.data → verboseKV d ∈ verboseOrder (verboseMap e)

/-- FALSE for a repeated key: only the value enumerated last is shown (`journalctl -o verbose` shows all) —
reproduced on the real reader with the corpus journal's `dup` entry -/
theorem C09_verbose_full_false : ¬ C09_verbose_full := by
  intro h
  have := h (mk ["A=1", "A=2"]) (str "A=1") (by decide +kernel)
  revert this
  decide +kernel

-- the order of the lines: keys of `FIELD_ORDER_VERBOSE` first (in that order), then the rest sorted bytewise,
-- `_SOURCE_REALTIME_TIMESTAMP` last
example : (verboseOrder (verboseMap { cursor := none, realtime := 0, monotonic := some 5, data := [str "ZZ=1", str "_SOURCE_REALTIME_TIMESTAMP=9", str "MESSAGE=m", str "AA=2", str "_SELINUX_CONTEXT=u \n", str "_UID=0", str "NOEQ"] })).map verboseLine
    = [str "    _UID=0\n", str "    _SELINUX_CONTEXT=u\n", str "    MESSAGE=m\n", str "    __MONOTONIC_TIMESTAMP=5\n", str "    AA=2\n", str "    NOEQ=\n", str "    ZZ=1\n",
       str "    _SOURCE_REALTIME_TIMESTAMP=9\n"] := by decide +kernel

end S4V.Props.JournalRenderSpec
