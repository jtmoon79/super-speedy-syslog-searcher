/-
GENERATED by tools/mk_regexrows.py from harness/src/rgx_rows.txt (gen/gen_regex.py) — regenerate, do not edit.

C04, regex slice: rows 159–168 of `DATETIME_PARSE_DATAS`. `rowsP` holds the literals of their certificates (`RowFacts`,
`S4V.Lemmas.RegexTable`), `certsP` is ONE kernel evaluation for all of them, and `certN`, `factsN` are its components for row N; a row
without an end-to-end theorem (the epoch rows; a row that failed `catOK`) has no certificate and evaluates its own `factsN`. `C04_rowN_search`: for EVERY
selection of entries of the row's catalogue (`rowBodyE` / `rowBodyP`, `S4V.Lemmas.RegexAuto`) and of concrete words, and every
admissible tail, `search` matches at 0, spans exactly the words (and the byte of a final group), and every capture group spans
the word of its item.
-/
import S4V.Gen.Regex
import S4V.Lemmas.RegexTable

namespace S4V.Props.RegexCapture3
open S4V.Model.Regex S4V.Gen.Regex S4V.Lemmas.RegexStep S4V.Lemmas.RegexSym S4V.Lemmas.RegexRows S4V.Lemmas.RegexAuto
open S4V.Lemmas.RegexE2E S4V.Lemmas.Utf8 S4V.Gen.TimeTables

def rowsP : List RowFacts := [
  { row := row159, counts := [(42, 42), (1, 1), (105, 105), (1, 1), (46, 49), (2, 2), (25, 25), (2, 2), (1, 1), (2, 2), (2, 2), (1, 1), (196, 196), (1, 1), (3, 3)], digest := 260541188,
    line := some "Fri Jun-16 14:09:58 PDT 2000 === Started libdnf-0.31.0 ===".toUTF8.toList, fits := true },
  { row := row160, counts := [(42, 42), (1, 1), (105, 105), (1, 1), (46, 49), (2, 2), (25, 25), (2, 2), (1, 1), (2, 2), (2, 2), (1, 1), (1, 1), (1, 1), (3, 3)], digest := 36853337,
    line := some "Fri Jun-16 14:09:58 -07:00 2000 === Started libdnf-0.31.0 ===".toUTF8.toList, fits := true },
  { row := row161, counts := [(42, 42), (1, 1), (105, 105), (1, 1), (46, 49), (2, 2), (25, 25), (2, 2), (1, 1), (2, 2), (2, 2), (1, 1), (1, 1), (1, 1), (3, 3)], digest := 895332866,
    line := some "Fri Jun-16 14:09:58 -0700 2000 === Started libdnf-0.31.0 ===".toUTF8.toList, fits := true },
  { row := row162, counts := [(42, 42), (1, 1), (105, 105), (1, 1), (46, 49), (2, 2), (25, 25), (2, 2), (1, 1), (2, 2), (2, 2), (1, 1), (1, 1), (1, 1), (3, 3)], digest := 428808664,
    line := some "Fri Jun-16 14:09:58 -07 2000 === Started libdnf-0.31.0 ===".toUTF8.toList, fits := true },
  { row := row163, counts := [(105, 105), (1, 1), (46, 49), (2, 2), (25, 25), (2, 2), (1, 1), (2, 2), (2, 2), (1, 1), (3, 3), (1, 1), (196, 196)], digest := 591192893,
    line := some "Jun-16 14:09:58 2000 PDT === Started libdnf-0.31.0 ===".toUTF8.toList, fits := true },
  { row := row164, counts := [(105, 105), (1, 1), (46, 49), (2, 2), (25, 25), (2, 2), (1, 1), (2, 2), (2, 2), (1, 1), (3, 3), (1, 1), (1, 1)], digest := 318138834,
    line := some "Jun-16 14:09:58 2000 -07:00 === Started libdnf-0.31.0 ===".toUTF8.toList, fits := true },
  { row := row165, counts := [(105, 105), (1, 1), (46, 49), (2, 2), (25, 25), (2, 2), (1, 1), (2, 2), (2, 2), (1, 1), (3, 3), (1, 1), (1, 1)], digest := 119477491,
    line := some "Jun-16 14:09:58 2000 -0700 === Started libdnf-0.31.0 ===".toUTF8.toList, fits := true },
  { row := row166, counts := [(105, 105), (1, 1), (46, 49), (2, 2), (25, 25), (2, 2), (1, 1), (2, 2), (2, 2), (1, 1), (3, 3), (1, 1), (1, 1)], digest := 836193701,
    line := some "Jun-16 14:09:58 2000 -07 === Started libdnf-0.31.0 ===".toUTF8.toList, fits := true },
  { row := row167, counts := [(105, 105), (1, 1), (46, 49), (2, 2), (25, 25), (2, 2), (1, 1), (2, 2), (2, 2), (1, 1), (196, 196), (1, 1), (3, 3)], digest := 877960446,
    line := some "Jun-16 14:09:58 PDT 2000 === Started libdnf-0.31.0 ===".toUTF8.toList, fits := true },
  { row := row168, counts := [(105, 105), (1, 1), (46, 49), (2, 2), (25, 25), (2, 2), (1, 1), (2, 2), (2, 2), (1, 1), (1, 1), (1, 1), (3, 3)], digest := 742953081,
    line := some "Jun-16 14:09:58 -07:00 2000 === Started libdnf-0.31.0 ===".toUTF8.toList, fits := true }]

theorem certsP : ∀ i (h : i < rowsP.length), rowsP[i].Cert :=
  RowFacts.certs_of_all (by
    unfold rowsP
    rw [toUTF8_toList_ofList, toUTF8_toList_ofList, toUTF8_toList_ofList, toUTF8_toList_ofList, toUTF8_toList_ofList, toUTF8_toList_ofList, toUTF8_toList_ofList, toUTF8_toList_ofList, toUTF8_toList_ofList, toUTF8_toList_ofList]
    decide +kernel)

/-! ### row 159 (dayIgnore:2,month:4,day:5,hour:6,minute:7,second:8,tz:9,year:10): head `softR`, end `(?P<g>[class]|$)` -/

theorem cert159 : (rowsP[0]'(by decide)).Cert := certsP 0 (by decide)

theorem facts159 : keptCounts (rowBodyE re159 1) = [(42, 42), (1, 1), (105, 105), (1, 1), (46, 49), (2, 2), (25, 25), (2, 2), (1, 1), (2, 2), (2, 2), (1, 1), (196, 196), (1, 1), (3, 3)] ∧
    catDigest (rowBodyE re159 1) = 260541188 ∧
    splitsL (rowBodyE re159 1) "Fri Jun-16 14:09:58 PDT 2000 === Started libdnf-0.31.0 ===".toUTF8.toList = true := cert159.facts

theorem C04_row159_search (sel : Sel) (hv : Valid (rowBodyE re159 1) sel) (tail : List UInt8) (ht : TailIn (rowEndSym re159) tail) :
    RowResult row159.re (flat sel ++ tail) ((flat sel).length + tailLen tail) [((headParts re159).1, 0, 0)] (sel ++ [rowEndEw re159 tail]) :=
  auto_E (re := re159) (by rfl) cert159.headOk sel hv tail ht

/-! ### row 160 (dayIgnore:2,month:4,day:5,hour:6,minute:7,second:8,tz:9,year:10): head `softR`, end `(?P<g>[class]|$)` -/

theorem cert160 : (rowsP[1]'(by decide)).Cert := certsP 1 (by decide)

theorem facts160 : keptCounts (rowBodyE re160 1) = [(42, 42), (1, 1), (105, 105), (1, 1), (46, 49), (2, 2), (25, 25), (2, 2), (1, 1), (2, 2), (2, 2), (1, 1), (1, 1), (1, 1), (3, 3)] ∧
    catDigest (rowBodyE re160 1) = 36853337 ∧
    splitsL (rowBodyE re160 1) "Fri Jun-16 14:09:58 -07:00 2000 === Started libdnf-0.31.0 ===".toUTF8.toList = true := cert160.facts

theorem C04_row160_search (sel : Sel) (hv : Valid (rowBodyE re160 1) sel) (tail : List UInt8) (ht : TailIn (rowEndSym re160) tail) :
    RowResult row160.re (flat sel ++ tail) ((flat sel).length + tailLen tail) [((headParts re160).1, 0, 0)] (sel ++ [rowEndEw re160 tail]) :=
  auto_E (re := re160) (by rfl) cert160.headOk sel hv tail ht

/-! ### row 161 (dayIgnore:2,month:4,day:5,hour:6,minute:7,second:8,tz:9,year:10): head `softR`, end `(?P<g>[class]|$)` -/

theorem cert161 : (rowsP[2]'(by decide)).Cert := certsP 2 (by decide)

theorem facts161 : keptCounts (rowBodyE re161 1) = [(42, 42), (1, 1), (105, 105), (1, 1), (46, 49), (2, 2), (25, 25), (2, 2), (1, 1), (2, 2), (2, 2), (1, 1), (1, 1), (1, 1), (3, 3)] ∧
    catDigest (rowBodyE re161 1) = 895332866 ∧
    splitsL (rowBodyE re161 1) "Fri Jun-16 14:09:58 -0700 2000 === Started libdnf-0.31.0 ===".toUTF8.toList = true := cert161.facts

theorem C04_row161_search (sel : Sel) (hv : Valid (rowBodyE re161 1) sel) (tail : List UInt8) (ht : TailIn (rowEndSym re161) tail) :
    RowResult row161.re (flat sel ++ tail) ((flat sel).length + tailLen tail) [((headParts re161).1, 0, 0)] (sel ++ [rowEndEw re161 tail]) :=
  auto_E (re := re161) (by rfl) cert161.headOk sel hv tail ht

/-! ### row 162 (dayIgnore:2,month:4,day:5,hour:6,minute:7,second:8,tz:9,year:10): head `softR`, end `(?P<g>[class]|$)` -/

theorem cert162 : (rowsP[3]'(by decide)).Cert := certsP 3 (by decide)

theorem facts162 : keptCounts (rowBodyE re162 1) = [(42, 42), (1, 1), (105, 105), (1, 1), (46, 49), (2, 2), (25, 25), (2, 2), (1, 1), (2, 2), (2, 2), (1, 1), (1, 1), (1, 1), (3, 3)] ∧
    catDigest (rowBodyE re162 1) = 428808664 ∧
    splitsL (rowBodyE re162 1) "Fri Jun-16 14:09:58 -07 2000 === Started libdnf-0.31.0 ===".toUTF8.toList = true := cert162.facts

theorem C04_row162_search (sel : Sel) (hv : Valid (rowBodyE re162 1) sel) (tail : List UInt8) (ht : TailIn (rowEndSym re162) tail) :
    RowResult row162.re (flat sel ++ tail) ((flat sel).length + tailLen tail) [((headParts re162).1, 0, 0)] (sel ++ [rowEndEw re162 tail]) :=
  auto_E (re := re162) (by rfl) cert162.headOk sel hv tail ht

/-! ### row 163 (month:2,day:3,hour:4,minute:5,second:6,year:7,tz:8): head `softR`, end `(?P<g>[class]|$)` -/

theorem cert163 : (rowsP[4]'(by decide)).Cert := certsP 4 (by decide)

theorem facts163 : keptCounts (rowBodyE re163 1) = [(105, 105), (1, 1), (46, 49), (2, 2), (25, 25), (2, 2), (1, 1), (2, 2), (2, 2), (1, 1), (3, 3), (1, 1), (196, 196)] ∧
    catDigest (rowBodyE re163 1) = 591192893 ∧
    splitsL (rowBodyE re163 1) "Jun-16 14:09:58 2000 PDT === Started libdnf-0.31.0 ===".toUTF8.toList = true := cert163.facts

theorem C04_row163_search (sel : Sel) (hv : Valid (rowBodyE re163 1) sel) (tail : List UInt8) (ht : TailIn (rowEndSym re163) tail) :
    RowResult row163.re (flat sel ++ tail) ((flat sel).length + tailLen tail) [((headParts re163).1, 0, 0)] (sel ++ [rowEndEw re163 tail]) :=
  auto_E (re := re163) (by rfl) cert163.headOk sel hv tail ht

/-! ### row 164 (month:2,day:3,hour:4,minute:5,second:6,year:7,tz:8): head `softR`, end `(?P<g>[class]|$)` -/

theorem cert164 : (rowsP[5]'(by decide)).Cert := certsP 5 (by decide)

theorem facts164 : keptCounts (rowBodyE re164 1) = [(105, 105), (1, 1), (46, 49), (2, 2), (25, 25), (2, 2), (1, 1), (2, 2), (2, 2), (1, 1), (3, 3), (1, 1), (1, 1)] ∧
    catDigest (rowBodyE re164 1) = 318138834 ∧
    splitsL (rowBodyE re164 1) "Jun-16 14:09:58 2000 -07:00 === Started libdnf-0.31.0 ===".toUTF8.toList = true := cert164.facts

theorem C04_row164_search (sel : Sel) (hv : Valid (rowBodyE re164 1) sel) (tail : List UInt8) (ht : TailIn (rowEndSym re164) tail) :
    RowResult row164.re (flat sel ++ tail) ((flat sel).length + tailLen tail) [((headParts re164).1, 0, 0)] (sel ++ [rowEndEw re164 tail]) :=
  auto_E (re := re164) (by rfl) cert164.headOk sel hv tail ht

/-! ### row 165 (month:2,day:3,hour:4,minute:5,second:6,year:7,tz:8): head `softR`, end `(?P<g>[class]|$)` -/

theorem cert165 : (rowsP[6]'(by decide)).Cert := certsP 6 (by decide)

theorem facts165 : keptCounts (rowBodyE re165 1) = [(105, 105), (1, 1), (46, 49), (2, 2), (25, 25), (2, 2), (1, 1), (2, 2), (2, 2), (1, 1), (3, 3), (1, 1), (1, 1)] ∧
    catDigest (rowBodyE re165 1) = 119477491 ∧
    splitsL (rowBodyE re165 1) "Jun-16 14:09:58 2000 -0700 === Started libdnf-0.31.0 ===".toUTF8.toList = true := cert165.facts

theorem C04_row165_search (sel : Sel) (hv : Valid (rowBodyE re165 1) sel) (tail : List UInt8) (ht : TailIn (rowEndSym re165) tail) :
    RowResult row165.re (flat sel ++ tail) ((flat sel).length + tailLen tail) [((headParts re165).1, 0, 0)] (sel ++ [rowEndEw re165 tail]) :=
  auto_E (re := re165) (by rfl) cert165.headOk sel hv tail ht

/-! ### row 166 (month:2,day:3,hour:4,minute:5,second:6,year:7,tz:8): head `softR`, end `(?P<g>[class]|$)` -/

theorem cert166 : (rowsP[7]'(by decide)).Cert := certsP 7 (by decide)

theorem facts166 : keptCounts (rowBodyE re166 1) = [(105, 105), (1, 1), (46, 49), (2, 2), (25, 25), (2, 2), (1, 1), (2, 2), (2, 2), (1, 1), (3, 3), (1, 1), (1, 1)] ∧
    catDigest (rowBodyE re166 1) = 836193701 ∧
    splitsL (rowBodyE re166 1) "Jun-16 14:09:58 2000 -07 === Started libdnf-0.31.0 ===".toUTF8.toList = true := cert166.facts

theorem C04_row166_search (sel : Sel) (hv : Valid (rowBodyE re166 1) sel) (tail : List UInt8) (ht : TailIn (rowEndSym re166) tail) :
    RowResult row166.re (flat sel ++ tail) ((flat sel).length + tailLen tail) [((headParts re166).1, 0, 0)] (sel ++ [rowEndEw re166 tail]) :=
  auto_E (re := re166) (by rfl) cert166.headOk sel hv tail ht

/-! ### row 167 (month:2,day:3,hour:4,minute:5,second:6,tz:7,year:8): head `softR`, end `(?P<g>[class]|$)` -/

theorem cert167 : (rowsP[8]'(by decide)).Cert := certsP 8 (by decide)

theorem facts167 : keptCounts (rowBodyE re167 1) = [(105, 105), (1, 1), (46, 49), (2, 2), (25, 25), (2, 2), (1, 1), (2, 2), (2, 2), (1, 1), (196, 196), (1, 1), (3, 3)] ∧
    catDigest (rowBodyE re167 1) = 877960446 ∧
    splitsL (rowBodyE re167 1) "Jun-16 14:09:58 PDT 2000 === Started libdnf-0.31.0 ===".toUTF8.toList = true := cert167.facts

theorem C04_row167_search (sel : Sel) (hv : Valid (rowBodyE re167 1) sel) (tail : List UInt8) (ht : TailIn (rowEndSym re167) tail) :
    RowResult row167.re (flat sel ++ tail) ((flat sel).length + tailLen tail) [((headParts re167).1, 0, 0)] (sel ++ [rowEndEw re167 tail]) :=
  auto_E (re := re167) (by rfl) cert167.headOk sel hv tail ht

/-! ### row 168 (month:2,day:3,hour:4,minute:5,second:6,tz:7,year:8): head `softR`, end `(?P<g>[class]|$)` -/

theorem cert168 : (rowsP[9]'(by decide)).Cert := certsP 9 (by decide)

theorem facts168 : keptCounts (rowBodyE re168 1) = [(105, 105), (1, 1), (46, 49), (2, 2), (25, 25), (2, 2), (1, 1), (2, 2), (2, 2), (1, 1), (1, 1), (1, 1), (3, 3)] ∧
    catDigest (rowBodyE re168 1) = 742953081 ∧
    splitsL (rowBodyE re168 1) "Jun-16 14:09:58 -07:00 2000 === Started libdnf-0.31.0 ===".toUTF8.toList = true := cert168.facts

theorem C04_row168_search (sel : Sel) (hv : Valid (rowBodyE re168 1) sel) (tail : List UInt8) (ht : TailIn (rowEndSym re168) tail) :
    RowResult row168.re (flat sel ++ tail) ((flat sel).length + tailLen tail) [((headParts re168).1, 0, 0)] (sel ++ [rowEndEw re168 tail]) :=
  auto_E (re := re168) (by rfl) cert168.headOk sel hv tail ht

end S4V.Props.RegexCapture3
