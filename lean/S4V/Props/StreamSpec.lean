/-
C05 — block assembly is transparent: whatever the container, `read_block` hands the layers above the
same blocks the plain file gives.

Model: `S4V.Model.Stream`. A decoder is the decompressed bytes plus an ARBITRARY script of chunk sizes; the
theorems quantify over every script, every `bs ≥ 1` and every `d` (so `[]`, one byte, exact multiples of
`bs`). The streamed readers (gz, bz2, lz4) are right for requests in non-decreasing order and, as coded,
only for those (`C05_lookback_one_full_false`); plain file, xz and tar member for every order.
-/
import S4V.Lemmas.Stream

namespace S4V.Props.StreamSpec
open S4V.Gen.Blocks S4V.Gen.Stream S4V.Model.Lines S4V.Model.Stream S4V.Lemmas.Stream

/-- the answer of a correct reader for block `k`: `Done` past the end or for an empty file,
otherwise the `k`-th `bs`-sized slice of `d` -/
theorem specRes_eq (d : Bytes) (bs k : Nat) :
    specRes d bs k = if k > blockOffsetLast d.length bs ∨ d = [] then S4V.Model.Stream.Res.done else S4V.Model.Stream.Res.found (blockAt d bs k) := by
  unfold specRes
  by_cases h : k > blockOffsetLast d.length bs
  · simp [h]
  · cases d with
    | nil => simp
    | cons _ _ => simp

theorem stream_ordered (kind : Kind) (bs : Nat) (d : Bytes) (cs csPre : List Nat) (ks : List Nat)
    (hbs : 1 ≤ bs) (hk : DecOk kind bs cs) (hord : ks.Pairwise (· ≤ ·)) :
    (readSeq (Rd.new kind bs d cs csPre) ks).1 = ks.map (specRes d bs) := by
  obtain ⟨h, e⟩ := SInv.new kind bs d cs csPre hbs hk
  have := (readSeq_stream d ks _ 0 h (fun _ _ => Nat.zero_le _) hord).1
  rwa [e] at this

theorem plain_any_order (bs : Nat) (d : Bytes) (ks : List Nat) (hbs : 1 ≤ bs) :
    (readSeq (Rd.new .plain bs d [] []) ks).1 = ks.map (specRes d bs) :=
  readSeq_of_step (readBlock_plain d) ks _ (PInv.new bs d [] [] hbs)

/-- for a kind whose block decode is right (`DecOk`), reading `0, 1, …, k` in order gives the blocks of `d` -/
theorem assemble_eq (kind : Kind) (bs : Nat) (d : Bytes) (cs csPre : List Nat) (k : Nat) (hbs : 1 ≤ bs)
    (hk : DecOk kind bs cs) :
    (readSeq (Rd.new kind bs d cs csPre) (List.range (k + 1))).1 = (List.range (k + 1)).map (specRes d bs) :=
  stream_ordered kind bs d cs csPre _ hbs hk List.pairwise_le_range

/-- gz: every chunking of the inflater, every block size, every content -/
theorem assemble_eq_gz (bs : Nat) (d : Bytes) (cs : List Nat) (k : Nat) (hbs : 1 ≤ bs) :
    (readSeq (Rd.new .gz bs d cs []) (List.range (k + 1))).1 = (List.range (k + 1)).map (specRes d bs) :=
  assemble_eq .gz bs d cs [] k hbs .gz

/-- bz2: every chunking of the decoder and of the size pre-pass (`decodeBlock_spec` unfolds the generated
`BZ2_FILL_LOOP`) -/
theorem assemble_eq_bz2 (bs : Nat) (d : Bytes) (cs csPre : List Nat) (k : Nat) (hbs : 1 ≤ bs) :
    (readSeq (Rd.new .bz2 bs d cs csPre) (List.range (k + 1))).1 = (List.range (k + 1)).map (specRes d bs) :=
  assemble_eq .bz2 bs d cs csPre k hbs .bz2

/-- lz4: every chunking of the frame decoder (it returns short at every frame-block boundary) and
of the size pre-pass. Rests on `decodeBlock_spec`, whose lz4 case unfolds the generated
`LZ4_FILL_LOOP`: `read_block_FileLz4` reads into the unfilled rest of the block until it is full. -/
theorem assemble_eq_lz4 (bs : Nat) (d : Bytes) (cs csPre : List Nat) (k : Nat) (hbs : 1 ≤ bs) :
    (readSeq (Rd.new .lz4 bs d cs csPre) (List.range (k + 1))).1 = (List.range (k + 1)).map (specRes d bs) :=
  assemble_eq .lz4 bs d cs csPre k hbs .lz4

/-- the flag the lz4 theorems stand on, as generated from the source -/
theorem lz4_fill_loop_generated : LZ4_FILL_LOOP = true := by decide +kernel

/-- the short read of `assemble_eq_lz4_single_read_false`: the second read returns 2 of the 3 bytes asked
for; the loop asks again for the rest -/
example : (readSeq (Rd.new .lz4 3 [1, 2, 3, 4, 5, 6, 7, 8, 9, 10] [3, 2, 3, 3] []) [0, 1, 2, 3]).1
    = [.found [1, 2, 3], .found [4, 5, 6], .found [7, 8, 9], .found [10]] := by decide +kernel
example : (readSeq (Rd.new .lz4 4 [1, 2, 3, 4, 5, 6, 7, 8, 9] [1, 1, 1, 9, 0, 2] [5]) [0, 1, 2, 3]).1
    = [.found [1, 2, 3, 4], .found [5, 6, 7, 8], .found [9], .done] := by decide +kernel
/-- `Ok(0) => break`: a stream that ends before the block is full leaves the zero padding (only
reachable when the stored decoder delivers less than the size pre-pass counted) -/
example : (fillBreak 4 ⟨[1, 2], [1]⟩ 4 []).1 = [1, 2, 0, 0] := by decide +kernel

/-- the lz4 reader BEFORE the repair (one `read` per block): "every chunking" -/
def assemble_eq_lz4_single_read : Prop :=
  ∀ (bs : Nat) (d : Bytes) (cs csPre : List Nat) (k : Nat), 1 ≤ bs →
    (readSeq (Rd.new .lz4Single bs d cs csPre) (List.range (k + 1))).1 = (List.range (k + 1)).map (specRes d bs)

/-- the repaired defect as a counter-model — witness: 10 bytes, `bs = 3`, a decoder whose second
read returns 2 of the 3 bytes asked for (lz4_flex does that at every frame-block boundary):
block 1 is `[4, 5, 0]`, every later block is shifted by one byte and the last byte of the file is
never delivered -/
theorem assemble_eq_lz4_single_read_false : ¬ assemble_eq_lz4_single_read := by
  intro h
  have := h 3 [1, 2, 3, 4, 5, 6, 7, 8, 9, 10] [3, 2, 3, 3] [] 3 (by decide)
  revert this
  decide +kernel

example : (readSeq (Rd.new .lz4Single 3 [1, 2, 3, 4, 5, 6, 7, 8, 9, 10] [3, 2, 3, 3] []) [0, 1, 2, 3]).1
    = [.found [1, 2, 3], .found [4, 5, 0], .found [6, 7, 8], .found [9]] := by decide +kernel

/-- the single read was right only for decoders that fill the buffer on every read -/
theorem assemble_eq_lz4_single_read_fills (bs : Nat) (d : Bytes) (cs csPre : List Nat) (k : Nat) (hbs : 1 ≤ bs)
    (hfill : Fills bs cs) :
    (readSeq (Rd.new .lz4Single bs d cs csPre) (List.range (k + 1))).1 = (List.range (k + 1)).map (specRes d bs) :=
  assemble_eq .lz4Single bs d cs csPre k hbs (.lz4Single hfill)

/-- the hypotheses are satisfiable: the empty script (always full reads) fills -/
example : Fills 3 [] := by intro c hc; cases hc
example : Fills 3 [3, 7, 3] := by intro c hc; simp at hc; omega

/-- asked for blocks in non-decreasing order, a streamed reader (gz, bz2, lz4 — every chunking) returns
what the plain reader returns -/
theorem C05_blocks_equal (kind : Kind) (bs : Nat) (d : Bytes) (cs csPre : List Nat) (ks : List Nat)
    (hbs : 1 ≤ bs) (hk : DecOk kind bs cs) (hord : ks.Pairwise (· ≤ ·)) :
    (readSeq (Rd.new kind bs d cs csPre) ks).1 = (readSeq (Rd.new .plain bs d [] []) ks).1 := by
  rw [stream_ordered kind bs d cs csPre ks hbs hk hord, plain_any_order bs d ks hbs]

/-- lz4 in particular: every chunking of the frame decoder, every non-decreasing request order -/
theorem C05_blocks_equal_lz4 (bs : Nat) (d : Bytes) (cs csPre : List Nat) (ks : List Nat)
    (hbs : 1 ≤ bs) (hord : ks.Pairwise (· ≤ ·)) :
    (readSeq (Rd.new .lz4 bs d cs csPre) ks).1 = (readSeq (Rd.new .plain bs d [] []) ks).1 :=
  C05_blocks_equal .lz4 bs d cs csPre ks hbs .lz4 hord

/-- non-vacuity with concrete chunkings: one byte at a time; sizes larger than asked; zeros (clamped to 1) -/
example : (readSeq (Rd.new .gz 4 [1, 2, 3, 4, 5, 6, 7, 8, 9] [1, 1, 1, 9, 0, 2] []) [0, 1, 2, 3]).1
    = [.found [1, 2, 3, 4], .found [5, 6, 7, 8], .found [9], .done] := by decide +kernel
example : (readSeq (Rd.new .bz2 4 [1, 2, 3, 4, 5, 6, 7, 8] [3, 3] [1, 5]) [0, 1, 2]).1
    = [.found [1, 2, 3, 4], .found [5, 6, 7, 8], .done] := by decide +kernel
example : (readSeq (Rd.new .gz 4 [] [] []) [0, 1]).1 = [.done, .done] := by decide +kernel
example : (readSeq (Rd.new .bz2 1 [7] [] []) [0, 1]).1 = [.found [7], .done] := by decide +kernel
example : [0, 0, 2, 5].Pairwise (· ≤ ·) := by decide +kernel

/-- the look-back as coded has depth 0. After any non-decreasing request sequence on a streamed reader:
every answer is the right one (so no dropped block was asked for), and in the final state the only block
still held is the highest one decoded. -/
theorem C05_lookback (kind : Kind) (bs : Nat) (d : Bytes) (cs csPre : List Nat) (ks : List Nat) (k : Nat)
    (hbs : 1 ≤ bs) (hk : DecOk kind bs cs) (hord : (ks ++ [k]).Pairwise (· ≤ ·))
    (hd : d ≠ []) (hlast : k ≤ blockOffsetLast d.length bs) :
    (readSeq (Rd.new kind bs d cs csPre) (ks ++ [k])).1 = (ks ++ [k]).map (specRes d bs)
    ∧ mget (readSeq (Rd.new kind bs d cs csPre) (ks ++ [k])).2.blocks k = some (blockAt d bs k)
    ∧ ∀ j, j < k → mget (readSeq (Rd.new kind bs d cs csPre) (ks ++ [k])).2.blocks j = none := by
  obtain ⟨h, e⟩ := SInv.new kind bs d cs csPre hbs hk
  have := lookback_state d ks k _ h hord hd (e.symm ▸ hlast)
  rw [e] at this
  exact ⟨stream_ordered kind bs d cs csPre _ hbs hk hord, this⟩

/-- "a block one behind the highest read is still available" (look-back depth 1) -/
def C05_lookback_one_full : Prop :=
  ∀ (bs : Nat) (d : Bytes) (k : Nat), 1 ≤ bs → k + 1 ≤ blockOffsetLast d.length bs →
    (readSeq (Rd.new .gz bs d [] []) [k, k + 1, k]).1 = [k, k + 1, k].map (specRes d bs)

/-- false as coded: `bo_at_old < bo_at ⇒ drop_block(bo_at_old)` drops the predecessor as soon as
its successor is decoded, and a request for it falls through to a loop that starts above it:
the answer is `Done` (release build; `debug_panic!` in a debug build) -/
theorem C05_lookback_one_full_false : ¬ C05_lookback_one_full := by
  intro h
  have := h 1 [1, 2] 0 (by decide) (by decide)
  revert this
  decide +kernel

example : (readSeq (Rd.new .gz 1 [1, 2] [] []) [0, 1, 0]).1 = [.found [1], .found [2], .done] := by decide +kernel

/-- the temporary file written by `decompress_to_ntf` (journal / evtx inside gz, bz2, lz4, tar)
holds exactly the decompressed bytes, for every chunking -/
theorem extract_eq (d : Bytes) (cs : List Nat) : decompressToNtf d cs = d :=
  copyLoop_spec NTF_BUF_SZ (by decide) _ ⟨d, cs⟩ [] (Nat.lt_succ_self _)

/-- counter-model (seeded change C05-d): a copy loop that ALSO stops after a read shorter than its buffer
truncates the temporary file as soon as the decoder returns a short chunk before the end of the data
(lz4_flex's `FrameDecoder::read` never crosses a frame block boundary) -/
theorem short_read_stop_truncates :
    decompressToNtfG false [1, 2, 3, 4, 5] [2, 3] = [1, 2] ∧ decompressToNtfG true [1, 2, 3, 4, 5] [2, 3] = [1, 2, 3, 4, 5] := by
  decide +kernel

example : decompressToNtf [1, 2, 3, 4, 5] [2, 0, 9] = [1, 2, 3, 4, 5] := by decide +kernel

theorem prepass_size (d : Bytes) (csPre : List Nat) :
    countLoop PREPASS_BUF_SZ (d.length + 1) ⟨d, csPre⟩ 0 = d.length :=
  countLoop_prepass d csPre

/-- xz: `new` decompresses everything and splits it; every request sequence, in any order, gets
the blocks of `d` (nothing is decoded later, nothing is dropped by the reader itself) -/
theorem assemble_eq_xz (bs : Nat) (d : Bytes) (cs csPre : List Nat) (ks : List Nat) (hbs : 1 ≤ bs) :
    (readSeq (Rd.new .xz bs d cs csPre) ks).1 = ks.map (specRes d bs) := by
  by_cases hd : d = []
  · subst hd
    rw [readSeq_xz_nil]
    apply List.map_congr_left
    intro k _
    rw [specRes_nil]
  · have h := XInv.new bs d cs csPre hbs hd
    -- on the record of `xz_new` the field `bs` reduces, on `Rd.new .xz bs d …` it is stuck at `d.isEmpty`
    rw [xz_new bs d cs csPre hbs hd] at h ⊢
    exact readSeq_of_step (readBlock_xz d) ks _ h

/-- when `bs ∣ |d|` the split loop of `new` (`while blockoffset <= len / blocksz`) stores one extra, EMPTY
block at key `|d| / bs` and records it in `blocks_read`. It is never handed out: that key is above
`blockoffset_last`, where `read_block` answers `Done` before looking at any storage; `filesz_actual` is
still `|d|`. (It does count in `blocks_highest`.) -/
theorem C05_xz_extra_block (bs : Nat) (d : Bytes) (cs csPre : List Nat) (hbs : 1 ≤ bs) (hd : d ≠ [])
    (hdiv : d.length % bs = 0) :
    mget (Rd.new .xz bs d cs csPre).blocks (d.length / bs) = some []
    ∧ d.length / bs ∈ (Rd.new .xz bs d cs csPre).blocksRead
    ∧ (Rd.new .xz bs d cs csPre).fsz = d.length
    ∧ d.length / bs = blockOffsetLast d.length bs + 1
    ∧ ∀ ks : List Nat, (readSeq (Rd.new .xz bs d cs csPre) (ks ++ [d.length / bs])).1
        = ks.map (specRes d bs) ++ [.done] := by
  have hb := Lemmas.Blocks.blockOffsetLast_bounds d.length bs hbs (List.length_pos_iff.mpr hd)
  have h1 : d.length / bs * bs = d.length := Nat.div_mul_cancel (Nat.dvd_of_mod_eq_zero hdiv)
  have hq : d.length / bs = blockOffsetLast d.length bs + 1 :=
    Nat.le_antisymm (Nat.le_of_mul_le_mul_right (h1.symm ▸ hb.2) hbs)
      (Nat.lt_of_mul_lt_mul_right (a := bs) (h1.symm ▸ hb.1))
  have e := xz_new bs d cs csPre hbs hd
  refine ⟨?_, by rw [e]; exact List.mem_reverse.mpr (List.mem_range.mpr (Nat.lt_succ_self _)), by rw [e], hq,
    fun ks => ?_⟩
  · rw [e, mget_xzList d bs _ _ (Nat.lt_succ_self _)]
    congr 1
    rw [← List.length_eq_zero_iff, Lemmas.Blocks.blockAt_length, h1, Nat.sub_self, Nat.min_zero]
  · rw [assemble_eq_xz bs d cs csPre _ hbs, List.map_append, List.map_cons, List.map_nil,
      specRes_done d bs _ (hq ▸ Nat.lt_succ_self _)]

/-- the quirk exists: 4 bytes, `bs = 2` — three stored blocks, the third empty; a request for it is `Done` -/
example : (Rd.new .xz 2 [1, 2, 3, 4] [] []).blocks = [(2, []), (1, [3, 4]), (0, [1, 2])] := by decide +kernel
example : (readSeq (Rd.new .xz 2 [1, 2, 3, 4] [] []) [0, 1, 2]).1 = [.found [1, 2], .found [3, 4], .done] := by decide +kernel
example : (Rd.new .xz 2 [1, 2, 3, 4, 5] [] []).blocks = [(2, [5]), (1, [3, 4]), (0, [1, 2])] := by decide +kernel

/-- tar: the first miss reads the whole member (`read_exact` per block); every request sequence,
in any order, gets the blocks of `d` -/
theorem assemble_eq_tar (bs : Nat) (d : Bytes) (cs csPre : List Nat) (ks : List Nat) (hbs : 1 ≤ bs) :
    (readSeq (Rd.new .tar bs d cs csPre) ks).1 = ks.map (specRes d bs) :=
  readSeq_of_step (readBlock_tar d) ks _ (TInv.new bs d cs csPre hbs)

example : (readSeq (Rd.new .tar 2 [1, 2, 3] [] []) [1, 0, 2]).1 = [.found [3], .found [1, 2], .done] := by decide +kernel

/-- every container kind learns the right size in `new` -/
theorem new_fsz (kind : Kind) (bs : Nat) (d : Bytes) (cs csPre : List Nat) (hbs : 1 ≤ bs) :
    (Rd.new kind bs d cs csPre).fsz = d.length := by
  cases kind with
  | plain => rfl
  | gz => rfl
  | tar => rfl
  | bz2 => exact prepass_size d csPre
  | lz4 => exact prepass_size d csPre
  | lz4Single => exact prepass_size d csPre
  | xz =>
    by_cases hd : d = []
    · subst hd; rfl
    · rw [xz_new bs d cs csPre hbs hd]

/-- the size test of the gz arm of `BlockReader::new` as a parameterised predicate: `onDiskOnly = true` refuses a file
whose size ON DISK exceeds `GZ_MAX_SZ`; `false` (the other shape) refuses by the uncompressed size of the trailer -/
def gzRefused (onDiskOnly : Bool) (diskSz uncompressedSz : Nat) : Bool :=
  if onDiskOnly then decide (GZ_MAX_SZ < diskSz) else decide (GZ_MAX_SZ < uncompressedSz)

/-- unfolds the generated `GZ_LIMIT_ON_DISK_SIZE_ONLY`: a .gz at most `GZ_MAX_SZ` bytes on disk is never refused
for its size, however much it inflates to -/
theorem C05_gz_accepts_by_disk_size (diskSz uncompressedSz : Nat) (h : diskSz ≤ GZ_MAX_SZ) :
    gzRefused GZ_LIMIT_ON_DISK_SIZE_ONLY diskSz uncompressedSz = false := by
  have hg : GZ_LIMIT_ON_DISK_SIZE_ONLY = true := by decide +kernel
  simp [gzRefused, hg]; omega

/-- counter-model (seeded change C05-e): with the limit on the uncompressed size a 7.7 MB .gz that inflates to
537 000 960 bytes is refused, although the same bytes print as a plain file -/
theorem limit_on_uncompressed_size_refuses : gzRefused false 7700000 537000960 = true := by decide +kernel

end S4V.Props.StreamSpec
