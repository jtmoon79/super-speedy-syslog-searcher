/-
GENERATED by tools/mk_regexrows.py from harness/src/rgx_rows.txt (gen/gen_regex.py) — regenerate, do not edit.

C04, regex slice: rows 10–13 of `DATETIME_PARSE_DATAS`. `rowsB` holds the literals of their certificates (`RowFacts`,
`S4V.Lemmas.RegexTable`), `certsB` is ONE kernel evaluation for all of them, and `certN`, `factsN` are its components for row N; a row
without an end-to-end theorem (the epoch rows; a row that failed `catOK`) has no certificate and evaluates its own `factsN`. `C04_rowN_search`: for EVERY
selection of entries of the row's catalogue (`rowBodyE` / `rowBodyP`, `S4V.Lemmas.RegexAuto`) and of concrete words, and every
admissible tail, `search` matches at 0, spans exactly the words (and the byte of a final group), and every capture group spans
the word of its item.
-/
import S4V.Gen.Regex
import S4V.Lemmas.RegexTable

namespace S4V.Props.RegexCapture3
open S4V.Model.Regex S4V.Gen.Regex S4V.Lemmas.RegexStep S4V.Lemmas.RegexSym S4V.Lemmas.RegexRows S4V.Lemmas.RegexAuto
open S4V.Lemmas.RegexE2E S4V.Lemmas.Utf8 S4V.Gen.TimeTables

def rowsB : List RowFacts := [
  { row := row10, counts := [(1, 1), (3, 3), (1, 1), (2, 2), (3, 3), (2, 2), (12, 12), (2, 2), (37, 49), (2, 2), (25, 25), (2, 2), (1, 1), (2, 2), (2, 2), (1, 1), (9, 9), (2, 2), (384, 392)], digest := 426166092,
    line := some "<31>2023-01-06T14:35:00.506282 PST (host) (192.168.0.1) [unbound[63893] daemon:debug] [63893]:  [63893:0] debug: cache memory msg=76002 rrset=120560 infra=18065".toUTF8.toList, fits := true },
  { row := row11, counts := [(1, 1), (3, 3), (1, 1), (2, 2), (3, 3), (2, 2), (12, 12), (2, 2), (37, 49), (2, 2), (25, 25), (2, 2), (1, 1), (2, 2), (2, 2), (1, 1), (9, 9)], digest := 351381993,
    line := some "<31>2023-01-06T14:35:00.506282 (host) (192.168.0.1) [unbound[63893] daemon:debug] [63893]:  [63893:0] debug: cache memory msg=76002 rrset=120560 infra=18065 val".toUTF8.toList, fits := true },
  { row := row12, counts := [(1, 1), (3, 3), (1, 1), (2, 2), (3, 3), (1, 1), (12, 12), (1, 1), (46, 49), (2, 2), (25, 25), (2, 2), (1, 1), (2, 2), (2, 2), (2, 2), (1, 1)], digest := 814625445,
    line := some "<14>2023-02-01T15:00:36-08:00 (HOST) (192.168.0.1) [dropbear[23732]: authpriv:info] [23732]:  Exit (root): Disconnect received \u2e28<14>Jan  1 15:00:36 HOST dropb".toUTF8.toList, fits := true },
  { row := row13, counts := [(1, 1), (3, 3), (1, 1), (2, 2), (3, 3), (1, 1), (12, 12), (1, 1), (46, 49), (2, 2), (25, 25), (2, 2), (1, 1), (2, 2), (2, 2), (2, 2), (1, 1)], digest := 532268751,
    line := some "<14>2023-02-01T15:00:36-08 (HOST) (192.168.0.1) [dropbear[23732]: authpriv:info] [23732]:  Exit (root): Disconnect received \u2e28<14>Jan  1 15:00:36 HOST dropbear".toUTF8.toList, fits := true }]

theorem certsB : ∀ i (h : i < rowsB.length), rowsB[i].Cert :=
  RowFacts.certs_of_all (by
    unfold rowsB
    rw [toUTF8_toList_ofList, toUTF8_toList_ofList, toUTF8_toList_ofList, toUTF8_toList_ofList]
    decide +kernel)

/-! ### row 10 (year:1,month:2,day:3,hour:4,minute:5,second:6,fractional:7,tz:8): head `bol`, end `(?P<g>[class]|$)` -/

theorem cert10 : (rowsB[0]'(by decide)).Cert := certsB 0 (by decide)

theorem facts10 : keptCounts (rowBodyE re10 1) = [(1, 1), (3, 3), (1, 1), (2, 2), (3, 3), (2, 2), (12, 12), (2, 2), (37, 49), (2, 2), (25, 25), (2, 2), (1, 1), (2, 2), (2, 2), (1, 1), (9, 9), (2, 2), (384, 392)] ∧
    catDigest (rowBodyE re10 1) = 426166092 ∧
    splitsL (rowBodyE re10 1) "<31>2023-01-06T14:35:00.506282 PST (host) (192.168.0.1) [unbound[63893] daemon:debug] [63893]:  [63893:0] debug: cache memory msg=76002 rrset=120560 infra=18065".toUTF8.toList = true := cert10.facts

theorem C04_row10_search (sel : Sel) (hv : Valid (rowBodyE re10 1) sel) (tail : List UInt8) (ht : TailIn (rowEndSym re10) tail) :
    RowResult row10.re (flat sel ++ tail) ((flat sel).length + tailLen tail) [] (sel ++ [rowEndEw re10 tail]) :=
  auto_E (re := re10) (by rfl) cert10.headOk sel hv tail ht

/-! ### row 11 (year:1,month:2,day:3,hour:4,minute:5,second:6,fractional:7): head `bol`, end `(?P<g>[class]|$)` -/

theorem cert11 : (rowsB[1]'(by decide)).Cert := certsB 1 (by decide)

theorem facts11 : keptCounts (rowBodyE re11 1) = [(1, 1), (3, 3), (1, 1), (2, 2), (3, 3), (2, 2), (12, 12), (2, 2), (37, 49), (2, 2), (25, 25), (2, 2), (1, 1), (2, 2), (2, 2), (1, 1), (9, 9)] ∧
    catDigest (rowBodyE re11 1) = 351381993 ∧
    splitsL (rowBodyE re11 1) "<31>2023-01-06T14:35:00.506282 (host) (192.168.0.1) [unbound[63893] daemon:debug] [63893]:  [63893:0] debug: cache memory msg=76002 rrset=120560 infra=18065 val".toUTF8.toList = true := cert11.facts

theorem C04_row11_search (sel : Sel) (hv : Valid (rowBodyE re11 1) sel) (tail : List UInt8) (ht : TailIn (rowEndSym re11) tail) :
    RowResult row11.re (flat sel ++ tail) ((flat sel).length + tailLen tail) [] (sel ++ [rowEndEw re11 tail]) :=
  auto_E (re := re11) (by rfl) cert11.headOk sel hv tail ht

/-! ### row 12 (year:1,month:2,day:3,hour:4,minute:5,second:6,tz:7): head `bol`, end `plain` -/

theorem cert12 : (rowsB[2]'(by decide)).Cert := certsB 2 (by decide)

theorem facts12 : keptCounts (rowBodyP re12 1) = [(1, 1), (3, 3), (1, 1), (2, 2), (3, 3), (1, 1), (12, 12), (1, 1), (46, 49), (2, 2), (25, 25), (2, 2), (1, 1), (2, 2), (2, 2), (2, 2), (1, 1)] ∧
    catDigest (rowBodyP re12 1) = 814625445 ∧
    splitsL (rowBodyP re12 1) "<14>2023-02-01T15:00:36-08:00 (HOST) (192.168.0.1) [dropbear[23732]: authpriv:info] [23732]:  Exit (root): Disconnect received \u2e28<14>Jan  1 15:00:36 HOST dropb".toUTF8.toList = true := cert12.facts

theorem C04_row12_search (sel : Sel) (hv : Valid (rowBodyP re12 1) sel) (tail : List UInt8) (ht : TailF (autoTail re12) tail) :
    RowResult row12.re (flat sel ++ tail) (flat sel).length [] sel :=
  auto_P (re := re12) (by rfl) rfl sel hv tail ht

/-! ### row 13 (year:1,month:2,day:3,hour:4,minute:5,second:6,tz:7): head `bol`, end `plain` -/

theorem cert13 : (rowsB[3]'(by decide)).Cert := certsB 3 (by decide)

theorem facts13 : keptCounts (rowBodyP re13 1) = [(1, 1), (3, 3), (1, 1), (2, 2), (3, 3), (1, 1), (12, 12), (1, 1), (46, 49), (2, 2), (25, 25), (2, 2), (1, 1), (2, 2), (2, 2), (2, 2), (1, 1)] ∧
    catDigest (rowBodyP re13 1) = 532268751 ∧
    splitsL (rowBodyP re13 1) "<14>2023-02-01T15:00:36-08 (HOST) (192.168.0.1) [dropbear[23732]: authpriv:info] [23732]:  Exit (root): Disconnect received \u2e28<14>Jan  1 15:00:36 HOST dropbear".toUTF8.toList = true := cert13.facts

theorem C04_row13_search (sel : Sel) (hv : Valid (rowBodyP re13 1) sel) (tail : List UInt8) (ht : TailF (autoTail re13) tail) :
    RowResult row13.re (flat sel ++ tail) (flat sel).length [] sel :=
  auto_P (re := re13) (by rfl) rfl sel hv tail ht

end S4V.Props.RegexCapture3
