/-
C14, the part that rests on one regenerated fact of `cli_process_args` (`src/bin/s4.rs`): the "now" handed to `process_dt` for
the now-relative `-a` / `-b` forms is the program-start reading `UTC_NOW`, not a second `Utc::now()`
(`Gen.CliTables.RELATIVE_NOW_IS_PROGRAM_START`). The theorem unfolds the constant, so a source that regenerates `false` breaks
it; the counter-model shows what would differ then (seeded change C14-d, DESIGN.md §10.5).
-/
import S4V.Gen.CliTables

namespace S4V.Props.FactsCli

/-- the bound a now-relative value `now + d` resolves to, given which clock reading is handed to `process_dt`:
the program-start reading `start`, or a later reading `start + late` -/
def relBound (nowIsStart : Bool) (start late d : Int) : Int := (if nowIsStart then start else start + late) + d

/-- Unfolds the regenerated `RELATIVE_NOW_IS_PROGRAM_START`: a now-relative bound is the
program-start instant plus the offset, however late the argument processing reaches it (e.g. after reading a slow path
list from stdin). -/
theorem C14_now_is_program_start (start late d : Int) :
    relBound S4V.Gen.CliTables.RELATIVE_NOW_IS_PROGRAM_START start late d = start + d := by
  have h : S4V.Gen.CliTables.RELATIVE_NOW_IS_PROGRAM_START = true := by decide
  simp [relBound, h]

/-- counter-model (seeded change C14-d): with a fresh clock reading the bound moves by the delay -/
theorem later_now_shifts_bound : relBound false 1700000000 5 0 = 1700000005 := by decide

end S4V.Props.FactsCli
