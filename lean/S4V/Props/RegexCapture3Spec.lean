/-
C04, regex slice — what the automatic per-row capture theorems `C04_rowN_search` say (`S4V.Props.RegexCapture3a` …, indexed with
the table row → theorem | why not in `S4V.Props.RegexCapture3`), their link to the post-capture model, and the statements about
them that are FALSE.

`C04_rowN_search` says: for EVERY selection `sel` of one kept entry of row N's derived catalogue and one concrete word per
item (`Valid (rowBodyE/P reN k) sel`) and every tail that is empty or starts with an ASCII byte of the final class (`TailIn`;
rows without a final group: `TailF (autoTail reN)`), `RowResult`: `search` on `flat sel ++ tail` matches at 0, ends after the
words (plus the byte the final group takes), and `Captures::get(g)` is the word of the item that records `g`. `factsN` pins
the (kept, total) entry counts and a digest of the catalogue and shows the hypotheses satisfiable on the row's own test line;
a changed pattern in datetime.rs regenerates `reN`, hence the catalogue, and breaks `factsN`. How the catalogue is derived:
head of `S4V.Lemmas.RegexAuto`.

False statements (witnesses replayed on the real regex crate with `s4h rgx --replay`: same spans)
* `C04_row74_padded_day_full_false`   `2020-01 8 …`: with no separator after the month the optional separator class (space, slash, dash) takes the pad
                                      of ` 8`; the day group is `8` (harmless: both forms normalise to `08`)
* `C04_row27_padded_day_full_false`   `Jan  1 …`: the greedy `[[:blank:]]+` takes both blanks (the policy's reason)
* `C04_row10_zone_prefix_full_false`  `… PETx`: the final group of row 10 is `[^0-9]|$`, so `PET` + letter is attributed
                                      the zone `PET` — why `PET`/`UT`/`WIT`/`Z` are pruned from row 10's zone catalogue
                                      (a letter tail could also complete `PETT`/`UTC`/`WITA`/`ZULU`)
Not covered: rows 65–69 (`[^\n]+` before the stamp: the matcher backtracks from the end of the line).
-/
import S4V.Props.RegexCapture3

namespace S4V.Props.RegexCapture3Spec
open S4V.Model.Regex S4V.Gen.Regex S4V.Lemmas.RegexStep S4V.Lemmas.RegexSym S4V.Lemmas.RegexRows S4V.Lemmas.RegexAuto
open S4V.Props.RegexCapture (capturesOf capField capField_eq)

/-- **named fields**: after a row theorem, the text `captures_to_buffer_bytes` reads for the named group `name` is the word of the
item that records it (or what the head recorded: the empty text at 0 for the group of a `(^|…)` head). `capField` is what
`S4V.Props.RegexCapture.capturesOf`, the input of `capturesToInstant`, is made of. -/
theorem rowResult_capField (row : S4V.Gen.Regex.Row) {line : List UInt8} {stop : Nat} {c0 : Caps} {sel : Sel}
    (h : RowResult row.re line stop c0 sel) (name : String) :
    capField row line (capsAt 0 c0 sel) name =
      (row.names.lookup name).bind (fun g =>
        match selText g sel with
        | some t => some t
        | none => groupText line c0 g) := by
  rw [capField_eq]
  cases row.names.lookup name with
  | none => rfl
  | some g => simp only [Option.bind_some]; exact h.2 g

/-- the match found by `search` is the one the row theorem describes -/
theorem rowResult_search {re : Re} {line : List UInt8} {stop : Nat} {c0 : Caps} {sel : Sel}
    (h : RowResult re line stop c0 sel) : ∃ res, search re line = some res ∧ res.start = 0 ∧ res.stop = stop ∧ res.caps = capsAt 0 c0 sel :=
  ⟨_, h.1, rfl, rfl, rfl⟩

/-- worked instance: row 74 (`2000-01-01 00:00:01.123…`, the row's own test line): the split exists (`facts74`), so
`C04_row74_search` applies to it with the tail that follows the fraction -/
theorem row74_instance : ∃ sel rest, Valid (rowBodyE re74 1) sel ∧
    (TailIn (rowEndSym re74) rest →
      RowResult row74.re (flat sel ++ rest) ((flat sel).length + tailLen rest) [] (sel ++ [rowEndEw re74 rest])) := by
  obtain ⟨sel, rest, hv, _⟩ := valid_of_splitsL RegexCapture3.facts74.2.2
  exact ⟨sel, rest, hv, fun ht => RegexCapture3.C04_row74_search sel hv rest ht⟩

/-! ### statements that are false, with witnesses -/

/-- "row 74: the day group spans the rendered day form, here ` 8` at [7, 9)" -/
def C04_row74_padded_day_full : Prop :=
  ∀ res, search row74.re "2020-01 8 12:00:00.5".toUTF8.toList = some res → capGet res.caps 3 = some (7, 9)

theorem C04_row74_padded_day_full_false : ¬ C04_row74_padded_day_full := by
  intro h
  have : search row74.re "2020-01 8 12:00:00.5".toUTF8.toList =
      some ⟨0, 20, [(8, 20, 20), (7, 19, 20), (6, 16, 18), (5, 13, 15), (4, 10, 12), (3, 8, 9), (2, 5, 7), (1, 0, 4)]⟩ := by
    decide +kernel
  have := h _ this
  revert this
  decide

/-- "row 27: the day group spans the space-padded form ` 1` at [4, 6)" -/
def C04_row27_padded_day_full : Prop :=
  ∀ res, search row27.re "Jan  1 12:00:00 2020 PST".toUTF8.toList = some res → capGet res.caps 2 = some (4, 6)

theorem C04_row27_padded_day_full_false : ¬ C04_row27_padded_day_full := by
  intro h
  have : search row27.re "Jan  1 12:00:00 2020 PST".toUTF8.toList =
      some ⟨0, 24, [(8, 24, 24), (7, 21, 24), (6, 16, 20), (5, 13, 15), (4, 10, 12), (3, 7, 9), (2, 5, 6), (1, 0, 3)]⟩ := by
    decide +kernel
  have := h _ this
  revert this
  decide

/-- "row 10: whatever ASCII non-digit follows the zone name `PET`, the match ends right after that one byte and the zone
group is the name that was rendered" — with the tail `T` the zone group is `PETT` and the match ends at the end of the line -/
def C04_row10_zone_prefix_full : Prop :=
  ∀ (x : UInt8), symHas nonDigit x = true →
    ∀ res, search row10.re ("<1>2020-01-02 03:04:05.6 PET".toUTF8.toList ++ [x]) = some res →
      capGet res.caps 8 = some (25, 28) ∧ res.stop = 29

theorem C04_row10_zone_prefix_full_false : ¬ C04_row10_zone_prefix_full := by
  intro h
  have : search row10.re ("<1>2020-01-02 03:04:05.6 PET".toUTF8.toList ++ [84]) =
      some ⟨0, 29, [(9, 29, 29), (8, 25, 29), (7, 23, 24), (6, 20, 22), (5, 17, 19), (4, 14, 16), (3, 11, 13), (2, 8, 10), (1, 3, 7)]⟩ := by
    decide +kernel
  have := h 84 (by decide) _ this
  revert this
  decide

/-- and with a letter that completes no longer name, the zone `PET` is attributed to `PETx` -/
theorem C04_row10_zone_prefix_attributed :
    search row10.re "<1>2020-01-02 03:04:05.6 PETx".toUTF8.toList =
      some ⟨0, 29, [(9, 28, 29), (8, 25, 28), (7, 23, 24), (6, 20, 22), (5, 17, 19), (4, 14, 16), (3, 11, 13), (2, 8, 10), (1, 3, 7)]⟩ := by
  decide +kernel

end S4V.Props.RegexCapture3Spec
