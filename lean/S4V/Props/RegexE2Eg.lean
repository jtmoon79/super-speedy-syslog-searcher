/-
GENERATED by tools/mk_regexrows.py — regenerate, do not edit.

C04, regex slice: rows 154–172 of `DATETIME_PARSE_DATAS` END TO END, from the text of a line to the instant.
`C04_rowN_end_to_end_shaped`: for every valid selection of the row's catalogue, admissible tail, fallback zone and fill year, if the
words spell a calendar date-time (`calendarOK`), the iteration of `find_datetime_in_line` for the row (`rowPipeline`) yields the
instant the captured words spell: `RowFacts.Cert.e2e` / `.e2e_end` of `certN` applied to `C04_rowN_search`. Year-less rows keep a
four-digit fill year as hypothesis, rows with renderings longer than `range_regex.end` keep `hlen`. How to read the statement,
non-vacuity and the FALSE statements: `S4V.Props.RegexE2ESpec`, `S4V.Props.RegexE2EShapeSpec`.
-/
import S4V.Props.RegexCapture3o
import S4V.Props.RegexCapture3p
import S4V.Props.RegexCapture3q

namespace S4V.Props.RegexE2E
open S4V.Model.Regex S4V.Gen.Regex S4V.Lemmas.RegexStep S4V.Lemmas.RegexSym S4V.Lemmas.RegexRows S4V.Lemmas.RegexAuto
open S4V.Lemmas.RegexE2E S4V.Props.RegexCapture3 S4V.Gen.TimeTables

theorem C04_row154_end_to_end_shaped (sel : Sel) (hv : Valid (rowBodyE re154 1) sel) (tail : List UInt8) (ht : TailIn (rowEndSym re154) tail)
    (fbOff : Int) (hfb : FbOK' fbOff) (fill : Option Int) (hfill : ∀ y, fill = some y → 1000 ≤ y ∧ y ≤ 9999)
    (hc : calendarOK row154.dtfs (selFields row154 sel) fill = true) :
    rowPipeline row154 (flat sel ++ tail) fbOff fill = some (fieldsOf row154.dtfs (selFields row154 sel) fbOff fill).instant :=
  cert154.e2e_end hv (cert154.flat_le rfl hv) (C04_row154_search sel hv _ (tailIn_take ht _)) fbOff hfb fill (fillOK_of _ fill hfill) hc

theorem C04_row155_end_to_end_shaped (sel : Sel) (hv : Valid (rowBodyE re155 1) sel) (tail : List UInt8) (ht : TailIn (rowEndSym re155) tail)
    (fbOff : Int) (hfb : FbOK' fbOff) (fill : Option Int)
    (hc : calendarOK row155.dtfs (selFields row155 sel) fill = true) :
    rowPipeline row155 (flat sel ++ tail) fbOff fill = some (fieldsOf row155.dtfs (selFields row155 sel) fbOff fill).instant :=
  cert155.e2e_end hv (cert155.flat_le rfl hv) (C04_row155_search sel hv _ (tailIn_take ht _)) fbOff hfb fill rfl hc

theorem C04_row156_end_to_end_shaped (sel : Sel) (hv : Valid (rowBodyE re156 1) sel) (tail : List UInt8) (ht : TailIn (rowEndSym re156) tail)
    (fbOff : Int) (hfb : FbOK' fbOff) (fill : Option Int)
    (hc : calendarOK row156.dtfs (selFields row156 sel) fill = true) :
    rowPipeline row156 (flat sel ++ tail) fbOff fill = some (fieldsOf row156.dtfs (selFields row156 sel) fbOff fill).instant :=
  cert156.e2e_end hv (cert156.flat_le rfl hv) (C04_row156_search sel hv _ (tailIn_take ht _)) fbOff hfb fill rfl hc

theorem C04_row157_end_to_end_shaped (sel : Sel) (hv : Valid (rowBodyE re157 1) sel) (tail : List UInt8) (ht : TailIn (rowEndSym re157) tail)
    (fbOff : Int) (hfb : FbOK' fbOff) (fill : Option Int)
    (hc : calendarOK row157.dtfs (selFields row157 sel) fill = true) :
    rowPipeline row157 (flat sel ++ tail) fbOff fill = some (fieldsOf row157.dtfs (selFields row157 sel) fbOff fill).instant :=
  cert157.e2e_end hv (cert157.flat_le rfl hv) (C04_row157_search sel hv _ (tailIn_take ht _)) fbOff hfb fill rfl hc

theorem C04_row158_end_to_end_shaped (sel : Sel) (hv : Valid (rowBodyE re158 1) sel) (tail : List UInt8) (ht : TailIn (rowEndSym re158) tail)
    (fbOff : Int) (hfb : FbOK' fbOff) (fill : Option Int)
    (hc : calendarOK row158.dtfs (selFields row158 sel) fill = true) :
    rowPipeline row158 (flat sel ++ tail) fbOff fill = some (fieldsOf row158.dtfs (selFields row158 sel) fbOff fill).instant :=
  cert158.e2e_end hv (cert158.flat_le rfl hv) (C04_row158_search sel hv _ (tailIn_take ht _)) fbOff hfb fill rfl hc

theorem C04_row159_end_to_end_shaped (sel : Sel) (hv : Valid (rowBodyE re159 1) sel) (tail : List UInt8) (ht : TailIn (rowEndSym re159) tail)
    (fbOff : Int) (hfb : FbOK' fbOff) (fill : Option Int)
    (hc : calendarOK row159.dtfs (selFields row159 sel) fill = true) :
    rowPipeline row159 (flat sel ++ tail) fbOff fill = some (fieldsOf row159.dtfs (selFields row159 sel) fbOff fill).instant :=
  cert159.e2e_end hv (cert159.flat_le rfl hv) (C04_row159_search sel hv _ (tailIn_take ht _)) fbOff hfb fill rfl hc

theorem C04_row160_end_to_end_shaped (sel : Sel) (hv : Valid (rowBodyE re160 1) sel) (tail : List UInt8) (ht : TailIn (rowEndSym re160) tail)
    (fbOff : Int) (hfb : FbOK' fbOff) (fill : Option Int)
    (hc : calendarOK row160.dtfs (selFields row160 sel) fill = true) :
    rowPipeline row160 (flat sel ++ tail) fbOff fill = some (fieldsOf row160.dtfs (selFields row160 sel) fbOff fill).instant :=
  cert160.e2e_end hv (cert160.flat_le rfl hv) (C04_row160_search sel hv _ (tailIn_take ht _)) fbOff hfb fill rfl hc

theorem C04_row161_end_to_end_shaped (sel : Sel) (hv : Valid (rowBodyE re161 1) sel) (tail : List UInt8) (ht : TailIn (rowEndSym re161) tail)
    (fbOff : Int) (hfb : FbOK' fbOff) (fill : Option Int)
    (hc : calendarOK row161.dtfs (selFields row161 sel) fill = true) :
    rowPipeline row161 (flat sel ++ tail) fbOff fill = some (fieldsOf row161.dtfs (selFields row161 sel) fbOff fill).instant :=
  cert161.e2e_end hv (cert161.flat_le rfl hv) (C04_row161_search sel hv _ (tailIn_take ht _)) fbOff hfb fill rfl hc

theorem C04_row162_end_to_end_shaped (sel : Sel) (hv : Valid (rowBodyE re162 1) sel) (tail : List UInt8) (ht : TailIn (rowEndSym re162) tail)
    (fbOff : Int) (hfb : FbOK' fbOff) (fill : Option Int)
    (hc : calendarOK row162.dtfs (selFields row162 sel) fill = true) :
    rowPipeline row162 (flat sel ++ tail) fbOff fill = some (fieldsOf row162.dtfs (selFields row162 sel) fbOff fill).instant :=
  cert162.e2e_end hv (cert162.flat_le rfl hv) (C04_row162_search sel hv _ (tailIn_take ht _)) fbOff hfb fill rfl hc

theorem C04_row163_end_to_end_shaped (sel : Sel) (hv : Valid (rowBodyE re163 1) sel) (tail : List UInt8) (ht : TailIn (rowEndSym re163) tail)
    (fbOff : Int) (hfb : FbOK' fbOff) (fill : Option Int)
    (hc : calendarOK row163.dtfs (selFields row163 sel) fill = true) :
    rowPipeline row163 (flat sel ++ tail) fbOff fill = some (fieldsOf row163.dtfs (selFields row163 sel) fbOff fill).instant :=
  cert163.e2e_end hv (cert163.flat_le rfl hv) (C04_row163_search sel hv _ (tailIn_take ht _)) fbOff hfb fill rfl hc

theorem C04_row164_end_to_end_shaped (sel : Sel) (hv : Valid (rowBodyE re164 1) sel) (tail : List UInt8) (ht : TailIn (rowEndSym re164) tail)
    (fbOff : Int) (hfb : FbOK' fbOff) (fill : Option Int)
    (hc : calendarOK row164.dtfs (selFields row164 sel) fill = true) :
    rowPipeline row164 (flat sel ++ tail) fbOff fill = some (fieldsOf row164.dtfs (selFields row164 sel) fbOff fill).instant :=
  cert164.e2e_end hv (cert164.flat_le rfl hv) (C04_row164_search sel hv _ (tailIn_take ht _)) fbOff hfb fill rfl hc

theorem C04_row165_end_to_end_shaped (sel : Sel) (hv : Valid (rowBodyE re165 1) sel) (tail : List UInt8) (ht : TailIn (rowEndSym re165) tail)
    (fbOff : Int) (hfb : FbOK' fbOff) (fill : Option Int)
    (hc : calendarOK row165.dtfs (selFields row165 sel) fill = true) :
    rowPipeline row165 (flat sel ++ tail) fbOff fill = some (fieldsOf row165.dtfs (selFields row165 sel) fbOff fill).instant :=
  cert165.e2e_end hv (cert165.flat_le rfl hv) (C04_row165_search sel hv _ (tailIn_take ht _)) fbOff hfb fill rfl hc

theorem C04_row166_end_to_end_shaped (sel : Sel) (hv : Valid (rowBodyE re166 1) sel) (tail : List UInt8) (ht : TailIn (rowEndSym re166) tail)
    (fbOff : Int) (hfb : FbOK' fbOff) (fill : Option Int)
    (hc : calendarOK row166.dtfs (selFields row166 sel) fill = true) :
    rowPipeline row166 (flat sel ++ tail) fbOff fill = some (fieldsOf row166.dtfs (selFields row166 sel) fbOff fill).instant :=
  cert166.e2e_end hv (cert166.flat_le rfl hv) (C04_row166_search sel hv _ (tailIn_take ht _)) fbOff hfb fill rfl hc

theorem C04_row167_end_to_end_shaped (sel : Sel) (hv : Valid (rowBodyE re167 1) sel) (tail : List UInt8) (ht : TailIn (rowEndSym re167) tail)
    (fbOff : Int) (hfb : FbOK' fbOff) (fill : Option Int)
    (hc : calendarOK row167.dtfs (selFields row167 sel) fill = true) :
    rowPipeline row167 (flat sel ++ tail) fbOff fill = some (fieldsOf row167.dtfs (selFields row167 sel) fbOff fill).instant :=
  cert167.e2e_end hv (cert167.flat_le rfl hv) (C04_row167_search sel hv _ (tailIn_take ht _)) fbOff hfb fill rfl hc

theorem C04_row168_end_to_end_shaped (sel : Sel) (hv : Valid (rowBodyE re168 1) sel) (tail : List UInt8) (ht : TailIn (rowEndSym re168) tail)
    (fbOff : Int) (hfb : FbOK' fbOff) (fill : Option Int)
    (hc : calendarOK row168.dtfs (selFields row168 sel) fill = true) :
    rowPipeline row168 (flat sel ++ tail) fbOff fill = some (fieldsOf row168.dtfs (selFields row168 sel) fbOff fill).instant :=
  cert168.e2e_end hv (cert168.flat_le rfl hv) (C04_row168_search sel hv _ (tailIn_take ht _)) fbOff hfb fill rfl hc

theorem C04_row169_end_to_end_shaped (sel : Sel) (hv : Valid (rowBodyE re169 1) sel) (tail : List UInt8) (ht : TailIn (rowEndSym re169) tail)
    (fbOff : Int) (hfb : FbOK' fbOff) (fill : Option Int)
    (hc : calendarOK row169.dtfs (selFields row169 sel) fill = true) :
    rowPipeline row169 (flat sel ++ tail) fbOff fill = some (fieldsOf row169.dtfs (selFields row169 sel) fbOff fill).instant :=
  cert169.e2e_end hv (cert169.flat_le rfl hv) (C04_row169_search sel hv _ (tailIn_take ht _)) fbOff hfb fill rfl hc

theorem C04_row170_end_to_end_shaped (sel : Sel) (hv : Valid (rowBodyE re170 1) sel) (tail : List UInt8) (ht : TailIn (rowEndSym re170) tail)
    (fbOff : Int) (hfb : FbOK' fbOff) (fill : Option Int)
    (hc : calendarOK row170.dtfs (selFields row170 sel) fill = true) :
    rowPipeline row170 (flat sel ++ tail) fbOff fill = some (fieldsOf row170.dtfs (selFields row170 sel) fbOff fill).instant :=
  cert170.e2e_end hv (cert170.flat_le rfl hv) (C04_row170_search sel hv _ (tailIn_take ht _)) fbOff hfb fill rfl hc

theorem C04_row171_end_to_end_shaped (sel : Sel) (hv : Valid (rowBodyE re171 1) sel) (tail : List UInt8) (ht : TailIn (rowEndSym re171) tail)
    (fbOff : Int) (hfb : FbOK' fbOff) (fill : Option Int)
    (hc : calendarOK row171.dtfs (selFields row171 sel) fill = true) :
    rowPipeline row171 (flat sel ++ tail) fbOff fill = some (fieldsOf row171.dtfs (selFields row171 sel) fbOff fill).instant :=
  cert171.e2e_end hv (cert171.flat_le rfl hv) (C04_row171_search sel hv _ (tailIn_take ht _)) fbOff hfb fill rfl hc

theorem C04_row172_end_to_end_shaped (sel : Sel) (hv : Valid (rowBodyE re172 1) sel) (tail : List UInt8) (ht : TailIn (rowEndSym re172) tail)
    (fbOff : Int) (hfb : FbOK' fbOff) (fill : Option Int) (hfill : ∀ y, fill = some y → 1000 ≤ y ∧ y ≤ 9999)
    (hc : calendarOK row172.dtfs (selFields row172 sel) fill = true) :
    rowPipeline row172 (flat sel ++ tail) fbOff fill = some (fieldsOf row172.dtfs (selFields row172 sel) fbOff fill).instant :=
  cert172.e2e_end hv (cert172.flat_le rfl hv) (C04_row172_search sel hv _ (tailIn_take ht _)) fbOff hfb fill (fillOK_of _ fill hfill) hc

end S4V.Props.RegexE2E
