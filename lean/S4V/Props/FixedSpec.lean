/-
Property C08, the part about WHICH time value orders and filters an accounting record:

  the value `preprocess_timevalues` keys its map with (`tv_pair_from_buffer` of the `size_tv()` bytes
  at `offset_tv()`) is the value of the record's time FIELD, read with the type the struct
  definition declares for it, at the offset the `#[repr(C, ..)]` field list gives it — for every
  `FixedStructType` layout.

Everything about the layouts comes from the GENERATED table `S4V.Gen.Fixed.layouts`
(regenerated from src/data/fixedstruct.rs on every run). `C08_tv_types_agree` and
`layouts_wellformed` are decided over that table: if `tv_pair_from_buffer` starts reading a
field with another primitive type than declared (say `ac_btime: u32` as `i32`), or another offset /
size, the table changes and these proofs, and everything that rests on them, stop
compiling. `signed_read_of_unsigned_misorders` shows what such a change does.
-/
import S4V.Lemmas.FixedRender
import S4V.Props.SortSpec

namespace S4V.Props.FixedSpec
open S4V.Gen.Fixed S4V.Model.Fixed
open S4V.Model.SortDrain
open S4V.Props.SortSpec (C08_order)
open S4V.Lemmas.FixedRender (leNat_lt)

/-- for every layout: the primitive type(s) used for ORDERING are the declared type(s) of the
struct's time field, `offset_tv()` is that field's offset, `size_tv()` its size, and both sides
use the same byte order -/
theorem C08_tv_types_agree :
    ∀ l ∈ layouts, l.read = l.decl ∧ l.offsetTv = l.fieldOffset ∧ l.sizeTv = l.decl.size
      ∧ readByteOrder = structByteOrder := by decide

/-- the primitives that occur: widening them to `tv_sec_type` / `tv_usec_type` (i64) cannot fail -/
def primOk (p : Prim) : Bool := p == ⟨true, 8⟩ || p == ⟨true, 4⟩ || p == ⟨false, 4⟩

def shapeOk (s : TvShape) : Bool :=
  primOk s.sec && decide (s.secOff + s.sec.bytes ≤ s.size)
  && (match s.usec with
      | none => true
      | some (p, off) => primOk p && decide (off + p.bytes ≤ s.size))

theorem layouts_wellformed :
    ∀ l ∈ layouts, shapeOk l.read = true ∧ shapeOk l.decl = true
      ∧ l.offsetTv + l.sizeTv ≤ l.size ∧ l.read.size = l.sizeTv
      ∧ l.fieldOffset + l.decl.size ≤ l.size := by decide

theorem widening_is_to_i64 : tvSecType = ⟨true, 8⟩ ∧ tvUsecType = ⟨true, 8⟩ := by decide

theorem sixteen_layouts : layouts.length = 16 ∧ (layouts.map (·.name)).Nodup := by decide +kernel

theorem ordered_length (o : ByteOrder) (bs : Bytes) : (ordered o bs).length = bs.length := by
  cases o <;> simp [ordered] <;> split <;> simp

theorem slice_length (bs : Bytes) (off len : Nat) (h : off + len ≤ bs.length) :
    (slice bs off len).length = len := by
  simp [slice]; omega

theorem slice_slice (bs : Bytes) (a n b m : Nat) (h : b + m ≤ n) :
    slice (slice bs a n) b m = slice bs (a + b) m := by
  simp only [slice, List.drop_take, List.take_take, List.drop_drop]
  congr 1
  omega

theorem fits_decode (o : ByteOrder) (p : Prim) (bs : Bytes) (hp : primOk p = true)
    (hl : bs.length = p.bytes) : fits ⟨true, 8⟩ (decodePrim o p bs) = true := by
  have hlt := leNat_lt (ordered o bs)
  rw [ordered_length, hl] at hlt
  simp only [primOk, Bool.or_eq_true, beq_iff_eq] at hp
  rcases hp with (rfl | rfl) | rfl <;> simp [fits, decodePrim, ofStored] at hlt ⊢ <;> (try split) <;> omega

theorem decode_u32 (o : ByteOrder) (bs : Bytes) (hl : bs.length = 4) :
    decodePrim o ⟨false, 4⟩ bs = (leNat (ordered o bs) : Int)
      ∧ 0 ≤ decodePrim o ⟨false, 4⟩ bs ∧ decodePrim o ⟨false, 4⟩ bs < 4294967296 := by
  have hlt := leNat_lt (ordered o bs)
  rw [ordered_length, hl] at hlt
  have h4 : (256 : Nat) ^ 4 = 4294967296 := by decide
  simp only [h4] at hlt
  simp [decodePrim, ofStored]
  omega

theorem readTv_eq (o : ByteOrder) (s : TvShape) (buf : Bytes) (hs : shapeOk s = true)
    (hlen : s.size ≤ buf.length) :
    readTv o s buf = some (decodePrim o s.sec (slice buf s.secOff s.sec.bytes),
      match s.usec with
      | none => 0
      | some (p, off) => decodePrim o p (slice buf off p.bytes)) := by
  obtain ⟨size, sec, secOff, usec⟩ := s
  simp only [shapeOk, Bool.and_eq_true, decide_eq_true_eq] at hs
  obtain ⟨⟨hsec, hso⟩, hu⟩ := hs
  have hl1 : (slice buf secOff sec.bytes).length = sec.bytes :=
    slice_length _ _ _ (by simp only at hlen; omega)
  have hf1 := fits_decode o sec _ hsec hl1
  have hts : tvSecType = ⟨true, 8⟩ := by decide
  have htu : tvUsecType = ⟨true, 8⟩ := by decide
  cases usec with
  | none => simp [readTv, readAt, hl1, hts, hf1]
  | some pu =>
    obtain ⟨p, off⟩ := pu
    simp only [Bool.and_eq_true, decide_eq_true_eq] at hu
    have hl2 : (slice buf off p.bytes).length = p.bytes :=
      slice_length _ _ _ (by simp only at hlen; omega)
    have hf2 := fits_decode o p _ hu.1 hl2
    simp [readTv, readAt, hl1, hl2, hts, htu, hf1, hf2]

/-- for every layout and every record of the layout's size, the time value used for ordering
and filtering exists and is: (seconds stored in the time field, read with the DECLARED type at the
DECLARED offset; microseconds likewise, 0 for a scalar time field) -/
theorem C08_tv_denotes (l : Layout) (hl : l ∈ layouts) (record : Bytes)
    (hsz : record.length = l.size) :
    tvPair l record = some (fieldSec l record, fieldUsec l record) := by
  obtain ⟨hrd, hoff, hsize, hord⟩ := C08_tv_types_agree l hl
  obtain ⟨hsr, _, hin, hrs, _⟩ := layouts_wellformed l hl
  have hlen : (slice record l.offsetTv l.sizeTv).length = l.sizeTv :=
    slice_length _ _ _ (by omega)
  have hbound : l.read.size ≤ (slice record l.offsetTv l.sizeTv).length := by omega
  have hb' : l.read.size ≤ l.sizeTv := by omega
  simp only [tvPair, hsz, tvPairFromBuffer, hlen, hb', and_self, if_true]
  rw [readTv_eq _ _ _ hsr hbound]
  have hso : l.read.secOff + l.read.sec.bytes ≤ l.sizeTv := by
    have := hsr
    simp only [shapeOk, Bool.and_eq_true, decide_eq_true_eq] at this
    omega
  rw [slice_slice _ _ _ _ _ hso]
  simp only [fieldSec, fieldUsec, ← hrd, ← hoff, ← hord]
  congr 2
  cases hu : l.read.usec with
  | none => rfl
  | some pu =>
    obtain ⟨p, off⟩ := pu
    have huo : off + p.bytes ≤ l.sizeTv := by
      have := hsr
      simp only [shapeOk, hu, Bool.and_eq_true, decide_eq_true_eq] at this
      omega
    simp only
    rw [slice_slice _ _ _ _ _ huo]

/-- the same against the model of the printing side: ordering value = what the struct field holds -/
theorem C08_tv_eq_fieldTv (l : Layout) (hl : l ∈ layouts) (record : Bytes)
    (hsz : record.length = l.size) : tvPair l record = fieldTv l record := by
  obtain ⟨hrd, hoff, hsize, hord⟩ := C08_tv_types_agree l hl
  obtain ⟨_, _, hin, hrs, _⟩ := layouts_wellformed l hl
  have hlen : (slice record l.offsetTv l.sizeTv).length = l.sizeTv :=
    slice_length _ _ _ (by omega)
  have hb' : l.read.size ≤ l.sizeTv := by omega
  simp only [tvPair, fieldTv, hsz, tvPairFromBuffer, hlen, hb', and_self, if_true]
  rw [← hrd, ← hoff, ← hord, hrs]

-- non-vacuity: a Linux acct_v3 record whose `ac_btime` (u32 at 24) is 2^31 + 5, post-2038
example :
    let l := (layoutNamed "Fs_Linux_x86_Acct_v3").getD default
    let r : Bytes := List.replicate 24 7 ++ [5, 0, 0, 128] ++ List.replicate 36 9
    (layoutNamed "Fs_Linux_x86_Acct_v3").isSome ∧ r.length = l.size ∧ tvPair l r = some (2147483653, 0)
      ∧ fieldSec l r = 2147483653 ∧ fieldUsec l r = 0 := by decide +kernel

-- a Linux utmpx record: `ut_tv` = {tv_sec: i32 @340, tv_usec: i32 @344}; seconds -2, microseconds 10^6
set_option maxRecDepth 8192 in
example :
    let l := (layoutNamed "Fs_Linux_x86_Utmpx").getD default
    let r : Bytes := List.replicate 340 1 ++ [254, 255, 255, 255, 64, 66, 15, 0] ++ List.replicate 36 0
    (layoutNamed "Fs_Linux_x86_Utmpx").isSome ∧ r.length = l.size ∧ tvPair l r = some (-2, 1000000) := by decide +kernel

/-- for a layout whose time field is declared unsigned 32-bit (`ac_btime` of Linux acct / acct_v3): the
ordering value is the stored number itself, lies in `[0, 2^32)`, microseconds are 0 -/
theorem C08_tv_unsigned_range (l : Layout) (hl : l ∈ layouts) (hu : l.decl.sec = ⟨false, 4⟩)
    (record : Bytes) (hsz : record.length = l.size) :
    ∃ v : Int, tvPair l record = some (v, fieldUsec l record) ∧ v = (storedSec l record : Int)
      ∧ 0 ≤ v ∧ v < 4294967296 := by
  refine ⟨fieldSec l record, C08_tv_denotes l hl record hsz, ?_⟩
  obtain ⟨_, hsd, _, _, hfin⟩ := layouts_wellformed l hl
  have hso : l.decl.secOff + l.decl.sec.bytes ≤ l.decl.size := by
    have := hsd
    simp only [shapeOk, Bool.and_eq_true, decide_eq_true_eq] at this
    omega
  have hlen : (slice record (l.fieldOffset + l.decl.secOff) l.decl.sec.bytes).length = 4 := by
    rw [slice_length _ _ _ (by omega), hu]
  have := decode_u32 structByteOrder _ hlen
  simp only [fieldSec, storedSec, hu] at this ⊢
  exact this

/-- monotone in the stored value: of two records of such a layout, the one storing the smaller
number has the smaller ordering value — also across 2^31 -/
theorem C08_tv_monotone_unsigned (l : Layout) (hl : l ∈ layouts) (hu : l.decl.sec = ⟨false, 4⟩)
    (r₁ r₂ : Bytes) (h₁ : r₁.length = l.size) (h₂ : r₂.length = l.size) :
    ∃ v₁ v₂ u₁ u₂ : Int, tvPair l r₁ = some (v₁, u₁) ∧ tvPair l r₂ = some (v₂, u₂)
      ∧ (storedSec l r₁ < storedSec l r₂ ↔ v₁ < v₂) ∧ (storedSec l r₁ = storedSec l r₂ ↔ v₁ = v₂) := by
  obtain ⟨v₁, e₁, s₁, _, _⟩ := C08_tv_unsigned_range l hl hu r₁ h₁
  obtain ⟨v₂, e₂, s₂, _, _⟩ := C08_tv_unsigned_range l hl hu r₂ h₂
  refine ⟨v₁, v₂, _, _, e₁, e₂, ?_, ?_⟩ <;> omega

-- the hypothesis is satisfiable: exactly the two Linux acct layouts declare an unsigned 32-bit time
example : (layouts.filter fun l => l.decl.sec == ⟨false, 4⟩).map (·.name)
    = ["Fs_Linux_x86_Acct", "Fs_Linux_x86_Acct_v3"] := by decide

def le32 (n : Nat) : Bytes :=
  [UInt8.ofNat n, UInt8.ofNat (n / 256), UInt8.ofNat (n / 65536), UInt8.ofNat (n / 16777216)]

/-- a 64-byte acct_v3 record with `ac_version` 3 and `ac_btime` = `n` -/
def acctV3Rec (n : Nat) : Bytes := [0, 3] ++ List.replicate 22 0 ++ le32 n ++ List.replicate 36 0

/-- the acct_v3 layout as generated, and as it would be generated if `tv_pair_from_buffer` read
`ac_btime` with the (equally wide) signed `ll_time_t` -/
def acctV3 : Layout := (layoutNamed "Fs_Linux_x86_Acct_v3").getD default
def acctV3SignedRead : Layout := { acctV3 with read := { acctV3.read with sec := ⟨true, 4⟩ } }

theorem layoutNamed_mem {n : String} {l : Layout} (h : layoutNamed n = some l) : l ∈ layouts :=
  List.mem_of_find?_eq_some h

theorem acctV3_mem : acctV3 ∈ layouts := by
  have hs : (layoutNamed "Fs_Linux_x86_Acct_v3").isSome = true := by decide
  unfold acctV3
  cases h : layoutNamed "Fs_Linux_x86_Acct_v3" with
  | none => simp [h] at hs
  | some l => exact layoutNamed_mem h

/-- counter-model. Record 0 stores 2^31 (19 Jan 2038 03:14:08), record 1 stores 2^31 − 1.
Declared type u32: record 1 is earlier, print order [1, 0], `-a 1` keeps both.
Read as i32: record 0 becomes −2^31, sorts FIRST, and any `-a` bound drops it — while the printing
side (declared type) still shows 2147483648. -/
theorem signed_read_of_unsigned_misorders :
    let file := [acctV3Rec (2 ^ 31), acctV3Rec (2 ^ 31 - 1)]
    acctV3.name = "Fs_Linux_x86_Acct_v3"
    ∧ decodePrim .native ⟨false, 4⟩ (le32 (2 ^ 31 - 1)) < decodePrim .native ⟨false, 4⟩ (le32 (2 ^ 31))
    ∧ decodePrim .native ⟨true, 4⟩ (le32 (2 ^ 31)) < decodePrim .native ⟨true, 4⟩ (le32 (2 ^ 31 - 1))
    ∧ tvPair acctV3 (acctV3Rec (2 ^ 31)) = some (2147483648, 0)
    ∧ tvPair acctV3SignedRead (acctV3Rec (2 ^ 31)) = some (-2147483648, 0)
    ∧ fieldTv acctV3SignedRead (acctV3Rec (2 ^ 31)) = some (2147483648, 0)
    ∧ fixedPrint (recsFrom (tvPair acctV3) 0 file) none none = [1, 0]
    ∧ fixedPrint (recsFrom (tvPair acctV3SignedRead) 0 file) none none = [0, 1]
    ∧ fixedPrint (recsFrom (tvPair acctV3) 0 file) (some (1, 0)) none = [1, 0]
    ∧ fixedPrint (recsFrom (tvPair acctV3SignedRead) 0 file) (some (1, 0)) none = [1]
    ∧ ¬ (acctV3SignedRead.read = acctV3SignedRead.decl) := by decide +kernel

theorem recsFrom_idx_ge (tv : Bytes → Option (Int × Int)) (file : List Bytes) (i : Nat) :
    ∀ r ∈ recsFrom tv i file, i ≤ r.idx := by
  induction file generalizing i with
  | nil => simp [recsFrom]
  | cons x xs ih =>
    intro r hr
    simp only [recsFrom] at hr
    split at hr
    · rcases List.mem_cons.1 hr with rfl | h
      · exact Nat.le_refl _
      · have := ih (i + 1) r h; omega
    · have := ih (i + 1) r hr; omega

theorem recsFrom_pairwise (tv : Bytes → Option (Int × Int)) (file : List Bytes) (i : Nat) :
    (recsFrom tv i file).Pairwise (fun r s => r.idx < s.idx) := by
  induction file generalizing i with
  | nil => simp [recsFrom]
  | cons x xs ih =>
    simp only [recsFrom]
    split
    · refine List.pairwise_cons.2 ⟨?_, ih (i + 1)⟩
      intro s hs
      have := recsFrom_idx_ge tv xs (i + 1) s hs
      simp only
      omega
    · exact ih (i + 1)

theorem recsFrom_tvPair (l : Layout) (hl : l ∈ layouts) (file : List Bytes)
    (hsz : ∀ r ∈ file, r.length = l.size) (i : Nat) :
    recsFrom (tvPair l) i file
      = recsFrom (fun r => some (fieldSec l r, fieldUsec l r)) i file := by
  induction file generalizing i with
  | nil => rfl
  | cons x xs ih =>
    have hx := C08_tv_denotes l hl x (hsz x List.mem_cons_self)
    simp only [recsFrom, hx]
    rw [ih (fun r hr => hsz r (List.mem_cons_of_mem _ hr))]

/-- C08 over the record BYTES: for every layout, a file of records of the layout's size is
printed as: the records whose DECLARED time field is not (0, 0) and lies within the window, stably
sorted by that field's value -/
theorem C08_file_order (l : Layout) (hl : l ∈ layouts) (file : List Bytes)
    (hsz : ∀ r ∈ file, r.length = l.size) (a b : Option (Int × Int)) :
    filePrint l file a b =
      (stableSort (fun r => (r.tv.1, r.tv.2, 0))
        ((recsFrom (fun r => some (fieldSec l r, fieldUsec l r)) 0 file).filter (fixedKeep a b))).map (·.idx) := by
  unfold filePrint
  rw [recsFrom_tvPair l hl file hsz]
  exact C08_order (recsFrom_pairwise _ _ _) a b

theorem key_is_tvPair_of_record_slice : keyIsTvPairOfRecordSlice = true := by decide

-- three acct_v3 records: 2^31 + 1, 2^31 − 1, and a null time; window from 2^31 − 1
example :
    let file := [acctV3Rec (2 ^ 31 + 1), acctV3Rec (2 ^ 31 - 1), acctV3Rec 0, acctV3Rec (2 ^ 31 - 2)]
    (∀ r ∈ file, r.length = acctV3.size)
    ∧ filePrint acctV3 file none none = [3, 1, 0]
    ∧ filePrint acctV3 file (some (2147483647, 0)) none = [1, 0]
    ∧ filePrint acctV3 file none (some (2147483647, 0)) = [3, 1] := by decide +kernel

end S4V.Props.FixedSpec
