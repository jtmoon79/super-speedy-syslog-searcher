/-
C06, the coordinator loop as REGENERATED from `processing_loop` (`S4V.Gen.Coord.SKEL`, interpreter `S4V.Model.CoordSkel`): one step
of the interpreted skeleton is one step of the hand model on every state with `Alive` (`C06_coord_skeleton_is_model`), so the
results of `S4V.Props.CoordSpec` hold of the source's loop (`C06_skeleton_progress`, …).
-/
import S4V.Model.CoordSkel
import S4V.Gen.Coord
import S4V.Props.C06

namespace S4V.Props.CoordSkelSpec
open S4V.Model.Coord S4V.Model.CoordSkel S4V.Gen.Coord
open S4V.Lemmas.Coord (clearFiIfAll_eq Step run_induction countTrue_map_true)

theorem wait_is_waitCond (s : St) : evalW s SKEL.wait = waitCond s := by
  simp [SKEL, evalW, evalCmp, lenOf, nonEmptyOf, waitCond]

theorem polled_is_eligible (s : St) (i : Nat) : polled SKEL s i = eligible s i := by
  simp [SKEL, polled, eligible]

theorem anyPolled_is_anyEligible (s : St) : anyPolled SKEL s = anyEligible s := by
  have : polled SKEL s = eligible s := funext (polled_is_eligible s)
  unfold anyPolled anyEligible
  rw [this]

theorem closeIfEmpty_alive {s : St} (h : Alive s) (hf : s.fin = false) : closeIfEmpty s = s := by
  unfold closeIfEmpty
  split
  · rename_i h0; have := h h0; simp_all
  · rfl

theorem clearFi_live (t : St) (l : List Bool) :
    { clearFiIfAll t with live := l } = clearFiIfAll { t with live := l } := by
  simp only [clearFiIfAll_eq]

theorem clearFi_live_eq (t : St) : (clearFiIfAll t).live = t.live := by
  rw [clearFiIfAll_eq]

theorem C06_coord_skeleton_is_model (s : St) (e : Ev) (h : Alive s) :
    skelStep SKEL s e = step s e := by
  cases e with
  | recv i =>
    simp only [skelStep, step, wait_is_waitCond, polled_is_eligible]
    generalize s.streams.getD i [] = st
    split
    · rfl
    · rcases st with _ | ⟨d, r⟩
      · simp [recvArm, endIter, applyEff, SKEL, List.foldl, clearFi_live, clearFi_live_eq]
      · cases d <;> simp [recvArm, endIter, applyEff, SKEL, List.foldl, clearFi_live, clearFi_live_eq]
  | print =>
    simp only [skelStep, step, wait_is_waitCond]
    generalize minPending s.pending = mp
    split
    · rfl
    · rename_i hc
      rcases mp with _ | ⟨i, m⟩
      · -- `None => continue` skips the end of the iteration, where the hand model runs `closeIfEmpty`: no difference
        -- while a channel is left, which is what `Alive` is for
        have : s.fin = false := by simp_all
        simp [SKEL, closeIfEmpty_alive h this]
      · simp [endIter, SKEL]
  | brk =>
    simp only [skelStep, step, wait_is_waitCond, anyPolled_is_anyEligible]
    simp [SKEL]
  | fin => rfl

/-! ## transfer: runs of the regenerated loop are runs of the hand model -/

theorem alive_close (x : St) : Alive (closeIfEmpty x) := by
  unfold closeIfEmpty Alive
  split <;> simp_all

theorem alive_step {s s' : St} {e : Ev} (h : Alive s) (hs : step s e = some s') : Alive s' := by
  cases Step.of_step hs with
  | iter => exact alive_close _
  | brk => exact h
  | fin => exact h

theorem alive_init {scripts : List (List Datum)} (hne : scripts ≠ []) : Alive (init scripts) := by
  intro h0
  simp only [init, countTrue_map_true] at h0
  exact absurd (List.eq_nil_of_length_eq_zero h0) hne

theorem skelRun_eq_run {s : St} (h : Alive s) (evs : List Ev) : skelRun SKEL s evs = run s evs := by
  induction evs generalizing s with
  | nil => rfl
  | cons e es ih =>
    simp only [skelRun, run, C06_coord_skeleton_is_model s e h]
    cases hs : step s e with
    | none => rfl
    | some s' => exact ih (alive_step h hs)

def SkelReachable (scripts : List (List Datum)) (s : St) : Prop :=
  ∃ evs, skelRun SKEL (init scripts) evs = some s

theorem skelReachable_iff {scripts : List (List Datum)} (hne : scripts ≠ []) (s : St) :
    SkelReachable scripts s ↔ CoordSpec.Reachable scripts s := by
  unfold SkelReachable CoordSpec.Reachable
  constructor <;> (rintro ⟨evs, h⟩; refine ⟨evs, ?_⟩) <;> simpa [skelRun_eq_run (alive_init hne)] using h

theorem skelReachable_alive {scripts : List (List Datum)} (hne : scripts ≠ []) {s : St}
    (hr : SkelReachable scripts s) : Alive s := by
  obtain ⟨evs, h⟩ := hr
  rw [skelRun_eq_run (alive_init hne)] at h
  exact run_induction alive_step (alive_init hne) h

/-- C06/C01 for the regenerated loop: whatever the schedule, a finished run has printed the merge -/
theorem C06_skeleton_output_is_merge {scripts : List (List Datum)} (hne : scripts ≠ []) (evs : List Ev) (s : St)
    (hr : skelRun SKEL (init scripts) evs = some s) (hf : s.fin = true) :
    s.printed = merge (scripts.map (fun sc => msgsOf (S4V.Lemmas.Coord.deliverable sc))) := by
  rw [skelRun_eq_run (alive_init hne)] at hr
  exact CoordSpec.confluence scripts evs s hr hf

/-- C06 for the regenerated loop: bound on the number of iterations of any run -/
theorem C06_skeleton_terminates {scripts : List (List Datum)} (hne : scripts ≠ []) (evs : List Ev) (s : St)
    (hr : skelRun SKEL (init scripts) evs = some s) :
    S4V.Lemmas.Coord.iterations evs ≤ 2 * (scripts.map List.length).sum + scripts.length + 2 := by
  rw [skelRun_eq_run (alive_init hne)] at hr
  exact CoordSpec.terminates scripts evs s hr

/-- C06 for the regenerated loop: `recv_many_chan → None → break` is never taken -/
theorem C06_skeleton_never_stops_early {scripts : List (List Datum)} (hwf : S4V.Lemmas.Coord.WF scripts)
    (hne : scripts ≠ []) {s : St} (hr : SkelReachable scripts s) : skelStep SKEL s .brk = none := by
  rw [C06_coord_skeleton_is_model s .brk (skelReachable_alive hne hr)]
  exact CoordSpec.no_break hwf hne ((skelReachable_iff hne s).1 hr)

/-- C06 for the regenerated loop: an unfinished reachable state can receive or print -/
theorem C06_skeleton_progress {scripts : List (List Datum)} (hwf : S4V.Lemmas.Coord.WF scripts)
    (hne : scripts ≠ []) {s : St} (hr : SkelReachable scripts s) (hf : s.fin = false) :
    (skelStep SKEL s .print).isSome = true ∨ ∃ i, (skelStep SKEL s (.recv i)).isSome = true := by
  have ha := skelReachable_alive hne hr
  simp only [C06_coord_skeleton_is_model _ _ ha]
  exact CoordSpec.progress hwf hne ((skelReachable_iff hne s).1 hr) hf

/-- non-vacuity: the running example of `CoordSpec` runs to the end through the interpreter -/
example : (skelRun SKEL (init CoordSpec.ex2) CoordSpec.ex2run).map (fun s => (s.fin, s.broke, s.printed.length)) =
    some (true, false, 4) := by decide

end S4V.Props.CoordSkelSpec
