/-
Property theorems for the cached `LineReader::find_line` model
(`S4V.Model.LinesCached`): the caches (LRU, `lines`, `foend_to_fobeg`, shortcuts
A1a / A1b) are TRANSPARENT. For every byte string, every history of `find` /
`drop` operations and every block size, every `find` answers exactly what a
fresh cache-free lookup answers, i.e. the true line containing the offset.

All proofs appeal to `S4V.Lemmas.LinesCached`; this file holds the readable
statements.
-/
import S4V.Lemmas.LinesCached
import S4V.Props.LinesSpec

namespace S4V.Props.CacheSpec
open S4V.Model.Lines S4V.Model.LinesCached
open S4V.Props.LinesSpec (findLine_spec findLine_done contiguous_of_chain Contiguous)

private abbrev L.Inv := @S4V.Lemmas.LinesCached.Inv

/-- running examples: `"ab\ncd\n"` and `"ab\n\ncd\n"` (has a one-byte line at 3) -/
def ex1 : Bytes := [97, 98, 10, 99, 100, 10]
def ex2 : Bytes := [97, 98, 10, 10, 99, 100, 10]

/-! `TrueLine` and `Inv` below say what `IsLine` and `Inv` of `S4V.Lemmas.LinesCached` say, with the pairs taken apart
(`inv_iff`); the proofs go through the latter. -/

/-- `(b, e)` are the bounds (first byte, last byte) of a line of `d` -/
def TrueLine (d : Bytes) (b e : Nat) : Prop :=
  e < d.length ∧ lineStart d e = b ∧ lineEnd d b = e

instance (d : Bytes) (b e : Nat) : Decidable (TrueLine d b e) := by
  unfold TrueLine; exact inferInstance

theorem trueLine_iff (d : Bytes) (b e : Nat) :
    TrueLine d b e ↔
      b ≤ e ∧ e < d.length ∧ (b = 0 ∨ d[b - 1]? = some NL) ∧
        (d[e]? = some NL ∨ e = d.length - 1) ∧ ∀ k, b ≤ k → k < e → d[k]? ≠ some NL := by
  constructor
  · intro h
    have hle : b ≤ e := S4V.Lemmas.LinesCached.IsLine.le h
    obtain ⟨h1, h2, h3⟩ := h
    have hb : b < d.length := by omega
    have hs := LinesSpec.lineStart_zero_or_nl d e
    have he := LinesSpec.lineEnd_nl_or_last d b hb
    rw [h2] at hs; rw [h3] at he
    refine ⟨hle, h1, hs, he, ?_⟩
    intro k hk1 hk2
    have := LinesSpec.no_nl_in_line d e h1 k (by omega)
      (by have := LinesSpec.le_lineEnd d e h1; omega)
    exact this
  · rintro ⟨h1, h2, h3, h4, h5⟩
    refine ⟨h2, ?_, ?_⟩
    · exact LinesSpec.lineStart_unique d e b h1 h3 h5
    · exact LinesSpec.lineEnd_unique d b e h1 h2 h4 h5

theorem TrueLine.of_mem {d : Bytes} {b e fo : Nat} (h : TrueLine d b e) (h1 : b ≤ fo)
    (h2 : fo ≤ e) : lineStart d fo = b ∧ lineEnd d fo = e :=
  S4V.Lemmas.LinesCached.IsLine.of_mem h h1 h2

/-- the invariant of the caches of a reader of file `d` -/
structure Inv (d : Bytes) (s : Store) : Prop where
  /-- every stored line is a true line of the file -/
  lines_true : ∀ b e, (b, e) ∈ s.lines → TrueLine d b e
  /-- the keys (begin offsets) of `lines` are distinct -/
  lines_keys : s.lines.Pairwise (fun p q => p.1 ≠ q.1)
  /-- every (end, begin) ever recorded is a true line (never pruned, so dropped
  lines may still be mentioned) -/
  ends_true : ∀ e b, (e, b) ∈ s.endToBeg → TrueLine d b e
  /-- a stored line has its end recorded -/
  lines_ends : ∀ b e, (b, e) ∈ s.lines → (e, b) ∈ s.endToBeg
  /-- every LRU entry is the cache-free answer -/
  lru_true : ∀ fo r, (fo, r) ∈ s.lru → r = findLinePlain d fo
  lru_len : s.lru.length ≤ lruCap
  /-- LRU keys (requested offsets) are distinct -/
  lru_keys : s.lru.Pairwise (fun p q => p.1 ≠ q.1)

theorem inv_iff (d : Bytes) (s : Store) : Inv d s ↔ L.Inv d s := by
  constructor
  · intro h
    exact {
      lines_true := fun p hp => h.lines_true p.1 p.2 hp
      lines_keys := h.lines_keys
      ends_true := fun p hp => h.ends_true p.1 p.2 hp
      lines_ends := fun p hp => h.lines_ends p.1 p.2 hp
      lru_true := fun p hp => h.lru_true p.1 p.2 hp
      lru_len := h.lru_len
      lru_keys := h.lru_keys }
  · intro h
    exact {
      lines_true := fun b e hp => h.lines_true (b, e) hp
      lines_keys := h.lines_keys
      ends_true := fun e b hp => h.ends_true (e, b) hp
      lines_ends := fun b e hp => h.lines_ends (b, e) hp
      lru_true := fun fo r hp => h.lru_true (fo, r) hp
      lru_len := h.lru_len
      lru_keys := h.lru_keys }

theorem inv_empty (d : Bytes) : Inv d empty :=
  (inv_iff d empty).mpr (S4V.Lemmas.LinesCached.inv_empty d)

example : Inv ex1 empty := inv_empty ex1
example : TrueLine ex1 3 5 := by decide
example : ¬ TrueLine ex1 0 3 := by decide

theorem leastEndGE_some {m : List (Nat × Nat)} {fo : Nat} {x : Nat × Nat}
    (h : leastEndGE m fo = some x) : x ∈ m ∧ fo ≤ x.1 ∧ ∀ y ∈ m, fo ≤ y.1 → x.1 ≤ y.1 :=
  S4V.Lemmas.LinesCached.leastEndGE_some h

theorem leastEndGE_none {m : List (Nat × Nat)} {fo : Nat} (h : leastEndGE m fo = none) :
    ∀ y ∈ m, y.1 < fo :=
  S4V.Lemmas.LinesCached.leastEndGE_none h

theorem leastEndGE_true_line {d : Bytes} {m : List (Nat × Nat)} {fo e b : Nat}
    (hm : ∀ p ∈ m, TrueLine d p.2 p.1) (h : leastEndGE m fo = some (e, b)) :
    (b ≤ fo ∧ fo ≤ e ∧ lineStart d fo = b ∧ lineEnd d fo = e) ∨ fo < b :=
  S4V.Lemmas.LinesCached.leastEndGE_true_line hm h

theorem leastEndGE_finds {d : Bytes} {m : List (Nat × Nat)} {fo b e : Nat}
    (hm : ∀ p ∈ m, TrueLine d p.2 p.1) (hmem : (e, b) ∈ m) (h1 : b ≤ fo) (h2 : fo ≤ e) :
    leastEndGE m fo = some (e, b) :=
  S4V.Lemmas.LinesCached.leastEndGE_finds hm hmem h1 h2

example : leastEndGE [(5, 3), (2, 0)] 1 = some (2, 0) := by decide
example : (0 ≤ 1 ∧ 1 ≤ 2 ∧ lineStart ex1 1 = 0 ∧ lineEnd ex1 1 = 2) ∨ 1 < 0 :=
  leastEndGE_true_line (d := ex1) (m := [(5, 3), (2, 0)]) (by decide) (by decide)
example : leastEndGE [(5, 3), (2, 0)] 4 = some (5, 3) :=
  leastEndGE_finds (d := ex1) (by decide) (by decide) (by decide) (by decide)
/-- only the later line was stored: the entry found lies after `fo` -/
example : (3 ≤ 1 ∧ 1 ≤ 5 ∧ lineStart ex1 1 = 3 ∧ lineEnd ex1 1 = 5) ∨ 1 < 3 :=
  leastEndGE_true_line (d := ex1) (m := [(5, 3)]) (by decide) (by decide)

theorem findLineCached_spec {d : Bytes} {s : Store} (h : Inv d s) (fo : Nat) :
    (findLineCached d s fo).1 = findLinePlain d fo ∧ Inv d (findLineCached d s fo).2 := by
  have := S4V.Lemmas.LinesCached.findLineCached_spec ((inv_iff d s).mp h) fo
  exact ⟨this.1, (inv_iff _ _).mpr this.2⟩

/-- main theorem: whatever the (invariant-satisfying) caches hold, a lookup
answers what a fresh cache-free lookup answers, and the invariant is kept.
Holds for every `fo`, also `fo ≥ d.length`, and for `d = []`. -/
theorem findLineCached_transparent {d : Bytes} {s : Store} (fo : Nat) (h : Inv d s) :
    let (r, s') := findLineCached d s fo
    r = findLinePlain d fo ∧ Inv d s' :=
  findLineCached_spec h fo

/-- shortcuts A1a / A1b: after a `check_store` miss for `fo`, a stored line
containing `fo - 1` must end at `fo - 1`, hence with a newline: `fo` begins a line -/
theorem shortcut_sound {d : Bytes} {s : Store} (hs : Inv d s) {fo b e : Nat} (h0 : fo ≠ 0)
    (hfo : fo < d.length) (hmiss : getLinep s fo = none) (hmem : (b, e) ∈ s.lines)
    (h1 : b ≤ fo - 1) (h2 : fo - 1 ≤ e) : lineStart d fo = fo :=
  S4V.Lemmas.LinesCached.prev_line_ends ((inv_iff d s).mp hs) h0 hfo hmiss hmem h1 h2

theorem findLineCached_answer {d : Bytes} {s : Store} (h : Inv d s) (fo : Nat) :
    (findLineCached d s fo).1 =
      if fo < d.length then .found (lineEnd d fo + 1) (lineStart d fo) (lineEnd d fo)
      else .done := by
  rw [(findLineCached_spec h fo).1, S4V.Lemmas.LinesCached.findLinePlain_eq]

/-- the store after `find 0` on `ex1`: line `(0, 2)` stored -/
def st1 : Store := (findLineCached ex1 empty 0).2
/-- the store after `find 3` on `ex2`: the one-byte line `(3, 3)` stored -/
def st2 : Store := (findLineCached ex2 empty 3).2

example : st1 = ⟨[(0, 2)], [(2, 0)], [(0, .found 3 0 2)]⟩ := by decide
example : Inv ex1 st1 := (findLineCached_spec (inv_empty ex1) 0).2
/-- `find 3` after `find 0` on `"ab\ncd\n"`: `check_store` misses, no stored line
begins at 2, `get_linep(2)` hits: shortcut A1b -/
example : lruGet st1.lru 3 = none ∧ linesGet st1.lines 3 = none ∧ getLinep st1 3 = none ∧
    (linesGet st1.lines 2).isSome = false ∧ (getLinep st1 2).isSome = true := by decide
example : (findLineCached ex1 st1 3).1 = .found 6 3 5 := by decide
example : (findLineCached ex1 st1 3).1 = findLinePlain ex1 3 :=
  (findLineCached_spec (findLineCached_spec (inv_empty ex1) 0).2 3).1
example : lineStart ex1 3 = 3 :=
  shortcut_sound (s := st1) (b := 0) (e := 2) (findLineCached_spec (inv_empty ex1) 0).2
    (by decide) (by decide) (by decide) (by decide) (by decide) (by decide)
/-- `find 4` after `find 3` on `"ab\n\ncd\n"`: a stored line begins at 3: shortcut A1a -/
example : lruGet st2.lru 4 = none ∧ linesGet st2.lines 4 = none ∧ getLinep st2 4 = none ∧
    (linesGet st2.lines 3).isSome = true := by decide
example : (findLineCached ex2 st2 4).1 = .found 7 4 6 := by decide
/-- `check_store` hit through `get_linep` (offset 1 of the stored line `(0, 2)`), then LRU hit -/
example : lruGet st1.lru 1 = none ∧ linesGet st1.lines 1 = none ∧ getLinep st1 1 = some (0, 2) ∧
    (findLineCached ex1 st1 1).1 = .found 3 0 2 ∧
    lruGet (findLineCached ex1 st1 1).2.lru 1 = some (.found 3 0 2) := by decide
/-- past the end and the empty file -/
example : (findLineCached ex1 st1 6).1 = .done ∧ (findLineCached [] empty 0).1 = .done := by decide
example : (let (r, s') := findLineCached ex1 st1 4; r = findLinePlain ex1 4 ∧ Inv ex1 s') :=
  findLineCached_transparent 4 (findLineCached_spec (inv_empty ex1) 0).2

theorem dropLine_inv {d : Bytes} {s : Store} (b : Nat) (h : Inv d s) : Inv d (dropLine s b) :=
  (inv_iff _ _).mpr (S4V.Lemmas.LinesCached.Inv.dropLine ((inv_iff d s).mp h) b)

theorem applyOp_transparent {d : Bytes} {s : Store} (op : Op) (h : Inv d s) :
    (applyOp d s op).1 = (match op with
      | .find fo => some (findLinePlain d fo)
      | .drop _ => none) ∧ Inv d (applyOp d s op).2 := by
  have := S4V.Lemmas.LinesCached.applyOp_spec ((inv_iff d s).mp h) op
  exact ⟨this.1, (inv_iff _ _).mpr this.2⟩

theorem runOps_transparent_from {d : Bytes} {s : Store} (ops : List Op) (h : Inv d s) :
    (runOps d s ops).1 = ops.map (fun op => match op with
      | .find fo => some (findLinePlain d fo)
      | .drop _ => none) ∧ Inv d (runOps d s ops).2 := by
  have := S4V.Lemmas.LinesCached.runOps_spec ops ((inv_iff d s).mp h)
  exact ⟨this.1, (inv_iff _ _).mpr this.2⟩

/-- every history from a fresh reader: every `find` answers the cache-free answer -/
theorem runOps_transparent (d : Bytes) (ops : List Op) :
    (runOps d empty ops).1 = ops.map (fun op => match op with
      | .find fo => some (findLinePlain d fo)
      | .drop _ => none) :=
  (runOps_transparent_from ops (inv_empty d)).1

/-- every reachable store satisfies the invariant -/
theorem runOps_inv (d : Bytes) (ops : List Op) : Inv d (runOps d empty ops).2 :=
  (runOps_transparent_from ops (inv_empty d)).2

example : Inv ex1 (dropLine st1 0) := dropLine_inv 0 (findLineCached_spec (inv_empty ex1) 0).2
example : dropLine st1 0 = ⟨[], [(2, 0)], []⟩ := by decide
/-- find, A1b, LRU hit, drop, find again (now through the walk, A2) -/
example : (runOps ex1 empty [.find 0, .find 3, .find 3, .drop 1, .find 1]).1 =
    [some (.found 3 0 2), some (.found 6 3 5), some (.found 6 3 5), none, some (.found 3 0 2)] := by
  decide
example : (runOps ex1 empty [.find 0, .find 3, .find 3, .drop 1, .find 1]).1 =
    [some (findLinePlain ex1 0), some (findLinePlain ex1 3), some (findLinePlain ex1 3), none,
      some (findLinePlain ex1 1)] :=
  runOps_transparent ex1 _
/-- A1a history -/
example : (runOps ex2 empty [.find 3, .find 4, .find 4]).1 =
    [some (.found 4 3 3), some (.found 7 4 6), some (.found 7 4 6)] := by decide
example : Inv ex2 (runOps ex2 empty [.find 3, .find 4, .find 4]).2 := runOps_inv ex2 _

/-- what the caller of the block walk sees: next offset and the bounds of the
line, computed from the returned parts -/
def ofRes (bs : Nat) : Res → R
  | .done => .done
  | .found n ps =>
    .found n (match ps.head? with | some p => p.foBeg bs | none => 0) (lineFoEnd bs ps)

theorem findLinePlain_eq_ofRes (bs : Nat) (d : Bytes) (fo : Nat) (hbs : 1 ≤ bs) :
    ofRes bs (findLine bs d fo) = findLinePlain d fo := by
  rcases Nat.lt_or_ge fo d.length with hfo | hfo
  · obtain ⟨parts, h1, h2⟩ := S4V.Lemmas.Lines.findLine_chain bs d fo hbs hfo
    -- the chain of parts covers `[lineStart, lineEnd + 1)`, so there is a first part
    have hne := h2.ne_nil_of_line (LinesSpec.lineStart_le d fo) hfo
    rw [h1, S4V.Lemmas.LinesCached.findLinePlain_found (by omega)]
    cases parts with
    | nil => exact absurd rfl hne
    | cons p ps =>
      simp only [ofRes, List.head?_cons]
      rw [show p.foBeg bs = lineStart d fo from h2.1, Nat.succ.inj (h2.lineFoEnd hne)]
  · rw [findLine_done bs d fo hfo, S4V.Lemmas.LinesCached.findLinePlain_done (Or.inr hfo)]
    rfl

theorem findLinePlain_eq_findLine (bs : Nat) (d : Bytes) (fo : Nat) (hbs : 1 ≤ bs) :
    (match findLine bs d fo with
      | .done => R.done
      | .found n _ => R.found n (lineStart d fo) (lineEnd d fo)) = findLinePlain d fo := by
  rcases Nat.lt_or_ge fo d.length with hfo | hfo
  · obtain ⟨parts, h1, _⟩ := findLine_spec bs d fo hbs hfo
    rw [h1, S4V.Lemmas.LinesCached.findLinePlain_found (by omega)]
  · rw [findLine_done bs d fo hfo, S4V.Lemmas.LinesCached.findLinePlain_done (Or.inr hfo)]

/-- for every block size, every byte string, every history of finds
and drops, the cached reader returns what the block walk on a fresh reader
returns, which is the true line (`LinesSpec.findLine_spec`) -/
theorem cached_eq_block_walk (bs : Nat) (d : Bytes) (ops : List Op) (hbs : 1 ≤ bs) :
    (runOps d empty ops).1 = ops.map (fun op => match op with
      | .find fo => some (ofRes bs (findLine bs d fo))
      | .drop _ => none) := by
  rw [runOps_transparent]
  apply List.map_congr_left
  intro op _
  cases op with
  | find fo => simp only [findLinePlain_eq_ofRes bs d fo hbs]
  | drop _ => rfl

/-- every `find fo` of every history answers the true line -/
theorem cached_true_line (d : Bytes) (ops : List Op) :
    (runOps d empty ops).1 = ops.map (fun op => match op with
      | .find fo =>
        some (if fo < d.length then R.found (lineEnd d fo + 1) (lineStart d fo) (lineEnd d fo)
          else R.done)
      | .drop _ => none) := by
  rw [runOps_transparent]
  apply List.map_congr_left
  intro op _
  cases op with
  | find fo => exact congrArg some (S4V.Lemmas.LinesCached.findLinePlain_eq d fo)
  | drop _ => rfl

example : ofRes 2 (findLine 2 ex1 4) = .found 6 3 5 := by decide
example : ofRes 2 (findLine 2 ex1 4) = findLinePlain ex1 4 :=
  findLinePlain_eq_ofRes 2 ex1 4 (by decide)
example : (match findLine 4 ex1 1 with
    | .done => R.done
    | .found n _ => R.found n (lineStart ex1 1) (lineEnd ex1 1)) = findLinePlain ex1 1 :=
  findLinePlain_eq_findLine 4 ex1 1 (by decide)
example : (runOps ex1 empty [.find 0, .find 3, .drop 1]).1 =
    [some (ofRes 2 (findLine 2 ex1 0)), some (ofRes 2 (findLine 2 ex1 3)), none] :=
  cached_eq_block_walk 2 ex1 _ (by decide)

/-! The invariant matters: a false line in the store poisons later lookups. -/

/-- `"ab\ncd"` -/
def ex5 : Bytes := [97, 98, 10, 99, 100]

/-- a store holding the FALSE line `(0, 3)` (wrong end; the true line is `(0, 2)`) -/
def poisoned : Store := ⟨[(0, 3)], [(3, 0)], []⟩

/-- a later `find 1` returns the false line instead of the true one -/
theorem false_line_poisons :
    (findLineCached ex5 poisoned 1).1 = .found 4 0 3 ∧ findLinePlain ex5 1 = .found 3 0 2 ∧
      (findLineCached ex5 poisoned 1).1 ≠ findLinePlain ex5 1 ∧ ¬ Inv ex5 poisoned := by
  refine ⟨by decide, by decide, by decide, ?_⟩
  intro h
  exact absurd (h.lines_true 0 3 (by decide)) (by decide)

/-- a false line that ends too early `(0, 1)` poisons the NEXT line through
shortcut A1b: `find 2` answers a "line" beginning at 2 instead of `(0, 2)` -/
theorem false_line_poisons_shortcut :
    (findLineCached ex5 ⟨[(0, 1)], [(1, 0)], []⟩ 2).1 = .found 3 2 2 ∧
      findLinePlain ex5 2 = .found 3 0 2 := by decide

end S4V.Props.CacheSpec
