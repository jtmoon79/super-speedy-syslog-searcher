/-
GENERATED by tools/mk_regexrows.py — regenerate, do not edit.

C04, regex slice: rows 77–105 of `DATETIME_PARSE_DATAS` END TO END, from the text of a line to the instant.
`C04_rowN_end_to_end_shaped`: for every valid selection of the row's catalogue, admissible tail, fallback zone and fill year, if the
words spell a calendar date-time (`calendarOK`), the iteration of `find_datetime_in_line` for the row (`rowPipeline`) yields the
instant the captured words spell: `RowFacts.Cert.e2e` / `.e2e_end` of `certN` applied to `C04_rowN_search`. Year-less rows keep a
four-digit fill year as hypothesis, rows with renderings longer than `range_regex.end` keep `hlen`. How to read the statement,
non-vacuity and the FALSE statements: `S4V.Props.RegexE2ESpec`, `S4V.Props.RegexE2EShapeSpec`.
-/
import S4V.Props.RegexCapture3h
import S4V.Props.RegexCapture3i
import S4V.Props.RegexCapture3j
import S4V.Props.RegexCapture3k

namespace S4V.Props.RegexE2E
open S4V.Model.Regex S4V.Gen.Regex S4V.Lemmas.RegexStep S4V.Lemmas.RegexSym S4V.Lemmas.RegexRows S4V.Lemmas.RegexAuto
open S4V.Lemmas.RegexE2E S4V.Props.RegexCapture3 S4V.Gen.TimeTables

theorem C04_row77_end_to_end_shaped (sel : Sel) (hv : Valid (rowBodyE re77 1) sel) (tail : List UInt8) (ht : TailIn (rowEndSym re77) tail)
    (fbOff : Int) (hfb : FbOK' fbOff) (fill : Option Int)
    (hc : calendarOK row77.dtfs (selFields row77 sel) fill = true) :
    rowPipeline row77 (flat sel ++ tail) fbOff fill = some (fieldsOf row77.dtfs (selFields row77 sel) fbOff fill).instant :=
  cert77.e2e_end hv (cert77.flat_le rfl hv) (C04_row77_search sel hv _ (tailIn_take ht _)) fbOff hfb fill rfl hc

theorem C04_row78_end_to_end_shaped (sel : Sel) (hv : Valid (rowBodyE re78 1) sel) (tail : List UInt8) (ht : TailIn (rowEndSym re78) tail)
    (fbOff : Int) (hfb : FbOK' fbOff) (fill : Option Int)
    (hc : calendarOK row78.dtfs (selFields row78 sel) fill = true) :
    rowPipeline row78 (flat sel ++ tail) fbOff fill = some (fieldsOf row78.dtfs (selFields row78 sel) fbOff fill).instant :=
  cert78.e2e_end hv (cert78.flat_le rfl hv) (C04_row78_search sel hv _ (tailIn_take ht _)) fbOff hfb fill rfl hc

theorem C04_row79_end_to_end_shaped (sel : Sel) (hv : Valid (rowBodyE re79 1) sel) (tail : List UInt8) (ht : TailIn (rowEndSym re79) tail)
    (fbOff : Int) (hfb : FbOK' fbOff) (fill : Option Int)
    (hc : calendarOK row79.dtfs (selFields row79 sel) fill = true) :
    rowPipeline row79 (flat sel ++ tail) fbOff fill = some (fieldsOf row79.dtfs (selFields row79 sel) fbOff fill).instant :=
  cert79.e2e_end hv (cert79.flat_le rfl hv) (C04_row79_search sel hv _ (tailIn_take ht _)) fbOff hfb fill rfl hc

theorem C04_row80_end_to_end_shaped (sel : Sel) (hv : Valid (rowBodyE re80 1) sel) (tail : List UInt8) (ht : TailIn (rowEndSym re80) tail)
    (fbOff : Int) (hfb : FbOK' fbOff) (fill : Option Int)
    (hc : calendarOK row80.dtfs (selFields row80 sel) fill = true) :
    rowPipeline row80 (flat sel ++ tail) fbOff fill = some (fieldsOf row80.dtfs (selFields row80 sel) fbOff fill).instant :=
  cert80.e2e_end hv (cert80.flat_le rfl hv) (C04_row80_search sel hv _ (tailIn_take ht _)) fbOff hfb fill rfl hc

theorem C04_row81_end_to_end_shaped (sel : Sel) (hv : Valid (rowBodyE re81 1) sel) (tail : List UInt8) (ht : TailIn (rowEndSym re81) tail)
    (fbOff : Int) (hfb : FbOK' fbOff) (fill : Option Int)
    (hc : calendarOK row81.dtfs (selFields row81 sel) fill = true) :
    rowPipeline row81 (flat sel ++ tail) fbOff fill = some (fieldsOf row81.dtfs (selFields row81 sel) fbOff fill).instant :=
  cert81.e2e_end hv (cert81.flat_le rfl hv) (C04_row81_search sel hv _ (tailIn_take ht _)) fbOff hfb fill rfl hc

theorem C04_row82_end_to_end_shaped (sel : Sel) (hv : Valid (rowBodyE re82 1) sel) (tail : List UInt8) (ht : TailIn (rowEndSym re82) tail)
    (fbOff : Int) (hfb : FbOK' fbOff) (fill : Option Int)
    (hc : calendarOK row82.dtfs (selFields row82 sel) fill = true) :
    rowPipeline row82 (flat sel ++ tail) fbOff fill = some (fieldsOf row82.dtfs (selFields row82 sel) fbOff fill).instant :=
  cert82.e2e_end hv (cert82.flat_le rfl hv) (C04_row82_search sel hv _ (tailIn_take ht _)) fbOff hfb fill rfl hc

theorem C04_row83_end_to_end_shaped (sel : Sel) (hv : Valid (rowBodyE re83 1) sel) (tail : List UInt8) (ht : TailIn (rowEndSym re83) tail)
    (fbOff : Int) (hfb : FbOK' fbOff) (fill : Option Int)
    (hc : calendarOK row83.dtfs (selFields row83 sel) fill = true) :
    rowPipeline row83 (flat sel ++ tail) fbOff fill = some (fieldsOf row83.dtfs (selFields row83 sel) fbOff fill).instant :=
  cert83.e2e_end hv (cert83.flat_le rfl hv) (C04_row83_search sel hv _ (tailIn_take ht _)) fbOff hfb fill rfl hc

theorem C04_row84_end_to_end_shaped (sel : Sel) (hv : Valid (rowBodyE re84 1) sel) (tail : List UInt8) (ht : TailIn (rowEndSym re84) tail)
    (fbOff : Int) (hfb : FbOK' fbOff) (fill : Option Int)
    (hc : calendarOK row84.dtfs (selFields row84 sel) fill = true) :
    rowPipeline row84 (flat sel ++ tail) fbOff fill = some (fieldsOf row84.dtfs (selFields row84 sel) fbOff fill).instant :=
  cert84.e2e_end hv (cert84.flat_le rfl hv) (C04_row84_search sel hv _ (tailIn_take ht _)) fbOff hfb fill rfl hc

theorem C04_row85_end_to_end_shaped (sel : Sel) (hv : Valid (rowBodyE re85 1) sel) (tail : List UInt8) (ht : TailIn (rowEndSym re85) tail)
    (fbOff : Int) (hfb : FbOK' fbOff) (fill : Option Int)
    (hc : calendarOK row85.dtfs (selFields row85 sel) fill = true) :
    rowPipeline row85 (flat sel ++ tail) fbOff fill = some (fieldsOf row85.dtfs (selFields row85 sel) fbOff fill).instant :=
  cert85.e2e_end hv (cert85.flat_le rfl hv) (C04_row85_search sel hv _ (tailIn_take ht _)) fbOff hfb fill rfl hc

theorem C04_row86_end_to_end_shaped (sel : Sel) (hv : Valid (rowBodyE re86 1) sel) (tail : List UInt8) (ht : TailIn (rowEndSym re86) tail)
    (fbOff : Int) (hfb : FbOK' fbOff) (fill : Option Int)
    (hc : calendarOK row86.dtfs (selFields row86 sel) fill = true) :
    rowPipeline row86 (flat sel ++ tail) fbOff fill = some (fieldsOf row86.dtfs (selFields row86 sel) fbOff fill).instant :=
  cert86.e2e_end hv (cert86.flat_le rfl hv) (C04_row86_search sel hv _ (tailIn_take ht _)) fbOff hfb fill rfl hc

theorem C04_row87_end_to_end_shaped (sel : Sel) (hv : Valid (rowBodyE re87 1) sel) (tail : List UInt8) (ht : TailIn (rowEndSym re87) tail)
    (fbOff : Int) (hfb : FbOK' fbOff) (fill : Option Int)
    (hc : calendarOK row87.dtfs (selFields row87 sel) fill = true) :
    rowPipeline row87 (flat sel ++ tail) fbOff fill = some (fieldsOf row87.dtfs (selFields row87 sel) fbOff fill).instant :=
  cert87.e2e_end hv (cert87.flat_le rfl hv) (C04_row87_search sel hv _ (tailIn_take ht _)) fbOff hfb fill rfl hc

theorem C04_row88_end_to_end_shaped (sel : Sel) (hv : Valid (rowBodyE re88 1) sel) (tail : List UInt8) (ht : TailIn (rowEndSym re88) tail)
    (fbOff : Int) (hfb : FbOK' fbOff) (fill : Option Int)
    (hc : calendarOK row88.dtfs (selFields row88 sel) fill = true) :
    rowPipeline row88 (flat sel ++ tail) fbOff fill = some (fieldsOf row88.dtfs (selFields row88 sel) fbOff fill).instant :=
  cert88.e2e_end hv (cert88.flat_le rfl hv) (C04_row88_search sel hv _ (tailIn_take ht _)) fbOff hfb fill rfl hc

theorem C04_row89_end_to_end_shaped (sel : Sel) (hv : Valid (rowBodyE re89 1) sel) (tail : List UInt8) (ht : TailIn (rowEndSym re89) tail)
    (fbOff : Int) (hfb : FbOK' fbOff) (fill : Option Int)
    (hc : calendarOK row89.dtfs (selFields row89 sel) fill = true) :
    rowPipeline row89 (flat sel ++ tail) fbOff fill = some (fieldsOf row89.dtfs (selFields row89 sel) fbOff fill).instant :=
  cert89.e2e_end hv (cert89.flat_le rfl hv) (C04_row89_search sel hv _ (tailIn_take ht _)) fbOff hfb fill rfl hc

theorem C04_row90_end_to_end_shaped (sel : Sel) (hv : Valid (rowBodyE re90 1) sel) (tail : List UInt8) (ht : TailIn (rowEndSym re90) tail)
    (fbOff : Int) (hfb : FbOK' fbOff) (fill : Option Int)
    (hc : calendarOK row90.dtfs (selFields row90 sel) fill = true) :
    rowPipeline row90 (flat sel ++ tail) fbOff fill = some (fieldsOf row90.dtfs (selFields row90 sel) fbOff fill).instant :=
  cert90.e2e_end hv (cert90.flat_le rfl hv) (C04_row90_search sel hv _ (tailIn_take ht _)) fbOff hfb fill rfl hc

theorem C04_row91_end_to_end_shaped (sel : Sel) (hv : Valid (rowBodyE re91 1) sel) (tail : List UInt8) (ht : TailIn (rowEndSym re91) tail)
    (fbOff : Int) (hfb : FbOK' fbOff) (fill : Option Int)
    (hc : calendarOK row91.dtfs (selFields row91 sel) fill = true) :
    rowPipeline row91 (flat sel ++ tail) fbOff fill = some (fieldsOf row91.dtfs (selFields row91 sel) fbOff fill).instant :=
  cert91.e2e_end hv (cert91.flat_le rfl hv) (C04_row91_search sel hv _ (tailIn_take ht _)) fbOff hfb fill rfl hc

theorem C04_row92_end_to_end_shaped (sel : Sel) (hv : Valid (rowBodyE re92 1) sel) (tail : List UInt8) (ht : TailIn (rowEndSym re92) tail)
    (fbOff : Int) (hfb : FbOK' fbOff) (fill : Option Int)
    (hc : calendarOK row92.dtfs (selFields row92 sel) fill = true) :
    rowPipeline row92 (flat sel ++ tail) fbOff fill = some (fieldsOf row92.dtfs (selFields row92 sel) fbOff fill).instant :=
  cert92.e2e_end hv (cert92.flat_le rfl hv) (C04_row92_search sel hv _ (tailIn_take ht _)) fbOff hfb fill rfl hc

theorem C04_row93_end_to_end_shaped (sel : Sel) (hv : Valid (rowBodyE re93 1) sel) (tail : List UInt8) (ht : TailIn (rowEndSym re93) tail)
    (fbOff : Int) (hfb : FbOK' fbOff) (fill : Option Int)
    (hc : calendarOK row93.dtfs (selFields row93 sel) fill = true) :
    rowPipeline row93 (flat sel ++ tail) fbOff fill = some (fieldsOf row93.dtfs (selFields row93 sel) fbOff fill).instant :=
  cert93.e2e_end hv (cert93.flat_le rfl hv) (C04_row93_search sel hv _ (tailIn_take ht _)) fbOff hfb fill rfl hc

theorem C04_row94_end_to_end_shaped (sel : Sel) (hv : Valid (rowBodyE re94 1) sel) (tail : List UInt8) (ht : TailIn (rowEndSym re94) tail)
    (fbOff : Int) (hfb : FbOK' fbOff) (fill : Option Int)
    (hc : calendarOK row94.dtfs (selFields row94 sel) fill = true) :
    rowPipeline row94 (flat sel ++ tail) fbOff fill = some (fieldsOf row94.dtfs (selFields row94 sel) fbOff fill).instant :=
  cert94.e2e_end hv (cert94.flat_le rfl hv) (C04_row94_search sel hv _ (tailIn_take ht _)) fbOff hfb fill rfl hc

theorem C04_row95_end_to_end_shaped (sel : Sel) (hv : Valid (rowBodyP re95 1) sel) (tail : List UInt8) (ht : TailF (autoTail re95) tail)
    (fbOff : Int) (hfb : FbOK' fbOff) (fill : Option Int)
    (hc : calendarOK row95.dtfs (selFields row95 sel) fill = true) :
    rowPipeline row95 (flat sel ++ tail) fbOff fill = some (fieldsOf row95.dtfs (selFields row95 sel) fbOff fill).instant :=
  cert95.e2e hv (cert95.flat_le rfl hv) (C04_row95_search sel hv _ (tailF_take ht _)) fbOff hfb fill rfl hc

theorem C04_row101_end_to_end_shaped (sel : Sel) (hv : Valid (rowBodyE re101 1) sel) (tail : List UInt8) (ht : TailIn (rowEndSym re101) tail)
    (fbOff : Int) (hfb : FbOK' fbOff) (fill : Option Int)
    (hc : calendarOK row101.dtfs (selFields row101 sel) fill = true) :
    rowPipeline row101 (flat sel ++ tail) fbOff fill = some (fieldsOf row101.dtfs (selFields row101 sel) fbOff fill).instant :=
  cert101.e2e_end hv (cert101.flat_le rfl hv) (C04_row101_search sel hv _ (tailIn_take ht _)) fbOff hfb fill rfl hc

theorem C04_row102_end_to_end_shaped (sel : Sel) (hv : Valid (rowBodyP re102 0) sel) (tail : List UInt8) (ht : TailF (autoTail re102) tail)
    (fbOff : Int) (hfb : FbOK' fbOff) (fill : Option Int)
    (hc : calendarOK row102.dtfs (selFields row102 sel) fill = true) :
    rowPipeline row102 (flat sel ++ tail) fbOff fill = some (fieldsOf row102.dtfs (selFields row102 sel) fbOff fill).instant :=
  cert102.e2e hv (cert102.flat_le rfl hv) (C04_row102_search sel hv _ (tailF_take ht _)) fbOff hfb fill rfl hc

theorem C04_row103_end_to_end_shaped (sel : Sel) (hv : Valid (rowBodyP re103 0) sel) (tail : List UInt8) (ht : TailF (autoTail re103) tail)
    (fbOff : Int) (hfb : FbOK' fbOff) (fill : Option Int)
    (hc : calendarOK row103.dtfs (selFields row103 sel) fill = true) :
    rowPipeline row103 (flat sel ++ tail) fbOff fill = some (fieldsOf row103.dtfs (selFields row103 sel) fbOff fill).instant :=
  cert103.e2e hv (cert103.flat_le rfl hv) (C04_row103_search sel hv _ (tailF_take ht _)) fbOff hfb fill rfl hc

theorem C04_row104_end_to_end_shaped (sel : Sel) (hv : Valid (rowBodyP re104 0) sel) (tail : List UInt8) (ht : TailF (autoTail re104) tail)
    (fbOff : Int) (hfb : FbOK' fbOff) (fill : Option Int)
    (hc : calendarOK row104.dtfs (selFields row104 sel) fill = true) :
    rowPipeline row104 (flat sel ++ tail) fbOff fill = some (fieldsOf row104.dtfs (selFields row104 sel) fbOff fill).instant :=
  cert104.e2e hv (cert104.flat_le rfl hv) (C04_row104_search sel hv _ (tailF_take ht _)) fbOff hfb fill rfl hc

theorem C04_row105_end_to_end_shaped (sel : Sel) (hv : Valid (rowBodyP re105 0) sel) (tail : List UInt8) (ht : TailF (autoTail re105) tail)
    (fbOff : Int) (hfb : FbOK' fbOff) (fill : Option Int)
    (hc : calendarOK row105.dtfs (selFields row105 sel) fill = true) :
    rowPipeline row105 (flat sel ++ tail) fbOff fill = some (fieldsOf row105.dtfs (selFields row105 sel) fbOff fill).instant :=
  cert105.e2e hv (cert105.flat_le rfl hv) (C04_row105_search sel hv _ (tailF_take ht _)) fbOff hfb fill rfl hc

end S4V.Props.RegexE2E
