/-
C09 — journal files: every entry once, in journal order, fields intact; window
on the journal receive time. libsystemd's enumeration is the trusted base;
what is proved is what the reader does with it.
-/
import S4V.Model.Journal
import S4V.Props.FilterSpec

namespace S4V.Props.C09
open S4V.Model.Journal S4V.Gen.Journal S4V.Gen.Filter S4V.Props.FilterSpec

/-- the stop test regenerated from `next_common` fires exactly at an entry strictly after `--dt-before` -/
theorem C09_stop_iff (t : Int) (b : Option Int) : stopAt t b = true ↔ ∃ y, b = some y ∧ y < t := by
  unfold stopAt
  rw [beq_iff_eq, emPassFilters_after_iff]
  constructor
  · rintro ⟨_, y, hy, hlt⟩; exact ⟨y, hy, hlt⟩
  · rintro ⟨y, hy, hlt⟩; exact ⟨(by intro x hx; cases hx), y, hy, hlt⟩

/-- the instant of an entry is its journal receive time: Rust `DT_USES_SOURCE_OVERRIDE = Some(RealtimeTimestamp)`
(src/data/journal.rs) = Lean `usesRealtimeTimestamp` -/
theorem C09_uses_realtime : usesRealtimeTimestamp = true := by decide

theorem stopAt_eq_false_iff (t : Int) (b : Option Int) : stopAt t b = false ↔ ∀ y, b = some y → t ≤ y := by
  rw [← Bool.not_eq_true, C09_stop_iff]
  simp only [not_exists, not_and, Int.not_lt]

theorem iterate_eq_takeWhile (b : Option Int) (es : List Entry) :
    iterate b es = es.takeWhile fun e => !stopAt e.realtime b := by
  induction es with
  | nil => rfl
  | cons e r ih => cases h : stopAt e.realtime b <;> simp [iterate, h, ih]

/-- without a window every enumerated entry is printed exactly once, in journal order -/
theorem C09_all_once (es : List Entry) : select none none es = es := by
  rw [select, seek, iterate_eq_takeWhile]
  induction es with
  | nil => rfl
  | cons e r ih => simp [(stopAt_eq_false_iff e.realtime none).2, ih]

/-- the selection keeps journal order and never duplicates: it is a sublist of the enumeration -/
theorem C09_order (a b : Option Int) (es : List Entry) : (select a b es).Sublist es := by
  rw [select, iterate_eq_takeWhile]
  refine (List.takeWhile_sublist _).trans ?_
  cases a with
  | none => exact List.Sublist.refl _
  | some a => exact List.dropWhile_sublist _

theorem takeWhile_dropWhile_eq_filter {α} {R : α → α → Prop} {p : α → Bool} {l : List α} (hs : l.Pairwise R)
    (hp : ∀ x y, R x y → p x = false → p y = false) :
    l.takeWhile p = l.filter p ∧ l.dropWhile p = l.filter (fun x => !p x) := by
  induction l with
  | nil => exact ⟨rfl, rfl⟩
  | cons e r ih =>
    rw [List.pairwise_cons] at hs
    cases h : p e with
    | true => simpa [h] using ih hs.2
    | false =>
      have hr : ∀ x ∈ r, p x = false := fun x hx => hp e x (hs.1 x hx) h
      simpa [h, List.filter_eq_nil_iff] using ⟨hr, (List.filter_eq_self.2 (by simpa using hr)).symm⟩

/-- C09 window: for a journal whose receive times are non-decreasing in journal order the
selection is exactly the entries with `A ≤ t ≤ B` (both inclusive), in journal order -/
theorem C09_window (a b : Option Int) (es : List Entry)
    (hs : es.Pairwise (fun x y => x.realtime ≤ y.realtime)) :
    select a b es = es.filter (fun e => emPassFilters e.realtime a b == .InRange) := by
  -- both the seek and the stop test are monotone in the receive time
  have hseek : seek a es = es.filter fun e => a.all fun a => !decide (e.realtime < a) := by
    cases a with
    | none => exact (List.filter_eq_self.2 fun _ _ => rfl).symm
    | some a =>
      exact (takeWhile_dropWhile_eq_filter (p := fun e => decide (e.realtime < a)) hs
        fun x y hxy hx => by simp only [decide_eq_false_iff_not] at hx ⊢; omega).2
  have hiter := (takeWhile_dropWhile_eq_filter (l := seek a es) (p := fun e => !stopAt e.realtime b) (hseek ▸ hs.filter _)
    fun x y hxy hx => by
      simp only [Bool.not_eq_false', C09_stop_iff] at hx ⊢
      obtain ⟨z, hz, hlt⟩ := hx
      exact ⟨z, hz, by omega⟩).1
  rw [select, iterate_eq_takeWhile, hiter, hseek, List.filter_filter]
  refine List.filter_congr fun e _ => ?_
  rw [Bool.eq_iff_iff, Bool.and_eq_true, Bool.not_eq_true', stopAt_eq_false_iff, beq_iff_eq, emPassFilters_iff, and_comm]
  cases a <;> simp

def exEntries : List Entry :=
  [⟨10, [99], 1, [[65, 61, 49]]⟩, ⟨20, [100], 2, [[66, 61, 50], [67, 61, 51]]⟩, ⟨20, [101], 3, []⟩, ⟨30, [102], 4, [[68, 61]]⟩]

example : exEntries.Pairwise (fun x y => x.realtime ≤ y.realtime) := by decide
example : (select (some 20) (some 20) exEntries).map (·.cursor) = [[100], [101]] := by decide

/-- the export text carries, after the three synthetic lines, every enumerated field
unchanged (entries with at most `fieldCap` fields), each followed by '\n', then an empty line -/
theorem C09_export_fields (e : Entry) (h : e.fields.length ≤ fieldCap) :
    ∃ pre, renderExport e = pre ++ encodeFields e.fields ++ [NLb] := by
  unfold renderExport encodeFields
  rw [List.take_of_length_le h]
  exact ⟨_, rfl⟩

example : (exEntries.getD 1 default).fields.length ≤ fieldCap := by decide

theorem decodeFields_acc (f : Bytes) (hf : NLb ∉ f) (rest acc : Bytes) :
    decodeFields (f ++ NLb :: rest) acc = (acc.reverse ++ f) :: decodeFields rest [] := by
  induction f generalizing acc with
  | nil => simp [decodeFields]
  | cons c f ih =>
    have hc : c ≠ NLb := by intro h; exact hf (by simp [h])
    have hf' : NLb ∉ f := by intro h; exact hf (by simp [h])
    simp only [List.cons_append, decodeFields, hc, ↓reduceIte]
    rw [ih hf']; simp

/-- the fields can be read back from the export text iff no value contains a newline
(the code writes multi-line values raw, not in journalctl's length-prefixed form) -/
theorem C09_export_decodable (fs : List Bytes) (h : ∀ f ∈ fs, NLb ∉ f) :
    decodeFields (encodeFields fs) [] = fs := by
  induction fs with
  | nil => rfl
  | cons f r ih =>
    have hf := h f (by simp)
    have : encodeFields (f :: r) = f ++ NLb :: encodeFields r := by
      simp [encodeFields]
    rw [this, decodeFields_acc f hf]
    simp only [List.reverse_nil, List.nil_append]
    rw [ih (fun g hg => h g (by simp [hg]))]

/-- the unrestricted round trip is false: a value with an embedded newline is split -/
def C09_export_decodable_full : Prop := ∀ fs : List Bytes, decodeFields (encodeFields fs) [] = fs

theorem C09_export_decodable_full_false : ¬ C09_export_decodable_full := by
  intro h
  have := h [[77, 61, 97, 10, 98]]
  revert this; decide

/-! ### how a datetime-filter bound reaches the reader (`datetimel_to_realtime_timestamp`) -/

/-- the unsigned microsecond value the reader compares entry times with, for a bound `x` (microseconds since the
epoch, possibly negative: a date before 1970). `clamp = true`: `.max(0) as u64`; `false`: a bare `as u64`, which
wraps a negative value to `x + 2^64` -/
def boundOf (clamp : Bool) (x : Int) : Int :=
  if x < 0 then (if clamp then 0 else x + 18446744073709551616) else x

/-- **C09_bound_after.** A `--dt-after` bound selects the same entries as the instant it denotes, also when it lies
before 1970 (every entry time is `≥ 0`). Unfolds the regenerated `boundClampsPreEpoch` (the cast that wrapped was
repaired in /repo bf6472c3; a regression regenerates `false` and this proof breaks). -/
theorem C09_bound_after (x t : Int) (ht : 0 ≤ t) : boundOf boundClampsPreEpoch x ≤ t ↔ x ≤ t := by
  have h : boundClampsPreEpoch = true := by decide
  unfold boundOf; rw [h]
  by_cases hx : x < 0 <;> simp [hx] <;> omega

/-- **C09_bound_before.** Likewise for `--dt-before`, for every entry time after the epoch itself -/
theorem C09_bound_before (x t : Int) (ht : 0 < t) : t ≤ boundOf boundClampsPreEpoch x ↔ t ≤ x := by
  have h : boundClampsPreEpoch = true := by decide
  unfold boundOf; rw [h]
  by_cases hx : x < 0 <;> simp [hx] <;> omega

/-- counter-model (the defect repaired in /repo bf6472c3): with the wrapping cast a `--dt-after` bound before 1970
excludes every entry, and a `--dt-before` bound before 1970 includes every entry -/
theorem wrapped_bound_selects_wrongly :
    ¬ (boundOf false (-1) ≤ 1700000000000000 ↔ (-1 : Int) ≤ 1700000000000000) ∧
    ¬ ((1700000000000000 : Int) ≤ boundOf false (-1) ↔ (1700000000000000 : Int) ≤ -1) := by
  decide

example : boundOf boundClampsPreEpoch (-315619200000000) = 0 := by decide

end S4V.Props.C09
