/-
C02 / C12 — the block-zero acceptance gate REGENERATED from the source: gen/gen_gate.py turns
`process_stage0_valid_file_check`, `blockzero_analysis{,_bytes,_lines,_syslines}` into data
(`S4V.Gen.Gate.skel`), `S4V.Model.GateSkel` interprets it, and here the interpreter is proved EQUAL to
the hand model `gate` on all inputs. Hence every theorem of `GateSpec` holds of the regenerated form,
F1 / F2 are restated over it, and nine one-token edits of the source text, re-translated
by the same translator (`S4V.Gen.GateMutants`), are proved to change a verdict.
-/
import S4V.Model.GateSkel
import S4V.Gen.GateMutants
import S4V.Props.GateSpec

namespace S4V.Props.GateSkelSpec
open S4V.Model.Lines hiding Res
open S4V.Gen.Blocks S4V.Gen.Consts S4V.Model.Gate S4V.Model.GateSkel S4V.Gen.Gate
open S4V.Props.GateSpec S4V.Lemmas.Gate

theorem linesLoop_eq (th : Thresholds) (bs : Nat) (d : Bytes) (e : Env) (fuel fo found : Nat) :
    runLoop th S4V.Gen.Gate.lines.loop (lineFind bs d) bs e fuel fo found
      = gateLinesLoop bs d e.foundMin fuel fo found := by
  induction fuel generalizing fo found with
  | zero => simp [runLoop, gateLinesLoop]
  | succ n ih =>
    unfold runLoop gateLinesLoop
    simp only [S4V.Gen.Gate.lines, lineFind, List.all_cons, List.all_nil, List.any_cons, List.any_nil,
      evalCond, evalCmp, evalOpd, Bool.and_true, Bool.or_false]
    by_cases h : found ≥ e.foundMin
    · simp [h, Nat.not_lt.mpr h]
    · have h' : found < e.foundMin := Nat.lt_of_not_ge h
      simp only [h, h', decide_true, if_true, if_false]
      cases hf : findLineInBlock bs d fo with
      | found foNext ps =>
        have := ih foNext (found + 1)
        simp only [S4V.Gen.Gate.lines] at this
        by_cases hb : blockOffsetAtFileOffset foNext bs = 0
        · simp [hb, this]
        · have hb' : ¬ 0 = blockOffsetAtFileOffset foNext bs := fun h => hb h.symm
          simp [hb, hb']
      | part ps => simp
      | done => simp

private theorem syslLoop_aux (th : Thresholds) (L : Loop)
    (hL : L = ⟨[⟨.lt, .found, .foundMin⟩, ⟨.eq, .boFo, (.lit 0)⟩], 1, 1, []⟩)
    (P : Bytes → Option Int) (bs : Nat) (d : Bytes) (e : Env) (fuel fo found : Nat) :
    runLoop th L (findSyslineInBlock P bs d (d.length + 1)) bs e fuel fo found
      = gateSyslinesLoop P bs d e.foundMin fuel fo found := by
  subst hL
  induction fuel generalizing fo found with
  | zero => simp [runLoop, gateSyslinesLoop]
  | succ n ih =>
    unfold runLoop gateSyslinesLoop
    simp only [List.all_cons, List.all_nil, List.any_nil, evalCond, evalCmp, evalOpd, Bool.and_true]
    by_cases h : found ≥ e.foundMin
    · simp [h, Nat.not_lt.mpr h]
    · have h' : found < e.foundMin := Nat.lt_of_not_ge h
      by_cases hb : blockOffsetAtFileOffset fo bs = 0
      · simp only [h, h', hb, decide_true, Bool.and_self, if_true, ne_eq, not_true_eq_false, or_self, if_false]
        cases hf : findSyslineInBlock P bs d (d.length + 1) fo with
        | found foNext => simp [ih]
        | donePartial => simp
        | done => simp
      · simp [h, hb]

theorem syslLoop_eq (th : Thresholds) (P : Bytes → Option Int) (bs : Nat) (d : Bytes) (e : Env) (fuel fo found : Nat) :
    runLoop th S4V.Gen.Gate.syslines.loop (findSyslineInBlock P bs d (d.length + 1)) bs e fuel fo found
      = gateSyslinesLoop P bs d e.foundMin fuel fo found :=
  syslLoop_aux th _ rfl P bs d e fuel fo found

/-- pass two (the recount after `clear_syslines`) is the same loop -/
theorem syslLoop2_eq (th : Thresholds) (P : Bytes → Option Int) (bs : Nat) (d : Bytes) (e : Env) (fuel fo found : Nat) :
    runLoop th S4V.Gen.Gate.syslines.pass2 (findSyslineInBlock P bs d (d.length + 1)) bs e fuel fo found
      = gateSyslinesLoop P bs d e.foundMin fuel fo found :=
  syslLoop_aux th _ rfl P bs d e fuel fo found

theorem gateSkelWith_is_model (th : Thresholds) (multi : Bool) (P : Bytes → Option Int) (bs : Nat) (d : Bytes) :
    gateSkelWith th S4V.Gen.Gate.skel multi P bs d = gateWith th P bs d := by
  unfold gateSkelWith gateWith
  by_cases h0 : d.length = 0
  · simp [S4V.Gen.Gate.skel, S4V.Gen.Gate.stage0, runChecks, evalCond, evalCmp, evalOpd, env0, h0, resVerdict]
  · simp only [S4V.Gen.Gate.skel, S4V.Gen.Gate.stage0, S4V.Gen.Gate.analysis, runChecks, runSteps, runFn, evalCond, evalCmp,
      evalOpd, env0, h0, decide_false, if_false, Option.getD_none, ne_eq, not_true_eq_false, Bool.false_eq_true]
    unfold runBytes
    simp only [S4V.Gen.Gate.bytes, runChecks, evalCond, evalCmp, evalOpd, env0]
    by_cases h1 : (blockAt d bs 0).length < min th.bytesMin bs
    · simp [h1, resVerdict]
    · simp only [h1, decide_false, if_false, Bool.false_eq_true]
      by_cases h2 : (List.take th.nullMax (blockAt d bs 0)).all (· == 0) = true
      · simp [h2, resVerdict]
      · simp only [h2, if_false, Option.getD_none, not_true_eq_false, Bool.false_eq_true]
        unfold runLines runFinal
        simp only [linesLoop_eq]
        simp only [S4V.Gen.Gate.lines, lookup, evalCond, evalCmp, evalOpd, env0]
        by_cases h3 : gateLinesLoop bs d (th.lineMin (blockAt d bs 0).length) (d.length + 1) 0 0
            < th.lineMin (blockAt d bs 0).length
        · simp [h3, Nat.not_le.mpr h3, resVerdict]
        · simp only [h3, Nat.not_lt.mp h3, decide_true, if_true, if_false, not_true_eq_false]
          unfold runSyslines runFinal
          simp only [syslLoop_eq, syslLoop2_eq]
          simp only [S4V.Gen.Gate.syslines, lookup, runChecks, evalCond, evalCmp, evalOpd, env0, ite_self]
          generalize gateSyslinesLoop P bs d (th.syslineMin (blockAt d bs 0).length) (d.length + 1) 0 0 = f
          by_cases h4 : f = 0
          · simp [h4, resVerdict]
          · by_cases h5 : f < th.syslineMin (blockAt d bs 0).length
            · simp [h4, h5, Nat.not_le.mpr h5, resVerdict]
            · simp [h4, h5, Nat.not_lt.mp h5, resVerdict]

/-- **C02/C12**: the gate regenerated from the source text (skeleton + thresholds) equals the hand model
on all inputs, whichever way the pattern count of pass one falls -/
theorem C02_gate_skeleton_is_model (multi : Bool) (P : Bytes → Option Int) (bs : Nat) (d : Bytes) :
    gateSkel multi P bs d = gate P bs d :=
  gateSkelWith_is_model generated multi P bs d

theorem C02_gateSkel_eq_gateSpec (multi : Bool) (P : Bytes → Option Int) (bs : Nat) (d : Bytes) (hbs : 1 ≤ bs)
    (hP : RejectsShort P) : gateSkel multi P bs d = gateSpec generated P bs d := by
  rw [C02_gate_skeleton_is_model, gate_eq_gateSpec P bs d hbs hP]

theorem C02_gateSkel_reject_no_message (multi : Bool) (P : Bytes → Option Int) (bs : Nat) (d : Bytes) (hbs : 1 ≤ bs)
    (hP : RejectsShort P) (h0 : acceptedInBlockZero P bs d = 0) : gateSkel multi P bs d ≠ .ok := by
  rw [C02_gate_skeleton_is_model]; exact gate_reject_no_message P bs d hbs hP h0

theorem C02_gateSkel_reject_no_timestamp (multi : Bool) (P : Bytes → Option Int) (bs : Nat) (d : Bytes)
    (hP : ∀ l, P l = none) : gateSkel multi P bs d ≠ .ok := by
  rw [C02_gate_skeleton_is_model]; exact gate_reject_no_timestamp P bs d hP

theorem C12_gateSkel_bs_independent_whole_file (m₁ m₂ : Bool) (P : Bytes → Option Int) (bs₁ bs₂ : Nat) (d : Bytes)
    (hP : RejectsShort P) (hlen : BLOCKZERO_ANALYSIS_BYTES_MIN ≤ d.length)
    (h₁ : d.length ≤ bs₁) (h₂ : d.length ≤ bs₂) : gateSkel m₁ P bs₁ d = gateSkel m₂ P bs₂ d := by
  rw [C02_gate_skeleton_is_model, C02_gate_skeleton_is_model]
  exact gate_bs_independent_whole_file P bs₁ bs₂ d hP hlen h₁ h₂

/-- the second pass never changes the verdict (same parser, counters reset to the generated values) -/
theorem gateSkel_pass2_irrelevant (P : Bytes → Option Int) (bs : Nat) (d : Bytes) :
    gateSkel true P bs d = gateSkel false P bs d := by
  rw [C02_gate_skeleton_is_model, C02_gate_skeleton_is_model]

example : gateSkel true P1 8 exF1 = gateSpec generated P1 8 exF1 :=
  C02_gateSkel_eq_gateSpec true P1 8 exF1 (by decide) P1_rejectsShort
example : gateSkel false P1 14 exF1 = gateSkel true P1 65536 exF1 :=
  C12_gateSkel_bs_independent_whole_file _ _ P1 14 65536 exF1 P1_rejectsShort (by decide) (by decide) (by decide)

/-- the wish: the block size does not change the verdict of the regenerated gate -/
def gateSkel_full : Prop :=
  ∀ (multi : Bool) (P : Bytes → Option Int) (bs₁ bs₂ : Nat) (d : Bytes), 1 ≤ bs₁ → 1 ≤ bs₂ →
    gateSkel multi P bs₁ d = gateSkel multi P bs₂ d

/-- F1 evaluated on the regenerated skeleton itself (kernel-decided, not via the equality) -/
theorem exF1_skel : gateSkel false P1 8 exF1 = .noSyslines ∧ gateSkel false P1 64 exF1 = .ok := by decide

theorem gateSkel_full_false : ¬ gateSkel_full := by
  intro h
  have := h false P1 8 64 exF1 (by decide) (by decide)
  rw [exF1_skel.1, exF1_skel.2] at this
  cases this

/-- F2 (threshold regimes) on the regenerated skeleton with the small threshold table -/
theorem gateSkel_threshold_dependence :
    (gateSkelWith smallTh S4V.Gen.Gate.skel false P1 15 exF2 = .ok ∧
      gateSkelWith smallTh S4V.Gen.Gate.skel false P1 32 exF2 = .noLines) ∧
    (gateSkelWith smallTh S4V.Gen.Gate.skel true P1 15 exF2' = .ok ∧
      gateSkelWith smallTh S4V.Gen.Gate.skel true P1 32 exF2' = .noSyslines) := by
  decide

/-- strongest true variant: equal verdicts whenever the block-free characterisations agree -/
theorem gateSkel_partial (multi : Bool) (P : Bytes → Option Int) (bs₁ bs₂ : Nat) (d : Bytes)
    (h₁ : 1 ≤ bs₁) (h₂ : 1 ≤ bs₂) (hP : RejectsShort P)
    (h : gateSpec generated P bs₁ d = gateSpec generated P bs₂ d) :
    gateSkel multi P bs₁ d = gateSkel multi P bs₂ d := by
  rw [C02_gateSkel_eq_gateSpec multi P bs₁ d h₁ hP, C02_gateSkel_eq_gateSpec multi P bs₂ d h₂ hP, h]

open S4V.Gen.GateMutants

def six : Bytes := [49, 97, 10, 49, 98, 10]
def three : Bytes := [49, 97, 10]
def z20 : Bytes := List.replicate 20 0
/-- accepts exactly the one-byte cut `"1"` that block zero of 8 bytes leaves of `exF1` -/
def P49 : Bytes → Option Int := fun l => if l = [49] then some 0 else none

/-- `blocksz0 <= require_sz`: a six-byte log is refused as too small -/
theorem mutant_tooSmallLe_wrong :
    gate P1 64 six = .ok ∧ gateSkelWith generated tooSmallLe.skel false P1 64 six = .tooSmall := by decide

/-- final `found > found_min` in the sysline analysis: nothing is ever accepted (here: `exF1`) -/
theorem mutant_syslFinalGt_wrong :
    gate P1 64 exF1 = .ok ∧ gateSkelWith generated syslFinalGt.skel false P1 64 exF1 = .noSyslines := by decide

/-- `if 0 == block_offset(fo) { break; }`: the line loop stops after one line inside block zero -/
theorem mutant_linesLoopBlock_wrong :
    gateWith smallTh P1 32 exTwo = .ok ∧ gateSkelWith smallTh linesLoopBlock.skel false P1 32 exTwo = .noLines := by
  decide

/-- sysline analysis consulting the LINE map: two messages no longer suffice in the upper regime -/
theorem mutant_syslWrongMap_wrong :
    gateWith smallTh P1 32 exTwo = .ok ∧ gateSkelWith smallTh syslWrongMap.skel false P1 32 exTwo = .noSyslines := by
  decide

/-- NUL check before the size check: three NUL bytes are `FileErrNullBytes`, not `FileErrTooSmall` -/
theorem mutant_bytesOrder_wrong :
    gate P1 64 [0, 0, 0] = .tooSmall ∧ gateSkelWith generated bytesOrder.skel false P1 64 [0, 0, 0] = .nullBytes := by
  decide

/-- line analysis before byte analysis: twenty NUL bytes are `FileErrNoLinesFound`, not `FileErrNullBytes` -/
theorem mutant_callOrder_wrong :
    gateWith smallTh P1 32 z20 = .nullBytes ∧ gateSkelWith smallTh callOrder.skel false P1 32 z20 = .noLines := by
  decide

/-- too-small return dropped: a three-byte file is accepted -/
theorem mutant_tooSmallDropped_wrong :
    gate P1 64 three = .tooSmall ∧ gateSkelWith generated tooSmallDropped.skel false P1 64 three = .ok := by decide

/-- early return after the line analysis dropped: `FileErrNoLinesFound` is lost -/
theorem mutant_linesRetDropped_wrong :
    gateWith smallTh P1 32 exF2 = .noLines ∧ gateSkelWith smallTh linesRetDropped.skel false P1 32 exF2 = .noSyslines := by
  decide

/-- partial message of pass one not counted: refused, whether or not pass two runs -/
theorem mutant_partialNotCounted_wrong :
    gate P49 8 exF1 = .ok ∧ gateSkelWith generated partialNotCounted.skel false P49 8 exF1 = .noSyslines ∧
      gateSkelWith generated partialNotCounted.skel true P49 8 exF1 = .noSyslines := by decide

theorem not_model_of_witness {G : Skel} {th : Thresholds} {multi : Bool} {P : Bytes → Option Int} {bs : Nat}
    {d : Bytes} {a b : Verdict} (hm : gateWith th P bs d = a) (hg : gateSkelWith th G multi P bs d = b)
    (hab : b ≠ a) : ¬ ∀ th multi P bs d, gateSkelWith th G multi P bs d = gateWith th P bs d :=
  fun h => hab (by rw [← hg, ← hm]; exact h th multi P bs d)

/-- each mutant skeleton is NOT the hand model: `C02_gate_skeleton_is_model` fails for all nine -/
theorem mutants_are_not_model :
    (∀ G ∈ [tooSmallLe.skel, syslFinalGt.skel, linesLoopBlock.skel, syslWrongMap.skel, bytesOrder.skel,
        callOrder.skel, tooSmallDropped.skel, linesRetDropped.skel, partialNotCounted.skel],
      ¬ ∀ th multi P bs d, gateSkelWith th G multi P bs d = gateWith th P bs d) := by
  intro G hG
  simp only [List.mem_cons, List.mem_nil_iff, or_false] at hG
  rcases hG with rfl | rfl | rfl | rfl | rfl | rfl | rfl | rfl | rfl
  · exact not_model_of_witness mutant_tooSmallLe_wrong.1 mutant_tooSmallLe_wrong.2 (by decide)
  · exact not_model_of_witness mutant_syslFinalGt_wrong.1 mutant_syslFinalGt_wrong.2 (by decide)
  · exact not_model_of_witness mutant_linesLoopBlock_wrong.1 mutant_linesLoopBlock_wrong.2 (by decide)
  · exact not_model_of_witness mutant_syslWrongMap_wrong.1 mutant_syslWrongMap_wrong.2 (by decide)
  · exact not_model_of_witness mutant_bytesOrder_wrong.1 mutant_bytesOrder_wrong.2 (by decide)
  · exact not_model_of_witness mutant_callOrder_wrong.1 mutant_callOrder_wrong.2 (by decide)
  · exact not_model_of_witness mutant_tooSmallDropped_wrong.1 mutant_tooSmallDropped_wrong.2 (by decide)
  · exact not_model_of_witness mutant_linesRetDropped_wrong.1 mutant_linesRetDropped_wrong.2 (by decide)
  · exact not_model_of_witness mutant_partialNotCounted_wrong.1 mutant_partialNotCounted_wrong.2.1 (by decide)

end S4V.Props.GateSkelSpec
