/-
C17 — memory held while a text log is streamed: the retained-data bound for general message geometry.  Model:
`S4V.Model.Mem`, and `S4V.Model.MemSkip` for the early return of `drop_data`; invariant and lemmas: `S4V.Lemmas.MemGeneral`.

With a consumer that is not lagging, every file with `Geometry M B P` (at most `M` lines to a message, a message inside
at most `B` consecutive blocks, at most `P` messages starting in one block) has `syslines high ≤ S = P (B + 1) + 2` and
`lines high ≤ M S + 1`, with `blocks high ≤ 2` on a streamed reader and `≤ 5 B − 3` on a plain file in which no line ends
on the last byte of a block (`Crossed`, F25).  `P` is what "any number of messages per block" means for a block of
finitely many bytes (`P ≤ blocksz`).  The prompt consumer (F8), `Crossed` (F25) and `drop_lines` visiting every line
(seeded change C17-a) are each needed: without any one of them a family inside the geometry exceeds EVERY bound.

`S4V.Model.Mem` leaves out an early return of `SyslogProcessor::drop_data` that keeps the first drop target of every file
from ever running, and its `lines high` / `syslines high` are one block's worth of messages below what `s4 --summary`
reports.  `S4V.Model.MemSkip.runS` adds exactly that skip (see there): its three marks EQUAL the binary's on 30 of 34
generated files (plain and gz, `--blocksz` 64 … 4096, 1 / 3 / 5-line messages) and differ on the other 4 only in
`lines high` (block sizes 64 / 128: the consumer's lag, F8).  The same invariant gives `runS` the same bounds with
`max B 2` in place of `B` (`C17_bound_general_skip`), and the binary attains them: `syslines high: 8` = `P (2 + 1) + 2`
for block-aligned 32-byte lines at `--blocksz 64`.
-/
import S4V.Model.Mem
import S4V.Model.MemSkip
import S4V.Lemmas.Mem
import S4V.Lemmas.MemGeneral
import S4V.Props.MemSpec

namespace S4V.Props.MemGeneralSpec
open S4V.Model.Mem S4V.Model.MemSkip S4V.Gen.Consts S4V.Gen.Stream S4V.Lemmas.Mem S4V.Lemmas.MemGeneral

/-- the facts of the drop path this file rests on, as regenerated from the source: `drop_lines` visits
every line, `drop_sysline` hands over all lines, `drop_line` keeps the last part's block, the sysline
leaves the map before the unwrap, `drop_data_try` is `if bo_first > 1 { drop_data(bo_first - 2) }`,
streamed readers drop the block behind the one just read -/
theorem code_facts :
    DROP_LINES_VISITS_ALL = true ∧ DROP_SYSLINE_PASSES_ALL_LINES = true ∧ LINE_DROP_KEEP_PARTS = 1
    ∧ SYSLINE_REMOVED_BEFORE_UNWRAP = true ∧ DROP_TRY_GUARD = 1 ∧ DROP_TRY_BACK = 2 ∧ DROP_BLOCK_LAST_INIT = 0
    ∧ S4V.Gen.Blocks.READ_BLOCK_LOOKBACK_DROP = true := by
  decide

def marks (s : St) : Nat × Nat × Nat := (s.bHigh, s.lHigh, s.sHigh)

/-- **C17_bound_general**: for every file whose messages have at most `M` lines, span at most `B` blocks
and start at most `P` to a block, read with a consumer that is not lagging:
`syslines high ≤ P (B + 1) + 2` and `lines high ≤ M (P (B + 1) + 2) + 1` on a plain file and on a streamed
reader; `blocks high ≤ 2` on a streamed reader (gz / bz2 / lz4 look-back drop); `blocks high ≤ 5 B − 3` on a
plain file in which no line ends on a block end (`Crossed`) — whatever the number of messages. -/
theorem C17_bound_general (M B P : Nat) (msgs : List Msg) (h : Geometry M B P msgs) :
    ((run false prompt msgs).lHigh ≤ M * (P * (B + 1) + 2) + 1 ∧ (run false prompt msgs).sHigh ≤ P * (B + 1) + 2
      ∧ (Crossed msgs → (run false prompt msgs).bHigh ≤ 5 * B - 3))
    ∧ ((run true prompt msgs).bHigh ≤ 2 ∧ (run true prompt msgs).lHigh ≤ M * (P * (B + 1) + 2) + 1
      ∧ (run true prompt msgs).sHigh ≤ P * (B + 1) + 2) := by
  rw [MemSpec.run_visits_all]
  obtain ⟨hb, hl, hs⟩ := runG_bounded (streamed := false) h
  obtain ⟨_, hl', hs'⟩ := runG_bounded (streamed := true) h
  refine ⟨⟨hl, hs, fun hc => ?_⟩, ⟨runG_streamed_bHigh true prompt msgs, hl', hs'⟩⟩
  have := hb ⟨rfl, hc⟩
  unfold bBoundW at this
  omega

theorem runS_visits_all : runS = runSG true := by
  funext streamed lag msgs
  simp only [runS, code_facts.1]

/-- **C17_bound_general_skip**: the same theorem for the model that matches the binary's marks exactly
(`runS`): the window of stored messages is `max B 2` blocks wide instead of `B` (blocks 0, 1 and 2 are all
stored when the first drop runs), i.e. the bounds are those of `C17_bound_general` for `B ≥ 2` and the
`B = 2` ones for single-block messages -/
theorem C17_bound_general_skip (M B P : Nat) (msgs : List Msg) (h : Geometry M B P msgs) :
    ((runS false prompt msgs).lHigh ≤ M * (P * (max B 2 + 1) + 2) + 1
      ∧ (runS false prompt msgs).sHigh ≤ P * (max B 2 + 1) + 2
      ∧ (Crossed msgs → (runS false prompt msgs).bHigh ≤ 4 * B - 3 + max B 2))
    ∧ ((runS true prompt msgs).bHigh ≤ 2 ∧ (runS true prompt msgs).lHigh ≤ M * (P * (max B 2 + 1) + 2) + 1
      ∧ (runS true prompt msgs).sHigh ≤ P * (max B 2 + 1) + 2) := by
  rw [runS_visits_all]
  obtain ⟨hb, hl, hs⟩ := runSG_bounded (streamed := false) h
  obtain ⟨_, hl', hs'⟩ := runSG_bounded (streamed := true) h
  exact ⟨⟨hl, hs, fun hc => hb ⟨rfl, hc⟩⟩, ⟨runSG_streamed_bHigh true prompt msgs, hl', hs'⟩⟩

/-- for messages that may span two blocks or more the two models have the same bounds -/
theorem C17_bound_general_skip_ge2 (M B P : Nat) (msgs : List Msg) (h : Geometry M B P msgs) (hB : 2 ≤ B) :
    ((runS false prompt msgs).lHigh ≤ M * (P * (B + 1) + 2) + 1 ∧ (runS false prompt msgs).sHigh ≤ P * (B + 1) + 2
      ∧ (Crossed msgs → (runS false prompt msgs).bHigh ≤ 5 * B - 3))
    ∧ ((runS true prompt msgs).bHigh ≤ 2 ∧ (runS true prompt msgs).lHigh ≤ M * (P * (B + 1) + 2) + 1
      ∧ (runS true prompt msgs).sHigh ≤ P * (B + 1) + 2) := by
  have := C17_bound_general_skip M B P msgs h
  have e : max B 2 = B := by omega
  rw [e] at this
  obtain ⟨⟨hl, hs, hb⟩, hstr⟩ := this
  refine ⟨⟨hl, hs, fun hc => ?_⟩, hstr⟩
  have := hb hc
  omega

/-- the hypotheses are decidable and satisfiable: several messages per block (`packed 3 n`: three one-line messages
inside each block, then one crossing into the next: 4 messages start in every block); 4-block messages (`long7`);
`straddle`; and the two excluded shapes: `aligned` fails `Crossed` only, `long7` is outside `B = 2` -/
example : Geometry 1 2 4 (packed 3 6) ∧ Crossed (packed 3 6)
    ∧ Geometry 7 4 1 (long7 5) ∧ Crossed (long7 5)
    ∧ Geometry 1 2 1 (straddle 6) ∧ Crossed (straddle 6)
    ∧ Geometry 1 1 2 (aligned 7) ∧ ¬ Crossed (aligned 7)
    ∧ ¬ Geometry 7 2 1 (long7 5) ∧ ¬ Geometry 1 2 3 (packed 3 6) := by
  decide +kernel

/-- evaluated instances: the marks do not move between 5 and 40 blocks' worth of messages and lie under the
bounds of `C17_bound_general` (`packed 3`: `M, B, P = 1, 2, 4` ⇒ 7 / 15 / 14; `long7`: `7, 4, 1` ⇒ 17 / 50 / 7) -/
theorem C17_bound_general_instances :
    marks (run false prompt (packed 3 5)) = (4, 12, 11) ∧ marks (run false prompt (packed 3 10)) = (4, 12, 11)
    ∧ marks (run false prompt (packed 3 40)) = (4, 12, 11) ∧ marks (run true prompt (packed 3 40)) = (2, 12, 11)
    ∧ marks (run false prompt (long7 20)) = (13, 29, 4) := by
  rw [show marks (run false prompt (long7 20)) = (13, 29, 4) from MemSpec.long7_prompt_flat.2]
  decide +kernel

/-- `runS` on the same instances: `packed 3` ATTAINS the bounds `syslines ≤ P (B + 1) + 2 = 14`,
`lines ≤ M · 14 + 1 = 15`; and the single-block corner where the two models differ: block-aligned one-line
messages, two to a block (`B = 1`, `P = 2`) — `run` stays at 7 lines / 6 messages (its bound), `runS` reaches
9 / 8 = `P (2 + 1) + 2`, which is what the binary reports (`syslines high: 8`, 32-byte lines at `--blocksz 64`) -/
theorem C17_bound_general_skip_instances :
    marks (runS false prompt (packed 3 5)) = (4, 15, 14) ∧ marks (runS false prompt (packed 3 40)) = (4, 15, 14)
    ∧ marks (runS true prompt (packed 3 40)) = (2, 15, 14)
    ∧ marks (run true prompt (aligned 40)) = (2, 7, 6) ∧ marks (runS true prompt (aligned 40)) = (2, 9, 8)
    ∧ marks (runS false prompt (straddle 40)) = (7, 6, 5) ∧ marks (runS false prompt (long7 20)) = (13, 29, 4) := by
  rw [show marks (run true prompt (aligned 40)) = (2, 7, 6) from MemSpec.aligned_streamed_flat.2]
  decide +kernel

/-- the 4-block family, which is outside `Straddling` and so outside `C17_bound_partial_general` (prompt
consumer): 17 blocks / 50 lines / 7 messages at most, once the instance is in the geometry -/
theorem long7_prompt_bounded (n : Nat) (h : Geometry 7 4 1 (long7 n)) (hc : Crossed (long7 n)) :
    (run false prompt (long7 n)).bHigh ≤ 17 ∧ (run false prompt (long7 n)).lHigh ≤ 50
      ∧ (run false prompt (long7 n)).sHigh ≤ 7 := by
  obtain ⟨hl, hs, hb⟩ := (C17_bound_general 7 4 1 (long7 n) h).1
  exact ⟨hb hc, hl, hs⟩

/-- **C17_bound_general_subsumes_partial**: `Straddling M` is the instance `B = 2`, `P = 1` with every
boundary crossed; the general bounds then read 7 / 5 M + 1 / 5 (plain) and 2 / 5 M + 1 / 5 (streamed), which is
`MemSpec.C17_bound_partial_general` (proved from the same invariant at `B = 2`, `P = 1`) -/
theorem C17_bound_general_subsumes_partial (M : Nat) (msgs : List Msg) (h : Straddling M msgs) :
    ((run false prompt msgs).bHigh ≤ 7 ∧ (run false prompt msgs).lHigh ≤ 5 * M + 1 ∧ (run false prompt msgs).sHigh ≤ 5)
    ∧ ((run true prompt msgs).bHigh ≤ 2 ∧ (run true prompt msgs).lHigh ≤ 5 * M + 1 ∧ (run true prompt msgs).sHigh ≤ 5) :=
  MemSpec.C17_bound_partial_general M msgs h

/-! ### each side condition is needed (for every bound, not only at evaluated sizes) -/

/-- **prompt_is_needed** (F8): inside the geometry (one-line messages over two blocks, every boundary
crossed) a consumer that is as far behind as the channel allows makes `lines high` at least the number
of messages — plain or streamed -/
theorem prompt_is_needed (streamed : Bool) :
    ¬ ∃ c, ∀ msgs : List Msg, Geometry 1 2 1 msgs → Crossed msgs → (run streamed lagging msgs).lHigh ≤ c := by
  rintro ⟨c, h⟩
  obtain ⟨hG, hc⟩ := Straddling.geometry (straddle_Straddling (c + 1))
  have h1 := h (straddle (c + 1)) hG hc
  have h2 := runG_lagging_grows (straddle_Straddling (c + 1)) true streamed
  rw [MemSpec.run_visits_all] at h1
  have : (straddle (c + 1)).length = c + 1 := by simp [straddle]
  omega

/-- **crossed_is_needed** (F25): one-line messages, two to a block, line ends on block ends, PROMPT consumer,
plain file: `blocks high` is at least the number of blocks of the file -/
theorem crossed_is_needed :
    ¬ ∃ c, ∀ msgs : List Msg, Geometry 1 1 2 msgs → (run false prompt msgs).bHigh ≤ c := by
  rintro ⟨c, h⟩
  have h1 := h (aligned (2 * c + 3)) (aligned_geometry _)
  have h2 := aligned_keeps_all true prompt (2 * c + 3) (by omega)
  rw [MemSpec.run_visits_all] at h1
  omega

/-- … while its lines and messages stay bounded: 7 and 6 by `C17_bound_general` — the values the evaluated
instances of `MemSpec.aligned_prompt_grows` attain -/
theorem aligned_lines_bounded (n : Nat) :
    (run false prompt (aligned n)).lHigh ≤ 7 ∧ (run false prompt (aligned n)).sHigh ≤ 6 := by
  have := (C17_bound_general 1 1 2 (aligned n) (aligned_geometry n)).1
  exact ⟨this.1, this.2.1⟩

/-- **visit_all_is_needed** (seeded change C17-a): with `drop_lines` in its short-circuit form
(`lines.into_iter().any(|l| self.drop_line(l))`, regenerated as `DROP_LINES_VISITS_ALL = false`) the bound
fails inside the geometry, with a prompt consumer, plain or streamed -/
theorem visit_all_is_needed (streamed : Bool) :
    ¬ ∃ c, ∀ msgs : List Msg, Geometry 3 2 1 msgs → Crossed msgs → (runG false streamed prompt msgs).lHigh ≤ c := by
  rintro ⟨c, h⟩
  obtain ⟨hG, hc⟩ := cross3_geometry (c + 1)
  have h1 := h (cross3 (c + 1)) hG hc
  have h2 := runG_short_circuit_grows streamed prompt (c + 1)
  omega

/-- **dense_is_needed**: the parameter `P` is not an artefact of the proof — `n` one-line messages inside
one block are all stored at once (nothing is behind the drop target until the file moves on two blocks) -/
theorem dense_is_needed :
    marks (run false prompt (List.replicate 10 [⟨0, 0⟩])) = (1, 10, 10)
    ∧ marks (run false prompt (List.replicate 20 [⟨0, 0⟩])) = (1, 20, 20)
    ∧ Geometry 1 1 20 (List.replicate 20 [⟨0, 0⟩]) ∧ Crossed (List.replicate 20 [⟨0, 0⟩]) := by
  decide +kernel

open S4V.Props.MemSpec in
/-- **C17_unbounded_false**: the literal unrestricted claim of `MemSpec` ("one bound for every number of
messages, every consumer, plain or streamed") is false — by the aligned family at EVERY size -/
theorem C17_unbounded_false : ¬ C17_unbounded_stmt := by
  rintro ⟨B, h⟩
  obtain ⟨_, _, _, h1⟩ := h false prompt (2 * B + 3)
  have h2 := aligned_keeps_all true prompt (2 * B + 3) (by omega)
  rw [MemSpec.run_visits_all] at h1
  omega

end S4V.Props.MemGeneralSpec
