/-
C19 — the summary agrees with what was printed: the REGENERATED accounting.

`S4V.Gen.Summary` is the accounting code of src/printer/summary.rs and of the print arms of `processing_loop`
(src/bin/s4.rs) translated to data on every run; `S4V.Model.Summary` interprets it.  Here:

  summary_skeleton_is_model   running the regenerated arm of `match log_message` = the hand model's `account` (all
                              counters, both datetimes, the per-file map) and writes exactly `coordAfter`;
  C19_*_src                   the C19 theorems of `PrintSpec` restated for the interpreter running the source's program;
  *_breaks_*                  one-token edits of the source (= other values of the regenerated data) make a named C19
                              statement false on a concrete two-message run.

Notation: `runAcctG P sep {} evs` = `summaryprinted` / `map_pathid_sumpr` after the print events `evs` when the program
is `P`; `SRC` = the program regenerated from the source.
-/
import S4V.Lemmas.Summary
import S4V.Props.PrintSpec

namespace S4V.Props.SummarySpec
open S4V.Model.Print S4V.Model.Summary S4V.Gen.Summary S4V.Lemmas.Print S4V.Lemmas.Summary S4V.Props.PrintSpec

theorem SRC_loop (k : K) : SRC.loop k = LOOP k := rfl
theorem SRC_nlLen : SRC.nlLen = 1 := rfl

/-- what one arm does, for any print result: `printed`/`flushed` are the pair of `Ok((printed, flushed))`, or `0, 0`
after `Err(_)`.  Once the kind, `cli_opt_summary` and `sepb_print` are fixed every guard of the arm is decided and the
arm is a straight line of statements (`runAtom_*`); the text arm still branches on its added newline. -/
theorem stepG_src (a : Acct) (sep : Bytes) (summary : Bool) (pid : Nat) (m : Msg) (isLast : Bool) (dt : Int)
    (res : Option (Nat × Nat)) :
    let st := stepG SRC a sep summary pid m isLast dt res
    st.acct = (if summary then account a sep pid m isLast dt (res.getD (0, 0)).1 (res.getD (0, 0)).2 else a) ∧
    st.out = coordAfter sep m isLast ∧
    st.paths = (if summary then [pid] else []) := by
  have mu := runAtom_mapUpdate_src m.kind
  have tu := runAtom_totalUpdate_src m.kind
  cases m <;> simp only [Msg.kind, kOf] at mu tu <;> cases summary <;> cases sep <;>
    simp [stepG, SRC_loop, Msg.kind, kOf, LOOP, LOOP_SYSLINE, LOOP_FIXEDSTRUCT, LOOP_EVTX, LOOP_JOURNALENTRY, runBlock,
      runGAtom, evalCond, evalV, ctxOf, mu, tu, runAtom_printCall, runAtom_write_sepb, runAtom_write_nl, runAtom_add,
      runAtom_notePath, bump_bytes_flushed, envOf, evalE, SRC_nlLen, account, coordAcct, coordAfter, Msg.nlines,
      Msg.payload] <;>
    split <;> simp [*, bump_bytes_flushed]

/-- with `--summary`, an arm of `match log_message` whose print call returned `Ok((printed, flushed))` leaves exactly
the hand model's `account` in `summaryprinted` / `map_pathid_sumpr`, and the coordinator's own writes are exactly
`coordAfter` (separator; newline after an unterminated last text message) -/
theorem summary_skeleton_is_model (a : Acct) (sep : Bytes) (pid : Nat) (m : Msg) (isLast : Bool) (dt : Int)
    (printed flushed : Nat) :
    (stepG SRC a sep true pid m isLast dt (some (printed, flushed))).acct = account a sep pid m isLast dt printed flushed ∧
    (stepG SRC a sep true pid m isLast dt (some (printed, flushed))).out = coordAfter sep m isLast := by
  have h := stepG_src a sep true pid m isLast dt (some (printed, flushed))
  exact ⟨by simpa using h.1, h.2.1⟩

/-- C19 "stdout unchanged by `--summary`", regenerated: without `-s` the arm writes the same bytes and leaves the
accounting state untouched (every accounting statement sits under `if cli_opt_summary`; no write does) -/
theorem C19_stdout_unchanged_src (a : Acct) (sep : Bytes) (pid : Nat) (m : Msg) (isLast : Bool) (dt : Int)
    (res : Option (Nat × Nat)) :
    (stepG SRC a sep false pid m isLast dt res).out = (stepG SRC a sep true pid m isLast dt res).out ∧
    (stepG SRC a sep false pid m isLast dt res).acct = a := by
  have h0 := stepG_src a sep false pid m isLast dt res
  have h1 := stepG_src a sep true pid m isLast dt res
  exact ⟨by rw [h0.2.1, h1.2.1], by simpa using h0.1⟩

/-- a failed print call (`Err(_)`) is still counted as a printed message, with 0 bytes and 0 flushes
(the arm goes on to the updates with the initial `printed = 0; flushed = 0`) -/
theorem failed_print_is_counted (a : Acct) (sep : Bytes) (pid : Nat) (m : Msg) (isLast : Bool) (dt : Int) :
    (stepG SRC a sep true pid m isLast dt none).acct = account a sep pid m isLast dt 0 0 := by
  have h := stepG_src a sep true pid m isLast dt none
  simpa using h.1

theorem runAcctG_src (sep : Bytes) (a : Acct) (evs : List Ev) : runAcctG SRC sep a evs = runAcct sep a evs := by
  induction evs generalizing a with
  | nil => rfl
  | cons ev r ih =>
    simp only [runAcctG, runAcct]
    rw [(summary_skeleton_is_model a sep ev.pid ev.m ev.isLast ev.dt _ ev.flushed).1, ih]

/-- "Printed bytes" is the length of stdout with the escapes taken out -/
def TotalBytes (P : Progs) : Prop :=
  ∀ (pal : Nat → Pal) (sep : Bytes) (ls : Lasts) (evs : List Ev),
    (runAcctG P sep {} evs).total.bytes = (plainOf (runOut pal sep ls evs)).length

/-- the per-file byte counts add up to the total less the separators and supplied newlines -/
def PerFile (P : Progs) : Prop :=
  ∀ (sep : Bytes) (evs : List Ev),
    sumBy (·.bytes) (runAcctG P sep {} evs).perFile + (evs.map (fun ev => (sep ++ addedNL ev).length)).sum
      = (runAcctG P sep {} evs).total.bytes

/-- the message counters count the printed messages of each kind; lines = lines of the text messages -/
def Counts (P : Progs) : Prop :=
  ∀ (sep : Bytes) (evs : List Ev),
    let a := runAcctG P sep {} evs
    a.total.syslines = countKind .sysline evs ∧
    a.total.fixedstructentries = countKind .fixedstruct evs ∧
    a.total.evtxentries = countKind .evtx evs ∧
    a.total.journalentries = countKind .journal evs ∧
    a.total.lines = (evs.map (fun ev => ev.m.nlines)).sum ∧
    sumBy (·.lines) a.perFile = a.total.lines ∧
    sumBy msgsOf a.perFile = evs.length

/-- "Datetime printed first / last" bound every printed instant and are printed instants -/
def FirstLast (P : Progs) : Prop :=
  ∀ (sep : Bytes) (evs : List Ev), evs ≠ [] →
    ∃ f l, (runAcctG P sep {} evs).total.dtFirst = some f ∧ (runAcctG P sep {} evs).total.dtLast = some l ∧
      (∀ ev ∈ evs, f ≤ ev.dt ∧ ev.dt ≤ l) ∧ (∃ ev ∈ evs, ev.dt = f) ∧ (∃ ev ∈ evs, ev.dt = l)

theorem C19_total_bytes_src : TotalBytes SRC := by
  intro pal sep ls evs; rw [runAcctG_src]; exact C19_total_bytes pal sep ls evs

theorem C19_per_file_src : PerFile SRC := by
  intro sep evs; rw [runAcctG_src]; exact C19_per_file sep evs

theorem C19_counts_src : Counts SRC := by
  intro sep evs; rw [runAcctG_src]; exact C19_counts sep evs

theorem C19_first_last_src : FirstLast SRC := by
  intro sep evs hne; rw [runAcctG_src]; exact C19_first_last sep evs hne

/-- `--color never`: "Printed bytes" is literally the length of stdout -/
theorem C19_total_bytes_nocolor_src (pal : Nat → Pal) (sep : Bytes) (ls : Lasts) (evs : List Ev)
    (hc : ∀ ev ∈ evs, ev.o.color = false) :
    (runAcctG SRC sep {} evs).total.bytes = (bytesOf (runOut pal sep ls evs)).length := by
  rw [runAcctG_src]; exact C19_total_bytes_nocolor pal sep ls evs hc

/-- non-vacuity (also of the `--color never` hypothesis: `plainO.color = false`): a two-file run, out of order, with a separator and an unterminated last message -/
example : (runAcctG SRC [45] {}
    [⟨0, ⟨false, none, none⟩, .sysline ⟨[[97, 10], [98, 10]], 0, 0⟩, false, 20, 1⟩,
     ⟨1, ⟨false, none, none⟩, .sysline ⟨[[99]], 0, 0⟩, true, 10, 1⟩]).total
    = { bytes := 8, flushed := 5, lines := 3, syslines := 2, dtFirst := some 10, dtLast := some 20 } := by decide

/-- `_summaryprint_map_update` sends every `LogMessage` variant to the map-update of its own kind with
`(printed, flushed)` in that order -/
theorem map_dispatch_per_kind : ∀ kc ∈ MAP_DISPATCH, kc.2 = ⟨kc.1, .printed, .flushed⟩ := by decide

theorem map_dispatch_total : MAP_DISPATCH.map (·.1) = [.evtx, .fixedstruct, .journalentry, .sysline] := by decide

/-- a fresh per-file entry holds what its own update call puts in it, and is inserted -/
theorem map_update_inserts : ∀ k : K, (MAP_UPDATE k).inserts = true ∧ (MAP_UPDATE k).someCalls = (MAP_UPDATE k).noneCalls ∧
    (MAP_UPDATE k).newType = k := by intro k; cases k <;> decide

/-- every "Printed …" line of the program summary prints the counter it names -/
theorem summary_labels :
    SUMMARY_LABELS = [("Printed bytes", .ctr .bytes), ("Printed flushes", .ctr .flushed), ("Printed lines", .ctr .lines),
      ("Printed syslines", .ctr .syslines), ("Printed evtx events", .ctr .evtxentries),
      ("Printed fixedstruct", .ctr .fixedstructentries), ("Printed journal events", .ctr .journalentries),
      ("Datetime printed first", .dt .first), ("Datetime printed last", .dt .last)] := rfl

def edit {α : Type} (l : List α) (i : Nat) (x : α) : List α := l.set i x

/-- `summaryprint_update_dt`: `dt_last` overwritten (`self.dt_last = Some(*dt)` without the `if dt > &dt_last`) — C19-b -/
def P_overwrite_last : Progs :=
  { SRC with updateDt := edit UPDATE_DT 1 { scrut := .last, someArm := .plain [.last], noneArm := [.last] } }

/-- `summaryprint_update_dt`: `if dt > &dt_first` instead of `<` -/
def P_first_gt : Progs :=
  { SRC with updateDt := edit UPDATE_DT 0 { scrut := .first, someArm := .guarded true .gt [.first], noneArm := [.first] } }

/-- `processing_loop`, text arm: `summaryprinted.bytes += sepb.len() * syslinep.count_lines()` (separator per line) -/
def P_sep_per_line : Progs :=
  { SRC with loop := fun k => if k = .sysline then edit LOOP_SYSLINE 2 ⟨[⟨false, .sepbPrint⟩, ⟨false, .summary⟩], .add .bytes (.mul .sepLen .countLines)⟩ else LOOP k }

/-- `processing_loop`, text arm: the added newline passed on to the per-file entry
(`summaryprint_map_update_sysline(…, printed + NLu8a.len(), flushed)`) -/
def P_nl_per_file : Progs :=
  { SRC with loop := fun k => if k = .sysline then edit LOOP_SYSLINE 8 ⟨[⟨false, .summary⟩], .mapUpdate .sysline (.add .printed .nlLen) .flushed⟩ else LOOP k }

/-- `summaryprint_update_evtx`: `self.journalentries += 1` -/
def P_evtx_bumps_journal : Progs :=
  { SRC with update := fun k => if k = .evtx then edit UPDATE_EVTX 0 (.add .journalentries (.lit 1)) else UPDATE k }

/-- `processing_loop`, text arm: `Ok((printed_, flushed_)) => { printed = flushed_; flushed = printed_ }` -/
def P_swap_result : Progs :=
  { SRC with loop := fun k => if k = .sysline then edit LOOP_SYSLINE 0 ⟨[], .printCall .sysline false⟩ else LOOP k }

/-- `processing_loop`, text arm: the `!` of `!(*syslinep).ends_with_newline()` dropped at the counting site
(the newline is counted when the last message ENDS with one, not when it is added) -/
def P_nl_cond_flipped : Progs :=
  { SRC with loop := fun k => if k = .sysline then edit LOOP_SYSLINE 5 ⟨[⟨false, .isLast⟩, ⟨false, .endsNL⟩, ⟨false, .summary⟩], .add .bytes .nlLen⟩ else LOOP k }

def plainO : Opts := ⟨false, none, none⟩
/-- text message `a\n` at instant 20 from file 0, then text message `b\n` at instant 10 from file 1 -/
def run2 : List Ev :=
  [⟨0, plainO, .sysline ⟨[[97, 10]], 0, 0⟩, false, 20, 1⟩, ⟨1, plainO, .sysline ⟨[[98, 10]], 0, 0⟩, true, 10, 1⟩]
/-- a two-line text message then an unterminated last one, same file -/
def run2L : List Ev :=
  [⟨0, plainO, .sysline ⟨[[97, 10], [98, 10]], 0, 0⟩, false, 10, 1⟩, ⟨0, plainO, .sysline ⟨[[99]], 0, 0⟩, true, 20, 1⟩]
/-- an event-log record then a journal entry -/
def run2E : List Ev :=
  [⟨0, plainO, .evtx ⟨[120, 10], 0, 0⟩, false, 10, 1⟩, ⟨1, plainO, .journal ⟨[121, 10], 0, 0⟩, true, 20, 1⟩]

/-- overwritten `dt_last`: the later message printed first is forgotten -/
theorem overwrite_last_breaks_first_last : ¬ FirstLast P_overwrite_last := by
  intro h
  obtain ⟨f, l, _, hl, hb, _⟩ := h [] run2 (by decide)
  have e : (runAcctG P_overwrite_last [] {} run2).total.dtLast = some 10 := by decide
  rw [e] at hl; cases hl
  have := (hb ⟨0, plainO, .sysline ⟨[[97, 10]], 0, 0⟩, false, 20, 1⟩ (by decide)).2
  revert this; decide

/-- `>` in the `dt_first` test: the first datetime only ever grows -/
theorem first_gt_breaks_first_last : ¬ FirstLast P_first_gt := by
  intro h
  obtain ⟨f, l, hf, _, hb, _⟩ := h [] run2 (by decide)
  have e : (runAcctG P_first_gt [] {} run2).total.dtFirst = some 20 := by decide
  rw [e] at hf; cases hf
  have := (hb ⟨1, plainO, .sysline ⟨[[98, 10]], 0, 0⟩, true, 10, 1⟩ (by decide)).1
  revert this; decide

/-- separator counted per line: a two-line message makes "Printed bytes" exceed stdout -/
theorem sep_per_line_breaks_total_bytes : ¬ TotalBytes P_sep_per_line := by
  intro h
  have := h (fun _ => ⟨[], [], []⟩) [45] (fun _ => none) run2L
  revert this; decide

/-- the added newline in the per-file entry: per-file sum + separators + newlines exceeds the total -/
theorem nl_per_file_breaks_per_file : ¬ PerFile P_nl_per_file := by
  intro h
  have := h [45] run2L
  revert this; decide

/-- the evtx update bumping the journal counter: "Printed evtx events" 0, "Printed journal events" 2 -/
theorem evtx_bumps_journal_breaks_counts : ¬ Counts P_evtx_bumps_journal := by
  intro h
  obtain ⟨-, -, hevtx, -⟩ := h [] run2E
  revert hevtx; decide

/-- `(printed, flushed)` of the print result crossed: bytes counts flushes -/
theorem swap_result_breaks_total_bytes : ¬ TotalBytes P_swap_result := by
  intro h
  have := h (fun _ => ⟨[], [], []⟩) [] (fun _ => none) run2
  revert this; decide

theorem nl_cond_flipped_breaks_total_bytes : ¬ TotalBytes P_nl_cond_flipped := by
  intro h
  have := h (fun _ => ⟨[], [], []⟩) [] (fun _ => none) run2
  revert this; decide

end S4V.Props.SummarySpec
