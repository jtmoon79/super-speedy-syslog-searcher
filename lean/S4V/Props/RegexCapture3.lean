/-
GENERATED by tools/mk_regexrows.py — regenerate, do not edit.

C04, regex slice: index of the per-row capture theorems (`S4V.Props.RegexCapture3a` …). The false statements and the witnesses are
hand-written: `S4V.Props.RegexCapture3Spec`.

TABLE (row → theorem (head/end; catalogue entries left out) | why not):
    0  C04_row0_search (bol/P; 12 of 114 entries left out)
    1  C04_row1_search (bol/P; 12 of 117 entries left out)
    2  C04_row2_search (bol/P; 12 of 117 entries left out)
    3  C04_row3_search (bol/P; 12 of 117 entries left out)
    4  C04_row4_search (bol/P; 12 of 508 entries left out)
    5  C04_row5_search (bol/P; 12 of 137 entries left out)
    6  C04_row6_search (bol/P; 0 of 162 entries left out)
    7  C04_row7_search (bol/E; 12 of 122 entries left out)
    8  C04_row8_search (bol/E; 12 of 122 entries left out)
    9  C04_row9_search (bol/E; 12 of 122 entries left out)
   10  C04_row10_search (bol/E; 20 of 513 entries left out)
   11  C04_row11_search (bol/E; 12 of 119 entries left out)
   12  C04_row12_search (bol/P; 3 of 110 entries left out; hand-written: C04_rfc5424_zc_search)
   13  C04_row13_search (bol/P; 3 of 110 entries left out)
   14  C04_row14_search (bol/E; 3 of 501 entries left out)
   15  C04_row15_search (bol/E; 3 of 107 entries left out; hand-written: C04_rfc5424_search)
   16  C04_row16_search (bol/E; 9 of 204 entries left out)
   17  C04_row17_search (bol/E; 9 of 204 entries left out)
   18  C04_row18_search (bol/E; 9 of 595 entries left out)
   19  C04_row19_search (bol/E; 9 of 201 entries left out; hand-written: C04_rfc3164_year_search)
   20  C04_row20_search (bol/E; 9 of 204 entries left out)
   21  C04_row21_search (bol/E; 9 of 204 entries left out)
   22  C04_row22_search (bol/E; 9 of 595 entries left out)
   23  C04_row23_search (bol/P; 9 of 198 entries left out; hand-written: C04_rfc3164_search)
   24  C04_row24_search (bol/E; 10 of 127 entries left out)
   25  C04_row25_search (none/E; 4 of 238 entries left out)
   26  C04_row26_search (bol/P; 0 of 112 entries left out)
   27  C04_row27_search (bol/E; 9 of 588 entries left out)
   28  C04_row28_search (bol/E; 9 of 197 entries left out)
   29  C04_row29_search (bol/E; 9 of 197 entries left out)
   30  C04_row30_search (bol/E; 9 of 197 entries left out)
   31  C04_row31_search (bol/E; 9 of 194 entries left out)
   32  C04_row32_search (bol/E; 9 of 583 entries left out)
   33  C04_row33_search (bol/P; 9 of 191 entries left out)
   34  C04_row34_search (bol/E; 0 of 268 entries left out)
   35  C04_row35_search (bol/E; 0 of 268 entries left out)
   36  C04_row36_search (bol/E; 0 of 268 entries left out)
   37  C04_row37_search (bol/E; 0 of 659 entries left out)
   38  C04_row38_search (bol/E; 0 of 208 entries left out; hand-written: C04_rfc2822_search)
   39  C04_row39_search (bol/E; 0 of 208 entries left out)
   40  C04_row40_search (bol/E; 0 of 603 entries left out)
   41  C04_row41_search (bol/E; 0 of 214 entries left out)
   42  C04_row42_search (bol/E; 0 of 214 entries left out)
   43  C04_row43_search (bol/E; 0 of 609 entries left out)
   44  C04_row44_search (bol/E; 13 of 119 entries left out)
   45  C04_row45_search (none/E; 12 of 103 entries left out)
   46  C04_row46_search (none/P; 0 of 167 entries left out)
   47  C04_row47_search (none/P; 0 of 558 entries left out)
   48  C04_row48_search (none/P; 0 of 167 entries left out)
   49  C04_row49_search (none/P; 0 of 167 entries left out)
   50  C04_row50_search (none/P; 0 of 166 entries left out)
   51  C04_row51_search (none/P; 0 of 177 entries left out)
   52  C04_row52_search (none/P; 0 of 177 entries left out)
   53  C04_row53_search (none/P; 0 of 177 entries left out)
   54  C04_row54_search (none/P; 0 of 176 entries left out)
   55  C04_row55_search (none/P; 12 of 114 entries left out)
   56  C04_row56_search (none/P; 0 of 236 entries left out)
   57  C04_row57_search (none/P; 0 of 226 entries left out)
   58  C04_row58_search (bol/E; 0 of 163 entries left out; hand-written: C04_adhoc_dbYHMSf_search)
   59  C04_row59_search (softL/E; 31 of 114 entries left out)
   60  C04_row60_search (bol/E; 2 of 252 entries left out)
   61  C04_row61_search (bol/E; 2 of 285 entries left out)
   62  C04_row62_search (bol/E; 2 of 285 entries left out)
   63  C04_row63_search (bol/E; 2 of 676 entries left out)
   64  C04_row64_search (bol/E; 2 of 282 entries left out)
   65  not covered: no determinate catalogue entry for item(s) [3] of the body (kept/total [(11, 22), (2, 2), (2, 2), (0, 1), (63, 63), (1, 1), (72, 72), (1, 1), (49, 49), (1, 1), (25, 25), (2, 2), (1, 1), (2, 2), (2, 2), (2, 2), (3, 3), (2, 2), (1, 1)])
   66  not covered: no determinate catalogue entry for item(s) [3] of the body (kept/total [(11, 22), (2, 2), (2, 2), (0, 1), (63, 63), (1, 1), (105, 105), (1, 1), (49, 49), (1, 1), (25, 25), (2, 2), (1, 1), (2, 2), (2, 2), (2, 2), (3, 3), (2, 2), (1, 1)])
   67  not covered: no determinate catalogue entry for item(s) [3] of the body (kept/total [(11, 22), (2, 2), (2, 2), (0, 1), (63, 63), (1, 1), (105, 105), (1, 1), (49, 49), (1, 1), (25, 25), (2, 2), (1, 1), (2, 2), (2, 2), (2, 2), (3, 3), (2, 2), (1, 1)])
   68  not covered: no determinate catalogue entry for item(s) [3] of the body (kept/total [(11, 22), (2, 2), (2, 2), (0, 1), (63, 63), (1, 1), (105, 105), (1, 1), (49, 49), (1, 1), (25, 25), (2, 2), (1, 1), (2, 2), (2, 2), (2, 2), (3, 3), (2, 2), (392, 392)])
   69  not covered: no determinate catalogue entry for item(s) [3] of the body (kept/total [(11, 22), (2, 2), (2, 2), (0, 1), (63, 63), (1, 1), (105, 105), (1, 1), (49, 49), (1, 1), (25, 25), (2, 2), (1, 1), (2, 2), (2, 2), (2, 2), (3, 3)])
   70  C04_row70_search (bol/E; 12 of 115 entries left out)
   71  C04_row71_search (bol/E; 12 of 115 entries left out)
   72  C04_row72_search (bol/E; 12 of 115 entries left out)
   73  C04_row73_search (bol/E; 12 of 506 entries left out)
   74  C04_row74_search (bol/E; 12 of 112 entries left out)
   75  C04_row75_search (bol/E; 12 of 105 entries left out; hand-written: C04_iso_z_search)
   76  C04_row76_search (bol/E; 12 of 105 entries left out; hand-written: C04_iso_zc_search)
   77  C04_row77_search (bol/E; 12 of 105 entries left out; hand-written: C04_iso_zp_search)
   78  C04_row78_search (bol/E; 12 of 496 entries left out; hand-written: C04_iso_Z_search)
   79  C04_row79_search (bol/E; 12 of 102 entries left out; hand-written: C04_iso_search)
   80  C04_row80_search (bol/E; 9 of 652 entries left out)
   81  C04_row81_search (bol/E; 9 of 259 entries left out)
   82  C04_row82_search (bol/E; 9 of 259 entries left out)
   83  C04_row83_search (bol/E; 9 of 259 entries left out)
   84  C04_row84_search (bol/E; 9 of 652 entries left out)
   85  C04_row85_search (bol/E; 9 of 259 entries left out)
   86  C04_row86_search (bol/E; 9 of 259 entries left out)
   87  C04_row87_search (bol/E; 9 of 259 entries left out)
   88  C04_row88_search (bol/E; 9 of 257 entries left out)
   89  C04_row89_search (bol/E; 9 of 257 entries left out)
   90  C04_row90_search (bol/E; 12 of 201 entries left out)
   91  C04_row91_search (bol/E; 12 of 201 entries left out)
   92  C04_row92_search (bol/E; 12 of 201 entries left out)
   93  C04_row93_search (bol/E; 12 of 592 entries left out)
   94  C04_row94_search (bol/E; 12 of 197 entries left out; hand-written: C04_adhoc_YbdHMS_search)
   95  C04_row95_search (bol/P; 3 of 98 entries left out)
   96  C04_row96_search (none/P; 0 of 14 entries left out)
   97  C04_row97_search (bol/P; 0 of 6 entries left out)
   98  C04_row98_search (bol/P; 0 of 6 entries left out)
   99  C04_row99_search (bol/P; 0 of 6 entries left out)
  100  C04_row100_search (bol/P; 0 of 4 entries left out; hand-written: C04_epoch_search)
  101  C04_row101_search (softR/E; 12 of 107 entries left out)
  102  C04_row102_search (none/P; 12 of 518 entries left out)
  103  C04_row103_search (none/P; 12 of 127 entries left out)
  104  C04_row104_search (none/P; 12 of 127 entries left out)
  105  C04_row105_search (none/P; 12 of 127 entries left out)
  106  C04_row106_search (none/P; 12 of 124 entries left out)
  107  C04_row107_search (none/P; 12 of 508 entries left out)
  108  C04_row108_search (none/P; 12 of 117 entries left out)
  109  C04_row109_search (none/P; 12 of 117 entries left out)
  110  C04_row110_search (none/P; 12 of 117 entries left out)
  111  C04_row111_search (none/P; 12 of 114 entries left out)
  112  C04_row112_search (none/P; 12 of 518 entries left out)
  113  C04_row113_search (none/P; 12 of 127 entries left out)
  114  C04_row114_search (none/P; 12 of 127 entries left out)
  115  C04_row115_search (none/P; 12 of 127 entries left out)
  116  C04_row116_search (none/P; 12 of 124 entries left out)
  117  C04_row117_search (none/P; 12 of 508 entries left out)
  118  C04_row118_search (none/P; 12 of 117 entries left out)
  119  C04_row119_search (none/P; 12 of 117 entries left out)
  120  C04_row120_search (none/P; 12 of 117 entries left out)
  121  C04_row121_search (none/P; 12 of 114 entries left out)
  122  C04_row122_search (none/P; 12 of 110 entries left out)
  123  C04_row123_search (none/P; 12 of 117 entries left out)
  124  C04_row124_search (none/P; 12 of 117 entries left out)
  125  C04_row125_search (none/P; 12 of 117 entries left out)
  126  C04_row126_search (none/P; 12 of 508 entries left out)
  127  C04_row127_search (none/P; 12 of 114 entries left out)
  128  C04_row128_search (softL/E; 12 of 115 entries left out)
  129  C04_row129_search (softL/E; 12 of 115 entries left out)
  130  C04_row130_search (softL/E; 12 of 115 entries left out)
  131  C04_row131_search (softL/E; 12 of 506 entries left out)
  132  C04_row132_search (softL/E; 12 of 112 entries left out)
  133  C04_row133_search (softL/E; 12 of 105 entries left out)
  134  C04_row134_search (softL/E; 12 of 105 entries left out)
  135  C04_row135_search (softL/E; 12 of 105 entries left out)
  136  C04_row136_search (softL/E; 12 of 496 entries left out)
  137  C04_row137_search (softL/E; 12 of 102 entries left out)
  138  C04_row138_search (softL/E; 30 of 102 entries left out)
  139  C04_row139_search (softR/E; 0 of 268 entries left out)
  140  C04_row140_search (softR/E; 0 of 268 entries left out)
  141  C04_row141_search (softR/E; 0 of 268 entries left out)
  142  C04_row142_search (softR/E; 0 of 659 entries left out)
  143  C04_row143_search (softR/E; 0 of 265 entries left out)
  144  C04_row144_search (softR/E; 0 of 267 entries left out)
  145  C04_row145_search (softR/E; 0 of 267 entries left out)
  146  C04_row146_search (softR/E; 0 of 267 entries left out)
  147  C04_row147_search (softR/E; 0 of 658 entries left out)
  148  C04_row148_search (softR/E; 0 of 263 entries left out)
  149  C04_row149_search (bol/E; 7 of 418 entries left out)
  150  C04_row150_search (bol/E; 7 of 223 entries left out)
  151  C04_row151_search (bol/E; 7 of 223 entries left out)
  152  C04_row152_search (bol/E; 7 of 223 entries left out)
  153  C04_row153_search (bol/E; 7 of 221 entries left out)
  154  C04_row154_search (bol/E; 7 of 217 entries left out)
  155  C04_row155_search (softR/E; 3 of 433 entries left out)
  156  C04_row156_search (softR/E; 3 of 238 entries left out)
  157  C04_row157_search (softR/E; 3 of 238 entries left out)
  158  C04_row158_search (softR/E; 3 of 238 entries left out)
  159  C04_row159_search (softR/E; 3 of 433 entries left out)
  160  C04_row160_search (softR/E; 3 of 238 entries left out)
  161  C04_row161_search (softR/E; 3 of 238 entries left out)
  162  C04_row162_search (softR/E; 3 of 238 entries left out)
  163  C04_row163_search (softR/E; 3 of 390 entries left out)
  164  C04_row164_search (softR/E; 3 of 195 entries left out)
  165  C04_row165_search (softR/E; 3 of 195 entries left out)
  166  C04_row166_search (softR/E; 3 of 195 entries left out)
  167  C04_row167_search (softR/E; 3 of 390 entries left out)
  168  C04_row168_search (softR/E; 3 of 195 entries left out)
  169  C04_row169_search (softR/E; 3 of 195 entries left out)
  170  C04_row170_search (softR/E; 3 of 195 entries left out)
  171  C04_row171_search (softR/E; 3 of 193 entries left out)
  172  C04_row172_search (softR/E; 3 of 189 entries left out)
-/
import S4V.Props.RegexCapture3a
import S4V.Props.RegexCapture3b
import S4V.Props.RegexCapture3c
import S4V.Props.RegexCapture3d
import S4V.Props.RegexCapture3e
import S4V.Props.RegexCapture3f
import S4V.Props.RegexCapture3g
import S4V.Props.RegexCapture3h
import S4V.Props.RegexCapture3i
import S4V.Props.RegexCapture3j
import S4V.Props.RegexCapture3k
import S4V.Props.RegexCapture3l
import S4V.Props.RegexCapture3m
import S4V.Props.RegexCapture3n
import S4V.Props.RegexCapture3o
import S4V.Props.RegexCapture3p
import S4V.Props.RegexCapture3q

namespace S4V.Props.RegexCapture3

/-- rows with a `C04_rowN_search` theorem -/
def coveredRows : List Nat := [0, 1, 2, 3, 4, 5, 6, 7, 8, 9, 10, 11, 12, 13, 14, 15, 16, 17, 18, 19, 20, 21, 22, 23, 24, 25, 26, 27, 28, 29, 30, 31, 32, 33, 34, 35, 36, 37, 38, 39, 40, 41, 42, 43, 44, 45, 46, 47, 48, 49, 50, 51, 52, 53, 54, 55, 56, 57, 58, 59, 60, 61, 62, 63, 64, 70, 71, 72, 73, 74, 75, 76, 77, 78, 79, 80, 81, 82, 83, 84, 85, 86, 87, 88, 89, 90, 91, 92, 93, 94, 95, 96, 97, 98, 99, 100, 101, 102, 103, 104, 105, 106, 107, 108, 109, 110, 111, 112, 113, 114, 115, 116, 117, 118, 119, 120, 121, 122, 123, 124, 125, 126, 127, 128, 129, 130, 131, 132, 133, 134, 135, 136, 137, 138, 139, 140, 141, 142, 143, 144, 145, 146, 147, 148, 149, 150, 151, 152, 153, 154, 155, 156, 157, 158, 159, 160, 161, 162, 163, 164, 165, 166, 167, 168, 169, 170, 171, 172]

end S4V.Props.RegexCapture3
