/-
C04, regex slice — from the regex capture to the post-capture model: what `Captures` a list of capture
slots denotes (`capturesOf`), and the statement side of the RFC 3339 family, row 71 of `DATETIME_PARSE_DATAS`
`^YYYY[ /\-]?MM[ /\-]?DD[ T\-:]?HH[:]?MM[:]?SS[.,]f{1,9}[[:blank:]]?±HH:MM([[:^digit:]]|$)` (`DTFSS_YmdHMSfzc`):
the rendered line `render`, the slots `expectCaps` and

* `C04_rfc3339_captures`    the `Captures` handed to the post-capture model (`S4V.Model.DtParse.capturesToInstant`,
                            theorem `C04_normalise_parse`) for those slots are exactly the rendered fields

`C04_rfc3339_search` (for EVERY field tuple in range — year 1969–2099, month 01–12, day 01–31, hour 00–24,
minute 00–59, second 00–60, 1–9 fraction digits, sign `+`/`-`, zone hours 00–29, zone minutes 00–99 — and every
tail that is empty or starts with an ASCII non-digit, `search` matches at 0 with each group on its field) is
proved over the catalogues of the ISO rows (`S4V.Props.RegexCapture2`) in `S4V.Props.RegexCaptureRfc3339`.
-/
import S4V.Gen.Regex
import S4V.Lemmas.RegexRows

namespace S4V.Props.RegexCapture
open S4V.Model.Regex S4V.Gen.Regex S4V.Lemmas.RegexStep
open S4V.Model.DtParse (dchar Captures)
open S4V.Lemmas.DtParse (dec2 dec4)

def dig : Re := .cls [(48, 57)]
def sepD : Re := .rep (.cls [(32,32),(45,45),(47,47)]) 0 (some 1)
def colonQ : Re := .rep (.cls [(58,58)]) 0 (some 1)
def blankQ : Re := .rep (.cls [(9,9),(32,32)]) 0 (some 1)

/-- the tail after the stamp: nothing, or something starting with an ASCII non-digit -/
def TailOK : List UInt8 → Prop := StopsDigits

/-- bytes the final `([[:^digit:]]|$)` consumes -/
def endLen : List UInt8 → Nat
  | [] => 0
  | _ :: _ => 1

/-- `YYYY-MM-DDTHH:MM:SS.f±HH:MM` followed by `tail` -/
def render (Y M D H N S : Nat) (frac : List UInt8) (sign : UInt8) (oh om : Nat) (tail : List UInt8) : List UInt8 :=
  dec4 Y ++ 45 :: (dec2 M ++ 45 :: (dec2 D ++ 84 :: (dec2 H ++ 58 :: (dec2 N ++ 58 :: (dec2 S ++ 46 ::
    (frac ++ sign :: (dec2 oh ++ 58 :: (dec2 om ++ tail))))))))

/-- the capture slots `search` reports for such a line (`f` = number of fraction digits, `e` = 0/1 bytes
taken by the final group) -/
def expectCaps (f e : Nat) : Caps :=
  [(9, 20 + f + 6, 20 + f + 6 + e), (8, 20 + f, 20 + f + 6), (7, 20, 20 + f), (6, 17, 19), (5, 14, 16), (4, 11, 13),
   (3, 8, 10), (2, 5, 7), (1, 0, 4)]

/-- `match_.as_bytes()` of a slot -/
def sliceOf (line : List UInt8) (ab : Nat × Nat) : List UInt8 := (line.drop ab.1).take (ab.2 - ab.1)

/-- `captures.name(<name>).map(|m| m.as_bytes())` -/
def capField (row : Row) (line : List UInt8) (caps : Caps) (name : String) : Option (List UInt8) :=
  ((row.names.lookup name).bind (capGet caps)).map (sliceOf line)

/-- the named groups as `captures_to_buffer_bytes` reads them -/
def capturesOf (row : Row) (line : List UInt8) (caps : Caps) : Captures :=
  { year := capField row line caps "year", month := capField row line caps "month",
    day := capField row line caps "day", hour := capField row line caps "hour",
    minute := capField row line caps "minute", second := capField row line caps "second",
    fractional := capField row line caps "fractional", tz := capField row line caps "tz",
    epoch := capField row line caps "epoch" }

theorem capField_eq (row : Row) (line : List UInt8) (caps : Caps) (name : String) :
    capField row line caps name = (row.names.lookup name).bind (S4V.Lemmas.RegexRows.groupText line caps) := by
  unfold capField S4V.Lemmas.RegexRows.groupText
  cases row.names.lookup name <;> rfl

theorem sliceOf_mid (pre w post : List UInt8) {a b : Nat} (ha : a = pre.length) (hb : b = a + w.length) :
    sliceOf (pre ++ (w ++ post)) (a, b) = w := by
  subst ha hb
  simp [sliceOf]

/-- **captures = rendered fields** -/
theorem C04_rfc3339_captures (Y M D H N S : Nat) (frac : List UInt8) (sign : UInt8) (oh om : Nat) (tail : List UInt8)
    (e : Nat) :
    capturesOf row71 (render Y M D H N S frac sign oh om tail) (expectCaps frac.length e) =
      { year := some (dec4 Y), month := some (dec2 M), day := some (dec2 D), hour := some (dec2 H),
        minute := some (dec2 N), second := some (dec2 S), fractional := some frac,
        tz := some (sign :: (dec2 oh ++ 58 :: dec2 om)), epoch := none } := by
  have htz : sliceOf (render Y M D H N S frac sign oh om tail) (20 + frac.length, 20 + frac.length + 6) =
      sign :: (dec2 oh ++ 58 :: dec2 om) := by
    have e : render Y M D H N S frac sign oh om tail =
        (dec4 Y ++ 45 :: (dec2 M ++ 45 :: (dec2 D ++ 84 :: (dec2 H ++ 58 :: (dec2 N ++ 58 :: (dec2 S ++ 46 :: frac))))))
          ++ ((sign :: (dec2 oh ++ 58 :: dec2 om)) ++ tail) := by
      simp [render, dec4, dec2]
    rw [e]
    exact sliceOf_mid _ _ _ (by simp [dec4, dec2]; omega) (by simp [dec2])
  have hfr : sliceOf (render Y M D H N S frac sign oh om tail) (20, 20 + frac.length) = frac := by
    simp [sliceOf, render, dec4, dec2]
  simp only [capturesOf, capField]
  simp [row71, expectCaps, capGet, List.lookup, htz, hfr]
  simp [sliceOf, render, dec4, dec2]

/-- the hypotheses are satisfiable and the pieces fit: `2023-01-06T14:35:00.506282-08:00 (host)` is
such a line; the model's `search` + `capturesToInstant` give 2023-01-06 22:35:00.506282 UTC -/
example : render 2023 1 6 14 35 0 "506282".toUTF8.toList 45 8 0 " (host)".toUTF8.toList =
    "2023-01-06T14:35:00.506282-08:00 (host)".toUTF8.toList := by decide +kernel

example :
    (search row71.re "2023-01-06T14:35:00.506282-08:00 (host)".toUTF8.toList).bind (fun res =>
      S4V.Model.DtParse.capturesToInstant row71.dtfs
        (capturesOf row71 "2023-01-06T14:35:00.506282-08:00 (host)".toUTF8.toList res.caps) 0 none) =
    some 1673044500506282000 := by decide +kernel

end S4V.Props.RegexCapture
