/-
C19, reader side — what a reader reports as first/last processed/accepted datetime and counts.

`EVTX_ANALYZE` (the `Ok(record)` arm of the record loop of `EvtxReader::analyze`), `FIXED_DT_FIRST_LAST`
(`FixedStructReader::dt_first_last_update`) and `JOURNAL_ACCEPTED_FIRST_LAST` (`JournalReader::em_first_last_update_accepted`)
are regenerated from the source (`S4V.Gen.Summary`); `S4V.Model.Summary.analyze` / `runFL` run them.

  recs            timestamps of the file's records, in file order
  inWin a b ts    `ts_pass_filters(ts, a, b)` is `InRange` (the translated function of `S4V.Gen.Filter`)
  minL / maxL     least / greatest element of a list (`none` for `[]`)
-/
import S4V.Lemmas.Summary
import S4V.Lemmas.Lists
import S4V.Props.FilterSpec

namespace S4V.Props.SummaryReaderSpec
open S4V.Model.Print S4V.Model.Summary S4V.Gen.Summary S4V.Lemmas.Summary

def inWin (after before : Option Int) (ts : Int) : Bool :=
  match S4V.Gen.Filter.tsPassFilters ts after before with
  | .InRange => true
  | _ => false

theorem inWin_iff (after before : Option Int) (ts : Int) :
    inWin after before ts = true ↔ (∀ a, after = some a → a ≤ ts) ∧ (∀ b, before = some b → ts ≤ b) := by
  rw [← FilterSpec.tsPassFilters_iff, inWin]
  cases S4V.Gen.Filter.tsPassFilters ts after before <;> simp

def optMin (o : Option Int) (x : Int) : Option Int :=
  some (match o with | some b => min b x | none => x)
def optMax (o : Option Int) (x : Int) : Option Int :=
  some (match o with | some b => max b x | none => x)
def minL (l : List Int) : Option Int := l.foldl optMin none
def maxL (l : List Int) : Option Int := l.foldl optMax none

/-- readable form of the `Ok(record)` arm -/
def evStep (after before : Option Int) (s : EvSt) (ts : Int) : EvSt :=
  let s1 := { s with processed := s.processed + 1, firstProcessed := optMin s.firstProcessed ts,
                     lastProcessed := optMax s.lastProcessed ts }
  if inWin after before ts then
    { s1 with accepted := s1.accepted + 1, firstAccepted := optMin s1.firstAccepted ts,
              lastAccepted := optMax s1.lastAccepted ts, stored := s1.stored ++ [ts] }
  else s1

/-- The readers' first/last matches: `if first > new { first = new }` keeps the minimum, `if last < new { last = new }`
the maximum — for any record whose `set` puts back what `get` reads. -/
theorem runOpt_min_max {F S : Type} (get : S → F → Option Int) (set : S → F → Option Int → S)
    (hgs : ∀ s f, set s f (get s f) = s) (f : F) (new : Int) (s : S) :
    runOpt get set new s ⟨f, .guarded false .gt [f], [f]⟩ = set s f (optMin (get s f) new) ∧
    runOpt get set new s ⟨f, .guarded false .lt [f], [f]⟩ = set s f (optMax (get s f) new) := by
  simp only [runOpt_guarded get set hgs]
  cases get s f with
  | none => exact ⟨rfl, rfl⟩
  | some b =>
    simp only [Option.elim, evalCmp, optMin, optMax, Bool.false_eq_true, if_false, decide_eq_true_eq, gt_iff_lt]
    constructor <;> congr 2 <;> omega

theorem evSet_evGet (s : EvSt) (f : EvF) : evSet s f (evGet s f) = s := by cases f <;> rfl
theorem flSet_flGet (s : FL) (f : DtF) : flSet s f (flGet s f) = s := by cases f <;> rfl

theorem evtx_arm_is_model (after before : Option Int) (ts : Int) (s : EvSt) :
    runR after before ts EVTX_ANALYZE s = evStep after before s ts := by
  have key : ∀ res, S4V.Gen.Filter.tsPassFilters ts after before = res →
      runR after before ts EVTX_ANALYZE s = evStep after before s ts := by
    intro res hres
    simp only [EVTX_ANALYZE, runR, evStep, inWin, hres, runOpt_min_max evGet evSet evSet_evGet, evGet, evSet, evBump]
    cases res <;> simp
  exact key _ rfl

theorem analyze_cons (after before : Option Int) (ts : Int) (r : List Int) (s : EvSt) :
    analyze EVTX_ANALYZE after before (ts :: r) s = analyze EVTX_ANALYZE after before r (evStep after before s ts) := by
  simp [analyze, evtx_arm_is_model]

theorem foldl_optMin_some (l : List Int) (m : Int) : l.foldl optMin (some m) = some (l.foldl min m) := by
  induction l generalizing m with
  | nil => rfl
  | cons x r ih => exact ih _

theorem foldl_optMax_some (l : List Int) (m : Int) : l.foldl optMax (some m) = some (l.foldl max m) := by
  induction l generalizing m with
  | nil => rfl
  | cons x r ih => exact ih _

theorem minL_spec (l : List Int) (h : l ≠ []) : ∃ m, minL l = some m ∧ m ∈ l ∧ ∀ x ∈ l, m ≤ x := by
  cases l with
  | nil => exact absurd rfl h
  | cons y r =>
    exact ⟨_, foldl_optMin_some r y, Lemmas.Lists.foldl_min_spec r y⟩

theorem maxL_spec (l : List Int) (h : l ≠ []) : ∃ m, maxL l = some m ∧ m ∈ l ∧ ∀ x ∈ l, x ≤ m := by
  cases l with
  | nil => exact absurd rfl h
  | cons y r =>
    exact ⟨_, foldl_optMax_some r y, Lemmas.Lists.foldl_max_spec r y⟩

theorem analyze_fields (after before : Option Int) (recs : List Int) (s : EvSt) :
    analyze EVTX_ANALYZE after before recs s =
      { processed := s.processed + recs.length
        accepted := s.accepted + (recs.filter (inWin after before)).length
        firstProcessed := recs.foldl optMin s.firstProcessed
        lastProcessed := recs.foldl optMax s.lastProcessed
        firstAccepted := (recs.filter (inWin after before)).foldl optMin s.firstAccepted
        lastAccepted := (recs.filter (inWin after before)).foldl optMax s.lastAccepted
        stored := s.stored ++ recs.filter (inWin after before) } := by
  induction recs generalizing s with
  | nil => simp [analyze]
  | cons ts r ih =>
    rw [analyze_cons, ih]
    cases hw : inWin after before ts <;> simp [evStep, hw, Nat.add_assoc, Nat.add_comm 1]

/-- C19 (evtx reader): "Events processed" = records read; "Events accepted" = records inside the `-a` … `-b` window =
what is stored for printing; the four datetimes are the least/greatest over all records and over the accepted ones -/
theorem evtx_reader_reports (after before : Option Int) (recs : List Int) :
    let t := analyze EVTX_ANALYZE after before recs {}
    let acc := recs.filter (inWin after before)
    t.processed = recs.length ∧ t.accepted = acc.length ∧ t.stored = acc ∧
    t.firstProcessed = minL recs ∧ t.lastProcessed = maxL recs ∧
    t.firstAccepted = minL acc ∧ t.lastAccepted = maxL acc := by
  simp only [analyze_fields]
  exact ⟨Nat.zero_add _, Nat.zero_add _, List.nil_append _, rfl, rfl, rfl, rfl⟩

/-- C19 (evtx reader): processed ⊇ accepted — when a record is accepted,
`first_processed ≤ first_accepted ≤ last_accepted ≤ last_processed`, all four are timestamps of records, and the
accepted pair lies inside the window -/
theorem evtx_reader_ordering (after before : Option Int) (recs : List Int)
    (hacc : ∃ ts ∈ recs, inWin after before ts = true) :
    let t := analyze EVTX_ANALYZE after before recs {}
    ∃ fp fa la lp, t.firstProcessed = some fp ∧ t.firstAccepted = some fa ∧ t.lastAccepted = some la ∧
      t.lastProcessed = some lp ∧ fp ≤ fa ∧ fa ≤ la ∧ la ≤ lp ∧ fp ∈ recs ∧ lp ∈ recs ∧
      fa ∈ recs ∧ la ∈ recs ∧ inWin after before fa = true ∧ inWin after before la = true := by
  obtain ⟨ts, hts, hw⟩ := hacc
  have hr : recs ≠ [] := by intro e; subst e; simp at hts
  have ha : recs.filter (inWin after before) ≠ [] := by
    intro e; have : ts ∈ recs.filter (inWin after before) := by simp [hts, hw]
    rw [e] at this; simp at this
  obtain ⟨fp, p1, p2, p3⟩ := minL_spec recs hr
  obtain ⟨lp, q1, q2, q3⟩ := maxL_spec recs hr
  obtain ⟨fa, r1, r2, r3⟩ := minL_spec _ ha
  obtain ⟨la, s1, s2, s3⟩ := maxL_spec _ ha
  have fa_in := (List.mem_filter.mp r2)
  have la_in := (List.mem_filter.mp s2)
  simp only [analyze_fields]
  exact ⟨fp, fa, la, lp, p1, r1, s1, q1,
    p3 fa fa_in.1, r3 la s2, q3 la la_in.1, p2, q2, fa_in.1, la_in.1, fa_in.2, la_in.2⟩

/-- the hypothesis of `evtx_reader_ordering` is satisfiable -/
example : ∃ ts ∈ [25, 5, 40, 12, 30], inWin (some 10) (some 30) ts = true := by decide

/-- C19 (evtx reader): nothing accepted, no accepted datetimes, whatever was processed -/
theorem evtx_reader_none_accepted (after before : Option Int) (recs : List Int)
    (h : ∀ ts ∈ recs, inWin after before ts = false) :
    let t := analyze EVTX_ANALYZE after before recs {}
    t.accepted = 0 ∧ t.firstAccepted = none ∧ t.lastAccepted = none ∧ t.processed = recs.length := by
  have hf : recs.filter (inWin after before) = [] := by
    apply List.filter_eq_nil_iff.mpr; intro x hx; simp [h x hx]
  simp only [analyze_fields, hf]
  exact ⟨rfl, rfl, rfl, Nat.zero_add _⟩

/-- the hypothesis of `evtx_reader_none_accepted` is satisfiable -/
example : ∀ ts ∈ [5, 7], inWin (some 10) none ts = false := by decide

/-- non-vacuity: out-of-order records, window [10, 30] -/
example : analyze EVTX_ANALYZE (some 10) (some 30) [25, 5, 40, 12, 30] {} =
    { processed := 5, accepted := 3, firstProcessed := some 5, lastProcessed := some 40, firstAccepted := some 12,
      lastAccepted := some 30, stored := [25, 12, 30] } := by decide

theorem fl_step (s : FL) (dt : Int) :
    runOpts flGet flSet FIXED_DT_FIRST_LAST s dt = ⟨optMin s.first dt, optMax s.last dt⟩ := by
  simp only [FIXED_DT_FIRST_LAST, runOpts, List.foldl, runOpt_min_max flGet flSet flSet_flGet, flGet, flSet]

theorem runFL_fields (dts : List Int) (s : FL) :
    runFL FIXED_DT_FIRST_LAST dts s = ⟨dts.foldl optMin s.first, dts.foldl optMax s.last⟩ := by
  induction dts generalizing s with
  | nil => rfl
  | cons d r ih => simp only [runFL, List.foldl_cons] at ih ⊢; rw [fl_step, ih]

/-- C19 (fixedstruct reader): after `dt_first_last_update` for every processed entry, `dt_first` / `dt_last` are the
least / greatest entry datetime -/
theorem fixed_reader_first_last (dts : List Int) : runFL FIXED_DT_FIRST_LAST dts {} = ⟨minL dts, maxL dts⟩ :=
  runFL_fields dts {}

theorem fixed_reader_bounds (dts : List Int) (h : dts ≠ []) :
    ∃ f l, runFL FIXED_DT_FIRST_LAST dts {} = ⟨some f, some l⟩ ∧ f ∈ dts ∧ l ∈ dts ∧ ∀ x ∈ dts, f ≤ x ∧ x ≤ l := by
  obtain ⟨f, p1, p2, p3⟩ := minL_spec dts h
  obtain ⟨l, q1, q2, q3⟩ := maxL_spec dts h
  exact ⟨f, l, by rw [fixed_reader_first_last, p1, q1], p2, q2, fun x hx => ⟨p3 x hx, q3 x hx⟩⟩

/-- the journal reader's accepted pair is maintained by the same statements (same comparisons, same sides) -/
theorem journal_accepted_same_as_fixed : JOURNAL_ACCEPTED_FIRST_LAST = FIXED_DT_FIRST_LAST := rfl

theorem journal_reader_accepted_first_last (ems : List Int) :
    runFL JOURNAL_ACCEPTED_FIRST_LAST ems {} = ⟨minL ems, maxL ems⟩ := by
  rw [journal_accepted_same_as_fixed]; exact fixed_reader_first_last ems

theorem updateDt_fields (s : SumPr) (dt : Int) :
    (runUpdateDt SRC s dt).dtFirst = optMin s.dtFirst dt ∧ (runUpdateDt SRC s dt).dtLast = optMax s.dtLast dt := by
  -- the printer writes `new < first`, `new > last` where the readers write `first > new`, `last < new`: the same tests
  have : runUpdateDt SRC s dt = runOpts dtGet dtSet FIXED_DT_FIRST_LAST s dt := rfl
  simp only [this, FIXED_DT_FIRST_LAST, runOpts, List.foldl, runOpt_min_max dtGet dtSet dtSet_dtGet, dtGet, dtSet, and_self]

theorem foldl_updateDt (l : List Int) (s : SumPr) :
    (l.foldl (runUpdateDt SRC) s).dtFirst = l.foldl optMin s.dtFirst ∧
    (l.foldl (runUpdateDt SRC) s).dtLast = l.foldl optMax s.dtLast := by
  induction l generalizing s with
  | nil => exact ⟨rfl, rfl⟩
  | cons x r ih =>
    have h := ih (runUpdateDt SRC s x)
    simp only [List.foldl_cons]
    rw [h.1, h.2, (updateDt_fields s x).1, (updateDt_fields s x).2]; exact ⟨rfl, rfl⟩

/-- C19: for an evtx file the per-file `datetime first` / `datetime last` lines print the reader's first/last ACCEPTED
datetime (regenerated flag), and when every stored (= accepted) event is printed these are exactly the `dt_first` /
`dt_last` the printer side (`summaryprint_update_dt` over the printed events, in any print order given by `stored`)
accumulates — the two bookkeepings agree -/
theorem evtx_perfile_dt_is_printed_dt (after before : Option Int) (recs : List Int) :
    let t := analyze EVTX_ANALYZE after before recs {}
    let sp := t.stored.foldl (runUpdateDt SRC) {}
    PERFILE_EVTX_DT_IS_ACCEPTED = (true, true) ∧ PERFILE_JOURNAL_DT_IS_ACCEPTED = (true, true) ∧
    sp.dtFirst = t.firstAccepted ∧ sp.dtLast = t.lastAccepted := by
  have h := foldl_updateDt (analyze EVTX_ANALYZE after before recs {}).stored {}
  simp only [analyze_fields, List.nil_append] at h ⊢
  exact ⟨by decide, by decide, h⟩

/-- `if ts_first_ < &timestamp` in the accepted-first match: the first accepted becomes the greatest -/
def EVTX_first_lt : List RStmt :=
  EVTX_ANALYZE.set 6 (.opt { scrut := .firstAccepted, someArm := .guarded false .lt [.firstAccepted], noneArm := [.firstAccepted] })

theorem first_lt_breaks_first_accepted :
    ¬ (∀ recs : List Int, ∀ fa, (analyze EVTX_first_lt none none recs {}).firstAccepted = some fa → ∀ x ∈ recs, fa ≤ x) := by
  intro h
  have := h [10, 20] 20 (by decide) 10 (by decide)
  revert this; decide

/-- the BeforeRange arm not `continue`-ing: a record before the window is accepted -/
def EVTX_no_continue : List RStmt := EVTX_ANALYZE.set 3 (.filter false false true)

theorem no_continue_breaks_accepted_count :
    ¬ (∀ after before recs, (analyze EVTX_no_continue after before recs {}).accepted = (recs.filter (inWin after before)).length) := by
  intro h
  have := h (some 10) none [5, 15]
  revert this; decide

/-- `dt_first_last_update` with `self.dt_last = Some(*datetime)` unconditionally -/
def FIXED_overwrite_last : List (OptMatch DtF) :=
  FIXED_DT_FIRST_LAST.set 1 { scrut := .last, someArm := .plain [.last], noneArm := [.last] }

theorem fixed_overwrite_breaks_bounds :
    ¬ (∀ dts : List Int, ∀ l, (runFL FIXED_overwrite_last dts {}).last = some l → ∀ x ∈ dts, x ≤ l) := by
  intro h
  have := h [20, 10] 10 (by decide) 20 (by decide)
  revert this; decide

end S4V.Props.SummaryReaderSpec
