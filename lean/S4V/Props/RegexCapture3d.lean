/-
GENERATED by tools/mk_regexrows.py from harness/src/rgx_rows.txt (gen/gen_regex.py) — regenerate, do not edit.

C04, regex slice: rows 23–32 of `DATETIME_PARSE_DATAS`. `rowsD` holds the literals of their certificates (`RowFacts`,
`S4V.Lemmas.RegexTable`), `certsD` is ONE kernel evaluation for all of them, and `certN`, `factsN` are its components for row N; a row
without an end-to-end theorem (the epoch rows; a row that failed `catOK`) has no certificate and evaluates its own `factsN`. `C04_rowN_search`: for EVERY
selection of entries of the row's catalogue (`rowBodyE` / `rowBodyP`, `S4V.Lemmas.RegexAuto`) and of concrete words, and every
admissible tail, `search` matches at 0, spans exactly the words (and the byte of a final group), and every capture group spans
the word of its item.
-/
import S4V.Gen.Regex
import S4V.Lemmas.RegexTable

namespace S4V.Props.RegexCapture3
open S4V.Model.Regex S4V.Gen.Regex S4V.Lemmas.RegexStep S4V.Lemmas.RegexSym S4V.Lemmas.RegexRows S4V.Lemmas.RegexAuto
open S4V.Lemmas.RegexE2E S4V.Lemmas.Utf8 S4V.Gen.TimeTables

def rowsD : List RowFacts := [
  { row := row23, counts := [(1, 1), (3, 3), (1, 1), (2, 2), (105, 105), (2, 2), (40, 49), (1, 1), (25, 25), (2, 2), (1, 1), (2, 2), (2, 2), (2, 2)], digest := 986544028,
    line := some "<14>Jan  1 15:00:36 HOST dropbear[23732]: Exit (root): Disconnect received".toUTF8.toList, fits := true },
  { row := row24, counts := [(18, 18), (2, 2), (2, 2), (1, 2), (3, 3), (2, 2), (12, 12), (2, 2), (40, 49), (3, 3), (25, 25), (2, 2), (1, 1), (2, 2), (2, 2)], digest := 961815469,
    line := none, fits := true },
  { row := row25, counts := [(8, 12), (2, 2), (1, 1), (63, 63), (1, 1), (72, 72), (1, 1), (49, 49), (1, 1), (25, 25), (2, 2), (1, 1), (2, 2), (2, 2), (1, 1), (3, 3)], digest := 608118698,
    line := some "Started On Thu Sep 10 10:08:35 2020".toUTF8.toList, fits := true },
  { row := row26, counts := [(1, 1), (12, 12), (1, 1), (49, 49), (1, 1), (3, 3), (2, 2), (25, 25), (2, 2), (1, 1), (2, 2), (2, 2), (1, 1), (9, 9), (1, 1)], digest := 553948142,
    line := some "(08/10/2019-01:46:44.0042) Filtering object \"\\\\HOST\\ROOT\\CIMV2\\mdm\\dmmap:MDM_Policy_Config01_Location02\" during apply".toUTF8.toList, fits := true },
  { row := row27, counts := [(105, 105), (2, 2), (40, 49), (1, 1), (25, 25), (2, 2), (1, 1), (2, 2), (2, 2), (2, 2), (3, 3), (2, 2), (392, 392)], digest := 412226629,
    line := some "September 03 08:10:29 2000 PWT hostname1 kernel: [1013319.252568] device vethb356a02 entered promiscuous mode".toUTF8.toList, fits := true },
  { row := row28, counts := [(105, 105), (2, 2), (40, 49), (1, 1), (25, 25), (2, 2), (1, 1), (2, 2), (2, 2), (2, 2), (3, 3), (2, 2), (1, 1)], digest := 254408912,
    line := some "September 03 08:10:29 2000 +03:00 hostname1 kernel: [1013319.252568] device vethb356a02 entered promiscuous mode".toUTF8.toList, fits := true },
  { row := row29, counts := [(105, 105), (2, 2), (40, 49), (1, 1), (25, 25), (2, 2), (1, 1), (2, 2), (2, 2), (2, 2), (3, 3), (2, 2), (1, 1)], digest := 105778050,
    line := some "September 03 08:10:29 2000 +0300 hostname1 kernel: [1013319.252568] device vethb356a02 entered promiscuous mode".toUTF8.toList, fits := true },
  { row := row30, counts := [(105, 105), (2, 2), (40, 49), (1, 1), (25, 25), (2, 2), (1, 1), (2, 2), (2, 2), (2, 2), (3, 3), (2, 2), (1, 1)], digest := 432320000,
    line := some "September 03 08:10:29 2000 +03 hostname1 kernel: [1013319.252568] device vethb356a02 entered promiscuous mode".toUTF8.toList, fits := true },
  { row := row31, counts := [(105, 105), (2, 2), (40, 49), (1, 1), (25, 25), (2, 2), (1, 1), (2, 2), (2, 2), (2, 2), (3, 3)], digest := 379104392,
    line := some "September 03 08:10:29 2000:hostname1 kernel: [1013319.252568] device vethb356a02 entered promiscuous mode".toUTF8.toList, fits := true },
  { row := row32, counts := [(105, 105), (2, 2), (40, 49), (1, 1), (25, 25), (2, 2), (1, 1), (2, 2), (2, 2), (2, 2), (392, 392)], digest := 181318856,
    line := some "September 03 08:10:29 PWT hostname1 kernel: [1013319.252568] device vethb356a02 entered promiscuous mode".toUTF8.toList, fits := true }]

theorem certsD : ∀ i (h : i < rowsD.length), rowsD[i].Cert :=
  RowFacts.certs_of_all (by
    unfold rowsD
    rw [toUTF8_toList_ofList, toUTF8_toList_ofList, toUTF8_toList_ofList, toUTF8_toList_ofList, toUTF8_toList_ofList, toUTF8_toList_ofList, toUTF8_toList_ofList, toUTF8_toList_ofList, toUTF8_toList_ofList]
    decide +kernel)

/-! ### row 23 (month:1,day:2,hour:3,minute:4,second:5): head `bol`, end `plain` -/

theorem cert23 : (rowsD[0]'(by decide)).Cert := certsD 0 (by decide)

theorem facts23 : keptCounts (rowBodyP re23 1) = [(1, 1), (3, 3), (1, 1), (2, 2), (105, 105), (2, 2), (40, 49), (1, 1), (25, 25), (2, 2), (1, 1), (2, 2), (2, 2), (2, 2)] ∧
    catDigest (rowBodyP re23 1) = 986544028 ∧
    splitsL (rowBodyP re23 1) "<14>Jan  1 15:00:36 HOST dropbear[23732]: Exit (root): Disconnect received".toUTF8.toList = true := cert23.facts

theorem C04_row23_search (sel : Sel) (hv : Valid (rowBodyP re23 1) sel) (tail : List UInt8) (ht : TailF (autoTail re23) tail) :
    RowResult row23.re (flat sel ++ tail) (flat sel).length [] sel :=
  auto_P (re := re23) (by rfl) rfl sel hv tail ht

/-! ### row 24 (year:4,month:5,day:6,hour:8,minute:9,second:10): head `bol`, end `(?P<g>[class]|$)` -/

theorem cert24 : (rowsD[1]'(by decide)).Cert := certsD 1 (by decide)

theorem facts24 : keptCounts (rowBodyE re24 1) = [(18, 18), (2, 2), (2, 2), (1, 2), (3, 3), (2, 2), (12, 12), (2, 2), (40, 49), (3, 3), (25, 25), (2, 2), (1, 1), (2, 2), (2, 2)] ∧
    catDigest (rowBodyE re24 1) = 961815469 ∧
    inhabitedB (rowBodyE re24 1) = true := cert24.facts

theorem C04_row24_search (sel : Sel) (hv : Valid (rowBodyE re24 1) sel) (tail : List UInt8) (ht : TailIn (rowEndSym re24) tail) :
    RowResult row24.re (flat sel ++ tail) ((flat sel).length + tailLen tail) [] (sel ++ [rowEndEw re24 tail]) :=
  auto_E (re := re24) (by rfl) cert24.headOk sel hv tail ht

/-! ### row 25 (dayIgnore:2,month:3,day:5,hour:6,minute:7,second:8,year:9): head `none`, end `(?P<g>[class]|$)` -/

theorem cert25 : (rowsD[2]'(by decide)).Cert := certsD 2 (by decide)

theorem facts25 : keptCounts (rowBodyE re25 0) = [(8, 12), (2, 2), (1, 1), (63, 63), (1, 1), (72, 72), (1, 1), (49, 49), (1, 1), (25, 25), (2, 2), (1, 1), (2, 2), (2, 2), (1, 1), (3, 3)] ∧
    catDigest (rowBodyE re25 0) = 608118698 ∧
    splitsL (rowBodyE re25 0) "Started On Thu Sep 10 10:08:35 2020".toUTF8.toList = true := cert25.facts

theorem C04_row25_search (sel : Sel) (hv : Valid (rowBodyE re25 0) sel) (tail : List UInt8) (ht : TailIn (rowEndSym re25) tail) :
    RowResult row25.re (flat sel ++ tail) ((flat sel).length + tailLen tail) [] (sel ++ [rowEndEw re25 tail]) :=
  auto_E (re := re25) (by rfl) cert25.headOk sel hv tail ht

/-! ### row 26 (month:1,day:2,year:3,hour:4,minute:5,second:6,fractional:7): head `bol`, end `plain` -/

theorem cert26 : (rowsD[3]'(by decide)).Cert := certsD 3 (by decide)

theorem facts26 : keptCounts (rowBodyP re26 1) = [(1, 1), (12, 12), (1, 1), (49, 49), (1, 1), (3, 3), (2, 2), (25, 25), (2, 2), (1, 1), (2, 2), (2, 2), (1, 1), (9, 9), (1, 1)] ∧
    catDigest (rowBodyP re26 1) = 553948142 ∧
    splitsL (rowBodyP re26 1) "(08/10/2019-01:46:44.0042) Filtering object \"\\\\HOST\\ROOT\\CIMV2\\mdm\\dmmap:MDM_Policy_Config01_Location02\" during apply".toUTF8.toList = true := cert26.facts

theorem C04_row26_search (sel : Sel) (hv : Valid (rowBodyP re26 1) sel) (tail : List UInt8) (ht : TailF (autoTail re26) tail) :
    RowResult row26.re (flat sel ++ tail) (flat sel).length [] sel :=
  auto_P (re := re26) (by rfl) rfl sel hv tail ht

/-! ### row 27 (month:1,day:2,hour:3,minute:4,second:5,year:6,tz:7): head `bol`, end `(?P<g>[class]|$)` -/

theorem cert27 : (rowsD[4]'(by decide)).Cert := certsD 4 (by decide)

theorem facts27 : keptCounts (rowBodyE re27 1) = [(105, 105), (2, 2), (40, 49), (1, 1), (25, 25), (2, 2), (1, 1), (2, 2), (2, 2), (2, 2), (3, 3), (2, 2), (392, 392)] ∧
    catDigest (rowBodyE re27 1) = 412226629 ∧
    splitsL (rowBodyE re27 1) "September 03 08:10:29 2000 PWT hostname1 kernel: [1013319.252568] device vethb356a02 entered promiscuous mode".toUTF8.toList = true := cert27.facts

theorem C04_row27_search (sel : Sel) (hv : Valid (rowBodyE re27 1) sel) (tail : List UInt8) (ht : TailIn (rowEndSym re27) tail) :
    RowResult row27.re (flat sel ++ tail) ((flat sel).length + tailLen tail) [] (sel ++ [rowEndEw re27 tail]) :=
  auto_E (re := re27) (by rfl) cert27.headOk sel hv tail ht

/-! ### row 28 (month:1,day:2,hour:3,minute:4,second:5,year:6,tz:7): head `bol`, end `(?P<g>[class]|$)` -/

theorem cert28 : (rowsD[5]'(by decide)).Cert := certsD 5 (by decide)

theorem facts28 : keptCounts (rowBodyE re28 1) = [(105, 105), (2, 2), (40, 49), (1, 1), (25, 25), (2, 2), (1, 1), (2, 2), (2, 2), (2, 2), (3, 3), (2, 2), (1, 1)] ∧
    catDigest (rowBodyE re28 1) = 254408912 ∧
    splitsL (rowBodyE re28 1) "September 03 08:10:29 2000 +03:00 hostname1 kernel: [1013319.252568] device vethb356a02 entered promiscuous mode".toUTF8.toList = true := cert28.facts

theorem C04_row28_search (sel : Sel) (hv : Valid (rowBodyE re28 1) sel) (tail : List UInt8) (ht : TailIn (rowEndSym re28) tail) :
    RowResult row28.re (flat sel ++ tail) ((flat sel).length + tailLen tail) [] (sel ++ [rowEndEw re28 tail]) :=
  auto_E (re := re28) (by rfl) cert28.headOk sel hv tail ht

/-! ### row 29 (month:1,day:2,hour:3,minute:4,second:5,year:6,tz:7): head `bol`, end `(?P<g>[class]|$)` -/

theorem cert29 : (rowsD[6]'(by decide)).Cert := certsD 6 (by decide)

theorem facts29 : keptCounts (rowBodyE re29 1) = [(105, 105), (2, 2), (40, 49), (1, 1), (25, 25), (2, 2), (1, 1), (2, 2), (2, 2), (2, 2), (3, 3), (2, 2), (1, 1)] ∧
    catDigest (rowBodyE re29 1) = 105778050 ∧
    splitsL (rowBodyE re29 1) "September 03 08:10:29 2000 +0300 hostname1 kernel: [1013319.252568] device vethb356a02 entered promiscuous mode".toUTF8.toList = true := cert29.facts

theorem C04_row29_search (sel : Sel) (hv : Valid (rowBodyE re29 1) sel) (tail : List UInt8) (ht : TailIn (rowEndSym re29) tail) :
    RowResult row29.re (flat sel ++ tail) ((flat sel).length + tailLen tail) [] (sel ++ [rowEndEw re29 tail]) :=
  auto_E (re := re29) (by rfl) cert29.headOk sel hv tail ht

/-! ### row 30 (month:1,day:2,hour:3,minute:4,second:5,year:6,tz:7): head `bol`, end `(?P<g>[class]|$)` -/

theorem cert30 : (rowsD[7]'(by decide)).Cert := certsD 7 (by decide)

theorem facts30 : keptCounts (rowBodyE re30 1) = [(105, 105), (2, 2), (40, 49), (1, 1), (25, 25), (2, 2), (1, 1), (2, 2), (2, 2), (2, 2), (3, 3), (2, 2), (1, 1)] ∧
    catDigest (rowBodyE re30 1) = 432320000 ∧
    splitsL (rowBodyE re30 1) "September 03 08:10:29 2000 +03 hostname1 kernel: [1013319.252568] device vethb356a02 entered promiscuous mode".toUTF8.toList = true := cert30.facts

theorem C04_row30_search (sel : Sel) (hv : Valid (rowBodyE re30 1) sel) (tail : List UInt8) (ht : TailIn (rowEndSym re30) tail) :
    RowResult row30.re (flat sel ++ tail) ((flat sel).length + tailLen tail) [] (sel ++ [rowEndEw re30 tail]) :=
  auto_E (re := re30) (by rfl) cert30.headOk sel hv tail ht

/-! ### row 31 (month:1,day:2,hour:3,minute:4,second:5,year:6): head `bol`, end `(?P<g>[class]|$)` -/

theorem cert31 : (rowsD[8]'(by decide)).Cert := certsD 8 (by decide)

theorem facts31 : keptCounts (rowBodyE re31 1) = [(105, 105), (2, 2), (40, 49), (1, 1), (25, 25), (2, 2), (1, 1), (2, 2), (2, 2), (2, 2), (3, 3)] ∧
    catDigest (rowBodyE re31 1) = 379104392 ∧
    splitsL (rowBodyE re31 1) "September 03 08:10:29 2000:hostname1 kernel: [1013319.252568] device vethb356a02 entered promiscuous mode".toUTF8.toList = true := cert31.facts

theorem C04_row31_search (sel : Sel) (hv : Valid (rowBodyE re31 1) sel) (tail : List UInt8) (ht : TailIn (rowEndSym re31) tail) :
    RowResult row31.re (flat sel ++ tail) ((flat sel).length + tailLen tail) [] (sel ++ [rowEndEw re31 tail]) :=
  auto_E (re := re31) (by rfl) cert31.headOk sel hv tail ht

/-! ### row 32 (month:1,day:2,hour:3,minute:4,second:5,tz:6): head `bol`, end `(?P<g>[class]|$)` -/

theorem cert32 : (rowsD[9]'(by decide)).Cert := certsD 9 (by decide)

theorem facts32 : keptCounts (rowBodyE re32 1) = [(105, 105), (2, 2), (40, 49), (1, 1), (25, 25), (2, 2), (1, 1), (2, 2), (2, 2), (2, 2), (392, 392)] ∧
    catDigest (rowBodyE re32 1) = 181318856 ∧
    splitsL (rowBodyE re32 1) "September 03 08:10:29 PWT hostname1 kernel: [1013319.252568] device vethb356a02 entered promiscuous mode".toUTF8.toList = true := cert32.facts

theorem C04_row32_search (sel : Sel) (hv : Valid (rowBodyE re32 1) sel) (tail : List UInt8) (ht : TailIn (rowEndSym re32) tail) :
    RowResult row32.re (flat sel ++ tail) ((flat sel).length + tailLen tail) [] (sel ++ [rowEndEw re32 tail]) :=
  auto_E (re := re32) (by rfl) cert32.headOk sel hv tail ht

end S4V.Props.RegexCapture3
