/-
GENERATED by tools/mk_regexrows.py from harness/src/rgx_rows.txt (gen/gen_regex.py) — regenerate, do not edit.

C04, regex slice: rows 102–113 of `DATETIME_PARSE_DATAS`. `rowsK` holds the literals of their certificates (`RowFacts`,
`S4V.Lemmas.RegexTable`), `certsK` is ONE kernel evaluation for all of them, and `certN`, `factsN` are its components for row N; a row
without an end-to-end theorem (the epoch rows; a row that failed `catOK`) has no certificate and evaluates its own `factsN`. `C04_rowN_search`: for EVERY
selection of entries of the row's catalogue (`rowBodyE` / `rowBodyP`, `S4V.Lemmas.RegexAuto`) and of concrete words, and every
admissible tail, `search` matches at 0, spans exactly the words (and the byte of a final group), and every capture group spans
the word of its item.
-/
import S4V.Gen.Regex
import S4V.Lemmas.RegexTable

namespace S4V.Props.RegexCapture3
open S4V.Model.Regex S4V.Gen.Regex S4V.Lemmas.RegexStep S4V.Lemmas.RegexSym S4V.Lemmas.RegexRows S4V.Lemmas.RegexAuto
open S4V.Lemmas.RegexE2E S4V.Lemmas.Utf8 S4V.Gen.TimeTables

def rowsK : List RowFacts := [
  { row := row102, counts := [(1, 1), (3, 3), (1, 1), (2, 2), (1, 1), (2, 2), (1, 1), (3, 3), (2, 2), (12, 12), (2, 2), (37, 49), (2, 2), (25, 25), (2, 2), (1, 1), (2, 2), (2, 2), (1, 1), (9, 9), (2, 2), (392, 392), (1, 1)], digest := 382923317,
    line := some "\"timestamp\":\"2000-01-02T05:01:32.123Z\"}".toUTF8.toList, fits := true },
  { row := row103, counts := [(1, 1), (3, 3), (1, 1), (2, 2), (1, 1), (2, 2), (1, 1), (3, 3), (2, 2), (12, 12), (2, 2), (37, 49), (2, 2), (25, 25), (2, 2), (1, 1), (2, 2), (2, 2), (1, 1), (9, 9), (2, 2), (1, 1), (1, 1)], digest := 184228553,
    line := some "\"timestamp\":\"2000-01-02T05:01:32.123+00:00\"}".toUTF8.toList, fits := true },
  { row := row104, counts := [(1, 1), (3, 3), (1, 1), (2, 2), (1, 1), (2, 2), (1, 1), (3, 3), (2, 2), (12, 12), (2, 2), (37, 49), (2, 2), (25, 25), (2, 2), (1, 1), (2, 2), (2, 2), (1, 1), (9, 9), (2, 2), (1, 1), (1, 1)], digest := 273924310,
    line := some "\"timestamp\":\"2000-01-02T05:01:32.123+0000\"}".toUTF8.toList, fits := true },
  { row := row105, counts := [(1, 1), (3, 3), (1, 1), (2, 2), (1, 1), (2, 2), (1, 1), (3, 3), (2, 2), (12, 12), (2, 2), (37, 49), (2, 2), (25, 25), (2, 2), (1, 1), (2, 2), (2, 2), (1, 1), (9, 9), (2, 2), (1, 1), (1, 1)], digest := 206080566,
    line := some "\"timestamp\":\"2000-01-02T05:01:32.123 +00\"}".toUTF8.toList, fits := true },
  { row := row106, counts := [(1, 1), (3, 3), (1, 1), (2, 2), (1, 1), (2, 2), (1, 1), (3, 3), (2, 2), (12, 12), (2, 2), (37, 49), (2, 2), (25, 25), (2, 2), (1, 1), (2, 2), (2, 2), (1, 1), (9, 9), (1, 1)], digest := 89406187,
    line := some "\"timestamp\":\"2000-01-02T05:01:32.123\"}".toUTF8.toList, fits := true },
  { row := row107, counts := [(1, 1), (3, 3), (1, 1), (2, 2), (1, 1), (2, 2), (1, 1), (3, 3), (2, 2), (12, 12), (2, 2), (37, 49), (2, 2), (25, 25), (2, 2), (1, 1), (2, 2), (2, 2), (2, 2), (392, 392), (1, 1)], digest := 591167276,
    line := some "\"timestamp\":\"2000-01-02T05:01:32Z\"}".toUTF8.toList, fits := true },
  { row := row108, counts := [(1, 1), (3, 3), (1, 1), (2, 2), (1, 1), (2, 2), (1, 1), (3, 3), (2, 2), (12, 12), (2, 2), (37, 49), (2, 2), (25, 25), (2, 2), (1, 1), (2, 2), (2, 2), (2, 2), (1, 1), (1, 1)], digest := 127706646,
    line := some "\"timestamp\":\"2000-01-02T05:01:32 +00:00\"}".toUTF8.toList, fits := true },
  { row := row109, counts := [(1, 1), (3, 3), (1, 1), (2, 2), (1, 1), (2, 2), (1, 1), (3, 3), (2, 2), (12, 12), (2, 2), (37, 49), (2, 2), (25, 25), (2, 2), (1, 1), (2, 2), (2, 2), (2, 2), (1, 1), (1, 1)], digest := 222361043,
    line := some "\"timestamp\":\"2000-01-02T05:01:32+0000\"}".toUTF8.toList, fits := true },
  { row := row110, counts := [(1, 1), (3, 3), (1, 1), (2, 2), (1, 1), (2, 2), (1, 1), (3, 3), (2, 2), (12, 12), (2, 2), (37, 49), (2, 2), (25, 25), (2, 2), (1, 1), (2, 2), (2, 2), (2, 2), (1, 1), (1, 1)], digest := 712257080,
    line := some "\"timestamp\":\"2000-01-02T05:01:32 +00\"}".toUTF8.toList, fits := true },
  { row := row111, counts := [(1, 1), (3, 3), (1, 1), (2, 2), (1, 1), (2, 2), (1, 1), (3, 3), (2, 2), (12, 12), (2, 2), (37, 49), (2, 2), (25, 25), (2, 2), (1, 1), (2, 2), (2, 2), (1, 1)], digest := 841982464,
    line := some "\"timestamp\":\"2000-01-02T05:01:32\"}".toUTF8.toList, fits := true },
  { row := row112, counts := [(1, 1), (3, 3), (1, 1), (2, 2), (1, 1), (2, 2), (1, 1), (3, 3), (2, 2), (12, 12), (2, 2), (37, 49), (2, 2), (25, 25), (2, 2), (1, 1), (2, 2), (2, 2), (1, 1), (9, 9), (2, 2), (392, 392), (1, 1)], digest := 655476047,
    line := some "\"datetime\":\"2000-01-02T05:01:32.123Z\"}".toUTF8.toList, fits := true },
  { row := row113, counts := [(1, 1), (3, 3), (1, 1), (2, 2), (1, 1), (2, 2), (1, 1), (3, 3), (2, 2), (12, 12), (2, 2), (37, 49), (2, 2), (25, 25), (2, 2), (1, 1), (2, 2), (2, 2), (1, 1), (9, 9), (2, 2), (1, 1), (1, 1)], digest := 428031284,
    line := some "\"datetime\":\"2000-01-02T05:01:32.123+00:00\"}".toUTF8.toList, fits := true }]

theorem certsK : ∀ i (h : i < rowsK.length), rowsK[i].Cert :=
  RowFacts.certs_of_all (by
    unfold rowsK
    rw [toUTF8_toList_ofList, toUTF8_toList_ofList, toUTF8_toList_ofList, toUTF8_toList_ofList, toUTF8_toList_ofList, toUTF8_toList_ofList, toUTF8_toList_ofList, toUTF8_toList_ofList, toUTF8_toList_ofList, toUTF8_toList_ofList, toUTF8_toList_ofList, toUTF8_toList_ofList]
    decide +kernel)

/-! ### row 102 (year:2,month:3,day:4,hour:5,minute:6,second:7,fractional:8,tz:9): head `none`, end `plain` -/

theorem cert102 : (rowsK[0]'(by decide)).Cert := certsK 0 (by decide)

theorem facts102 : keptCounts (rowBodyP re102 0) = [(1, 1), (3, 3), (1, 1), (2, 2), (1, 1), (2, 2), (1, 1), (3, 3), (2, 2), (12, 12), (2, 2), (37, 49), (2, 2), (25, 25), (2, 2), (1, 1), (2, 2), (2, 2), (1, 1), (9, 9), (2, 2), (392, 392), (1, 1)] ∧
    catDigest (rowBodyP re102 0) = 382923317 ∧
    splitsL (rowBodyP re102 0) "\"timestamp\":\"2000-01-02T05:01:32.123Z\"}".toUTF8.toList = true := cert102.facts

theorem C04_row102_search (sel : Sel) (hv : Valid (rowBodyP re102 0) sel) (tail : List UInt8) (ht : TailF (autoTail re102) tail) :
    RowResult row102.re (flat sel ++ tail) (flat sel).length [] sel :=
  auto_P (re := re102) (by rfl) rfl sel hv tail ht

/-! ### row 103 (year:2,month:3,day:4,hour:5,minute:6,second:7,fractional:8,tz:9): head `none`, end `plain` -/

theorem cert103 : (rowsK[1]'(by decide)).Cert := certsK 1 (by decide)

theorem facts103 : keptCounts (rowBodyP re103 0) = [(1, 1), (3, 3), (1, 1), (2, 2), (1, 1), (2, 2), (1, 1), (3, 3), (2, 2), (12, 12), (2, 2), (37, 49), (2, 2), (25, 25), (2, 2), (1, 1), (2, 2), (2, 2), (1, 1), (9, 9), (2, 2), (1, 1), (1, 1)] ∧
    catDigest (rowBodyP re103 0) = 184228553 ∧
    splitsL (rowBodyP re103 0) "\"timestamp\":\"2000-01-02T05:01:32.123+00:00\"}".toUTF8.toList = true := cert103.facts

theorem C04_row103_search (sel : Sel) (hv : Valid (rowBodyP re103 0) sel) (tail : List UInt8) (ht : TailF (autoTail re103) tail) :
    RowResult row103.re (flat sel ++ tail) (flat sel).length [] sel :=
  auto_P (re := re103) (by rfl) rfl sel hv tail ht

/-! ### row 104 (year:2,month:3,day:4,hour:5,minute:6,second:7,fractional:8,tz:9): head `none`, end `plain` -/

theorem cert104 : (rowsK[2]'(by decide)).Cert := certsK 2 (by decide)

theorem facts104 : keptCounts (rowBodyP re104 0) = [(1, 1), (3, 3), (1, 1), (2, 2), (1, 1), (2, 2), (1, 1), (3, 3), (2, 2), (12, 12), (2, 2), (37, 49), (2, 2), (25, 25), (2, 2), (1, 1), (2, 2), (2, 2), (1, 1), (9, 9), (2, 2), (1, 1), (1, 1)] ∧
    catDigest (rowBodyP re104 0) = 273924310 ∧
    splitsL (rowBodyP re104 0) "\"timestamp\":\"2000-01-02T05:01:32.123+0000\"}".toUTF8.toList = true := cert104.facts

theorem C04_row104_search (sel : Sel) (hv : Valid (rowBodyP re104 0) sel) (tail : List UInt8) (ht : TailF (autoTail re104) tail) :
    RowResult row104.re (flat sel ++ tail) (flat sel).length [] sel :=
  auto_P (re := re104) (by rfl) rfl sel hv tail ht

/-! ### row 105 (year:2,month:3,day:4,hour:5,minute:6,second:7,fractional:8,tz:9): head `none`, end `plain` -/

theorem cert105 : (rowsK[3]'(by decide)).Cert := certsK 3 (by decide)

theorem facts105 : keptCounts (rowBodyP re105 0) = [(1, 1), (3, 3), (1, 1), (2, 2), (1, 1), (2, 2), (1, 1), (3, 3), (2, 2), (12, 12), (2, 2), (37, 49), (2, 2), (25, 25), (2, 2), (1, 1), (2, 2), (2, 2), (1, 1), (9, 9), (2, 2), (1, 1), (1, 1)] ∧
    catDigest (rowBodyP re105 0) = 206080566 ∧
    splitsL (rowBodyP re105 0) "\"timestamp\":\"2000-01-02T05:01:32.123 +00\"}".toUTF8.toList = true := cert105.facts

theorem C04_row105_search (sel : Sel) (hv : Valid (rowBodyP re105 0) sel) (tail : List UInt8) (ht : TailF (autoTail re105) tail) :
    RowResult row105.re (flat sel ++ tail) (flat sel).length [] sel :=
  auto_P (re := re105) (by rfl) rfl sel hv tail ht

/-! ### row 106 (year:2,month:3,day:4,hour:5,minute:6,second:7,fractional:8): head `none`, end `plain` -/

theorem cert106 : (rowsK[4]'(by decide)).Cert := certsK 4 (by decide)

theorem facts106 : keptCounts (rowBodyP re106 0) = [(1, 1), (3, 3), (1, 1), (2, 2), (1, 1), (2, 2), (1, 1), (3, 3), (2, 2), (12, 12), (2, 2), (37, 49), (2, 2), (25, 25), (2, 2), (1, 1), (2, 2), (2, 2), (1, 1), (9, 9), (1, 1)] ∧
    catDigest (rowBodyP re106 0) = 89406187 ∧
    splitsL (rowBodyP re106 0) "\"timestamp\":\"2000-01-02T05:01:32.123\"}".toUTF8.toList = true := cert106.facts

theorem C04_row106_search (sel : Sel) (hv : Valid (rowBodyP re106 0) sel) (tail : List UInt8) (ht : TailF (autoTail re106) tail) :
    RowResult row106.re (flat sel ++ tail) (flat sel).length [] sel :=
  auto_P (re := re106) (by rfl) rfl sel hv tail ht

/-! ### row 107 (year:2,month:3,day:4,hour:5,minute:6,second:7,tz:8): head `none`, end `plain` -/

theorem cert107 : (rowsK[5]'(by decide)).Cert := certsK 5 (by decide)

theorem facts107 : keptCounts (rowBodyP re107 0) = [(1, 1), (3, 3), (1, 1), (2, 2), (1, 1), (2, 2), (1, 1), (3, 3), (2, 2), (12, 12), (2, 2), (37, 49), (2, 2), (25, 25), (2, 2), (1, 1), (2, 2), (2, 2), (2, 2), (392, 392), (1, 1)] ∧
    catDigest (rowBodyP re107 0) = 591167276 ∧
    splitsL (rowBodyP re107 0) "\"timestamp\":\"2000-01-02T05:01:32Z\"}".toUTF8.toList = true := cert107.facts

theorem C04_row107_search (sel : Sel) (hv : Valid (rowBodyP re107 0) sel) (tail : List UInt8) (ht : TailF (autoTail re107) tail) :
    RowResult row107.re (flat sel ++ tail) (flat sel).length [] sel :=
  auto_P (re := re107) (by rfl) rfl sel hv tail ht

/-! ### row 108 (year:2,month:3,day:4,hour:5,minute:6,second:7,tz:8): head `none`, end `plain` -/

theorem cert108 : (rowsK[6]'(by decide)).Cert := certsK 6 (by decide)

theorem facts108 : keptCounts (rowBodyP re108 0) = [(1, 1), (3, 3), (1, 1), (2, 2), (1, 1), (2, 2), (1, 1), (3, 3), (2, 2), (12, 12), (2, 2), (37, 49), (2, 2), (25, 25), (2, 2), (1, 1), (2, 2), (2, 2), (2, 2), (1, 1), (1, 1)] ∧
    catDigest (rowBodyP re108 0) = 127706646 ∧
    splitsL (rowBodyP re108 0) "\"timestamp\":\"2000-01-02T05:01:32 +00:00\"}".toUTF8.toList = true := cert108.facts

theorem C04_row108_search (sel : Sel) (hv : Valid (rowBodyP re108 0) sel) (tail : List UInt8) (ht : TailF (autoTail re108) tail) :
    RowResult row108.re (flat sel ++ tail) (flat sel).length [] sel :=
  auto_P (re := re108) (by rfl) rfl sel hv tail ht

/-! ### row 109 (year:2,month:3,day:4,hour:5,minute:6,second:7,tz:8): head `none`, end `plain` -/

theorem cert109 : (rowsK[7]'(by decide)).Cert := certsK 7 (by decide)

theorem facts109 : keptCounts (rowBodyP re109 0) = [(1, 1), (3, 3), (1, 1), (2, 2), (1, 1), (2, 2), (1, 1), (3, 3), (2, 2), (12, 12), (2, 2), (37, 49), (2, 2), (25, 25), (2, 2), (1, 1), (2, 2), (2, 2), (2, 2), (1, 1), (1, 1)] ∧
    catDigest (rowBodyP re109 0) = 222361043 ∧
    splitsL (rowBodyP re109 0) "\"timestamp\":\"2000-01-02T05:01:32+0000\"}".toUTF8.toList = true := cert109.facts

theorem C04_row109_search (sel : Sel) (hv : Valid (rowBodyP re109 0) sel) (tail : List UInt8) (ht : TailF (autoTail re109) tail) :
    RowResult row109.re (flat sel ++ tail) (flat sel).length [] sel :=
  auto_P (re := re109) (by rfl) rfl sel hv tail ht

/-! ### row 110 (year:2,month:3,day:4,hour:5,minute:6,second:7,tz:8): head `none`, end `plain` -/

theorem cert110 : (rowsK[8]'(by decide)).Cert := certsK 8 (by decide)

theorem facts110 : keptCounts (rowBodyP re110 0) = [(1, 1), (3, 3), (1, 1), (2, 2), (1, 1), (2, 2), (1, 1), (3, 3), (2, 2), (12, 12), (2, 2), (37, 49), (2, 2), (25, 25), (2, 2), (1, 1), (2, 2), (2, 2), (2, 2), (1, 1), (1, 1)] ∧
    catDigest (rowBodyP re110 0) = 712257080 ∧
    splitsL (rowBodyP re110 0) "\"timestamp\":\"2000-01-02T05:01:32 +00\"}".toUTF8.toList = true := cert110.facts

theorem C04_row110_search (sel : Sel) (hv : Valid (rowBodyP re110 0) sel) (tail : List UInt8) (ht : TailF (autoTail re110) tail) :
    RowResult row110.re (flat sel ++ tail) (flat sel).length [] sel :=
  auto_P (re := re110) (by rfl) rfl sel hv tail ht

/-! ### row 111 (year:2,month:3,day:4,hour:5,minute:6,second:7): head `none`, end `plain` -/

theorem cert111 : (rowsK[9]'(by decide)).Cert := certsK 9 (by decide)

theorem facts111 : keptCounts (rowBodyP re111 0) = [(1, 1), (3, 3), (1, 1), (2, 2), (1, 1), (2, 2), (1, 1), (3, 3), (2, 2), (12, 12), (2, 2), (37, 49), (2, 2), (25, 25), (2, 2), (1, 1), (2, 2), (2, 2), (1, 1)] ∧
    catDigest (rowBodyP re111 0) = 841982464 ∧
    splitsL (rowBodyP re111 0) "\"timestamp\":\"2000-01-02T05:01:32\"}".toUTF8.toList = true := cert111.facts

theorem C04_row111_search (sel : Sel) (hv : Valid (rowBodyP re111 0) sel) (tail : List UInt8) (ht : TailF (autoTail re111) tail) :
    RowResult row111.re (flat sel ++ tail) (flat sel).length [] sel :=
  auto_P (re := re111) (by rfl) rfl sel hv tail ht

/-! ### row 112 (year:2,month:3,day:4,hour:5,minute:6,second:7,fractional:8,tz:9): head `none`, end `plain` -/

theorem cert112 : (rowsK[10]'(by decide)).Cert := certsK 10 (by decide)

theorem facts112 : keptCounts (rowBodyP re112 0) = [(1, 1), (3, 3), (1, 1), (2, 2), (1, 1), (2, 2), (1, 1), (3, 3), (2, 2), (12, 12), (2, 2), (37, 49), (2, 2), (25, 25), (2, 2), (1, 1), (2, 2), (2, 2), (1, 1), (9, 9), (2, 2), (392, 392), (1, 1)] ∧
    catDigest (rowBodyP re112 0) = 655476047 ∧
    splitsL (rowBodyP re112 0) "\"datetime\":\"2000-01-02T05:01:32.123Z\"}".toUTF8.toList = true := cert112.facts

theorem C04_row112_search (sel : Sel) (hv : Valid (rowBodyP re112 0) sel) (tail : List UInt8) (ht : TailF (autoTail re112) tail) :
    RowResult row112.re (flat sel ++ tail) (flat sel).length [] sel :=
  auto_P (re := re112) (by rfl) rfl sel hv tail ht

/-! ### row 113 (year:2,month:3,day:4,hour:5,minute:6,second:7,fractional:8,tz:9): head `none`, end `plain` -/

theorem cert113 : (rowsK[11]'(by decide)).Cert := certsK 11 (by decide)

theorem facts113 : keptCounts (rowBodyP re113 0) = [(1, 1), (3, 3), (1, 1), (2, 2), (1, 1), (2, 2), (1, 1), (3, 3), (2, 2), (12, 12), (2, 2), (37, 49), (2, 2), (25, 25), (2, 2), (1, 1), (2, 2), (2, 2), (1, 1), (9, 9), (2, 2), (1, 1), (1, 1)] ∧
    catDigest (rowBodyP re113 0) = 428031284 ∧
    splitsL (rowBodyP re113 0) "\"datetime\":\"2000-01-02T05:01:32.123+00:00\"}".toUTF8.toList = true := cert113.facts

theorem C04_row113_search (sel : Sel) (hv : Valid (rowBodyP re113 0) sel) (tail : List UInt8) (ht : TailF (autoTail re113) tail) :
    RowResult row113.re (flat sel ++ tail) (flat sel).length [] sel :=
  auto_P (re := re113) (by rfl) rfl sel hv tail ht

end S4V.Props.RegexCapture3
