/-
C08 (also C07) — WHICH of the `FixedStructType` layouts an accounting-record file is read with.

Model: `S4V.Model.LayoutDetect` (hand) over `S4V.Gen.LayoutDetect` (regenerated from src/data/fixedstruct.rs
`filesz_to_types`, `buffer_to_fixedstructptr`, `score_fixedstruct` + the eight `score_fixedstruct_*!` macros, and
src/readers/fixedstructreader.rs `FixedStructReader::new` / `preprocess_fixedstructtype` / `score_file`). Every
statement that speaks about "every layout" / "every kind" is decided over the GENERATED tables (unfolded: a source
change that regenerates a different table, constant or comparison re-runs the proof against it).

Two defects were repaired in the source (the candidate set became a `BTreeMap` keyed by the enum, which derives
`Ord`; `Fs_Netbsd_x8664_Lastlogx` got its rows): `C08_candidates_by_size_full_holds` and `C08_choice_deterministic`
hold since; the former behaviour is kept as counter-models (`candidates_without_lastlogx_row_lose`,
`C08_choice_order_independent_full_false`). Still false of the code, each with its witness:
`C08_score_reads_in_bounds_full_false` and `C08_kind_bonus_decides_full_false`.
-/
import S4V.Lemmas.LayoutDetect

namespace S4V.Props.LayoutDetectSpec
open S4V.Gen.LayoutDetect S4V.Model.LayoutDetect S4V.Lemmas.LayoutDetect
open S4V.Model.Fixed (Bytes)

/-! ## Candidates (`filesz_to_types`) -/

/-- every row of `filesz_to_types` tests divisibility by the size of the very layout it inserts -/
theorem C08_candidate_rows_use_layout_size :
    (∀ k ∈ kinds, ∀ r ∈ bonusRows k, (layoutNamed r.1).map (·.size) = some r.2) ∧
    (∀ r ∈ allRows, (layoutNamed r.1).map (·.size) = some r.2.1) := by decide +kernel

theorem kinds_complete (k : Kind) : k ∈ kinds := by cases k <;> decide

/-- every layout has a row in the "try all types anyway" part -/
theorem C08_layouts_with_row :
    layouts.all (fun l => allRows.any (fun r => r.1 == l.name && r.2.1 == l.size)) = true := by decide +kernel

/-- FULL statement: for every layout, every kind and every `n ≥ 1`, a file of `n` records of that layout has the
layout among its candidates. -/
def C08_candidates_by_size_full : Prop :=
  ∀ l ∈ layouts, ∀ (k : Kind) (n : Nat), 1 ≤ n → ∃ b, (l.name, b) ∈ cands k (n * l.size)

/-- It HOLDS (since the rows for `Fs_Netbsd_x8664_Lastlogx` were added). -/
theorem C08_candidates_by_size_full_holds : C08_candidates_by_size_full := by
  intro l hl k n _
  have h1 := List.all_eq_true.mp C08_layouts_with_row l hl
  simp only [List.any_eq_true, Bool.and_eq_true, beq_iff_eq] at h1
  obtain ⟨r, hr, hrn, hrs⟩ := h1
  rw [cands_eq, ← hrn]
  exact foldl_addRow_has _ _ _ r hr (by rw [hrs]; exact Nat.mul_mod_left _ _)

/-- counter-model (the tree before the repair): WITHOUT the rows of `Fs_Netbsd_x8664_Lastlogx` a one-record file of that
layout has no candidate at all — no other layout's size divides 432 — and `FixedStructReader::new` answers
`FileErrNoValidFixedStruct` (it did: reproduced with the binary before the repair). With the rows it is the only
candidate, and under its own kind it carries the bonus. -/
theorem candidates_without_lastlogx_row_lose :
    candsWith (fun k => (bonusRows k).filter (·.1 != "Fs_Netbsd_x8664_Lastlogx"))
      (allRows.filter (·.1 != "Fs_Netbsd_x8664_Lastlogx")) .lastlogx 432 = [] ∧
    cands .lastlogx 432 = [("Fs_Netbsd_x8664_Lastlogx", BONUS)] ∧
    cands .utmpx 432 = [("Fs_Netbsd_x8664_Lastlogx", 0)] ∧
    (layoutNamed "Fs_Netbsd_x8664_Lastlogx").map (·.size) = some 432 := by decide +kernel

/-- PARTIAL (a special case of `_full_holds`): everything but that layout. -/
theorem C08_candidates_by_size_partial (l : LayoutS) (hl : l ∈ layouts) (hx : l.name ≠ "Fs_Netbsd_x8664_Lastlogx")
    (k : Kind) (n : Nat) (_hn : 1 ≤ n) : ∃ b, (l.name, b) ∈ cands k (n * l.size) :=
  C08_candidates_by_size_full_holds l hl k n _hn

/-- … and under the kind that names it, with the bonus. -/
theorem C08_candidates_bonus (k : Kind) (r : String × Nat) (hr : r ∈ bonusRows k) (n : Nat) :
    (r.1, BONUS) ∈ cands k (n * r.2) := by
  rw [cands_eq]
  apply foldl_addRow_keeps
  rw [List.mem_filterMap]
  exact ⟨r, hr, by simp [Nat.mul_mod_left]⟩

/-- no candidate whose record size fails to divide the file size -/
theorem C08_candidates_divide (k : Kind) (filesz : Nat) (c : String × Int) (hc : c ∈ cands k filesz) :
    ∃ l, layoutNamed c.1 = some l ∧ filesz % l.size = 0 := by
  have hrows := C08_candidate_rows_use_layout_size
  rcases cands_origin hc with ⟨r, hr, hn, hd⟩ | ⟨r, hr, hn, hd⟩
  · obtain ⟨l, hl, hs⟩ := Option.map_eq_some_iff.mp (hrows.1 k (kinds_complete k) r hr)
    exact ⟨l, hn ▸ hl, hs ▸ hd⟩
  · obtain ⟨l, hl, hs⟩ := Option.map_eq_some_iff.mp (hrows.2 r hr)
    exact ⟨l, hn ▸ hl, hs ▸ hd⟩

/-- `ENTRY_SZ_MIN` is the smallest layout size, so `FileErrTooSmall` files have no candidate anyway -/
theorem C08_entry_sz_min : layouts.all (fun l => decide (ENTRY_SZ_MIN ≤ l.size)) = true ∧
    layouts.any (fun l => l.size == ENTRY_SZ_MIN) = true := by decide +kernel

/-! ## The choice: first candidate, in iteration order, with the best positive score -/

/-- `score_file`, for ANY iteration order `ord` of the candidate map: `FileOk(n, s)` means that `n` is in `ord`, has
`high_score` `s > 0`, every candidate visited before it scored strictly less, every candidate after it at most `s`;
`FileErrNoHighScore` means no candidate scored above 0. (Unfolds the generated comparison `high_score > highest_score`.) -/
theorem C08_choice_deterministic_first_max (file : Bytes) (ord : List (String × Int)) :
    (∀ n s, scoreFile file ord = some (n, s) →
      ∃ pre c post, ord = pre ++ c :: post ∧ c.1 = n ∧ candScore file c = s ∧ 0 < s ∧
        (∀ d ∈ pre, candScore file d < s) ∧ (∀ d ∈ post, candScore file d ≤ s)) ∧
    (scoreFile file ord = none → ∀ c ∈ ord, candScore file c ≤ 0) := by
  have hstrict : replaceStrict = true := by decide
  unfold scoreFile
  cases hc : chooseGo (candScore file) ord (0, none) with
  | mk s' w =>
    rcases chooseGo_spec hstrict _ hc with ⟨rfl, _, hall⟩ | ⟨pre, c, post, hsplit, rfl, rfl, hgt, hpre, hpost⟩
    · exact ⟨fun n s h => (nomatch h), fun _ => hall⟩
    · refine ⟨fun n s h => ?_, fun h => (nomatch h)⟩
      simp only [Option.some.injEq, Prod.mk.injEq] at h
      obtain ⟨rfl, rfl⟩ := h
      exact ⟨pre, c, post, hsplit, rfl, rfl, hgt, hpre, hpost⟩

theorem scoreFile_some_max {file : Bytes} {ord : List (String × Int)} {n : String} {s : Int}
    (h : scoreFile file ord = some (n, s)) :
    ∃ c ∈ ord, c.1 = n ∧ candScore file c = s ∧ 0 < s ∧ ∀ e ∈ ord, candScore file e ≤ s := by
  obtain ⟨pre, c, post, rfl, hn, hs, hpos, hpre, hpost⟩ := (C08_choice_deterministic_first_max file ord).1 n s h
  refine ⟨c, by simp, hn, hs, hpos, fun e he => ?_⟩
  rcases List.mem_append.mp he with h | h
  · exact Int.le_of_lt (hpre e h)
  · rcases List.mem_cons.mp h with rfl | h
    · exact Int.le_of_eq hs
    · exact hpost e h

theorem scoreFile_of_max {file : Bytes} {ord : List (String × Int)} {c : String × Int} (hc : c ∈ ord)
    (hpos : 0 < candScore file c) (hmax : ∀ e ∈ ord, candScore file e ≤ candScore file c)
    (huniq : ∀ d ∈ ord, candScore file d = candScore file c → d.1 = c.1) :
    scoreFile file ord = some (c.1, candScore file c) := by
  cases r : scoreFile file ord with
  | none => have := (C08_choice_deterministic_first_max file ord).2 r c hc; omega
  | some q =>
    obtain ⟨n, s⟩ := q
    obtain ⟨c', hc', hn, hs, _, hmax'⟩ := scoreFile_some_max r
    have heq : candScore file c' = candScore file c := Int.le_antisymm (hmax c' hc') (hs ▸ hmax' c hc)
    rw [← hn, ← hs, huniq c' hc' heq, heq]

/-- FULL statement: the outcome of `FixedStructReader::new` does not depend on the iteration order of the candidate map. -/
def C08_choice_order_independent_full : Prop :=
  ∀ (k : Kind) (file : Bytes) (o₁ o₂ : List (String × Int)),
    ValidOrder k file o₁ → ValidOrder k file o₂ → newWith k file o₁ = newWith k file o₂

/-- a 64-byte file: `ac_version`/byte 1 = 3, the four bytes at 8 and at 24 hold 1700000000, everything else 0.
Read as `acct` (time at 8, padding clean) and as `acct_v3` (time at 24, version set) it scores 32 both ways. -/
def tieFile : Bytes :=
  [0, 3, 0, 0, 0, 0, 0, 0, 0, 0xF1, 0x53, 0x65, 0, 0, 0, 0, 0, 0, 0, 0, 0, 0, 0, 0, 0, 0xF1, 0x53, 0x65] ++ List.replicate 36 0

/-- It is FALSE — this is the behaviour of an UNORDERED candidate set (`HashMap`, the tree before the repair): for
`tieFile` under the kind `Utmp` the two iteration orders below give two different layouts. It was reproduced on the real
`FixedStructReader::new` then (either layout from run to run). With the generated ORDERED set the order is fixed:
`C08_choice_deterministic`, `tieFile_now`. -/
theorem C08_choice_order_independent_full_false : ¬ C08_choice_order_independent_full := by
  intro h
  have hc : cands .utmp tieFile.length
      = [("Fs_Linux_x86_Acct", 0), ("Fs_Linux_x86_Acct_v3", 0), ("Fs_Netbsd_x8664_Lastlog", 0)] := by decide +kernel
  have h1 : ValidOrder .utmp tieFile [("Fs_Linux_x86_Acct", 0), ("Fs_Linux_x86_Acct_v3", 0), ("Fs_Netbsd_x8664_Lastlog", 0)] := by
    unfold ValidOrder; rw [hc]
  have h2 : ValidOrder .utmp tieFile [("Fs_Linux_x86_Acct_v3", 0), ("Fs_Linux_x86_Acct", 0), ("Fs_Netbsd_x8664_Lastlog", 0)] := by
    unfold ValidOrder; rw [hc]; exact List.Perm.swap _ _ _
  have := h .utmp tieFile _ _ h1 h2
  revert this
  decide +kernel

theorem tieFile_outcomes :
    newWith .utmp tieFile [("Fs_Linux_x86_Acct", 0), ("Fs_Linux_x86_Acct_v3", 0), ("Fs_Netbsd_x8664_Lastlog", 0)]
      = .ok "Fs_Linux_x86_Acct" 32 ∧
    newWith .utmp tieFile [("Fs_Linux_x86_Acct_v3", 0), ("Fs_Linux_x86_Acct", 0), ("Fs_Netbsd_x8664_Lastlog", 0)]
      = .ok "Fs_Linux_x86_Acct_v3" 32 := by decide +kernel

/-! ### the generated candidate set is ordered: declaration order of `FixedStructType` -/

theorem C08_decl_order_table :
    setIsOrdered = true ∧ setIsHashMap = false ∧ declOrder = layouts.map (·.name) ∧ declOrder.Nodup ∧
    (∀ k ∈ kinds, ((bonusRows k).map (·.1)).Nodup ∧ ∀ r ∈ bonusRows k, r.1 ∈ declOrder) ∧
    (∀ r ∈ allRows, r.1 ∈ declOrder) := by decide +kernel

theorem cands_names_nodup (k : Kind) (filesz : Nat) : ((cands k filesz).map (·.1)).Nodup := by
  obtain ⟨_, _, _, _, hbonus, _⟩ := C08_decl_order_table
  rw [cands_eq]
  apply foldl_addRow_names_nodup
  exact List.Nodup.sublist (filterMap_names_sublist filesz (bonusRows k)) (hbonus k (kinds_complete k)).1

theorem cands_names_declared (k : Kind) (filesz : Nat) (c : String × Int) (hc : c ∈ cands k filesz) : c.1 ∈ declOrder := by
  obtain ⟨_, _, _, _, hbonus, hall⟩ := C08_decl_order_table
  rcases cands_origin hc with ⟨r, hr, hn, _⟩ | ⟨r, hr, hn, _⟩
  · exact hn ▸ (hbonus k (kinds_complete k)).2 r hr
  · exact hn ▸ hall r hr

theorem orderedCands_mem (k : Kind) (filesz : Nat) (c : String × Int) : c ∈ orderedCands k filesz ↔ c ∈ cands k filesz := by
  unfold orderedCands
  rw [mem_filterMap_find declOrder _ (cands_names_nodup k filesz)]
  exact ⟨fun h => h.1, fun h => ⟨h, cands_names_declared k filesz c h⟩⟩

theorem orderedCands_sorted (k : Kind) (filesz : Nat) : ((orderedCands k filesz).map (·.1)).Sublist declOrder :=
  filterMap_find_names_sublist _ _

/-- the declaration order is one of the orders an unordered set could have had -/
theorem orderedCands_valid (k : Kind) (file : Bytes) : ValidOrder k file (orderedCands k file.length) := by
  unfold ValidOrder
  obtain ⟨_, _, _, hnodup, _⟩ := C08_decl_order_table
  have n1 : (orderedCands k file.length).Nodup :=
    nodup_of_map_nodup _ _ (List.Nodup.sublist (orderedCands_sorted k file.length) hnodup)
  have n2 : (cands k file.length).Nodup := nodup_of_map_nodup _ _ (cands_names_nodup k file.length)
  exact (List.perm_ext_iff_of_nodup n1 n2).mpr (orderedCands_mem k file.length)

/-- DETERMINISM (unfolds the generated `setIsOrdered`): the outcome of `FixedStructReader::new` is a function of the
kind and the file's bytes — `newOutcome`, i.e. `newWith` along `orderedCands`, the candidates in the declaration order
of `FixedStructType`. The layout `score_file` returns is the FIRST maximum in that order: it scores `s > 0`, every
candidate declared before it scores strictly less, every candidate declared after it at most `s`. -/
theorem C08_choice_deterministic (k : Kind) (file : Bytes) :
    iterOrder k file.length = orderedCands k file.length ∧
    newOutcome k file = newWith k file (orderedCands k file.length) ∧
    chooseLayout k file = chooseLayoutWith k file (orderedCands k file.length) ∧
    (∀ c, c ∈ orderedCands k file.length ↔ c ∈ cands k file.length) ∧
    ((orderedCands k file.length).map (·.1)).Sublist declOrder ∧
    (∀ n s, scoreFile file (orderedCands k file.length) = some (n, s) →
      ∃ pre c post, orderedCands k file.length = pre ++ c :: post ∧ c.1 = n ∧ candScore file c = s ∧ 0 < s ∧
        (∀ d ∈ pre, candScore file d < s) ∧ (∀ d ∈ post, candScore file d ≤ s)) ∧
    (scoreFile file (orderedCands k file.length) = none → ∀ c ∈ cands k file.length, candScore file c ≤ 0) := by
  have ho : setIsOrdered = true := by decide
  have hi : iterOrder k file.length = orderedCands k file.length := by unfold iterOrder; rw [if_pos ho]
  have spec := C08_choice_deterministic_first_max file (orderedCands k file.length)
  refine ⟨hi, by unfold newOutcome; rw [hi], by unfold chooseLayout; rw [hi], orderedCands_mem k file.length,
    orderedCands_sorted k file.length, spec.1, ?_⟩
  intro h c hc
  exact spec.2 h c ((orderedCands_mem k file.length c).mpr hc)

/-- `tieFile` today: `acct` and `acct_v3` still both score 32, `Fs_Linux_x86_Acct` is declared first and is the layout
the file is read with, on every run (real reader: 400 of 400 runs, harness `s4h layout demo-tie`). -/
theorem tieFile_now :
    orderedCands .utmp tieFile.length = [("Fs_Linux_x86_Acct", 0), ("Fs_Linux_x86_Acct_v3", 0), ("Fs_Netbsd_x8664_Lastlog", 0)] ∧
    (orderedCands .utmp tieFile.length).map (candScore tieFile) = [32, 32, 0] ∧
    newOutcome .utmp tieFile = .ok "Fs_Linux_x86_Acct" 32 ∧ chooseLayout .utmp tieFile = some "Fs_Linux_x86_Acct" := by decide +kernel

/-- PARTIAL: when at most one candidate reaches the best positive score, every iteration order makes `score_file`
return the same layout and score. -/
theorem C08_choice_order_independent_partial (file : Bytes) (o₁ o₂ : List (String × Int)) (hp : o₁.Perm o₂)
    (huniq : ∀ c ∈ o₁, ∀ d ∈ o₁, 0 < candScore file c → candScore file c = candScore file d →
      (∀ e ∈ o₁, candScore file e ≤ candScore file c) → c.1 = d.1) :
    scoreFile file o₁ = scoreFile file o₂ := by
  cases r1 : scoreFile file o₁ with
  | none =>
    cases r2 : scoreFile file o₂ with
    | none => rfl
    | some q =>
      obtain ⟨c, hc, _, _, _, _⟩ := scoreFile_some_max r2
      have := (C08_choice_deterministic_first_max file o₁).2 r1 c (hp.mem_iff.mpr hc)
      omega
  | some q =>
    obtain ⟨n, s⟩ := q
    obtain ⟨c, hc, rfl, rfl, hpos, hmax⟩ := scoreFile_some_max r1
    exact (scoreFile_of_max (hp.mem_iff.mp hc) hpos (fun e he => hmax e (hp.mem_iff.mpr he))
      fun d hd he => (huniq c hc d (hp.mem_iff.mpr hd) hpos he.symm hmax).symm).symm

example : ∃ file o₁ o₂, o₁ ≠ o₂ ∧ o₁.Perm o₂ ∧ scoreFile file o₁ = scoreFile file o₂ ∧ (scoreFile file o₁).isSome :=
  ⟨0 :: 0 :: tieFile.drop 2, [("Fs_Linux_x86_Acct", 0), ("Fs_Linux_x86_Acct_v3", 0)], [("Fs_Linux_x86_Acct_v3", 0), ("Fs_Linux_x86_Acct", 0)],
    by decide, List.Perm.swap _ _ _, by decide +kernel, by decide +kernel⟩

theorem C08_sample_limit : COUNT_FOUND_ENTRIES_MAX = 5 ∧ nullIsAllZeroOrAllFF = true := by decide

/-- at most `COUNT_FOUND_ENTRIES_MAX` records of a candidate are scored; none of them is all-0x00 / all-0xFF -/
theorem C08_sampled_bound (sz : Nat) (file : Bytes) :
    (sampled (chunks sz file) COUNT_FOUND_ENTRIES_MAX).length ≤ 5 ∧
    ∀ r ∈ sampled (chunks sz file) COUNT_FOUND_ENTRIES_MAX, isNullRec r = false ∧ r ∈ chunks sz file :=
  ⟨sampled_length_le _ _, sampled_all_nonnull _ _⟩

/-- a candidate's `high_score` is a function of its sampled records alone -/
theorem C08_highscore_of_sampled (l : LayoutS) (bonus : Int) (f g : Bytes)
    (h : sampled (chunks l.size f) COUNT_FOUND_ENTRIES_MAX = sampled (chunks l.size g) COUNT_FOUND_ENTRIES_MAX) :
    highScore l bonus f = highScore l bonus g := by
  unfold highScore
  rw [scanGo_sampled, scanGo_sampled (rs := chunks l.size g), h]

theorem chooseGo_congr (s₁ s₂ : String × Int → Int) : ∀ (ord : List (String × Int)) (st : Int × Option String),
    (∀ c ∈ ord, s₁ c = s₂ c) → chooseGo s₁ ord st = chooseGo s₂ ord st := by
  intro ord
  induction ord with
  | nil => intro st _; rfl
  | cons c cs ih =>
    intro st h
    obtain ⟨best, who⟩ := st
    simp only [chooseGo]
    rw [h c List.mem_cons_self]
    have ih' := fun st => ih st (fun d hd => h d (List.mem_cons_of_mem _ hd))
    split <;> split <;> exact ih' _

/-- two files of the same size whose sampled records agree, for every candidate layout, get the same layout and score
from `score_file` — for every iteration order. (The later test "some record has a time value" of `new` looks at the
whole file; it can turn the outcome into `FileErrNoValidFixedStruct` but never into another layout.) -/
theorem C08_choice_depends_on_sampled_prefix (k : Kind) (f g : Bytes) (hlen : f.length = g.length)
    (hs : ∀ c ∈ cands k f.length, ∀ l, layoutNamed c.1 = some l →
      sampled (chunks l.size f) COUNT_FOUND_ENTRIES_MAX = sampled (chunks l.size g) COUNT_FOUND_ENTRIES_MAX)
    (ord : List (String × Int)) (hord : ValidOrder k f ord) :
    scoreFile f ord = scoreFile g ord ∧ ValidOrder k g ord := by
  constructor
  · unfold scoreFile
    rw [chooseGo_congr (candScore f) (candScore g) ord (0, none)]
    intro c hc
    have hc' : c ∈ cands k f.length := hord.mem_iff.mp hc
    unfold candScore
    cases hl : layoutNamed c.1 with
    | none => rfl
    | some l => exact C08_highscore_of_sampled l c.2 f g (hs c hc' l hl)
  · unfold ValidOrder at hord ⊢; rw [← hlen]; exact hord

def opInBounds (size : Nat) : SOp → Bool
  | .cstr _ off len => decide (off + len ≤ size) && decide (1 ≤ len)
  | .noDataAfterNull _ off len => decide (off + len ≤ size) && decide (1 ≤ len)
  | .nullTerminator _ off len => decide (off + len ≤ size) && decide (1 ≤ len)
  | .allNull _ off len => decide (off + len ≤ size) && decide (1 ≤ len)
  | .valueNotZero _ off p => decide (off + p.bytes ≤ size)
  | .utType _ off p _ => decide (off + p.bytes ≤ size)
  | .acFlags _ off p mask => decide (off + 1 ≤ size) && decide (p.bytes = 1) && decide (mask < 128)
  | .timeRange _ off p => decide (off + p.bytes ≤ size) && decide (p.bytes ≤ 8)

/-- every FIELD a score program names lies inside the record, for all 16 layouts (the string ops: the field they
start in; how far `CStr::from_ptr` runs is `overreads`) -/
theorem C08_score_fields_in_bounds : layouts.all (fun l => l.prog.all (opInBounds l.size)) = true := by decide +kernel

/-- record `i` of a file is the `size` bytes at `i * size`: its score depends on no other byte of the file -/
theorem C08_score_locality (l : LayoutS) (bonus : Int) (f g : Bytes) (i : Nat)
    (hf : i < f.length / l.size) (hg : i < g.length / l.size)
    (h : (f.drop (i * l.size)).take l.size = (g.drop (i * l.size)).take l.size) :
    ((chunks l.size f)[i]?).map (scoreRecord l bonus) = ((chunks l.size g)[i]?).map (scoreRecord l bonus) ∧
    (chunks l.size f)[i]? = some ((f.drop (i * l.size)).take l.size) := by
  unfold chunks
  rw [chunksN_getElem? hf, chunksN_getElem? hg, h]
  exact ⟨rfl, rfl⟩

/-- FULL statement: scoring a record reads nothing beyond the record. -/
def C08_score_reads_in_bounds_full : Prop :=
  ∀ l ∈ layouts, ∀ rec : Bytes, rec.length = l.size → isNullRec rec = false → overreads l rec = false

/-- It is FALSE: 32 bytes `A` as a `Fs_Netbsd_x8664_Lastlog` record — `ll_host` (the last 16 bytes) has no NUL, the
real `CStr::from_ptr` continues behind the 32-byte `Box`. Reproduced: the real `score_fixedstruct` returns values
that the 32 bytes cannot explain and that change with the heap's contents (harness `s4h layout demo-overread`). -/
theorem C08_score_reads_in_bounds_full_false : ¬ C08_score_reads_in_bounds_full := by
  intro h
  have key : ((layoutNamed "Fs_Netbsd_x8664_Lastlog").map fun l =>
      decide ((List.replicate 32 (65 : UInt8)).length = l.size) && !isNullRec (List.replicate 32 65)
        && overreads l (List.replicate 32 65)) = some true := by decide +kernel
  cases hn : layoutNamed "Fs_Netbsd_x8664_Lastlog" with
  | none => rw [hn] at key; cases key
  | some l =>
    rw [hn] at key
    simp only [Option.map_some, Option.some.injEq, Bool.and_eq_true, decide_eq_true_eq, Bool.not_eq_true'] at key
    have := h l (List.mem_of_find?_eq_some hn) _ key.1.1 key.1.2
    rw [key.2] at this
    cases this

/-- PARTIAL: a record that ends in a NUL byte is never over-read, whatever the layout. -/
theorem C08_score_reads_in_bounds_partial (l : LayoutS) (hl : l ∈ layouts) (rec : Bytes) (hlen : rec.length = l.size)
    (hlast : rec.getLast? = some 0) : overreads l rec = false := by
  have htab := List.all_eq_true.mp C08_score_fields_in_bounds l hl
  unfold overreads
  rw [Bool.eq_false_iff]
  intro hany
  obtain ⟨o, ho, hov⟩ := List.any_eq_true.mp hany
  have hb := List.all_eq_true.mp htab o ho
  cases o with
  | cstr p off len =>
    simp only [opInBounds, Bool.and_eq_true, decide_eq_true_eq] at hb
    simp only [opOverreads] at hov
    rw [cstrOverreads_false_of_last_nul rec off (by omega) hlast] at hov
    cases hov
  | _ => simp [opOverreads] at hov

example : ∃ l ∈ layouts, ∃ rec : Bytes, rec.length = l.size ∧ rec.getLast? = some 0 ∧ isNullRec rec = false :=
  ⟨_, List.mem_cons_self, 1 :: List.replicate 279 0, by decide +kernel, by decide +kernel, by decide +kernel⟩

/-- The exact sufficient condition, for every iteration order: the intended candidate's best sampled score is positive
and strictly above every other candidate's. Then `score_file` returns it, with that score. (With a tie the outcome
depends on the order: `C08_choice_order_independent_full_false`.) -/
theorem C08_separation (k : Kind) (file : Bytes) (c₀ : String × Int) (hc₀ : c₀ ∈ cands k file.length)
    (hpos : 0 < candScore file c₀)
    (hbeats : ∀ d ∈ cands k file.length, d ≠ c₀ → candScore file d < candScore file c₀)
    (ord : List (String × Int)) (hord : ValidOrder k file ord) :
    scoreFile file ord = some (c₀.1, candScore file c₀) := by
  have key : ∀ d ∈ ord, d = c₀ ∨ candScore file d < candScore file c₀ := fun d hd =>
    (Classical.em (d = c₀)).imp_right (hbeats d (hord.mem_iff.mp hd))
  exact scoreFile_of_max (hord.mem_iff.mpr hc₀) hpos (fun e he => (key e he).elim (· ▸ Int.le_refl _) Int.le_of_lt)
    fun d hd he => (key d hd).elim (· ▸ rfl) fun h => absurd he (Int.ne_of_lt h)

/-- `C08_separation` read off a table of the candidates' scores -/
theorem separation_of_scores {k : Kind} {file : Bytes} {n₀ : String} {s₀ : Int} {rest : List (String × Int)}
    (h : (cands k file.length).map (fun c => (c.1, candScore file c)) = (n₀, s₀) :: rest) (hpos : 0 < s₀)
    (hlt : ∀ x ∈ rest, x.2 < s₀) (ord : List (String × Int)) (hord : ValidOrder k file ord) :
    scoreFile file ord = some (n₀, s₀) := by
  cases hc : cands k file.length with
  | nil => rw [hc] at h; cases h
  | cons c₀ cs =>
    rw [hc, List.map_cons, List.cons.injEq, Prod.mk.injEq] at h
    obtain ⟨⟨rfl, rfl⟩, rfl⟩ := h
    refine C08_separation k file c₀ (by rw [hc]; exact List.mem_cons_self) hpos (fun d hd hne => ?_) ord hord
    rw [hc] at hd
    rcases List.mem_cons.mp hd with rfl | hd
    · exact absurd rfl hne
    · exact hlt (d.1, candScore file d) (List.mem_map_of_mem hd)

/-- the three record shapes the framework synthesises end to end (vlib/props/C08.py `rec`, `rec_acct_v3`, `rec_lastlog`,
record 0, time 1700000000) -/
def utmpxRec : Bytes :=
  [7, 0, 0, 0, 232, 3, 0, 0, 112, 116, 115, 47, 48] ++ List.replicate 27 0 ++ [48, 48, 48, 48, 117, 115, 101, 114, 48] ++ List.replicate 27 0 ++ [104, 111, 115, 116, 48, 46, 101, 120, 97, 109, 112, 108, 101] ++ List.replicate 252 0 ++ [241, 83, 101, 5] ++ List.replicate 39 0
def acctV3Rec : Bytes :=
  [1, 3, 0, 0, 0, 0, 0, 0, 232, 3, 0, 0, 232, 3, 0, 0, 232, 3, 0, 0, 1, 0, 0, 0, 0, 241, 83, 101] ++ List.replicate 20 0 ++ [99, 109, 100, 48] ++ List.replicate 12 0
def lastlogRec : Bytes :=
  [0, 241, 83, 101, 112, 116, 115, 47, 48] ++ List.replicate 27 0 ++ [104, 111, 115, 116, 48, 46, 101, 120, 97, 109, 112, 108, 101] ++ List.replicate 243 0

/-- candidates and their scores for the three synthesised shapes (one-record files, the kind their names give) -/
theorem C08_trio_scores :
    (cands .utmpx utmpxRec.length).map (fun c => (c.1, candScore utmpxRec c))
      = [("Fs_Linux_x86_Utmpx", 148), ("Fs_Linux_x86_Acct", 0), ("Fs_Linux_x86_Acct_v3", 0), ("Fs_Netbsd_x8664_Lastlog", 0)] ∧
    (cands .acctV3 acctV3Rec.length).map (fun c => (c.1, candScore acctV3Rec c))
      = [("Fs_Linux_x86_Acct_v3", 59), ("Fs_Linux_x86_Acct", 0), ("Fs_Netbsd_x8664_Lastlog", 0)] ∧
    (cands .lastlog lastlogRec.length).map (fun c => (c.1, candScore lastlogRec c))
      = [("Fs_Linux_x86_Lastlog", 83)] := by decide +kernel

/-- … so each is read with the intended layout whatever the iteration order of the candidate map -/
theorem C08_trio_separated :
    (∀ ord, ValidOrder .utmpx utmpxRec ord → newWith .utmpx utmpxRec ord = .ok "Fs_Linux_x86_Utmpx" 148) ∧
    (∀ ord, ValidOrder .acctV3 acctV3Rec ord → newWith .acctV3 acctV3Rec ord = .ok "Fs_Linux_x86_Acct_v3" 59) ∧
    (∀ ord, ValidOrder .lastlog lastlogRec ord → newWith .lastlog lastlogRec ord = .ok "Fs_Linux_x86_Lastlog" 83) := by
  obtain ⟨h1, h2, h3⟩ := C08_trio_scores
  refine ⟨fun ord hord => ?_, fun ord hord => ?_, fun ord hord => ?_⟩
  · rw [newWith, separation_of_scores h1 (by decide) (by decide) ord hord]
    decide +kernel
  · rw [newWith, separation_of_scores h2 (by decide) (by decide) ord hord]
    decide +kernel
  · rw [newWith, separation_of_scores h3 (by decide) (by decide) ord hord]
    decide +kernel

theorem chooseLayout_of_every_order {k : Kind} {file : Bytes} {n : String} {s : Int}
    (h : ∀ ord, ValidOrder k file ord → newWith k file ord = .ok n s) : chooseLayout k file = some n := by
  rw [chooseLayout, (C08_choice_deterministic k file).1, chooseLayoutWith, h _ (orderedCands_valid k file)]

/-- … and with the generated ordered set: -/
theorem C08_trio_chosen :
    chooseLayout .utmpx utmpxRec = some "Fs_Linux_x86_Utmpx" ∧ chooseLayout .acctV3 acctV3Rec = some "Fs_Linux_x86_Acct_v3" ∧
    chooseLayout .lastlog lastlogRec = some "Fs_Linux_x86_Lastlog" :=
  ⟨chooseLayout_of_every_order C08_trio_separated.1, chooseLayout_of_every_order C08_trio_separated.2.1,
    chooseLayout_of_every_order C08_trio_separated.2.2⟩

/-- what `score_fixedstruct` can see of a well-formed Linux `acct_v3` record: 64 bytes, `ac_version` = 3, `ac_flag` inside
the mask, `ac_btime` a date between 2000 and 2038, `ac_comm` a non-empty printable string followed by NULs only -/
def wfAcctV3 (rec : Bytes) : Bool :=
  decide (rec.length = 64) && decide (rec[1]? = some 3) && decide (acFlagsScore 31 (S4V.Model.Fixed.leNat (S4V.Model.Fixed.slice rec 0 1)) ≠ - flagsBad)
    && decide (timeRangeScore (intAt ⟨false, 4⟩ 24 rec) = timeIn)
    && decide (0 < cstrScore (cstrFrom rec 48)) && ((cstrFrom rec 48).all (fun b => decide (32 ≤ b.toNat ∧ b.toNat ≤ 126)))
    && decide (afterNullGo false (S4V.Model.Fixed.slice rec 48 16) = 0) && decide (rec.getLast? = some 0)

/-- FULL statement (equal-sized pair `acct` / `acct_v3`, 64 bytes each, both candidates of every 64·n-byte file): a
file of one well-formed `acct_v3` record whose name says `AcctV3` (so `acct_v3` gets `BONUS`) is read as `acct_v3`. -/
def C08_kind_bonus_decides_full : Prop :=
  ∀ rec : Bytes, wfAcctV3 rec = true → ∀ ord, ValidOrder .acctV3 rec ord →
    ∃ s, scoreFile rec ord = some ("Fs_Linux_x86_Acct_v3", s)

/-- uid = gid = 1500000000 (a value inside the directory-service id ranges, and inside 2000‥2038 when read as
`acct.ac_btime`), the eight `comp_t` counters 0x2020 (two spaces when read as `acct.ac_comm`), command `kworker` -/
def ambiguousV3 : Bytes :=
  [0, 3, 0, 0, 0, 0, 0, 0, 0, 47, 104, 89, 0, 47, 104, 89, 210, 4, 0, 0, 1, 0, 0, 0, 0, 241, 83, 101, 0, 0, 192, 63, 32, 32, 32, 32, 32, 32, 32, 32, 32, 32, 32, 32, 32, 32, 32, 32, 107, 119, 111, 114, 107, 101, 114] ++ List.replicate 9 0

/-- It is FALSE: `ambiguousV3` is well-formed as `acct_v3` and scores 62 as such (bonus included), but 71 as `acct`
(`chooseLayout` = `Fs_Linux_x86_Acct`, `ambiguousV3_scores`)
(uid taken for the time, the counters and the command taken for a 19-character command name). The real
`FixedStructReader::new` answers `Fs_Linux_x86_Acct` too (harness replay). An honest ambiguity of the heuristic. -/
theorem C08_kind_bonus_decides_full_false : ¬ C08_kind_bonus_decides_full := by
  intro h
  obtain ⟨s, hs⟩ := h ambiguousV3 (by decide +kernel) _ (List.Perm.refl _)
  have : scoreFile ambiguousV3 (cands .acctV3 ambiguousV3.length) = some ("Fs_Linux_x86_Acct", 71) := by decide +kernel
  rw [this] at hs
  simp at hs

theorem ambiguousV3_scores :
    (cands .acctV3 ambiguousV3.length).map (fun c => (c.1, candScore ambiguousV3 c))
      = [("Fs_Linux_x86_Acct_v3", 62), ("Fs_Linux_x86_Acct", 71), ("Fs_Netbsd_x8664_Lastlog", 16)] ∧
    chooseLayout .acctV3 ambiguousV3 = some "Fs_Linux_x86_Acct" := by decide +kernel

end S4V.Props.LayoutDetectSpec
