/-
C14 — `--dt-after` / `--dt-before` arguments resolve to the documented instant.

Statements are over `S4V.Model.Cli` (strings are `List Char`; a resolved
datetime is a `DT`, its instant `DT.ns` is in nanoseconds since the epoch).
Generated constants (`cliFilterPatterns`, `durRegexAnchored*`, `tzTable`,
`durRegexAlternatives`) are unfolded by the proofs, never assumed. The decided instances that run all 76 rows
(`firstRow_cached`, `noStealRow_cached`) read the rows' item lists from the generated cache `S4V.Gen.CliItems`, which
`S4V.Lemmas.CliNoSteal.infos_eq` checks against the rows.
-/
import S4V.Lemmas.Cli
import S4V.Lemmas.CliRows
import S4V.Lemmas.CliTime
import S4V.Lemmas.CliAbs
import S4V.Lemmas.CliNoStealTable

namespace S4V.Props.CliSpec
open S4V.Model.Cli S4V.Gen.CliTables S4V.Lemmas.Cli S4V.Lemmas.CliRows

def mult (u : Char) : Nat :=
  if u = 's' then 1 else if u = 'm' then 60 else if u = 'h' then 3600 else if u = 'd' then 86400 else 604800

def totalOf (toks : List Tok) : Nat := (toks.map fun t => numVal t.ds * mult t.u).sum

theorem totalOf_by_unit (toks : List Tok) (wf : ∀ t ∈ toks, t.WF) :
    (totalOf toks : Int) = (sumOf 's' toks : Int) + sumOf 'm' toks * 60 + sumOf 'h' toks * 3600 +
      sumOf 'd' toks * 86400 + sumOf 'w' toks * 604800 := by
  induction toks with
  | nil => simp [totalOf, sumOf]
  | cons t ts ih =>
    have := ih (fun x hx => wf x (by simp [hx]))
    have hu := (wf t (by simp)).unit
    simp only [totalOf, sumOf] at this ⊢
    simp at hu
    rcases hu with h | h | h | h | h <;>
      simp [h, mult] at this ⊢ <;> omega

/-- The regex does not fix the order of the units: for every string
`[@]?[+-](N u)+` with ASCII digit strings `N` (any length, leading zeros allowed, value ≤ 10^9),
unit letters among w d h m s in ANY order, each unit at most once, the duration is the signed sum
of count × unit, and the `@` decides whether it is relative to the other bound. -/
theorem C14_rel (other neg : Bool) (t : Tok) (ts : List Tok) (wf : ∀ x ∈ t :: ts, x.WF)
    (small : ∀ x ∈ t :: ts, numVal x.ds ≤ 1000000000) (distinct : ((t :: ts).map (·.u)).Nodup) :
    durOf (relPrefix other neg ++ renderToks (t :: ts)) =
      .ok ((if neg then -1 else 1) * (totalOf (t :: ts) : Int)) other := by
  rw [durOf_render other neg t ts wf small, totalOf_by_unit (t :: ts) wf]
  rw [valOf_lastOf_nodup 's' _ distinct, valOf_lastOf_nodup 'm' _ distinct, valOf_lastOf_nodup 'h' _ distinct,
    valOf_lastOf_nodup 'd' _ distinct, valOf_lastOf_nodup 'w' _ distinct]

/-- as coded, for repeated units too: each unit counts with its LAST occurrence only -/
theorem C14_rel_lastwins (other neg : Bool) (t : Tok) (ts : List Tok) (wf : ∀ x ∈ t :: ts, x.WF)
    (small : ∀ x ∈ t :: ts, numVal x.ds ≤ 1000000000) :
    durOf (relPrefix other neg ++ renderToks (t :: ts)) =
      .ok ((if neg then -1 else 1) *
        ((valOf (lastOf 's' none (t :: ts)) : Int) + valOf (lastOf 'm' none (t :: ts)) * 60 +
          valOf (lastOf 'h' none (t :: ts)) * 3600 + valOf (lastOf 'd' none (t :: ts)) * 86400 +
          valOf (lastOf 'w' none (t :: ts)) * 604800)) other :=
  durOf_render other neg t ts wf small

-- hypotheses of C14_rel are satisfiable: "-1w22h" (the help text's example), units out of order
example : durOf (relPrefix false true ++ renderToks [⟨['2', '2'], 'h'⟩, ⟨['1'], 'w'⟩]) = .ok (-(22 * 3600 + 604800)) false := by
  have h := C14_rel false true ⟨['2', '2'], 'h'⟩ [⟨['1'], 'w'⟩]
    (by intro x hx; simp at hx; rcases hx with h | h <;> subst h <;> simp [Tok.WF] <;> decide)
    (by intro x hx; simp at hx; rcases hx with h | h <;> subst h <;> decide) (by decide)
  rw [h]; decide

/-- the peek at a value that is not itself of the `@` form and neither exits nor panics -/
def plainPeek (x : List Char) : Prop := (∀ d, durOf x ≠ .ok d true) ∧ durOf x ≠ .exit ∧ durOf x ≠ .panic

/-- a value starting with `@` skips every pattern row and is resolved against the other bound -/
theorem processDtL_at (r : List Char) (D : Int) (tz now : Int) (o : DT) (hy : durOf ('@' :: r) = .ok D true) :
    processDtL ('@' :: r) tz (some o) now =
      match addDur o D with
      | some dt => .some dt
      | none => .none := by
  simp only [processDtL, firstRow_at_none r tz, relToDt, hy]
  cases addDur o D <;> rfl

theorem plainPeek_cases {x : List Char} (hp : plainPeek x) : durOf x = .none ∨ ∃ d, durOf x = .ok d false := by
  obtain ⟨h1, h2, h3⟩ := hp
  cases h : durOf x with
  | none => exact .inl rfl
  | exit => exact absurd h h2
  | panic => exact absurd h h3
  | ok d o =>
    cases o with
    | true => exact absurd h (h1 d)
    | false => exact .inr ⟨d, rfl⟩

/-- `-a X -b @±D`: `-a` is resolved first (alone), then `-b` is `X ± D` -/
theorem resolve_at_before (x r : List Char) (D : Int) (tz now : Int) (dtx : DT)
    (hy : durOf ('@' :: r) = .ok D true) (hp : plainPeek x) (hx : processDtL x tz none now = .some dtx) :
    resolveABL (some x) (some ('@' :: r)) tz now =
      match addDur dtx D with
      | some dtb => finishAB (some dtx) (some dtb)
      | none => .reject .unparsableBefore := by
  rcases plainPeek_cases hp with h | ⟨d, h⟩ <;>
    simp [resolveABL, hy, h, processDtExit, hx, processDtL_at r D tz now _ hy] <;>
    cases addDur dtx D <;> simp

/-- `-a @±D -b X`: `-b` is resolved first (alone), then `-a` is `X ± D` -/
theorem resolve_at_after (x r : List Char) (D : Int) (tz now : Int) (dtx : DT)
    (hy : durOf ('@' :: r) = .ok D true) (hp : plainPeek x) (hx : processDtL x tz none now = .some dtx) :
    resolveABL (some ('@' :: r)) (some x) tz now =
      match addDur dtx D with
      | some dta => finishAB (some dta) (some dtx)
      | none => .reject .unparsableAfter := by
  rcases plainPeek_cases hp with h | ⟨d, h⟩ <;>
    simp [resolveABL, hy, h, processDtExit, hx, processDtL_at r D tz now _ hy] <;>
    cases addDur dtx D <;> simp

/-- two plain values: `-a` first, then `-b` with `-a`'s result as its "other" -/
theorem resolve_plain (x y : List Char) (tz now : Int) (dtx dty : DT)
    (hpx : plainPeek x) (hpy : durOf y ≠ .exit ∧ durOf y ≠ .panic)
    (hx : processDtL x tz none now = .some dtx) (hy : processDtL y tz (some dtx) now = .some dty) :
    resolveABL (some x) (some y) tz now = finishAB (some dtx) (some dty) := by
  rcases plainPeek_cases hpx with h | ⟨d, h⟩ <;>
    cases hpy' : durOf y <;> simp_all [resolveABL, processDtExit]

/-- a string `@[+-](N u)+` of the grammar, split behind its `@` -/
theorem durOf_at (neg : Bool) (t : Tok) (ts : List Tok) (wf : ∀ k ∈ t :: ts, k.WF)
    (small : ∀ k ∈ t :: ts, numVal k.ds ≤ 1000000000) (distinct : ((t :: ts).map (·.u)).Nodup) :
    ∃ r, relPrefix true neg ++ renderToks (t :: ts) = '@' :: r ∧
      durOf ('@' :: r) = .ok ((if neg then -1 else 1) * (totalOf (t :: ts) : Int)) true :=
  ⟨_, rfl, C14_rel true neg t ts wf small distinct⟩

/-- `-a X -b @±D` resolves exactly as `-a X -b Y` for any plain `Y` that denotes `X ± D`
(the help text's "-a 20220102 -b @+1d is equivalent to -a 20220102 -b 20220103"), for every string
`@[+-](N u)+` of the relative grammar. -/
theorem C14_at (x y : List Char) (neg : Bool) (t : Tok) (ts : List Tok) (wf : ∀ k ∈ t :: ts, k.WF)
    (small : ∀ k ∈ t :: ts, numVal k.ds ≤ 1000000000) (distinct : ((t :: ts).map (·.u)).Nodup)
    (tz now : Int) (dtx dty : DT) (hpx : plainPeek x) (hpy : plainPeek y)
    (hx : processDtL x tz none now = .some dtx)
    (hd : addDur dtx ((if neg then -1 else 1) * (totalOf (t :: ts) : Int)) = some dty)
    (hy : processDtL y tz (some dtx) now = .some dty) :
    resolveABL (some x) (some (relPrefix true neg ++ renderToks (t :: ts))) tz now =
      resolveABL (some x) (some y) tz now := by
  obtain ⟨r, e, hdur⟩ := durOf_at neg t ts wf small distinct
  rw [e, resolve_at_before x r _ tz now dtx hdur hpx hx, hd, resolve_plain x y tz now dtx dty hpx ⟨hpy.2.1, hpy.2.2⟩ hx hy]

/-- symmetric: `-a @±D -b X` resolves with `-a = X ± D` -/
theorem C14_at_after (x : List Char) (neg : Bool) (t : Tok) (ts : List Tok) (wf : ∀ k ∈ t :: ts, k.WF)
    (small : ∀ k ∈ t :: ts, numVal k.ds ≤ 1000000000) (distinct : ((t :: ts).map (·.u)).Nodup)
    (tz now : Int) (dtx dta : DT) (hpx : plainPeek x)
    (hx : processDtL x tz none now = .some dtx)
    (hd : addDur dtx ((if neg then -1 else 1) * (totalOf (t :: ts) : Int)) = some dta) :
    resolveABL (some (relPrefix true neg ++ renderToks (t :: ts))) (some x) tz now = finishAB (some dta) (some dtx) := by
  obtain ⟨r, e, hdur⟩ := durOf_at neg t ts wf small distinct
  rw [e, resolve_at_after x r _ tz now dtx hdur hpx hx, hd]

/-- two `@` forms, each relative to the other bound, are refused -/
theorem C14_reject_both_relative (a b : List Char) (da db : Int) (tz now : Int)
    (ha : durOf a = .ok da true) (hb : durOf b = .ok db true) :
    resolveABL (some a) (some b) tz now = .reject .bothRelative := by
  simp [resolveABL, ha, hb]

theorem finishAB_ok (a b fa fb : Option DT) (h : finishAB a b = .ok fa fb) :
    ∀ dta dtb, fa = some dta → fb = some dtb → dta.gt dtb = false := by
  intro dta dtb ea eb
  unfold finishAB at h
  split at h
  · split at h
    · cases h
    · cases h; cases ea; cases eb; simp_all
  · cases h; subst ea; subst eb; simp_all

/-- whatever `-a`/`-b` are, an accepted pair is ordered -/
theorem C14_reject_after_gt_before (a b : Option (List Char)) (tz now : Int) (fa fb : Option DT)
    (h : resolveABL a b tz now = .ok fa fb) (dta dtb : DT) (ea : fa = some dta) (eb : fb = some dtb) :
    dta.gt dtb = false := by
  unfold resolveABL at h
  dsimp only at h
  -- every branch is a rejection or ends in `finishAB`
  repeat' split at h
  all_goals first | cases h | exact finishAB_ok _ _ _ _ h dta dtb ea eb

/-- `--tz-offset`: every name the generated table marks ambiguous is refused -/
theorem C14_reject_ambiguous_tz_offset :
    tzTable.all (fun kv => kv.2 != "" || (cliProcessTzOffset kv.1).isNone) = true := by
  decide +kernel

/-- as coded in `process_dt`: an ambiguous (or any) zone name contributes the table's text, so an
ambiguous name contributes nothing and the row parses the rest alone -/
theorem rowValue_named (row : Row) (v : List Char) (z : String) (hz : row.hasTzZ = true)
    (hl : lookupTz (splitAlphaTail v).2 = some z) :
    rowValue row v = some ((splitAlphaTail v).1 ++ z.toList ++ (if row.hasTime then [] else appendTimeValue.toList)) := by
  simp [rowValue, hz, hl]

/-- an ambiguous name after a documented date-time is rejected (decided instance, all 76 rows + the regex) -/
theorem C14_reject_ambiguous_instance :
    processDtL ['2','0','2','2','-','0','1','-','0','2','T','0','3',':','0','4',':','0','5',' ','S','S','T'] 0 none 0 = .none := by
  rw [processDtL, firstRow_cached]
  decide +kernel

/-! ## garbage: the relative regex is anchored (finding F5, repaired) -/

/-- the documented relative grammar `[@]?[+-](N u)+` (digits as the regex sees them) -/
def InRelGrammar (v : List Char) : Prop :=
  ∃ other neg t ts, (∀ x ∈ t :: ts, Tok.WFNd x) ∧ v = relPrefix other neg ++ renderToks (t :: ts)

/-- "every string outside the relative grammar is refused by the relative branch" — TRUE on this
tree: `C14_reject_garbage` -/
def C14_reject_garbage_full : Prop := ∀ v : List Char, ¬ InRelGrammar v → durOf v = .none

/-- the generated regex carries both anchors (`^…$`) -/
theorem dur_regex_anchored : durRegexAnchoredStart = true ∧ durRegexAnchoredEnd = true := by decide

/-- With both anchors (`^…$`) the relative branch accepts only the grammar:
a whole-string match is `[@]?[+-](N u)+`. (Repeated units still resolve last-wins: `C14_rel_lastwins`.) -/
theorem C14_rel_partial (v : List Char) (caps : Caps) (h : searchWith true true v = some caps) : InRelGrammar v := by
  cases v with
  | nil => simp [searchWith] at h
  | cons c r =>
    unfold searchWith at h
    split at h
    · rename_i caps' rest hm
      simp at h
      have hr : rest = [] := by
        rcases h with ⟨h1, _⟩
        simpa using h1
      subst hr
      exact matchAt_inv _ _ hm
    · simp at h

-- non-vacuity of C14_rel_partial: `-1w22h` is matched whole
example : (searchWith true true ['-', '1', 'w', '2', '2', 'h']).isSome = true := by decide

/-- the search `string_wdhms_to_duration` runs is the whole-string one (generated anchors unfolded) -/
theorem search_anchored (v : List Char) : search v = searchWith true true v := by
  unfold search
  rw [dur_regex_anchored.1, dur_regex_anchored.2]

/-- every string outside `[@]?[+-](N u)+` is refused by the relative branch -/
theorem C14_reject_garbage : C14_reject_garbage_full := by
  intro v hv
  unfold durOf
  split
  · rfl
  · rw [search_anchored]
    cases hs : searchWith true true v with
    | none => rfl
    | some caps => exact absurd (C14_rel_partial v caps hs) hv

/-- the same, read forwards: any outcome of the relative branch other than "no match" (a duration,
the i64 exit, the overflow panic) comes from a string of the grammar -/
theorem C14_rel_only_grammar (v : List Char) (h : durOf v ≠ .none) : InRelGrammar v :=
  Classical.byContradiction fun hn => h (C14_reject_garbage v hn)

/-- through the whole of `process_dt`: a value outside the relative grammar that no pattern row
reads is unparsable, whatever the other bound and the clock -/
theorem C14_reject_garbage_processDt (v : List Char) (tz now : Int) (other : Option DT)
    (hv : ¬ InRelGrammar v) (hrow : firstRow cliFilterPatterns v tz = none) :
    processDtL v tz other now = .none := by
  simp [processDtL, hrow, relToDt, C14_reject_garbage v hv]

theorem not_grammar_prefix_instance : ¬ InRelGrammar ['f', 'o', 'o', '+', '1', 'd'] := by
  rintro ⟨other, neg, t, ts, _, e⟩
  cases other <;> cases neg <;> simp [relPrefix] at e

/-- the former witnesses of F5 through the whole of `process_dt` (all 76 rows, then the regex):
`foo+1d` and `@+1d+11h` are unparsable (`Result.none` = "no row and no relative match") … -/
theorem garbage_prefix_rejected :
    processDtL ['f', 'o', 'o', '+', '1', 'd'] 0 none 0 = .none := by
  rw [processDtL, firstRow_cached]
  decide +kernel
theorem garbage_tail_rejected :
    processDtL ['@', '+', '1', 'd', '+', '1', '1', 'h'] 0 (some ⟨0, 0, 0⟩) 0 = .none := by
  have h : durOf ['@', '+', '1', 'd', '+', '1', '1', 'h'] = .none := by decide
  rw [processDtL, firstRow_at_none, relToDt, h]
/-- … while `@+1d2d` IS in the grammar `(N u)+` and stays + 2 days: an instance of `C14_rel_lastwins` -/
theorem rel_repeat_last_wins_instance :
    processDtL ['@', '+', '1', 'd', '2', 'd'] 0 (some ⟨0, 0, 0⟩) 0 = .some ⟨172800, 0, 0⟩ := by
  rw [processDtL_at _ 172800 0 0 _ (by decide)]
  decide

/-- counter-model (the defect as it was): without the anchors the same search accepts `foo+1d` as
`+1d` and `@+1d+11h` as `@+1d` -/
theorem unanchored_accepts_garbage :
    (searchWith false false ['f', 'o', 'o', '+', '1', 'd']).isSome = true := by decide
theorem unanchored_drops_tail :
    searchWith false false ['@', '+', '1', 'd', '+', '1', '1', 'h'] =
      some { other := true, neg := false, d := some ['1'] } := by decide

/-- "`+N` is the Unix epoch second N" for every `--tz-offset` — FALSE on this tree: the row `+%s` has
`has_tz = false`, so chrono's naive result is read as LOCAL time in the `--tz-offset` zone -/
def C14_epoch_full : Prop :=
  ∀ tz : Int, processDtL ['+', '9', '4', '6', '6', '8', '4', '8', '0', '0'] tz none 0 = .some ⟨946684800, 0, tz⟩

theorem C14_epoch_full_false : ¬ C14_epoch_full := by
  intro h
  have h1 := h 19800
  have h2 : processDtL ['+', '9', '4', '6', '6', '8', '4', '8', '0', '0'] 19800 none 0 = .some ⟨946684800 - 19800, 0, 19800⟩ := by
    rw [processDtL, firstRow_cached]
    decide +kernel
  rw [h2] at h1
  cases h1

/-- the help text's example holds when `--tz-offset` is zero -/
theorem C14_epoch_instance :
    processDtL ['+', '9', '4', '6', '6', '8', '4', '8', '0', '0'] 0 none 0 = .some ⟨946684800, 0, 0⟩ := by
  rw [processDtL, firstRow_cached]
  decide +kernel

/-- a value of the documented grammar of a pattern: 2024-02-29 23:59:58, fraction .123 / .123456,
zone `+0530` (`%z`), `+05:30` (`%:z`), `+05` (`%#z`), `PST` (`%Z`); `%s` = 946684800 -/
def reprValue : List Char → List Char
  | [] => []
  | '%' :: 'Y' :: r => ['2', '0', '2', '4'] ++ reprValue r
  | '%' :: 'm' :: r => ['0', '2'] ++ reprValue r
  | '%' :: 'd' :: r => ['2', '9'] ++ reprValue r
  | '%' :: 'H' :: r => ['2', '3'] ++ reprValue r
  | '%' :: 'M' :: r => ['5', '9'] ++ reprValue r
  | '%' :: 'S' :: r => ['5', '8'] ++ reprValue r
  | '%' :: 's' :: r => ['9', '4', '6', '6', '8', '4', '8', '0', '0'] ++ reprValue r
  | '%' :: '3' :: 'f' :: r => ['1', '2', '3'] ++ reprValue r
  | '%' :: '6' :: 'f' :: r => ['1', '2', '3', '4', '5', '6'] ++ reprValue r
  | '%' :: 'z' :: r => ['+', '0', '5', '3', '0'] ++ reprValue r
  | '%' :: ':' :: 'z' :: r => ['+', '0', '5', ':', '3', '0'] ++ reprValue r
  | '%' :: '#' :: 'z' :: r => ['+', '0', '5'] ++ reprValue r
  | '%' :: 'Z' :: r => ['P', 'S', 'T'] ++ reprValue r
  | c :: r => c :: reprValue r

/-- the documented denotation of `reprValue row.pattern`, from the calendar arithmetic of
`S4V.Model.Time` (not from the interpreter): a bare date means 00:00:00, a zone-less value is read
at `tz`, `+N` is N seconds read at `tz` (see `C14_epoch_full_false`) -/
def reprDenote (row : Row) (tz : Int) : DT :=
  let items := parsePattern row.pattern.toList
  let off : Int :=
    if items.contains (.tz true) then 18000
    else if items.contains (.tz false) then 19800
    else if items.contains .tzName then -28800
    else tz
  if items.contains .timestamp then ⟨946684800 - tz, 0, tz⟩
  else
    let frac : Nat := if items.contains (.nano 3) then 123000000 else if items.contains (.nano 6) then 123456000 else 0
    if row.hasTime then ⟨S4V.Model.Time.epochSeconds 2024 2 29 23 59 58 off, frac, off⟩
    else ⟨S4V.Model.Time.epochSeconds 2024 2 29 0 0 0 off, 0, off⟩

/-- for the forms the help text documents (rows 0, 15, 30, 57, 72–75) and one row of each zone flavour, the
FIRST matching row of the whole table yields the documented instant too (an earlier row may match — e.g. `%z`
also reads `+05:30` — but agrees) -/
theorem C14_no_steal_repr :
    ([0, 15, 30, 57, 72, 73, 74, 75, 3, 6, 9, 12, 22, 50, 71].all fun i =>
      match cliFilterPatterns[i]? with
      | some row => firstRow cliFilterPatterns (reprValue row.pattern.toList) 19800 == some (reprDenote row 19800)
      | none => false) = true := by
  simp only [firstRow_cached]
  decide +kernel

/-! ## absolute forms: EVERY value of every row (C14_abs)

A value is given by its fields (`S4V.Lemmas.CliAbs.Fields`); `render row f` writes them through the row's OWN
pattern items (`parsePattern row.pattern`). `Fields.Valid` is the range the interpreter accepts: year `0000 … 9999`
(an unsigned `%Y` reads at most four digits), second `≤ 60` (`60` = leap-second reading: stored as `:59` with a
fraction `≥ 10^9`, the instant is that of `:60`, see `C14_abs_instant`), a zone name the generated table maps to a
non-empty offset, `%s` up to chrono's last second minus one day. `denote row f tz` is computed from
`S4V.Model.Time.epochSeconds`, not from the interpreter. -/

section AbsAll
open S4V.Lemmas.CliAbs

/-- "every value of every supported absolute notation resolves, through its own row, to the instant it
denotes": explicit zone wins, zone-less is read at `--tz-offset`, a bare date means 00:00:00 — TRUE on
this tree for all 76 generated rows: `C14_abs`. (`styleOk`: a `%z` / `%:z` row is given the minutes;
`%#z` rows take every spelling.) -/
def C14_abs_full : Prop :=
  ∀ row ∈ cliFilterPatterns, ∀ f : Fields, f.Valid → styleOk f (parsePattern row.pattern.toList) = true →
    ∀ tz : Int, -86400 < tz ∧ tz < 86400 →
      attemptRow row (render row f) tz = some (denote row f tz)

/-- For EVERY row of the generated table and EVERY value of the row's grammar. The proof
unfolds the generated rows and the generated zone-name table (`rows_ok`, `tzTable_ok`: decided table
facts) and lifts them by the round-trip lemmas of `S4V.Lemmas.CliAbs`. -/
theorem C14_abs : C14_abs_full := fun row hrow f hf hst tz htz =>
  attemptRow_render row f hf tz htz (S4V.Lemmas.CliNoSteal.rows_ok row hrow) hst

/-- all 76 rows satisfy `RowOk`, the decidable per-row condition the proof of `C14_abs` needs -/
theorem C14_abs_rows_covered : (cliFilterPatterns.filter RowOk).length = cliFilterPatternsCount := by
  rw [List.filter_eq_self.mpr S4V.Lemmas.CliNoSteal.rows_ok]
  rfl

/-- what `denote` says, civil rows: the instant (nanoseconds since the epoch) of the written
date-time — midnight for a bare date — with the fraction the pattern carries, at the written numeric
zone, else at the named zone, else at `--tz-offset`. Holds for the leap-second reading `:60` too. -/
theorem C14_abs_instant (row : Row) (f : Fields) (tz : Int)
    (hts : (parsePattern row.pattern.toList).contains .timestamp = false) :
    (denote row f tz).ns =
      let its := parsePattern row.pattern.toList
      let off : Int := if hasZone its then f.zoneOff else if its.contains .tzName then nameOff f.zname else tz
      let nano : Nat := (nanoOpt f its).getD 0
      if its.contains .hour then
        S4V.Model.Time.instantNs f.year f.month f.day f.hour f.minute f.second nano off
      else S4V.Model.Time.instantNs f.year f.month f.day 0 0 0 nano off := by
  simp only [denote, hts, Bool.false_eq_true, if_false]
  split <;> exact civilDT_ns _ _ _ _ _ _ _ _

/-- explicit zone wins: with a written zone (numeric or named) the result does not depend on `--tz-offset` -/
theorem C14_abs_zone_wins (row : Row) (f : Fields) (tz tz' : Int)
    (hts : (parsePattern row.pattern.toList).contains .timestamp = false)
    (hz : hasZone (parsePattern row.pattern.toList) = true ∨ (parsePattern row.pattern.toList).contains .tzName = true) :
    denote row f tz = denote row f tz' := by
  simp only [denote, hts, Bool.false_eq_true, if_false]
  rcases hz with h | h
  · simp only [h, if_true]
  · cases hasZone (parsePattern row.pattern.toList) <;> simp only [h, if_true, Bool.false_eq_true, if_false]

/-- zone-less: the result carries `--tz-offset` -/
theorem C14_abs_zoneless (row : Row) (f : Fields) (tz : Int)
    (hz : hasZone (parsePattern row.pattern.toList) = false) (hn : (parsePattern row.pattern.toList).contains .tzName = false) :
    (denote row f tz).off = tz := by
  simp only [denote, hz, hn, Bool.false_eq_true, if_false]
  split
  · rfl
  · split <;> rfl

/-- hypotheses of `C14_abs` are satisfiable: 2024-02-29 23:59:60 (a leap-second reading), `.123` /
`.123456`, zone `-03:30`, name `PST`, epoch 946684800 -/
def exFields : Fields :=
  { year := 2024, month := 2, day := 29, hour := 23, minute := 59, second := 60, milli := 123, micro := 123456,
    zsign := '-', zh := 3, zm := 30, zstyle := .colon, zname := ['P', 'S', 'T'],
    ts := ['9', '4', '6', '6', '8', '4', '8', '0', '0'] }

theorem exFields_valid : exFields.Valid :=
  { year := by decide, date := by decide, hour := by decide, minute := by decide, second := by decide,
    milli := by decide, micro := by decide, zsign := by decide, zh := by decide, zm := by decide,
    zname := ⟨"-08:00", by decide +kernel, by decide⟩, ts_ne := by decide, ts_dig := by decide, ts_le := by decide }

theorem render_exFields : render ⟨"%Y-%m-%d %H:%M:%S.%3f %z", true, true, false, true⟩ exFields =
    "2024-02-29 23:59:60.123 -03:30".toList := by decide

example : render ⟨"%Y-%m-%d %H:%M:%S.%3f %z", true, true, false, true⟩ exFields =
    "2024-02-29 23:59:60.123 -03:30".toList := render_exFields

example (tz : Int) (htz : -86400 < tz ∧ tz < 86400) :
    attemptRow ⟨"%Y-%m-%d %H:%M:%S.%3f %z", true, true, false, true⟩
      "2024-02-29 23:59:60.123 -03:30".toList tz =
      some ⟨S4V.Model.Time.epochSeconds 2024 2 29 23 59 59 (-12600), 1123000000, -12600⟩ := by
  have h := C14_abs ⟨"%Y-%m-%d %H:%M:%S.%3f %z", true, true, false, true⟩ (by decide) exFields exFields_valid
    (by decide) tz htz
  rw [render_exFields] at h
  rw [h, C14_abs_zone_wins _ exFields tz 0 (by decide) (Or.inl (by decide))]
  decide

-- a named zone and a bare date, all `--tz-offset`s
example (tz : Int) (htz : -86400 < tz ∧ tz < 86400) :
    attemptRow ⟨"%Y%m%dT%H%M%S%Z", true, true, true, true⟩ (render ⟨"%Y%m%dT%H%M%S%Z", true, true, true, true⟩ exFields) tz =
      some (denote ⟨"%Y%m%dT%H%M%S%Z", true, true, true, true⟩ exFields tz) :=
  C14_abs _ (by decide) exFields exFields_valid (by decide) tz htz
example (tz : Int) (htz : -86400 < tz ∧ tz < 86400) :
    attemptRow ⟨"%Y/%m/%d", true, false, false, false⟩ (render ⟨"%Y/%m/%d", true, false, false, false⟩ exFields) tz =
      some (denote ⟨"%Y/%m/%d", true, false, false, false⟩ exFields tz) :=
  C14_abs _ (by decide) exFields exFields_valid (by decide) tz htz

/-- the representative values of `C14_abs_repr_own_row` are instances: for the rows without `%#z`
(whose representative is the bare `+05`), `reprValue` is `render` of one field assignment -/
def reprFields : Fields :=
  { year := 2024, month := 2, day := 29, hour := 23, minute := 59, second := 58, milli := 123, micro := 123456,
    zsign := '+', zh := 5, zm := 30, zstyle := .compact, zname := ['P', 'S', 'T'],
    ts := ['9', '4', '6', '6', '8', '4', '8', '0', '0'] }

/-- table fact, one pass over the generated rows for the three statements that follow (the pass is
dear: every pattern string is unfolded) -/
theorem repr_rows :
    cliFilterPatterns.all (fun row =>
      attemptRow row (reprValue row.pattern.toList) 19800 == some (reprDenote row 19800) &&
      attemptRow row (reprValue row.pattern.toList) (-28800) == some (reprDenote row (-28800)) &&
      ((parsePattern row.pattern.toList).contains (.tz true) ||
        decide (render row { reprFields with
            zstyle := if row.pattern.toList.reverse.take 3 == ['z', ':', '%'] then .colon else .compact } =
          reprValue row.pattern.toList))) = true := by
  decide +kernel

/-- every one of the generated rows resolves its representative grammar value, through its own row, to the
documented instant (at `--tz-offset +05:30`) -/
theorem C14_abs_repr_own_row :
    cliFilterPatterns.all (fun row =>
      attemptRow row (reprValue row.pattern.toList) 19800 == some (reprDenote row 19800)) = true := by
  have h := repr_rows
  simp only [List.all_eq_true, Bool.and_eq_true, and_assoc] at h ⊢
  exact fun r hr => (h r hr).1

/-- … and at `--tz-offset -08:00` -/
theorem C14_abs_repr_own_row_west :
    cliFilterPatterns.all (fun row =>
      attemptRow row (reprValue row.pattern.toList) (-28800) == some (reprDenote row (-28800))) = true := by
  have h := repr_rows
  simp only [List.all_eq_true, Bool.and_eq_true, and_assoc] at h ⊢
  exact fun r hr => (h r hr).2.1

theorem reprValue_is_render :
    cliFilterPatterns.all (fun row =>
      (parsePattern row.pattern.toList).contains (.tz true) ||
      decide (render row { reprFields with
          zstyle := if row.pattern.toList.reverse.take 3 == ['z', ':', '%'] then .colon else .compact } =
        reprValue row.pattern.toList)) = true := by
  have h := repr_rows
  simp only [List.all_eq_true, Bool.and_eq_true] at h ⊢
  exact fun r hr => (h r hr).2

/-- every value of every row's grammar is accepted by `process_dt` as an absolute date-time (it never falls
through to the relative branch or to "unparsable"), whatever row wins -/
theorem C14_abs_accepted (row : Row) (hrow : row ∈ cliFilterPatterns) (f : Fields) (hf : f.Valid)
    (hst : styleOk f (parsePattern row.pattern.toList) = true) (tz : Int) (htz : -86400 < tz ∧ tz < 86400)
    (other : Option DT) (now : Int) : ∃ dt, processDtL (render row f) tz other now = .some dt := by
  obtain ⟨i, hi⟩ := List.getElem?_of_mem hrow
  exact ⟨_, processDtL_render i row hi f hf hst tz htz other now⟩

/-- through the whole of `process_dt`: a value of row `row`'s grammar resolves to the documented instant as soon
as no EARLIER row reads it differently. (The hypothesis is discharged for the rows no earlier row reads by
`C14_no_steal`, and for every row of the table by `S4V.Props.CliNoStealSpec.C14_first_match_full`.) -/
theorem C14_abs_processDt (pre : List Row) (row : Row) (post : List Row) (htable : cliFilterPatterns = pre ++ row :: post)
    (f : Fields) (hf : f.Valid) (hst : styleOk f (parsePattern row.pattern.toList) = true)
    (tz : Int) (htz : -86400 < tz ∧ tz < 86400)
    (hns : ∀ r ∈ pre, attemptRow r (render row f) tz = none ∨ attemptRow r (render row f) tz = some (denote row f tz))
    (other : Option DT) (now : Int) :
    processDtL (render row f) tz other now = .some (denote row f tz) := by
  have hi : cliFilterPatterns[pre.length]? = some row := by rw [htable]; simp
  rw [processDtL, firstRow_of_getElem _ _ row hi _ tz _ (C14_abs row (List.mem_of_getElem? hi) f hf hst tz htz)
    (by rw [htable]; simpa using hns)]

/-- the rows for which NO earlier row of the generated table reads ANY of their values (decided on the
table by `noStealRow`: after a common prefix of items the earlier pattern meets a character it
cannot take, or leaves text over): the zone-less forms of the help text — `%Y%m%dT%H%M%S`,
`%Y-%m-%d %H:%M:%S`, `%Y-%m-%dT%H:%M:%S`, `%Y/%m/%d %H:%M:%S`, each also with `.%3f`, and the three bare
dates (0-based positions in `CLI_FILTER_PATTERNS`) -/
theorem C14_no_steal_rows :
    (List.range cliFilterPatternsCount).filter noStealRow = [0, 1, 15, 16, 30, 31, 57, 58, 72, 73, 74] := by
  rw [funext noStealRow_cached]
  decide +kernel

/-- For those rows, EVERY value of the row's grammar resolves to the documented instant through the whole of
`process_dt` (all earlier rows are tried first and refuse it), whatever the other bound and the clock. For the
remaining rows (zoned forms, `.%6f`, `+%s`) an earlier row MAY read the value (e.g. `%z` reads what `%:z` is meant
for); that it then agrees is decided here on representatives (`C14_no_steal_repr`) and proved for all values in
`S4V.Props.CliNoStealSpec`. -/
theorem C14_no_steal (i : Nat) (hi : noStealRow i = true) (row : Row) (hrow : cliFilterPatterns[i]? = some row)
    (f : Fields) (hf : f.Valid) (hst : styleOk f (parsePattern row.pattern.toList) = true)
    (tz : Int) (htz : -86400 < tz ∧ tz < 86400) (other : Option DT) (now : Int) :
    processDtL (render row f) tz other now = .some (denote row f tz) := by
  simp only [noStealRow, hrow, List.all_eq_true] at hi
  rw [processDtL, firstRow_of_getElem _ i row hrow _ tz _ (C14_abs row (List.mem_of_getElem? hrow) f hf hst tz htz)
    fun r hr => Or.inl (S4V.Lemmas.CliNoSteal.attemptRow_none_of_pair r row f hf tz (hi r hr))]

/-- The first generated row (`%Y%m%dT%H%M%S`, the help text's main form) has no earlier row: EVERY value of its
grammar resolves to the documented instant through the whole of `process_dt`, whatever the other bound and the
clock. -/
theorem C14_abs_first_row (row : Row) (hrow : cliFilterPatterns.head? = some row) (f : Fields) (hf : f.Valid)
    (tz : Int) (htz : -86400 < tz ∧ tz < 86400) (other : Option DT) (now : Int) :
    processDtL (render row f) tz other now = .some (denote row f tz) := by
  obtain rfl : (⟨"%Y%m%dT%H%M%S", true, false, false, true⟩ : Row) = row := Option.some.inj hrow
  exact processDtL_render 0 _ rfl f hf rfl tz htz other now

example : cliFilterPatterns.head? = some ⟨"%Y%m%dT%H%M%S", true, false, false, true⟩ := by decide

-- e.g. the help text's `2022-01-02` form (position 73), any date, any `--tz-offset`
example (f : Fields) (hf : f.Valid) (tz : Int) (htz : -86400 < tz ∧ tz < 86400) (other : Option DT) (now : Int) :
    processDtL (render ⟨"%Y-%m-%d", true, false, false, false⟩ f) tz other now =
      .some (civilDT f.year f.month f.day 0 0 0 0 tz) :=
  C14_no_steal 73 (List.mem_filter.mp (show 73 ∈ (List.range cliFilterPatternsCount).filter noStealRow by
    rw [C14_no_steal_rows]; decide)).2 _ (by decide) f hf rfl tz htz other now

end AbsAll

end S4V.Props.CliSpec
