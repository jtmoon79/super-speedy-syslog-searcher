/-
GENERATED by tools/mk_regexrows.py — regenerate, do not edit.

C04, regex slice: rows 24–47 of `DATETIME_PARSE_DATAS` END TO END, from the text of a line to the instant.
`C04_rowN_end_to_end_shaped`: for every valid selection of the row's catalogue, admissible tail, fallback zone and fill year, if the
words spell a calendar date-time (`calendarOK`), the iteration of `find_datetime_in_line` for the row (`rowPipeline`) yields the
instant the captured words spell: `RowFacts.Cert.e2e` / `.e2e_end` of `certN` applied to `C04_rowN_search`. Year-less rows keep a
four-digit fill year as hypothesis, rows with renderings longer than `range_regex.end` keep `hlen`. How to read the statement,
non-vacuity and the FALSE statements: `S4V.Props.RegexE2ESpec`, `S4V.Props.RegexE2EShapeSpec`.
-/
import S4V.Props.RegexCapture3d
import S4V.Props.RegexCapture3e
import S4V.Props.RegexCapture3f

namespace S4V.Props.RegexE2E
open S4V.Model.Regex S4V.Gen.Regex S4V.Lemmas.RegexStep S4V.Lemmas.RegexSym S4V.Lemmas.RegexRows S4V.Lemmas.RegexAuto
open S4V.Lemmas.RegexE2E S4V.Props.RegexCapture3 S4V.Gen.TimeTables

theorem C04_row24_end_to_end_shaped (sel : Sel) (hv : Valid (rowBodyE re24 1) sel) (tail : List UInt8) (ht : TailIn (rowEndSym re24) tail)
    (fbOff : Int) (hfb : FbOK' fbOff) (fill : Option Int)
    (hc : calendarOK row24.dtfs (selFields row24 sel) fill = true) :
    rowPipeline row24 (flat sel ++ tail) fbOff fill = some (fieldsOf row24.dtfs (selFields row24 sel) fbOff fill).instant :=
  cert24.e2e_end hv (cert24.flat_le rfl hv) (C04_row24_search sel hv _ (tailIn_take ht _)) fbOff hfb fill rfl hc

theorem C04_row25_end_to_end_shaped (sel : Sel) (hv : Valid (rowBodyE re25 0) sel) (tail : List UInt8) (ht : TailIn (rowEndSym re25) tail)
    (fbOff : Int) (hfb : FbOK' fbOff) (fill : Option Int)
    (hc : calendarOK row25.dtfs (selFields row25 sel) fill = true) :
    rowPipeline row25 (flat sel ++ tail) fbOff fill = some (fieldsOf row25.dtfs (selFields row25 sel) fbOff fill).instant :=
  cert25.e2e_end hv (cert25.flat_le rfl hv) (C04_row25_search sel hv _ (tailIn_take ht _)) fbOff hfb fill rfl hc

theorem C04_row26_end_to_end_shaped (sel : Sel) (hv : Valid (rowBodyP re26 1) sel) (tail : List UInt8) (ht : TailF (autoTail re26) tail)
    (fbOff : Int) (hfb : FbOK' fbOff) (fill : Option Int)
    (hc : calendarOK row26.dtfs (selFields row26 sel) fill = true) :
    rowPipeline row26 (flat sel ++ tail) fbOff fill = some (fieldsOf row26.dtfs (selFields row26 sel) fbOff fill).instant :=
  cert26.e2e hv (cert26.flat_le rfl hv) (C04_row26_search sel hv _ (tailF_take ht _)) fbOff hfb fill rfl hc

theorem C04_row27_end_to_end_shaped (sel : Sel) (hv : Valid (rowBodyE re27 1) sel) (tail : List UInt8) (ht : TailIn (rowEndSym re27) tail)
    (fbOff : Int) (hfb : FbOK' fbOff) (fill : Option Int)
    (hc : calendarOK row27.dtfs (selFields row27 sel) fill = true) :
    rowPipeline row27 (flat sel ++ tail) fbOff fill = some (fieldsOf row27.dtfs (selFields row27 sel) fbOff fill).instant :=
  cert27.e2e_end hv (cert27.flat_le rfl hv) (C04_row27_search sel hv _ (tailIn_take ht _)) fbOff hfb fill rfl hc

theorem C04_row28_end_to_end_shaped (sel : Sel) (hv : Valid (rowBodyE re28 1) sel) (tail : List UInt8) (ht : TailIn (rowEndSym re28) tail)
    (fbOff : Int) (hfb : FbOK' fbOff) (fill : Option Int)
    (hc : calendarOK row28.dtfs (selFields row28 sel) fill = true) :
    rowPipeline row28 (flat sel ++ tail) fbOff fill = some (fieldsOf row28.dtfs (selFields row28 sel) fbOff fill).instant :=
  cert28.e2e_end hv (cert28.flat_le rfl hv) (C04_row28_search sel hv _ (tailIn_take ht _)) fbOff hfb fill rfl hc

theorem C04_row29_end_to_end_shaped (sel : Sel) (hv : Valid (rowBodyE re29 1) sel) (tail : List UInt8) (ht : TailIn (rowEndSym re29) tail)
    (fbOff : Int) (hfb : FbOK' fbOff) (fill : Option Int)
    (hc : calendarOK row29.dtfs (selFields row29 sel) fill = true) :
    rowPipeline row29 (flat sel ++ tail) fbOff fill = some (fieldsOf row29.dtfs (selFields row29 sel) fbOff fill).instant :=
  cert29.e2e_end hv (cert29.flat_le rfl hv) (C04_row29_search sel hv _ (tailIn_take ht _)) fbOff hfb fill rfl hc

theorem C04_row30_end_to_end_shaped (sel : Sel) (hv : Valid (rowBodyE re30 1) sel) (tail : List UInt8) (ht : TailIn (rowEndSym re30) tail)
    (fbOff : Int) (hfb : FbOK' fbOff) (fill : Option Int)
    (hc : calendarOK row30.dtfs (selFields row30 sel) fill = true) :
    rowPipeline row30 (flat sel ++ tail) fbOff fill = some (fieldsOf row30.dtfs (selFields row30 sel) fbOff fill).instant :=
  cert30.e2e_end hv (cert30.flat_le rfl hv) (C04_row30_search sel hv _ (tailIn_take ht _)) fbOff hfb fill rfl hc

theorem C04_row31_end_to_end_shaped (sel : Sel) (hv : Valid (rowBodyE re31 1) sel) (tail : List UInt8) (ht : TailIn (rowEndSym re31) tail)
    (fbOff : Int) (hfb : FbOK' fbOff) (fill : Option Int)
    (hc : calendarOK row31.dtfs (selFields row31 sel) fill = true) :
    rowPipeline row31 (flat sel ++ tail) fbOff fill = some (fieldsOf row31.dtfs (selFields row31 sel) fbOff fill).instant :=
  cert31.e2e_end hv (cert31.flat_le rfl hv) (C04_row31_search sel hv _ (tailIn_take ht _)) fbOff hfb fill rfl hc

theorem C04_row32_end_to_end_shaped (sel : Sel) (hv : Valid (rowBodyE re32 1) sel) (tail : List UInt8) (ht : TailIn (rowEndSym re32) tail)
    (fbOff : Int) (hfb : FbOK' fbOff) (fill : Option Int) (hfill : ∀ y, fill = some y → 1000 ≤ y ∧ y ≤ 9999)
    (hc : calendarOK row32.dtfs (selFields row32 sel) fill = true) :
    rowPipeline row32 (flat sel ++ tail) fbOff fill = some (fieldsOf row32.dtfs (selFields row32 sel) fbOff fill).instant :=
  cert32.e2e_end hv (cert32.flat_le rfl hv) (C04_row32_search sel hv _ (tailIn_take ht _)) fbOff hfb fill (fillOK_of _ fill hfill) hc

theorem C04_row33_end_to_end_shaped (sel : Sel) (hv : Valid (rowBodyP re33 1) sel) (tail : List UInt8) (ht : TailF (autoTail re33) tail)
    (hlen : (flat sel).length ≤ row33.rangeEnd) (fbOff : Int) (hfb : FbOK' fbOff) (fill : Option Int) (hfill : ∀ y, fill = some y → 1000 ≤ y ∧ y ≤ 9999)
    (hc : calendarOK row33.dtfs (selFields row33 sel) fill = true) :
    rowPipeline row33 (flat sel ++ tail) fbOff fill = some (fieldsOf row33.dtfs (selFields row33 sel) fbOff fill).instant :=
  cert33.e2e hv hlen (C04_row33_search sel hv _ (tailF_take ht _)) fbOff hfb fill (fillOK_of _ fill hfill) hc

theorem C04_row34_end_to_end_shaped (sel : Sel) (hv : Valid (rowBodyE re34 1) sel) (tail : List UInt8) (ht : TailIn (rowEndSym re34) tail)
    (fbOff : Int) (hfb : FbOK' fbOff) (fill : Option Int)
    (hc : calendarOK row34.dtfs (selFields row34 sel) fill = true) :
    rowPipeline row34 (flat sel ++ tail) fbOff fill = some (fieldsOf row34.dtfs (selFields row34 sel) fbOff fill).instant :=
  cert34.e2e_end hv (cert34.flat_le rfl hv) (C04_row34_search sel hv _ (tailIn_take ht _)) fbOff hfb fill rfl hc

theorem C04_row35_end_to_end_shaped (sel : Sel) (hv : Valid (rowBodyE re35 1) sel) (tail : List UInt8) (ht : TailIn (rowEndSym re35) tail)
    (fbOff : Int) (hfb : FbOK' fbOff) (fill : Option Int)
    (hc : calendarOK row35.dtfs (selFields row35 sel) fill = true) :
    rowPipeline row35 (flat sel ++ tail) fbOff fill = some (fieldsOf row35.dtfs (selFields row35 sel) fbOff fill).instant :=
  cert35.e2e_end hv (cert35.flat_le rfl hv) (C04_row35_search sel hv _ (tailIn_take ht _)) fbOff hfb fill rfl hc

theorem C04_row36_end_to_end_shaped (sel : Sel) (hv : Valid (rowBodyE re36 1) sel) (tail : List UInt8) (ht : TailIn (rowEndSym re36) tail)
    (fbOff : Int) (hfb : FbOK' fbOff) (fill : Option Int)
    (hc : calendarOK row36.dtfs (selFields row36 sel) fill = true) :
    rowPipeline row36 (flat sel ++ tail) fbOff fill = some (fieldsOf row36.dtfs (selFields row36 sel) fbOff fill).instant :=
  cert36.e2e_end hv (cert36.flat_le rfl hv) (C04_row36_search sel hv _ (tailIn_take ht _)) fbOff hfb fill rfl hc

theorem C04_row37_end_to_end_shaped (sel : Sel) (hv : Valid (rowBodyE re37 1) sel) (tail : List UInt8) (ht : TailIn (rowEndSym re37) tail)
    (fbOff : Int) (hfb : FbOK' fbOff) (fill : Option Int)
    (hc : calendarOK row37.dtfs (selFields row37 sel) fill = true) :
    rowPipeline row37 (flat sel ++ tail) fbOff fill = some (fieldsOf row37.dtfs (selFields row37 sel) fbOff fill).instant :=
  cert37.e2e_end hv (cert37.flat_le rfl hv) (C04_row37_search sel hv _ (tailIn_take ht _)) fbOff hfb fill rfl hc

theorem C04_row38_end_to_end_shaped (sel : Sel) (hv : Valid (rowBodyE re38 1) sel) (tail : List UInt8) (ht : TailIn (rowEndSym re38) tail)
    (fbOff : Int) (hfb : FbOK' fbOff) (fill : Option Int)
    (hc : calendarOK row38.dtfs (selFields row38 sel) fill = true) :
    rowPipeline row38 (flat sel ++ tail) fbOff fill = some (fieldsOf row38.dtfs (selFields row38 sel) fbOff fill).instant :=
  cert38.e2e_end hv (cert38.flat_le rfl hv) (C04_row38_search sel hv _ (tailIn_take ht _)) fbOff hfb fill rfl hc

theorem C04_row39_end_to_end_shaped (sel : Sel) (hv : Valid (rowBodyE re39 1) sel) (tail : List UInt8) (ht : TailIn (rowEndSym re39) tail)
    (fbOff : Int) (hfb : FbOK' fbOff) (fill : Option Int)
    (hc : calendarOK row39.dtfs (selFields row39 sel) fill = true) :
    rowPipeline row39 (flat sel ++ tail) fbOff fill = some (fieldsOf row39.dtfs (selFields row39 sel) fbOff fill).instant :=
  cert39.e2e_end hv (cert39.flat_le rfl hv) (C04_row39_search sel hv _ (tailIn_take ht _)) fbOff hfb fill rfl hc

theorem C04_row40_end_to_end_shaped (sel : Sel) (hv : Valid (rowBodyE re40 1) sel) (tail : List UInt8) (ht : TailIn (rowEndSym re40) tail)
    (fbOff : Int) (hfb : FbOK' fbOff) (fill : Option Int)
    (hc : calendarOK row40.dtfs (selFields row40 sel) fill = true) :
    rowPipeline row40 (flat sel ++ tail) fbOff fill = some (fieldsOf row40.dtfs (selFields row40 sel) fbOff fill).instant :=
  cert40.e2e_end hv (cert40.flat_le rfl hv) (C04_row40_search sel hv _ (tailIn_take ht _)) fbOff hfb fill rfl hc

theorem C04_row41_end_to_end_shaped (sel : Sel) (hv : Valid (rowBodyE re41 1) sel) (tail : List UInt8) (ht : TailIn (rowEndSym re41) tail)
    (fbOff : Int) (hfb : FbOK' fbOff) (fill : Option Int)
    (hc : calendarOK row41.dtfs (selFields row41 sel) fill = true) :
    rowPipeline row41 (flat sel ++ tail) fbOff fill = some (fieldsOf row41.dtfs (selFields row41 sel) fbOff fill).instant :=
  cert41.e2e_end hv (cert41.flat_le rfl hv) (C04_row41_search sel hv _ (tailIn_take ht _)) fbOff hfb fill rfl hc

theorem C04_row42_end_to_end_shaped (sel : Sel) (hv : Valid (rowBodyE re42 1) sel) (tail : List UInt8) (ht : TailIn (rowEndSym re42) tail)
    (fbOff : Int) (hfb : FbOK' fbOff) (fill : Option Int)
    (hc : calendarOK row42.dtfs (selFields row42 sel) fill = true) :
    rowPipeline row42 (flat sel ++ tail) fbOff fill = some (fieldsOf row42.dtfs (selFields row42 sel) fbOff fill).instant :=
  cert42.e2e_end hv (cert42.flat_le rfl hv) (C04_row42_search sel hv _ (tailIn_take ht _)) fbOff hfb fill rfl hc

theorem C04_row43_end_to_end_shaped (sel : Sel) (hv : Valid (rowBodyE re43 1) sel) (tail : List UInt8) (ht : TailIn (rowEndSym re43) tail)
    (fbOff : Int) (hfb : FbOK' fbOff) (fill : Option Int)
    (hc : calendarOK row43.dtfs (selFields row43 sel) fill = true) :
    rowPipeline row43 (flat sel ++ tail) fbOff fill = some (fieldsOf row43.dtfs (selFields row43 sel) fbOff fill).instant :=
  cert43.e2e_end hv (cert43.flat_le rfl hv) (C04_row43_search sel hv _ (tailIn_take ht _)) fbOff hfb fill rfl hc

theorem C04_row44_end_to_end_shaped (sel : Sel) (hv : Valid (rowBodyE re44 1) sel) (tail : List UInt8) (ht : TailIn (rowEndSym re44) tail)
    (fbOff : Int) (hfb : FbOK' fbOff) (fill : Option Int)
    (hc : calendarOK row44.dtfs (selFields row44 sel) fill = true) :
    rowPipeline row44 (flat sel ++ tail) fbOff fill = some (fieldsOf row44.dtfs (selFields row44 sel) fbOff fill).instant :=
  cert44.e2e_end hv (cert44.flat_le rfl hv) (C04_row44_search sel hv _ (tailIn_take ht _)) fbOff hfb fill rfl hc

theorem C04_row45_end_to_end_shaped (sel : Sel) (hv : Valid (rowBodyE re45 0) sel) (tail : List UInt8) (ht : TailIn (rowEndSym re45) tail)
    (fbOff : Int) (hfb : FbOK' fbOff) (fill : Option Int)
    (hc : calendarOK row45.dtfs (selFields row45 sel) fill = true) :
    rowPipeline row45 (flat sel ++ tail) fbOff fill = some (fieldsOf row45.dtfs (selFields row45 sel) fbOff fill).instant :=
  cert45.e2e_end hv (cert45.flat_le rfl hv) (C04_row45_search sel hv _ (tailIn_take ht _)) fbOff hfb fill rfl hc

theorem C04_row46_end_to_end_shaped (sel : Sel) (hv : Valid (rowBodyP re46 0) sel) (tail : List UInt8) (ht : TailF (autoTail re46) tail)
    (fbOff : Int) (hfb : FbOK' fbOff) (fill : Option Int)
    (hc : calendarOK row46.dtfs (selFields row46 sel) fill = true) :
    rowPipeline row46 (flat sel ++ tail) fbOff fill = some (fieldsOf row46.dtfs (selFields row46 sel) fbOff fill).instant :=
  cert46.e2e hv (cert46.flat_le rfl hv) (C04_row46_search sel hv _ (tailF_take ht _)) fbOff hfb fill rfl hc

theorem C04_row47_end_to_end_shaped (sel : Sel) (hv : Valid (rowBodyP re47 0) sel) (tail : List UInt8) (ht : TailF (autoTail re47) tail)
    (fbOff : Int) (hfb : FbOK' fbOff) (fill : Option Int)
    (hc : calendarOK row47.dtfs (selFields row47 sel) fill = true) :
    rowPipeline row47 (flat sel ++ tail) fbOff fill = some (fieldsOf row47.dtfs (selFields row47 sel) fbOff fill).instant :=
  cert47.e2e hv (cert47.flat_le rfl hv) (C04_row47_search sel hv _ (tailF_take ht _)) fbOff hfb fill rfl hc

end S4V.Props.RegexE2E
