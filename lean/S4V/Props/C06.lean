/-
C06 — output is independent of thread scheduling and the run always ends.
C01 — merged output is chronological with a deterministic tie rule.
C07 — (the protocol part) a faulty source cannot disturb the others.

All three are corollaries of `S4V.Props.CoordSpec` (the coordinator model of
`processing_loop`); this file instantiates the bounded-channel layer with the
capacity found in the source (`S4V.Gen.Consts.CHANNEL_CAPACITY`).
-/
import S4V.Props.CoordSpec
import S4V.Gen.Consts
import S4V.Gen.Coord

namespace S4V.Props.C06
open S4V.Model.Coord S4V.Props.CoordSpec S4V.Gen.Consts
open S4V.Lemmas.Coord (WF BReach deliverable iterations specMsgs)

theorem C06_capacity_pos : 1 ≤ CHANNEL_CAPACITY := by decide

/-- with the source's channel capacity: no deadlock — in every reachable state of the
worker/channel/coordinator system that has not finished, some step is enabled -/
theorem C06_no_deadlock {scripts : List (List Datum)} (hwf : WF scripts) (hne : scripts ≠ [])
    {b : BSt} (hr : BReach CHANNEL_CAPACITY scripts b) (hf : b.core.fin = false) :
    ∃ ev, (bstep CHANNEL_CAPACITY b ev).isSome = true :=
  bprogress C06_capacity_pos hwf hne hr hf

/-- … the loop never leaves early through `recv_many_chan → None` … -/
theorem C06_never_stops_early {scripts : List (List Datum)} (hwf : WF scripts) (hne : scripts ≠ [])
    {b : BSt} (h : BReach CHANNEL_CAPACITY scripts b) : bstep CHANNEL_CAPACITY b (.coord .brk) = none :=
  b_no_break hwf hne h

/-- … and whatever the schedule, a finished run has printed the merge of the scripts -/
theorem C06_output_is_merge {scripts : List (List Datum)} {b : BSt}
    (h : BReach CHANNEL_CAPACITY scripts b) (hf : b.core.fin = true) :
    b.core.printed = merge (scripts.map (fun sc => msgsOf (deliverable sc))) :=
  b_confluence h hf

/-- bound on the number of coordinator iterations of any run -/
theorem C06_terminates (scripts : List (List Datum)) (evs : List Ev) (s : St)
    (hr : run (init scripts) evs = some s) :
    iterations evs ≤ 2 * (scripts.map List.length).sum + scripts.length + 2 :=
  terminates scripts evs s hr

/-- C01: each source's messages appear exactly once, in their original order -/
theorem C01_per_source_order (ls : List (List Msg)) (i : Nat) :
    ((merge ls).filter (fun p => p.1 = i)).map (fun p => p.2) = ls.getD i [] :=
  merge_per_source ls i

/-- C01: if every source is chronological so is the output -/
theorem C01_sorted (ls : List (List Msg))
    (h : ∀ j : Nat, (ls.getD j []).Pairwise (fun a b => a.dt ≤ b.dt)) :
    ((merge ls).map (fun p => p.2.dt)).Pairwise (· ≤ ·) :=
  merge_sorted ls h

/-- C01: equal instants are printed in the order the sources were named -/
theorem C01_ties {ls : List (List Msg)}
    (hs : ∀ j : Nat, (ls.getD j []).Pairwise (fun a b => a.dt ≤ b.dt))
    {pre mid post : List (Nat × Msg)} {i j : Nat} {m m' : Msg}
    (h : merge ls = pre ++ (i, m) :: (mid ++ (j, m') :: post)) (hdt : m.dt = m'.dt) : i ≤ j :=
  merge_ties hs h hdt

/-- C07: the output restricted to healthy sources is the merge of the healthy sources -/
theorem C07_isolation {healthy : Nat → Bool} {scripts : List (List Datum)} {b : BSt}
    (h : BReach CHANNEL_CAPACITY scripts b) (hf : b.core.fin = true) :
    b.core.printed.filter (fun p => healthy p.1) =
      merge ((specMsgs scripts).mapIdx (fun i l => if healthy i then l else [])) :=
  b_isolation healthy h hf

/-- **C01 (tie to the source).** The model's `merge` takes, at every step, the FIRST source (in source = PathId
order) whose head carries the minimal instant. That is the behaviour of the source's
`map_pathid_datum.iter_mut().min_by(|x, y| x.1.0.dt().cmp(y.1.0.dt()))` exactly when the three facts below hold;
they are re-read from `processing_loop` on every run (`gen/gen_coord.py`; any other container, picker or comparator
makes the translation fail): the pending map iterates in PathId order, `min_by` returns the first minimum, and the
comparator orders whole instants (nanoseconds) — not a truncation of them (seeded change C01-a compared
`timestamp_micros()`). -/
theorem C01_pick_matches_source :
    S4V.Gen.Coord.PENDING_IN_PATHID_ORDER = true ∧ S4V.Gen.Coord.PICK_FIRST_MINIMUM = true ∧
    S4V.Gen.Coord.COMPARES_FULL_INSTANTS = true := by decide

/-- why the comparator must see whole instants: a merge that compares instants truncated to microseconds
(`dt / 1000`) prints two sources' messages out of order when they differ by less than a microsecond -/
theorem truncated_compare_misorders :
    let a : Msg := ⟨1000000999, 0⟩
    let b : Msg := ⟨1000000001, 1⟩
    (merge [[a], [b]]).map (fun p => p.2.dt) = [1000000001, 1000000999] ∧
    (merge [[⟨a.dt / 1000, 0⟩], [⟨b.dt / 1000, 1⟩]]).map (fun p => p.1) = [0, 1] := by decide

end S4V.Props.C06
