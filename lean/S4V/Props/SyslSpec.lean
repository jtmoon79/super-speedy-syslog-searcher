/-
Message layer: readable statements of the proved properties (C02 at the message
level, C03 for the datetime search and the streamed window), each with a concrete
instance.

Vocabulary (from `S4V.Model.Syslines` / `S4V.Lemmas.Syslines`; `dtAfterOrBefore` and `dtPassFilters`
are generated from the source, `S4V.Gen.Filter`):
* `WFLines ls`   – the lines tile `[0, fileSz ls)`;
* `messages ls`  – the specification: a timestamped line plus the following
                   lines without timestamp;
* `Sorted ls`    – the `dt` of `messages ls` is non-decreasing;
* `TwoBytes ls`  – every message has at least two bytes;
* `firstAtOrAfter A M` – `.found (m.fin+1) m` for the first `m ∈ M` with
                   `A ≤ m.dt`, `.done` if there is none.
-/
import S4V.Lemmas.Syslines

namespace S4V.Props.SyslSpec
open S4V.Model.Lines S4V.Model.Syslines S4V.Gen.Filter S4V.Lemmas.Syslines

/-- 4 lines, 3 messages, one continuation line, duplicate instants -/
def exA : List LineInfo := [⟨0, 3, some 5⟩, ⟨4, 6, none⟩, ⟨7, 9, some 5⟩, ⟨10, 12, some 8⟩]

/-- 4 lines, 2 messages: a head-less first line, a continuation line, duplicate instants -/
def exB : List LineInfo := [⟨0, 1, none⟩, ⟨2, 4, some 3⟩, ⟨5, 5, none⟩, ⟨6, 8, some 3⟩]

example : WFLines exA ∧ Sorted exA ∧ TwoBytes exA := by decide
example : WFLines exB ∧ Sorted exB ∧ TwoBytes exB := by decide
example : messages exA = [⟨0, 6, 5⟩, ⟨7, 9, 5⟩, ⟨10, 12, 8⟩] := by decide
example : messages exB = [⟨2, 5, 3⟩, ⟨6, 8, 3⟩] := by decide

theorem dtAfterOrBefore_none (t : Int) : dtAfterOrBefore t none = .Pass :=
  S4V.Lemmas.Syslines.dtAfterOrBefore_none t

theorem dtAfterOrBefore_some (t a : Int) :
    dtAfterOrBefore t (some a) = if t < a then .OccursBefore else .OccursAtOrAfter :=
  S4V.Lemmas.Syslines.dtAfterOrBefore_some t a

theorem dtPassFilters_inRange (t : Int) (a b : Option Int) :
    dtPassFilters t a b = .InRange ↔ (∀ x, a = some x → x ≤ t) ∧ (∀ y, b = some y → t ≤ y) :=
  dtPassFilters_inRange_iff t a b

theorem dtPassFilters_beforeRange (t : Int) (a b : Option Int) :
    dtPassFilters t a b = .BeforeRange ↔ ∃ x, a = some x ∧ t < x :=
  dtPassFilters_beforeRange_iff t a b

theorem dtPassFilters_afterRange (t : Int) (a b : Option Int) :
    dtPassFilters t a b = .AfterRange ↔
      (∀ x, a = some x → x ≤ t) ∧ ∃ y, b = some y ∧ y < t :=
  dtPassFilters_afterRange_iff t a b

example : dtPassFilters 5 (some 5) (some 5) = .InRange := by decide
example : dtPassFilters 4 (some 5) none = .BeforeRange := by decide
example : dtPassFilters 6 none (some 5) = .AfterRange := by decide
example : dtAfterOrBefore 5 (some 5) = .OccursAtOrAfter := by decide

theorem wfLines_iff (ls : List LineInfo) :
    WFLines ls ↔ (∀ l ∈ ls, l.beg ≤ l.fin) ∧ (∀ l, ls.head? = some l → l.beg = 0) ∧
      (∀ k (h : k + 1 < ls.length), ls[k + 1].beg = ls[k].fin + 1) := WFLines_iff ls

/-- `WFLines`, the hypothesis of the theorems below, is no restriction on the file: the lines of
any bytes under any parser have it -/
theorem linesFrom_wellformed (P : Bytes → Option Int) (d : Bytes) :
    WFLines (linesFrom P d) ∧ fileSz (linesFrom P d) = d.length ∧
    ∀ l ∈ linesFrom P d, l.beg < d.length ∧ l.fin = lineEnd d l.beg ∧
      l.dt = P ((d.drop l.beg).take (l.fin + 1 - l.beg)) :=
  ⟨linesFrom_wf P d, linesFrom_fileSz P d, linesFrom_mem P d⟩

/-- toy parser: a line beginning with an ASCII digit carries that digit as instant -/
def toyP (b : Bytes) : Option Int :=
  match b with
  | c :: _ => if 48 ≤ c.toNat ∧ c.toNat ≤ 57 then some (c.toNat - 48 : Int) else none
  | [] => none

/-- "`5a⏎ b⏎5c⏎8`" -/
def exBytes : Bytes := [53, 97, 10, 32, 98, 10, 53, 99, 10, 56]

example : linesFrom toyP exBytes = [⟨0, 2, some 5⟩, ⟨3, 5, none⟩, ⟨6, 8, some 5⟩, ⟨9, 9, some 8⟩] := by
  decide

theorem lineAt_spec {ls : List LineInfo} (hwf : WFLines ls) :
    (∀ fo l, lineAt ls fo = some l ↔ l ∈ ls ∧ l.beg ≤ fo ∧ fo ≤ l.fin) ∧
    (∀ fo, lineAt ls fo = none ↔ fileSz ls ≤ fo) :=
  ⟨lineAt_some_iff hwf, lineAt_none_iff hwf⟩

example : lineAt exA 5 = some ⟨4, 6, none⟩ ∧ lineAt exA 13 = none ∧ fileSz exA = 13 := by decide

/-- **C02**, message level: the messages partition the file -/
theorem messages_partition {ls : List LineInfo} (hwf : WFLines ls) :
    -- consecutive: `m_{k+1}.beg = m_k.fin + 1`
    (∀ k (h : k + 1 < (messages ls).length),
      (messages ls)[k + 1].beg = (messages ls)[k].fin + 1) ∧
    -- non-empty
    (∀ m ∈ messages ls, m.beg ≤ m.fin) ∧
    -- the first message begins at the first timestamped line
    ((messages ls).head?.map (·.beg) = (ls.find? (fun l => l.dt.isSome)).map (·.beg)) ∧
    -- the last message ends at the last byte of the file
    (∀ m, (messages ls).getLast? = some m → m.fin + 1 = fileSz ls) ∧
    -- every timestamped line begins a message that carries its instant …
    (∀ l ∈ ls, ∀ t, l.dt = some t → ∃ m ∈ messages ls, m.beg = l.beg ∧ m.dt = t) ∧
    -- … exactly one
    (∀ m ∈ messages ls, ∀ m' ∈ messages ls, m.beg = m'.beg → m = m') ∧
    -- every message begins at a timestamped line with that instant …
    (∀ m ∈ messages ls, ∃ l ∈ ls, l.beg = m.beg ∧ l.dt = some m.dt) ∧
    -- … and contains no other timestamped line
    (∀ m ∈ messages ls, ∀ l ∈ ls, l.dt.isSome → m.beg ≤ l.beg → l.beg ≤ m.fin →
      l.beg = m.beg) ∧
    -- no messages iff no timestamps
    (messages ls = [] ↔ ∀ l ∈ ls, l.dt = none) :=
  have hc := (messages_geom hwf).1
  ⟨hc.next, fun _ hm => (hc.mem_bounds hm).2.1, messages_head_beg ls,
    fun _ => messages_getLast_fin hwf, fun _ hl _ => head_begins_message hl,
    fun _ hm _ hm' => hc.beg_inj hm hm', fun _ => message_begins_at_head,
    fun _ hm _ hl => message_one_head hwf hm hl, messages_eq_nil_iff ls⟩

example : messages exB = [⟨2, 5, 3⟩, ⟨6, 8, 3⟩] ∧ fileSz exB = 9 := by decide
example : messages [⟨0, 1, none⟩, ⟨2, 2, none⟩] = [] := by decide

theorem findSysline_spec {ls : List LineInfo} (hwf : WFLines ls) :
    -- (a) at or past the end of the file
    (∀ fo, fileSz ls ≤ fo → findSysline ls fo = .done) ∧
    -- (b) inside a message (any byte of it, continuation lines included)
    (∀ m ∈ messages ls, ∀ fo, m.beg ≤ fo → fo ≤ m.fin →
      findSysline ls fo = .found (m.fin + 1) m) ∧
    -- (c) before the first message: the first message, or `done` if there is none
    (∀ fo, (∀ m ∈ messages ls, fo < m.beg) →
      findSysline ls fo = match (messages ls).head? with
        | some m0 => .found (m0.fin + 1) m0
        | none => .done) :=
  ⟨fun _ => findSysline_beyond hwf, fun _ hm _ => findSysline_inside hwf hm,
   fun _ => findSysline_before hwf⟩

theorem findSysline_eq_first {ls : List LineInfo} (hwf : WFLines ls) (fo : Nat) :
    findSysline ls fo = match (messages ls).find? (fun m => fo ≤ m.fin) with
      | some m => .found (m.fin + 1) m
      | none => .done :=
  findSysline_eq hwf fo

example : findSysline exB 0 = .found 6 ⟨2, 5, 3⟩ ∧       -- (c) head-less prefix
          findSysline exB 5 = .found 6 ⟨2, 5, 3⟩ ∧       -- (b) continuation line
          findSysline exB 6 = .found 9 ⟨6, 8, 3⟩ ∧
          findSysline exB 9 = .done := by decide           -- (a)

/-- **C02**: unfiltered streaming sends every message exactly once, in file order -/
theorem streamAll_unfiltered {ls : List LineInfo} (hwf : WFLines ls) (streamed : Bool) :
    streamAll ls streamed none none = messages ls :=
  S4V.Lemmas.Syslines.streamAll_unfiltered hwf streamed

example : streamAll exA true none none = [⟨0, 6, 5⟩, ⟨7, 9, 5⟩, ⟨10, 12, 8⟩] ∧
          streamAll exA false none none = [⟨0, 6, 5⟩, ⟨7, 9, 5⟩, ⟨10, 12, 8⟩] := by decide

/-- **C03**, linear search: the first message with `dt ≥ A`, whatever the order of the instants -/
theorem lsearch_spec {ls : List LineInfo} (hwf : WFLines ls) (A : Int) :
    lsearch ls (some A) (ls.length + 2) 0 = firstAtOrAfter A (messages ls) :=
  S4V.Lemmas.Syslines.lsearch_spec hwf A

/-- … and from the first byte of any message: first message at or after it -/
theorem lsearch_spec_at {ls : List LineInfo} (hwf : WFLines ls) (A : Int) {M1 M2 : List Sysl}
    {m : Sysl} (hM : messages ls = M1 ++ m :: M2) :
    lsearch ls (some A) (ls.length + 2) m.beg = firstAtOrAfter A (m :: M2) :=
  S4V.Lemmas.Syslines.lsearch_spec_at hwf A hM

/-- **C03**, binary search on a sorted file whose messages have at least two bytes:
the FIRST message with `dt ≥ A` (so with duplicates the earliest one), `.done` if
none; in particular never `.err` (the `assert_le!(fo_a, fo_b)`) nor `.nofuel` -/
theorem bsearch_spec {ls : List LineInfo} (hwf : WFLines ls) (hs : Sorted ls) (h2 : TwoBytes ls)
    (A : Int) : bsearch ls 0 (some A) = firstAtOrAfter A (messages ls) :=
  S4V.Lemmas.Syslines.bsearch_spec hwf hs h2 A

/-- … and from the first byte of any message (how the streaming loop calls it,
with the previous result's `foNext`): the first message at or after it -/
theorem bsearch_spec_at {ls : List LineInfo} (hwf : WFLines ls) (hs : Sorted ls)
    (h2 : TwoBytes ls) (A : Int) {M1 M2 : List Sysl} {m : Sysl}
    (hM : messages ls = M1 ++ m :: M2) :
    bsearch ls m.beg (some A) = firstAtOrAfter A (m :: M2) :=
  S4V.Lemmas.Syslines.bsearch_spec_at hwf hs h2 A hM

theorem bsearch_spec_end {ls : List LineInfo} (hwf : WFLines ls) (a : Option Int) :
    bsearch ls (fileSz ls) a = .done :=
  S4V.Lemmas.Syslines.bsearch_spec_end hwf a

theorem search_no_err {ls : List LineInfo} (hwf : WFLines ls) (hs : Sorted ls) (h2 : TwoBytes ls)
    (A : Int) :
    bsearch ls 0 (some A) ≠ .err ∧ bsearch ls 0 (some A) ≠ .nofuel ∧
    lsearch ls (some A) (ls.length + 2) 0 ≠ .err ∧
    lsearch ls (some A) (ls.length + 2) 0 ≠ .nofuel :=
  ⟨(bsearch_no_err hwf hs h2 A).1, (bsearch_no_err hwf hs h2 A).2,
   (lsearch_no_err hwf A).1, (lsearch_no_err hwf A).2⟩

example : bsearch exA 0 (some 5) = .found 7 ⟨0, 6, 5⟩ ∧      -- duplicates: the first one
          lsearch exA (some 5) 6 0 = .found 7 ⟨0, 6, 5⟩ ∧
          bsearch exA 0 (some 6) = .found 13 ⟨10, 12, 8⟩ ∧
          lsearch exA (some 6) 6 0 = .found 13 ⟨10, 12, 8⟩ ∧
          bsearch exA 0 (some 9) = .done ∧
          bsearch exA 7 (some 5) = .found 10 ⟨7, 9, 5⟩ ∧    -- from a message boundary
          firstAtOrAfter 6 (messages exA) = .found 13 ⟨10, 12, 8⟩ := by decide

/-- `TwoBytes` cannot be dropped: a sorted file with 1-byte messages on which the
binary search returns a message before the filter, although a later one passes -/
theorem bsearch_twobytes_needed :
    WFLines oneByteFile ∧ Sorted oneByteFile ∧
      bsearch oneByteFile 0 (some 1) = .found 2 ⟨1, 1, 0⟩ ∧
      firstAtOrAfter 1 (messages oneByteFile) = .found 4 ⟨2, 3, 1⟩ :=
  S4V.Lemmas.Syslines.bsearch_twobytes_needed

/-- `bsearch_spec` without `TwoBytes` … -/
def bsearch_spec_full : Prop :=
  ∀ (ls : List LineInfo) (A : Int), WFLines ls → Sorted ls →
    bsearch ls 0 (some A) = firstAtOrAfter A (messages ls)

/-- … is false -/
theorem bsearch_spec_full_false : ¬ bsearch_spec_full := by
  intro h
  have := h oneByteFile 1 (by decide) (by decide)
  revert this
  decide

/-- **C03**, streaming a window: exactly the messages with `a ≤ dt ≤ b` (a missing bound is no
bound), in file order; holds for every `a`, `b` (if `a > b` both sides are empty) -/
theorem streamAll_window {ls : List LineInfo} (hwf : WFLines ls) (hs : Sorted ls)
    (h2 : TwoBytes ls) (streamed : Bool) (a b : Option Int) :
    streamAll ls streamed a b
      = (messages ls).filter (fun m => dtPassFilters m.dt a b = .InRange) :=
  S4V.Lemmas.Syslines.streamAll_window hwf hs h2 streamed a b

example : streamAll exA false (some 5) (some 7) = [⟨0, 6, 5⟩, ⟨7, 9, 5⟩] ∧
          streamAll exA true (some 5) (some 7) = [⟨0, 6, 5⟩, ⟨7, 9, 5⟩] ∧
          streamAll exA false (some 6) none = [⟨10, 12, 8⟩] ∧
          streamAll exA false none (some 4) = [] ∧
          streamAll exA false (some 9) (some 5) = [] := by decide

end S4V.Props.SyslSpec
