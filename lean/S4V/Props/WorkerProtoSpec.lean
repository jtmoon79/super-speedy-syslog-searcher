/-
WorkerProto — the channel protocol of the per-file worker threads (C06 / C01 / C07).

`S4V.Gen.Worker` holds the control-flow skeletons of the sends of `exec_syslogprocessor`, `exec_fixedstructprocessor`,
`exec_evtxprocessor`, `exec_journalprocessor` and of their dispatcher `exec_fileprocessor_thread`, regenerated from
src/bin/s4.rs on every run. Here: for EVERY trace a skeleton can produce (`Produces`: loops any number of times,
opaque branches both ways, computed flags either value) the trace is a well-formed script of the coordinator model —
`FileInfo` first, then messages, then nothing (sender dropped) or exactly one `FileSummary` — so the hypothesis `WF` of
`C06_no_deadlock` / `C06_never_stops_early` is a regenerated, proved fact instead of an observation.

Method: `checkProto` runs the protocol automaton over the skeleton; `checkProto_sound` (Lemmas) is proved once against the
big-step relation `Exec`; each skeleton is then one `decide`. A source change that regenerates a skeleton which can send a message
before `FileInfo`, return without `FileInfo`, or send after the summary makes the `decide` fail.
-/
import S4V.Lemmas.WorkerProto
import S4V.Props.C06

namespace S4V.Props.WorkerProtoSpec
open S4V.Gen.Worker S4V.Model.WorkerProto S4V.Lemmas.WorkerProto
open S4V.Model.Coord (Datum Msg wfScript BSt bstep)
open S4V.Lemmas.Coord (WF BReach deliverable)

/-- what `processing_loop` passes to a thread it spawns: never an excluded `FileType`; `LogMessageSpecificData::Journal`
exactly for journals (both regenerated from the spawn site) -/
def SpawnEnv (env : Env) : Prop :=
  env.ft ∉ SPAWN_EXCLUDED ∧ env.lmsdJournal = (SPAWN_LMSD_JOURNAL_IFF_JOURNAL && decide (env.ft = .journal))

instance (env : Env) : Decidable (SpawnEnv env) := by unfold SpawnEnv; infer_instance

/-- the facts about ownership of the sender the semantics rests on (a worker that returns has closed its channel):
regenerated; the translator refuses any other use of `chan_send_dt` -/
theorem W_sender_owned : SENDER_OWNED_BY_WORKER = true ∧ SPAWN_LMSD_JOURNAL_IFF_JOURNAL = true ∧
    SPAWN_EXCLUDED = [.unparsable] := by decide

example : SpawnEnv ⟨.text, false⟩ ∧ SpawnEnv ⟨.journal, true⟩ ∧ ¬ SpawnEnv ⟨.journal, false⟩ ∧ ¬ SpawnEnv ⟨.unparsable, false⟩ := by
  decide

/-! ## shape of a tidy trace (readable form of the automaton's verdict) -/

theorem tidyTail_shape : ∀ r : Trace, tidyTail r = true →
    ∃ (flags : List Bool) (fin : Trace), r = flags.map Ev.msg ++ fin ∧ (fin = [] ∨ ∃ ok, fin = [.summary ok]) := by
  intro r
  induction r with
  | nil => intro _; exact ⟨[], [], rfl, Or.inl rfl⟩
  | cons e r ih =>
    intro h
    cases e with
    | fileInfo b => simp [tidyTail] at h
    | msg b =>
      simp only [tidyTail] at h
      obtain ⟨fl, fin, hr, hf⟩ := ih h
      exact ⟨b :: fl, fin, by simp [hr], hf⟩
    | summary b =>
      cases r with
      | nil => exact ⟨[], [.summary b], rfl, Or.inr ⟨b, rfl⟩⟩
      | cons e' r' => simp [tidyTail] at h

/-- **(a)(b)(c)** a tidy trace is: one `FileInfo`; then only messages; then nothing, or exactly one `FileSummary` as the
very last datum -/
theorem tidy_shape (t : Trace) (h : tidy t = true) :
    ∃ (ok : Bool) (flags : List Bool) (fin : Trace),
      t = .fileInfo ok :: (flags.map Ev.msg ++ fin) ∧ (fin = [] ∨ ∃ ok', fin = [.summary ok']) := by
  cases t with
  | nil => simp [tidy] at h
  | cons e r =>
    cases e with
    | fileInfo b =>
      simp only [tidy] at h
      obtain ⟨fl, fin, hr, hf⟩ := tidyTail_shape r h
      exact ⟨b, fl, fin, by rw [hr], hf⟩
    | msg b => simp [tidy] at h
    | summary b => simp [tidy] at h

example : tidy [.fileInfo true, .msg false, .msg true, .summary true] = true ∧ tidy [.fileInfo false] = true ∧
    tidy [] = false ∧ tidy [.msg false] = false ∧ tidy [.fileInfo true, .summary true, .msg false] = false ∧
    tidy [.fileInfo true, .fileInfo true] = false := by decide

/-! ## every trace of every worker is tidy -/

theorem lang_of_check {strict : Bool} {env : Env} {p : List Stmt} (hc : checkProto strict env p = true)
    {t : Trace} (h : Produces env p t) : tidy t = true ∧ (strict = true → lastOk t = true) := by
  have hg := (checkProto_sound hc).1 t h
  rcases lang_of_run strict t .start (good_ne_bad hg) with rfl | h'
  · cases hg
  · exact h'

theorem cut_of_check {env : Env} {p : List Stmt} (hc : checkProto false env p = true) {t : Trace}
    (h : ProducesCut env p t) : t = [] ∨ tidy t = true :=
  (lang_of_run false t .start ((checkProto_sound hc).2 t h)).imp_right And.left

/-! The strict automaton (no message after one flagged `is_last`) accepts the text, evtx and journal workers; its
verdict gives both tidiness (here) and `lastOk` (`W_text_lastOk` … below), so each worker is analysed once. The text
and evtx workers do not test their start data, the journal worker only whether it was given journal data, so one
evaluation each settles all start data (`checkProto_congr_env`). The evaluations are `decide +kernel`: plain `decide`
runs the analysis in the elaborator first and the kernel then runs it again. -/

theorem text_check (env : Env) : checkProto true env workerText = true :=
  (checkProto_congr_env (env' := ⟨.text, false⟩) rfl).trans (by decide +kernel)

theorem evtx_check (env : Env) : checkProto true env workerEvtx = true :=
  (checkProto_congr_env (env' := ⟨.evtx, false⟩) rfl).trans (by decide +kernel)

theorem journal_check (env : Env) (hj : env.lmsdJournal = true) : checkProto true env workerJournal = true := by
  cases env with
  | mk ft b => subst hj; exact (checkProto_congr_env (env' := ⟨.journal, true⟩) rfl).trans (by decide +kernel)

/-- **text logs** (`exec_syslogprocessor`), whatever the start data -/
theorem W_text_tidy (env : Env) {t : Trace} (h : Produces env workerText t) : tidy t = true :=
  (lang_of_check (text_check env) h).1

/-- **evtx** (`exec_evtxprocessor`), whatever the start data -/
theorem W_evtx_tidy (env : Env) {t : Trace} (h : Produces env workerEvtx t) : tidy t = true :=
  (lang_of_check (evtx_check env) h).1

/-- **accounting records** (`exec_fixedstructprocessor`): when called with a `FileType::FixedStruct` -/
theorem W_fixed_tidy_partial (env : Env) (hft : env.ft = .fixedStruct) {t : Trace} (h : Produces env workerFixed t) :
    tidy t = true :=
  (lang_of_check (strict := false) (by
    cases env with
    | mk ft b => subst hft; exact (checkProto_congr_env (env' := ⟨.fixedStruct, false⟩) rfl).trans (by decide +kernel)) h).1

/-- **journal** (`exec_journalprocessor`): when called with `LogMessageSpecificData::Journal` -/
theorem W_journal_tidy_partial (env : Env) (hj : env.lmsdJournal = true) {t : Trace} (h : Produces env workerJournal t) :
    tidy t = true :=
  (lang_of_check (journal_check env hj) h).1

example : Produces ⟨.fixedStruct, false⟩ workerFixed [.fileInfo false, .summary false] :=
  ⟨.ret, _, Exec.iteNormal (c := true) (t₁ := []) (by decide) (Exec.nil _)
    (Exec.iteAbrupt (c := true) (by decide)
      (Exec.send (e := .fileInfo false) (by decide) (Exec.send (e := .summary false) (by decide) (Exec.ret _ _))) (by decide)),
   Or.inr rfl⟩

/-- without the proviso the statement is false of the code: `exec_fixedstructprocessor` begins with
`match filetype { FileType::FixedStruct{..} => …, _ => { e_err!(…); return; } }` — a return before any send -/
def W_fixed_tidy_full : Prop := ∀ (env : Env) (t : Trace), Produces env workerFixed t → tidy t = true

theorem W_fixed_tidy_full_false : ¬ W_fixed_tidy_full := by
  intro h
  have : Produces ⟨.text, false⟩ workerFixed [] :=
    ⟨.ret, _, Exec.iteAbrupt (c := false) (by decide) (Exec.ret _ _) (by decide), Or.inr rfl⟩
  exact absurd (h _ _ this) (by decide)

/-- likewise `exec_journalprocessor`: `match logmessagespecificdata { Journal(x) => x, _ => { …; return; } }` -/
def W_journal_tidy_full : Prop := ∀ (env : Env) (t : Trace), Produces env workerJournal t → tidy t = true

theorem W_journal_tidy_full_false : ¬ W_journal_tidy_full := by
  intro h
  have : Produces ⟨.journal, false⟩ workerJournal [] :=
    ⟨.ret, _, Exec.iteAbrupt (c := false) (by decide) (Exec.ret _ _) (by decide), Or.inr rfl⟩
  exact absurd (h _ _ this) (by decide)

theorem thread_check (env : Env) (hs : SpawnEnv env) : checkProto false env workerThread = true := by
  obtain ⟨ft, b⟩ := env
  cases ft <;> cases b <;> first | exact absurd hs (by decide) | decide +kernel

/-- **the thread as spawned** (`exec_fileprocessor_thread` with the start data `processing_loop` can pass):
every trace is tidy. This is (a) first datum `FileInfo`, (b) no message before it, (c) at most one `FileSummary` and
nothing after it, (d) a run that does not end with a `FileSummary` ends by the function returning, which drops the
sender (`Produces` has no other way to end; `W_sender_owned`) -/
theorem W_thread_tidy (env : Env) (hs : SpawnEnv env) {t : Trace} (h : Produces env workerThread t) : tidy t = true :=
  (lang_of_check (thread_check env hs) h).1

/-- the dispatcher's `_ =>` arm sends nothing: for a `FileType` outside the four handled ones the thread would end
without `FileInfo` (unreachable from the binary: `SPAWN_EXCLUDED`) -/
def W_thread_tidy_full : Prop := ∀ (env : Env) (t : Trace), Produces env workerThread t → tidy t = true

theorem W_thread_tidy_full_false : ¬ W_thread_tidy_full := by
  intro h
  have : Produces ⟨.unparsable, false⟩ workerThread [] :=
    ⟨.normal, _,
      Exec.iteNormal (c := false) (t₁ := []) (t₂ := []) (by decide)
        (Exec.iteNormal (c := false) (t₁ := []) (t₂ := []) (by decide)
          (Exec.iteNormal (c := false) (t₁ := []) (t₂ := []) (by decide)
            (Exec.iteNormal (c := false) (t₁ := []) (t₂ := []) (by decide) (Exec.nil _) (Exec.nil _))
            (Exec.nil _))
          (Exec.nil _))
        (Exec.nil _),
      Or.inl rfl⟩
  exact absurd (h _ _ this) (by decide)

/-- a thread that dies by a panic has sent nothing, or a `FileInfo`-first prefix -/
theorem W_thread_cut (env : Env) (hs : SpawnEnv env) {t : Trace} (h : ProducesCut env workerThread t) :
    t = [] ∨ tidy t = true :=
  cut_of_check (thread_check env hs) h

/-! ## (e) no message after one flagged `is_last` -/

/-- text logs: no message follows a message flagged `is_last` — by the control flow alone (`if is_last { … break }`,
`search_more`), whatever `is_sysline_last` computes -/
theorem W_text_lastOk (env : Env) {t : Trace} (h : Produces env workerText t) : lastOk t = true :=
  (lang_of_check (text_check env) h).2 rfl

/-- evtx and journal messages are never flagged (`let is_last = false`) -/
theorem W_evtx_lastOk (env : Env) {t : Trace} (h : Produces env workerEvtx t) : lastOk t = true :=
  (lang_of_check (evtx_check env) h).2 rfl

theorem W_journal_lastOk (env : Env) (hj : env.lmsdJournal = true) {t : Trace} (h : Produces env workerJournal t) :
    lastOk t = true :=
  (lang_of_check (journal_check env hj) h).2 rfl

/-- accounting records: the worker's control flow does NOT stop after a record flagged `is_last`
(`fixedstructreader.is_last(..)` is sent along and the loop goes on): the analysis rejects the strict automaton -/
theorem W_fixed_lastOk_not_by_control_flow : checkProto true ⟨.fixedStruct, false⟩ workerFixed = false := by decide +kernel

/-! ## connection to the coordinator model -/

/-- the script (in the sense of `S4V.Model.Coord`) of a trace; `pay k` is the `k`-th message's payload -/
def scriptOf (pay : Nat → Msg) : Nat → Trace → List Datum
  | _, [] => []
  | i, .fileInfo ok :: r => .fileInfo ok :: scriptOf pay i r
  | i, .msg _ :: r => .msg (pay i) :: scriptOf pay (i + 1) r
  | i, .summary ok :: r => .summary ok :: scriptOf pay i r

theorem deliverable_scriptOf_tail (pay : Nat → Msg) : ∀ (r : Trace) (i : Nat), tidyTail r = true →
    deliverable (scriptOf pay i r) = scriptOf pay i r := by
  intro r
  induction r with
  | nil => intro i _; rfl
  | cons e r ih =>
    intro i h
    cases e with
    | fileInfo b => simp [tidyTail] at h
    | msg b =>
      simp only [tidyTail] at h
      simp only [scriptOf, deliverable, ih (i + 1) h]
    | summary b =>
      cases r with
      | nil => rfl
      | cons e' r' => simp [tidyTail] at h

theorem script_of_tidy (pay : Nat → Msg) (t : Trace) (h : tidy t = true) :
    wfScript (scriptOf pay 0 t) = true ∧ deliverable (scriptOf pay 0 t) = scriptOf pay 0 t := by
  cases t with
  | nil => simp [tidy] at h
  | cons e r =>
    cases e with
    | fileInfo b =>
      simp only [tidy] at h
      exact ⟨rfl, by simp only [scriptOf, deliverable, deliverable_scriptOf_tail pay r 0 h]⟩
    | msg b => simp [tidy] at h
    | summary b => simp [tidy] at h

/-- the scripts of a run: each one is what a spawned thread's skeleton can produce -/
def FromSkeletons (scripts : List (List Datum)) : Prop :=
  ∀ sc ∈ scripts, ∃ (env : Env) (t : Trace) (pay : Nat → Msg),
    SpawnEnv env ∧ Produces env workerThread t ∧ sc = scriptOf pay 0 t

/-- **the hypothesis of `C06_no_deadlock` / `C06_never_stops_early` discharged** -/
theorem WF_of_skeletons {scripts : List (List Datum)} (h : FromSkeletons scripts) : WF scripts := by
  intro sc hsc
  obtain ⟨env, t, pay, hs, hp, rfl⟩ := h sc hsc
  exact (script_of_tidy pay t (W_thread_tidy env hs hp)).1

/-- no deadlock, for every schedule, whatever the files contain -/
theorem C06_no_deadlock_skeletons {scripts : List (List Datum)} (h : FromSkeletons scripts) (hne : scripts ≠ [])
    {b : BSt} (hr : BReach S4V.Gen.Consts.CHANNEL_CAPACITY scripts b) (hf : b.core.fin = false) :
    ∃ ev, (bstep S4V.Gen.Consts.CHANNEL_CAPACITY b ev).isSome = true :=
  S4V.Props.C06.C06_no_deadlock (WF_of_skeletons h) hne hr hf

/-- the coordinator never leaves its loop through the `recv_many_chan → None` path -/
theorem C06_never_stops_early_skeletons {scripts : List (List Datum)} (h : FromSkeletons scripts) (hne : scripts ≠ [])
    {b : BSt} (hr : BReach S4V.Gen.Consts.CHANNEL_CAPACITY scripts b) :
    bstep S4V.Gen.Consts.CHANNEL_CAPACITY b (.coord .brk) = none :=
  S4V.Props.C06.C06_never_stops_early (WF_of_skeletons h) hne hr

/-- … and everything a worker sends is delivered (nothing follows its summary) -/
theorem delivered_of_skeletons {scripts : List (List Datum)} (h : FromSkeletons scripts) :
    ∀ sc ∈ scripts, deliverable sc = sc := by
  intro sc hsc
  obtain ⟨env, t, pay, hs, hp, rfl⟩ := h sc hsc
  exact (script_of_tidy pay t (W_thread_tidy env hs hp)).2

example : FromSkeletons [scriptOf (fun k => ⟨k, k⟩) 0 [.fileInfo false, .summary false]] := by
  intro sc hsc
  rw [List.mem_singleton] at hsc
  refine ⟨⟨.fixedStruct, false⟩, [.fileInfo false, .summary false], _, by decide, ?_, hsc⟩
  exact ⟨.ret, _, Exec.iteAbrupt (c := true) (by decide)
    (Exec.iteNormal (c := true) (t₁ := []) (by decide) (Exec.nil _)
      (Exec.iteAbrupt (c := true) (by decide)
        (Exec.send (e := .fileInfo false) (by decide) (Exec.send (e := .summary false) (by decide) (Exec.ret _ _))) (by decide)))
    (by decide), Or.inr rfl⟩

/-! ## counter-models: what the analysis rejects -/

/-- seeded change C07-a: the too-small arm of `exec_fixedstructprocessor` no longer sends `FileInfo` -/
def skelC07a : List Stmt := [
  .ite .opaque [.send (.fileSummary .err), .ret] [],
  .send (.fileInfo .ok),
  .loop [.ite .opaque [.send (.newMessage .unknown)] [.brk]],
  .send (.fileSummary .unknown)]

theorem c07a_rejected : checkProto false ⟨.fixedStruct, false⟩ skelC07a = false := by decide +kernel

/-- … and rightly so: it produces a script that is not well formed (the situation of `CoordSpec.wf_needed`) -/
theorem c07a_produces_untidy : ∃ t, Produces ⟨.fixedStruct, false⟩ skelC07a t ∧ tidy t = false ∧
    wfScript (scriptOf (fun k => ⟨k, k⟩) 0 t) = false :=
  ⟨[.summary false],
   ⟨.ret, _, Exec.iteAbrupt (c := true) (by decide) (Exec.send (e := .summary false) (by decide) (Exec.ret _ _)) (by decide),
    Or.inr rfl⟩, by decide, by decide⟩

/-- a worker that starts streaming before it has announced the file -/
def skelMsgFirst : List Stmt := [
  .loop [.ite .opaque [.send (.newMessage .unknown)] [.brk]],
  .send (.fileInfo .ok),
  .send (.fileSummary .ok)]

theorem msgFirst_rejected : checkProto false ⟨.text, false⟩ skelMsgFirst = false := by decide +kernel

/-- a worker that returns early on some path without having sent anything -/
def skelEarlyReturn : List Stmt := [
  .ite .opaque [.ret] [],
  .send (.fileInfo .ok),
  .send (.fileSummary .ok)]

theorem earlyReturn_rejected : checkProto false ⟨.text, false⟩ skelEarlyReturn = false := by decide +kernel

/-- a worker that goes on after its summary -/
def skelAfterSummary : List Stmt := [
  .send (.fileInfo .ok),
  .send (.fileSummary .ok),
  .send (.newMessage (.lit false))]

theorem afterSummary_rejected : checkProto false ⟨.text, false⟩ skelAfterSummary = false := by decide +kernel

/-- text logs without the `break` after a flagged message: the strict automaton rejects it (and accepts the real one) -/
def skelNoBreakOnLast : List Stmt := [
  .send (.fileInfo .unknown),
  .loop [.ite .opaque [.set 0 none, .send (.newMessage (.var 0))] [.brk]],
  .send (.fileSummary .unknown)]

theorem noBreakOnLast_rejected : checkProto true ⟨.text, false⟩ skelNoBreakOnLast = false ∧
    checkProto false ⟨.text, false⟩ skelNoBreakOnLast = true ∧ checkProto true ⟨.text, false⟩ workerText = true :=
  ⟨by decide +kernel, by decide +kernel, text_check _⟩

end S4V.Props.WorkerProtoSpec
