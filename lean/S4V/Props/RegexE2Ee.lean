/-
GENERATED by tools/mk_regexrows.py — regenerate, do not edit.

C04, regex slice: rows 106–129 of `DATETIME_PARSE_DATAS` END TO END, from the text of a line to the instant.
`C04_rowN_end_to_end_shaped`: for every valid selection of the row's catalogue, admissible tail, fallback zone and fill year, if the
words spell a calendar date-time (`calendarOK`), the iteration of `find_datetime_in_line` for the row (`rowPipeline`) yields the
instant the captured words spell: `RowFacts.Cert.e2e` / `.e2e_end` of `certN` applied to `C04_rowN_search`. Year-less rows keep a
four-digit fill year as hypothesis, rows with renderings longer than `range_regex.end` keep `hlen`. How to read the statement,
non-vacuity and the FALSE statements: `S4V.Props.RegexE2ESpec`, `S4V.Props.RegexE2EShapeSpec`.
-/
import S4V.Props.RegexCapture3k
import S4V.Props.RegexCapture3l

namespace S4V.Props.RegexE2E
open S4V.Model.Regex S4V.Gen.Regex S4V.Lemmas.RegexStep S4V.Lemmas.RegexSym S4V.Lemmas.RegexRows S4V.Lemmas.RegexAuto
open S4V.Lemmas.RegexE2E S4V.Props.RegexCapture3 S4V.Gen.TimeTables

theorem C04_row106_end_to_end_shaped (sel : Sel) (hv : Valid (rowBodyP re106 0) sel) (tail : List UInt8) (ht : TailF (autoTail re106) tail)
    (fbOff : Int) (hfb : FbOK' fbOff) (fill : Option Int)
    (hc : calendarOK row106.dtfs (selFields row106 sel) fill = true) :
    rowPipeline row106 (flat sel ++ tail) fbOff fill = some (fieldsOf row106.dtfs (selFields row106 sel) fbOff fill).instant :=
  cert106.e2e hv (cert106.flat_le rfl hv) (C04_row106_search sel hv _ (tailF_take ht _)) fbOff hfb fill rfl hc

theorem C04_row107_end_to_end_shaped (sel : Sel) (hv : Valid (rowBodyP re107 0) sel) (tail : List UInt8) (ht : TailF (autoTail re107) tail)
    (fbOff : Int) (hfb : FbOK' fbOff) (fill : Option Int)
    (hc : calendarOK row107.dtfs (selFields row107 sel) fill = true) :
    rowPipeline row107 (flat sel ++ tail) fbOff fill = some (fieldsOf row107.dtfs (selFields row107 sel) fbOff fill).instant :=
  cert107.e2e hv (cert107.flat_le rfl hv) (C04_row107_search sel hv _ (tailF_take ht _)) fbOff hfb fill rfl hc

theorem C04_row108_end_to_end_shaped (sel : Sel) (hv : Valid (rowBodyP re108 0) sel) (tail : List UInt8) (ht : TailF (autoTail re108) tail)
    (fbOff : Int) (hfb : FbOK' fbOff) (fill : Option Int)
    (hc : calendarOK row108.dtfs (selFields row108 sel) fill = true) :
    rowPipeline row108 (flat sel ++ tail) fbOff fill = some (fieldsOf row108.dtfs (selFields row108 sel) fbOff fill).instant :=
  cert108.e2e hv (cert108.flat_le rfl hv) (C04_row108_search sel hv _ (tailF_take ht _)) fbOff hfb fill rfl hc

theorem C04_row109_end_to_end_shaped (sel : Sel) (hv : Valid (rowBodyP re109 0) sel) (tail : List UInt8) (ht : TailF (autoTail re109) tail)
    (fbOff : Int) (hfb : FbOK' fbOff) (fill : Option Int)
    (hc : calendarOK row109.dtfs (selFields row109 sel) fill = true) :
    rowPipeline row109 (flat sel ++ tail) fbOff fill = some (fieldsOf row109.dtfs (selFields row109 sel) fbOff fill).instant :=
  cert109.e2e hv (cert109.flat_le rfl hv) (C04_row109_search sel hv _ (tailF_take ht _)) fbOff hfb fill rfl hc

theorem C04_row110_end_to_end_shaped (sel : Sel) (hv : Valid (rowBodyP re110 0) sel) (tail : List UInt8) (ht : TailF (autoTail re110) tail)
    (fbOff : Int) (hfb : FbOK' fbOff) (fill : Option Int)
    (hc : calendarOK row110.dtfs (selFields row110 sel) fill = true) :
    rowPipeline row110 (flat sel ++ tail) fbOff fill = some (fieldsOf row110.dtfs (selFields row110 sel) fbOff fill).instant :=
  cert110.e2e hv (cert110.flat_le rfl hv) (C04_row110_search sel hv _ (tailF_take ht _)) fbOff hfb fill rfl hc

theorem C04_row111_end_to_end_shaped (sel : Sel) (hv : Valid (rowBodyP re111 0) sel) (tail : List UInt8) (ht : TailF (autoTail re111) tail)
    (fbOff : Int) (hfb : FbOK' fbOff) (fill : Option Int)
    (hc : calendarOK row111.dtfs (selFields row111 sel) fill = true) :
    rowPipeline row111 (flat sel ++ tail) fbOff fill = some (fieldsOf row111.dtfs (selFields row111 sel) fbOff fill).instant :=
  cert111.e2e hv (cert111.flat_le rfl hv) (C04_row111_search sel hv _ (tailF_take ht _)) fbOff hfb fill rfl hc

theorem C04_row112_end_to_end_shaped (sel : Sel) (hv : Valid (rowBodyP re112 0) sel) (tail : List UInt8) (ht : TailF (autoTail re112) tail)
    (fbOff : Int) (hfb : FbOK' fbOff) (fill : Option Int)
    (hc : calendarOK row112.dtfs (selFields row112 sel) fill = true) :
    rowPipeline row112 (flat sel ++ tail) fbOff fill = some (fieldsOf row112.dtfs (selFields row112 sel) fbOff fill).instant :=
  cert112.e2e hv (cert112.flat_le rfl hv) (C04_row112_search sel hv _ (tailF_take ht _)) fbOff hfb fill rfl hc

theorem C04_row113_end_to_end_shaped (sel : Sel) (hv : Valid (rowBodyP re113 0) sel) (tail : List UInt8) (ht : TailF (autoTail re113) tail)
    (fbOff : Int) (hfb : FbOK' fbOff) (fill : Option Int)
    (hc : calendarOK row113.dtfs (selFields row113 sel) fill = true) :
    rowPipeline row113 (flat sel ++ tail) fbOff fill = some (fieldsOf row113.dtfs (selFields row113 sel) fbOff fill).instant :=
  cert113.e2e hv (cert113.flat_le rfl hv) (C04_row113_search sel hv _ (tailF_take ht _)) fbOff hfb fill rfl hc

theorem C04_row114_end_to_end_shaped (sel : Sel) (hv : Valid (rowBodyP re114 0) sel) (tail : List UInt8) (ht : TailF (autoTail re114) tail)
    (fbOff : Int) (hfb : FbOK' fbOff) (fill : Option Int)
    (hc : calendarOK row114.dtfs (selFields row114 sel) fill = true) :
    rowPipeline row114 (flat sel ++ tail) fbOff fill = some (fieldsOf row114.dtfs (selFields row114 sel) fbOff fill).instant :=
  cert114.e2e hv (cert114.flat_le rfl hv) (C04_row114_search sel hv _ (tailF_take ht _)) fbOff hfb fill rfl hc

theorem C04_row115_end_to_end_shaped (sel : Sel) (hv : Valid (rowBodyP re115 0) sel) (tail : List UInt8) (ht : TailF (autoTail re115) tail)
    (fbOff : Int) (hfb : FbOK' fbOff) (fill : Option Int)
    (hc : calendarOK row115.dtfs (selFields row115 sel) fill = true) :
    rowPipeline row115 (flat sel ++ tail) fbOff fill = some (fieldsOf row115.dtfs (selFields row115 sel) fbOff fill).instant :=
  cert115.e2e hv (cert115.flat_le rfl hv) (C04_row115_search sel hv _ (tailF_take ht _)) fbOff hfb fill rfl hc

theorem C04_row116_end_to_end_shaped (sel : Sel) (hv : Valid (rowBodyP re116 0) sel) (tail : List UInt8) (ht : TailF (autoTail re116) tail)
    (fbOff : Int) (hfb : FbOK' fbOff) (fill : Option Int)
    (hc : calendarOK row116.dtfs (selFields row116 sel) fill = true) :
    rowPipeline row116 (flat sel ++ tail) fbOff fill = some (fieldsOf row116.dtfs (selFields row116 sel) fbOff fill).instant :=
  cert116.e2e hv (cert116.flat_le rfl hv) (C04_row116_search sel hv _ (tailF_take ht _)) fbOff hfb fill rfl hc

theorem C04_row117_end_to_end_shaped (sel : Sel) (hv : Valid (rowBodyP re117 0) sel) (tail : List UInt8) (ht : TailF (autoTail re117) tail)
    (fbOff : Int) (hfb : FbOK' fbOff) (fill : Option Int)
    (hc : calendarOK row117.dtfs (selFields row117 sel) fill = true) :
    rowPipeline row117 (flat sel ++ tail) fbOff fill = some (fieldsOf row117.dtfs (selFields row117 sel) fbOff fill).instant :=
  cert117.e2e hv (cert117.flat_le rfl hv) (C04_row117_search sel hv _ (tailF_take ht _)) fbOff hfb fill rfl hc

theorem C04_row118_end_to_end_shaped (sel : Sel) (hv : Valid (rowBodyP re118 0) sel) (tail : List UInt8) (ht : TailF (autoTail re118) tail)
    (fbOff : Int) (hfb : FbOK' fbOff) (fill : Option Int)
    (hc : calendarOK row118.dtfs (selFields row118 sel) fill = true) :
    rowPipeline row118 (flat sel ++ tail) fbOff fill = some (fieldsOf row118.dtfs (selFields row118 sel) fbOff fill).instant :=
  cert118.e2e hv (cert118.flat_le rfl hv) (C04_row118_search sel hv _ (tailF_take ht _)) fbOff hfb fill rfl hc

theorem C04_row119_end_to_end_shaped (sel : Sel) (hv : Valid (rowBodyP re119 0) sel) (tail : List UInt8) (ht : TailF (autoTail re119) tail)
    (fbOff : Int) (hfb : FbOK' fbOff) (fill : Option Int)
    (hc : calendarOK row119.dtfs (selFields row119 sel) fill = true) :
    rowPipeline row119 (flat sel ++ tail) fbOff fill = some (fieldsOf row119.dtfs (selFields row119 sel) fbOff fill).instant :=
  cert119.e2e hv (cert119.flat_le rfl hv) (C04_row119_search sel hv _ (tailF_take ht _)) fbOff hfb fill rfl hc

theorem C04_row120_end_to_end_shaped (sel : Sel) (hv : Valid (rowBodyP re120 0) sel) (tail : List UInt8) (ht : TailF (autoTail re120) tail)
    (fbOff : Int) (hfb : FbOK' fbOff) (fill : Option Int)
    (hc : calendarOK row120.dtfs (selFields row120 sel) fill = true) :
    rowPipeline row120 (flat sel ++ tail) fbOff fill = some (fieldsOf row120.dtfs (selFields row120 sel) fbOff fill).instant :=
  cert120.e2e hv (cert120.flat_le rfl hv) (C04_row120_search sel hv _ (tailF_take ht _)) fbOff hfb fill rfl hc

theorem C04_row121_end_to_end_shaped (sel : Sel) (hv : Valid (rowBodyP re121 0) sel) (tail : List UInt8) (ht : TailF (autoTail re121) tail)
    (fbOff : Int) (hfb : FbOK' fbOff) (fill : Option Int)
    (hc : calendarOK row121.dtfs (selFields row121 sel) fill = true) :
    rowPipeline row121 (flat sel ++ tail) fbOff fill = some (fieldsOf row121.dtfs (selFields row121 sel) fbOff fill).instant :=
  cert121.e2e hv (cert121.flat_le rfl hv) (C04_row121_search sel hv _ (tailF_take ht _)) fbOff hfb fill rfl hc

theorem C04_row122_end_to_end_shaped (sel : Sel) (hv : Valid (rowBodyP re122 0) sel) (tail : List UInt8) (ht : TailF (autoTail re122) tail)
    (fbOff : Int) (hfb : FbOK' fbOff) (fill : Option Int) (hfill : ∀ y, fill = some y → 1000 ≤ y ∧ y ≤ 9999)
    (hc : calendarOK row122.dtfs (selFields row122 sel) fill = true) :
    rowPipeline row122 (flat sel ++ tail) fbOff fill = some (fieldsOf row122.dtfs (selFields row122 sel) fbOff fill).instant :=
  cert122.e2e hv (cert122.flat_le rfl hv) (C04_row122_search sel hv _ (tailF_take ht _)) fbOff hfb fill (fillOK_of _ fill hfill) hc

theorem C04_row123_end_to_end_shaped (sel : Sel) (hv : Valid (rowBodyP re123 0) sel) (tail : List UInt8) (ht : TailF (autoTail re123) tail)
    (fbOff : Int) (hfb : FbOK' fbOff) (fill : Option Int)
    (hc : calendarOK row123.dtfs (selFields row123 sel) fill = true) :
    rowPipeline row123 (flat sel ++ tail) fbOff fill = some (fieldsOf row123.dtfs (selFields row123 sel) fbOff fill).instant :=
  cert123.e2e hv (cert123.flat_le rfl hv) (C04_row123_search sel hv _ (tailF_take ht _)) fbOff hfb fill rfl hc

theorem C04_row124_end_to_end_shaped (sel : Sel) (hv : Valid (rowBodyP re124 0) sel) (tail : List UInt8) (ht : TailF (autoTail re124) tail)
    (fbOff : Int) (hfb : FbOK' fbOff) (fill : Option Int)
    (hc : calendarOK row124.dtfs (selFields row124 sel) fill = true) :
    rowPipeline row124 (flat sel ++ tail) fbOff fill = some (fieldsOf row124.dtfs (selFields row124 sel) fbOff fill).instant :=
  cert124.e2e hv (cert124.flat_le rfl hv) (C04_row124_search sel hv _ (tailF_take ht _)) fbOff hfb fill rfl hc

theorem C04_row125_end_to_end_shaped (sel : Sel) (hv : Valid (rowBodyP re125 0) sel) (tail : List UInt8) (ht : TailF (autoTail re125) tail)
    (fbOff : Int) (hfb : FbOK' fbOff) (fill : Option Int)
    (hc : calendarOK row125.dtfs (selFields row125 sel) fill = true) :
    rowPipeline row125 (flat sel ++ tail) fbOff fill = some (fieldsOf row125.dtfs (selFields row125 sel) fbOff fill).instant :=
  cert125.e2e hv (cert125.flat_le rfl hv) (C04_row125_search sel hv _ (tailF_take ht _)) fbOff hfb fill rfl hc

theorem C04_row126_end_to_end_shaped (sel : Sel) (hv : Valid (rowBodyP re126 0) sel) (tail : List UInt8) (ht : TailF (autoTail re126) tail)
    (fbOff : Int) (hfb : FbOK' fbOff) (fill : Option Int)
    (hc : calendarOK row126.dtfs (selFields row126 sel) fill = true) :
    rowPipeline row126 (flat sel ++ tail) fbOff fill = some (fieldsOf row126.dtfs (selFields row126 sel) fbOff fill).instant :=
  cert126.e2e hv (cert126.flat_le rfl hv) (C04_row126_search sel hv _ (tailF_take ht _)) fbOff hfb fill rfl hc

theorem C04_row127_end_to_end_shaped (sel : Sel) (hv : Valid (rowBodyP re127 0) sel) (tail : List UInt8) (ht : TailF (autoTail re127) tail)
    (fbOff : Int) (hfb : FbOK' fbOff) (fill : Option Int)
    (hc : calendarOK row127.dtfs (selFields row127 sel) fill = true) :
    rowPipeline row127 (flat sel ++ tail) fbOff fill = some (fieldsOf row127.dtfs (selFields row127 sel) fbOff fill).instant :=
  cert127.e2e hv (cert127.flat_le rfl hv) (C04_row127_search sel hv _ (tailF_take ht _)) fbOff hfb fill rfl hc

theorem C04_row128_end_to_end_shaped (sel : Sel) (hv : Valid (rowBodyE re128 1) sel) (tail : List UInt8) (ht : TailIn (rowEndSym re128) tail)
    (fbOff : Int) (hfb : FbOK' fbOff) (fill : Option Int)
    (hc : calendarOK row128.dtfs (selFields row128 sel) fill = true) :
    rowPipeline row128 (flat sel ++ tail) fbOff fill = some (fieldsOf row128.dtfs (selFields row128 sel) fbOff fill).instant :=
  cert128.e2e_end hv (cert128.flat_le rfl hv) (C04_row128_search sel hv _ (tailIn_take ht _)) fbOff hfb fill rfl hc

theorem C04_row129_end_to_end_shaped (sel : Sel) (hv : Valid (rowBodyE re129 1) sel) (tail : List UInt8) (ht : TailIn (rowEndSym re129) tail)
    (fbOff : Int) (hfb : FbOK' fbOff) (fill : Option Int)
    (hc : calendarOK row129.dtfs (selFields row129 sel) fill = true) :
    rowPipeline row129 (flat sel ++ tail) fbOff fill = some (fieldsOf row129.dtfs (selFields row129 sel) fbOff fill).instant :=
  cert129.e2e_end hv (cert129.flat_le rfl hv) (C04_row129_search sel hv _ (tailIn_take ht _)) fbOff hfb fill rfl hc

end S4V.Props.RegexE2E
