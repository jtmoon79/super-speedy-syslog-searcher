/-
C04, regex slice — row 71 (RFC 3339 with fraction and `±HH:MM`) over the catalogues of the ISO 8601 family
(`S4V.Props.RegexCapture2`): `C04_rfc3339_search`, `C04_rfc3339_end_to_end` (year from 1969: the literal `1969` of the
row's year alternation).
-/
import S4V.Props.RegexCapture2

namespace S4V.Props.RegexCapture
open S4V.Model.Regex S4V.Gen.Regex S4V.Lemmas.RegexStep S4V.Lemmas.RegexSym S4V.Lemmas.RegexRows
open S4V.Model.DtParse (dchar Captures)
open S4V.Lemmas.DtParse (dec2 dec4)
open S4V.Props.RegexCapture2 (isoRest rowOk_iso tzcW tzcText conc_tzc)

/-- row 71 = the ISO core (its year alternation also has the literal `1969`), `[.,]`, 1–9 fraction digits, an optional
blank and `±HH:MM` -/
def body71 : List Piece := ⟨n1, grp 1 (cw [49, 57, 54, 57] :: yearWords)⟩ :: isoRest ++
  [⟨.cls [(44,44),(46,46)], plain (cws [[46]])⟩, ⟨.group 7 (.rep dig 1 (some 9)), grp 7 fracWords⟩,
   ⟨blankQ, plain [[]]⟩, ⟨n14, grp 8 [tzcW]⟩]

theorem re71_eq : re71 = catL (.bol :: (body71.map Piece.item ++ [n25])) := by rfl

theorem ok71 : rowOk body71 nonDigit = true := rowOk_iso (by decide +kernel)

def sel71 (Y M D H N S : Nat) (frac : List UInt8) (sign : UInt8) (oh om : Nat) : Sel :=
  [symSel (some 1) (if Y = 1969 then cw [49, 57, 54, 57] else if Y < 2000 then y19 else y20) (dec4 Y), wSel none [45],
   wSel (some 2) (dec2 M), wSel none [45], wSel (some 3) (dec2 D), wSel none [84], wSel (some 4) (dec2 H),
   wSel none [58], symSel (some 5) minuteWord (dec2 N), wSel none [58], sSel 6 S, wSel none [46],
   symSel (some 7) (List.replicate frac.length S4V.Lemmas.RegexRows.D) frac, wSel none [], symSel (some 8) tzcW (tzcText sign oh om)]

theorem tailIn_of_tailOK {tail : List UInt8} (h : TailOK tail) : TailIn nonDigit tail := by
  intro x t e
  subst e
  obtain ⟨h1, h2⟩ := h
  unfold isD at h2
  simp only [symHas, nonDigit, inRanges, List.any_cons, List.any_nil, Bool.or_false, Bool.or_eq_true, Bool.and_eq_true,
    decide_eq_true_eq]
  omega

theorem sel71_ok (Y M D H N S : Nat) (frac : List UInt8) (sign : UInt8) (oh om : Nat)
    (hY : 1969 ≤ Y ∧ Y ≤ 2099) (hM : 1 ≤ M ∧ M ≤ 12) (hD : 1 ≤ D ∧ D ≤ 31) (hH : H ≤ 24) (hN : N ≤ 59)
    (hS : S ≤ 60) (hf : ∀ d ∈ frac, isD d) (hf1 : 1 ≤ frac.length) (hf9 : frac.length ≤ 9)
    (hs : sign = 43 ∨ sign = 45) (hoh : oh ≤ 29) : AllOK body71 (sel71 Y M D H N S frac sign oh om) := by
  have hyear : Conc (if Y = 1969 then cw [49, 57, 54, 57] else if Y < 2000 then y19 else y20) (dec4 Y) := by
    split
    · next h => subst h; exact conc_cw _
    · exact conc_year (by omega)
  have mem : ∀ {lo n k : Nat}, lo ≤ k → k < lo + n → dec2 k ∈ (List.range' lo n).map dec2 := fun h1 h2 =>
    List.mem_map.mpr ⟨_, List.mem_range'_1.mpr ⟨h1, h2⟩, rfl⟩
  refine ⟨ewOK_sym_grp (by (repeat' split) <;> simp [yearWords]) hyear, ewOK_w_plain (by simp), ewOK_w_grp (mem hM.1 (by omega)),
    ewOK_w_plain (by simp), ewOK_w_grp ?_, ewOK_w_plain (by simp), ewOK_w_grp (mem (Nat.zero_le _) (by omega)),
    ewOK_w_plain (by simp), ewOK_sym_grp (by simp) (conc_minute hN), ewOK_w_plain (by simp), ewOK_second hS,
    ewOK_w_plain (by simp), ewOK_sym_grp ?_ (conc_digits frac fun b hb => ?_), ewOK_sym_plain (s := []) (by simp) trivial,
    ewOK_sym_grp (by simp) (conc_tzc hs hoh), trivial⟩
  · exact List.mem_append_left _ (List.mem_append_left _ (mem hD.1 (by omega)))
  · exact List.mem_map.mpr ⟨frac.length, List.mem_range'_1.mpr ⟨hf1, by omega⟩, rfl⟩
  · have := hf b hb
    unfold isD at this
    simp [isDb, this]

theorem flat_sel71 (Y M D H N S : Nat) (frac : List UInt8) (sign : UInt8) (oh om : Nat) (tail : List UInt8) :
    flat (sel71 Y M D H N S frac sign oh om) ++ tail = render Y M D H N S frac sign oh om tail := by
  simp [sel71, flat, render, tzcText, dec4, dec2]

theorem caps_sel71 (Y M D H N S : Nat) (frac : List UInt8) (sign : UInt8) (oh om : Nat) (tail : List UInt8) :
    capsAt 0 [] (sel71 Y M D H N S frac sign oh om ++ [endEw 9 nonDigit tail]) = expectCaps frac.length (endLen tail) := by
  have hy : (if Y = 1969 then cw [49, 57, 54, 57] else if Y < 2000 then y19 else y20).length = 4 := by
    (repeat' split) <;> rfl
  cases tail <;> simp [sel71, capsAt, shc, expectCaps, endEw, endLen, tzcW, tzcText, dec4, dec2, minuteWord, hy] <;> omega

/-- **search on an RFC 3339 line**: the match starts at 0, ends after the zone (plus the one
non-digit byte the last group takes, if any), and the nine groups sit exactly on the fields -/
theorem C04_rfc3339_search (Y M D H N S : Nat) (frac : List UInt8) (sign : UInt8) (oh om : Nat) (tail : List UInt8)
    (hY : 1969 ≤ Y ∧ Y ≤ 2099) (hM : 1 ≤ M ∧ M ≤ 12) (hD : 1 ≤ D ∧ D ≤ 31) (hH : H ≤ 24) (hN : N ≤ 59)
    (hS : S ≤ 60) (hf : ∀ d ∈ frac, isD d) (hf1 : 1 ≤ frac.length) (hf9 : frac.length ≤ 9)
    (hs : sign = 43 ∨ sign = 45) (hoh : oh ≤ 29) (ht : TailOK tail) :
    search row71.re (render Y M D H N S frac sign oh om tail) =
      some ⟨0, 20 + frac.length + 6 + endLen tail, expectCaps frac.length (endLen tail)⟩ := by
  have hok := sel71_ok Y M D H N S frac sign oh om hY hM hD hH hN hS hf hf1 hf9 hs hoh
  have h := (S4V.Lemmas.RegexAuto.rowResult_end (re := re71) ok71 hok tail
    (tailIn_of_tailOK ht) (S4V.Lemmas.RegexAuto.head_bol re71_eq (by simp)) rfl).1
  have hlen : (flat (sel71 Y M D H N S frac sign oh om)).length = 20 + frac.length + 6 := by
    simp [sel71, flat, tzcText, dec4, dec2]; omega
  rw [flat_sel71, caps_sel71, hlen] at h
  rw [show row71.re = re71 from rfl, h]
  cases tail <;> rfl

/-- **capture → post-capture model, RFC 3339 family**: for every field tuple in range the model's
`search` of row 71 finds the stamp at offset 0 and hands exactly the rendered fields to
`captures_to_buffer_bytes` (`capturesOf` is the `Captures` argument of `capturesToInstant`, about which
`S4V.Props.TimeSpec.C04_normalise_parse` speaks) -/
theorem C04_rfc3339_end_to_end (Y M D H N S : Nat) (frac : List UInt8) (sign : UInt8) (oh om : Nat) (tail : List UInt8)
    (hY : 1969 ≤ Y ∧ Y ≤ 2099) (hM : 1 ≤ M ∧ M ≤ 12) (hD : 1 ≤ D ∧ D ≤ 31) (hH : H ≤ 24) (hN : N ≤ 59)
    (hS : S ≤ 60) (hf : ∀ d ∈ frac, isD d) (hf1 : 1 ≤ frac.length) (hf9 : frac.length ≤ 9)
    (hs : sign = 43 ∨ sign = 45) (hoh : oh ≤ 29) (ht : TailOK tail) :
    ∃ res, search row71.re (render Y M D H N S frac sign oh om tail) = some res ∧ res.start = 0 ∧
      capturesOf row71 (render Y M D H N S frac sign oh om tail) res.caps =
        { year := some (dec4 Y), month := some (dec2 M), day := some (dec2 D), hour := some (dec2 H),
          minute := some (dec2 N), second := some (dec2 S), fractional := some frac,
          tz := some (sign :: (dec2 oh ++ 58 :: dec2 om)), epoch := none } :=
  ⟨_, C04_rfc3339_search Y M D H N S frac sign oh om tail hY hM hD hH hN hS hf hf1 hf9 hs hoh ht, rfl,
    C04_rfc3339_captures Y M D H N S frac sign oh om tail _⟩

end S4V.Props.RegexCapture
