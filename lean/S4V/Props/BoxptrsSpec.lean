/-
Property theorems for `Line::get_boxptrs(a, b)` (`S4V.Model.Boxptrs`).

`get_boxptrs(a, b)` is meant to return bytes `[a, min(b, len))` of the line as
0, 1, 2 or many slices of the line's parts. Its only caller
(`SyslineReader::parse_datetime_in_line`) concatenates the slices
(`Ptrs.bytes`) and runs the datetime regex on them, with
`a = dtpd.range_regex.start`, `b = min(line.len(), dtpd.range_regex.end)`.

* for `a` inside the first part — in particular `a = 0`, which is what every
  one of the 173 datetime patterns uses (`all_range_starts_zero`) — the result is
  the specified bytes, for every way of cutting the line into parts
  (`getBoxptrs_spec_first_part`, `getBoxptrs_start_zero`,
  `boxptrs_bs_independent`);
* for arbitrary `a` the statement is FALSE (`getBoxptrs_full_false`): the second
  loop skips the parts before `a` with `a -= len_` but leaves `b` alone, so the
  result is `skipLen` bytes too long (`getBoxptrs_bytes`); this bites exactly
  when `a` is beyond the first part, three or more parts are needed, and `b` is
  before the end of the line (`getBoxptrs_wrong_iff`);
* no call ever slices out of range, every returned slice is a sub-slice of one
  part, `MultiPtr` holds at least two slices (`getBoxptrs_in_bounds`,
  `getBoxptrs_slices_sub`, `getBoxptrs_multi_len`).

All proofs appeal to `S4V.Lemmas.Boxptrs`.
-/
import S4V.Lemmas.Boxptrs
import S4V.Props.LinesSpec
import S4V.Gen.DtStart

namespace S4V.Props.BoxptrsSpec
open S4V.Model.Boxptrs S4V.Lemmas.Boxptrs

/-- running examples: `abcdefg` as seven one-byte parts (block size 1) and as
three parts (a first line of 1 byte before it, block size 3) -/
def ex7 : List Bytes := [[97], [98], [99], [100], [101], [102], [103]]
def ex3 : List Bytes := [[97, 98], [99, 100, 101], [102, 103]]

example : getBoxptrs ex7 0 5 = .multi [[97], [98], [99], [100], [101], []] := by decide
example : getBoxptrs ex7 2 5 = .multi [[99], [100], [101], [102], [103]] := by decide
example : getBoxptrs ex3 1 4 = .double [98] [99, 100] := by decide
example : getBoxptrs ex3 3 5 = .single [100, 101] := by decide
example : getBoxptrs ex3 6 9 = .single [103] := by decide
example : getBoxptrs ex3 7 9 = .none := by decide
example : spec ex7 2 5 = [99, 100, 101] := by decide

theorem getBoxptrs_none_iff (parts : List Bytes) (a b : Nat) :
    getBoxptrs parts a b = .none ↔ (flat parts).length ≤ a := by
  constructor
  · intro h
    rcases Nat.lt_or_ge a (flat parts).length with hlt | hge
    · exfalso
      unfold getBoxptrs at h
      rw [if_neg (not_lineLen_le hlt)] at h
      split at h
      · next q hq => subst h; exact loop1_ne_none parts a b false none hq
      · obtain ⟨ss, hss⟩ := loop2_multi parts a b false false []
        rw [hss] at h
        cases h
    · exact hge
  · exact getBoxptrs_none_of_le parts a b

example : getBoxptrs ex3 7 7 = .none := (getBoxptrs_none_iff ex3 7 7).mpr (by decide)

/-- `get_boxptrs(a, b)` returns bytes `[a, b')` of the line where `b' = b` when at
most two parts are needed and `b' = b + skipLen parts a` when three or more are:
the multi-part loop forgets to move `b` past the parts it skips before `a`. -/
theorem getBoxptrs_bytes (parts : List Bytes) (a b : Nat) (hab : a ≤ b)
    (hlt : a < (flat parts).length) :
    (getBoxptrs parts a b).bytes =
      spec parts a (if spans3 parts a b = true then b + skipLen parts a else b) := by
  have h := (getBoxptrs_inside parts a b hab hlt).2
  rw [spec_eq]
  by_cases hs : spans3 parts a b = true
  · rw [if_pos hs] at h ⊢; exact h.1
  · rw [if_neg hs] at h ⊢; exact h.1

example : (getBoxptrs ex7 2 5).bytes = spec ex7 2 7 :=
  getBoxptrs_bytes ex7 2 5 (by decide) (by decide)

theorem getBoxptrs_variant (parts : List Bytes) (a b : Nat) (hab : a ≤ b)
    (hlt : a < (flat parts).length) :
    if spans3 parts a b = true then ∃ ss, getBoxptrs parts a b = .multi ss
    else (∃ s, getBoxptrs parts a b = .single s) ∨ (∃ s t, getBoxptrs parts a b = .double s t) := by
  have h := (getBoxptrs_inside parts a b hab hlt).2
  by_cases hs : spans3 parts a b = true
  · rw [if_pos hs] at h ⊢; exact h.2.imp fun _ => And.left
  · rw [if_neg hs] at h ⊢; exact h.2

theorem getBoxptrs_spec_first_part (p : Bytes) (ps : List Bytes) (a b : Nat) (hab : a ≤ b)
    (ha : a < p.length) :
    (getBoxptrs (p :: ps) a b).bytes = spec (p :: ps) a b := by
  have hlt : a < (flat (p :: ps)).length := by rw [flat_cons]; simp; omega
  rw [getBoxptrs_bytes (p :: ps) a b hab hlt, skipLen_first p ps a ha]
  simp

example : (getBoxptrs ex3 1 6).bytes = spec ex3 1 6 :=
  getBoxptrs_spec_first_part _ _ 1 6 (by decide) (by decide)

theorem getBoxptrs_start_zero (parts : List Bytes) (b : Nat) :
    (getBoxptrs parts 0 b).bytes = (flat parts).take b := by
  rcases Nat.eq_zero_or_pos (flat parts).length with h0 | hpos
  · rw [getBoxptrs_none_of_le parts 0 b (by omega)]
    have : flat parts = [] := List.eq_nil_of_length_eq_zero h0
    simp [Ptrs.bytes, this]
  · rw [getBoxptrs_bytes parts 0 b (Nat.zero_le _) hpos, skipLen_zero, spec_eq]
    simp

example : (getBoxptrs ex7 0 5).bytes = [97, 98, 99, 100, 101] := by
  rw [getBoxptrs_start_zero]; decide

/-- the intended contract for every `a` inside the line -/
def getBoxptrs_full : Prop :=
  ∀ (parts : List Bytes) (a b : Nat), (∀ p ∈ parts, p ≠ []) → a ≤ b → a < (flat parts).length →
    (getBoxptrs parts a b).bytes = spec parts a b

/-- FALSE: line `abcdefg` at block size 1, `get_boxptrs(2, 5)` returns `cdefg`, not `cde` -/
theorem getBoxptrs_full_false : ¬ getBoxptrs_full := fun h =>
  absurd (h ex7 2 5 (by decide) (by decide) (by decide)) (by decide)

theorem getBoxptrs_spec_two_parts (parts : List Bytes) (a b : Nat) (hab : a ≤ b)
    (hlt : a < (flat parts).length) (h2 : spans3 parts a b = false) :
    (getBoxptrs parts a b).bytes = spec parts a b := by
  rw [getBoxptrs_bytes parts a b hab hlt, h2]
  simp

example : (getBoxptrs ex7 2 4).bytes = spec ex7 2 4 :=
  getBoxptrs_spec_two_parts ex7 2 4 (by decide) (by decide) (by decide)

theorem getBoxptrs_spec_to_end (parts : List Bytes) (a b : Nat) (hab : a ≤ b)
    (hlt : a < (flat parts).length) (hb : (flat parts).length ≤ b) :
    (getBoxptrs parts a b).bytes = spec parts a b := by
  rw [getBoxptrs_bytes parts a b hab hlt, spec_eq, spec_eq]
  split
  · rw [List.take_of_length_le hb, List.take_of_length_le (by omega)]
  · rfl

example : (getBoxptrs ex7 2 7).bytes = spec ex7 2 7 :=
  getBoxptrs_spec_to_end ex7 2 7 (by decide) (by decide) (by decide)

theorem getBoxptrs_wrong_iff (p : Bytes) (ps : List Bytes) (a b : Nat) (hp : p ≠ [])
    (hab : a ≤ b) (hlt : a < (flat (p :: ps)).length) :
    (getBoxptrs (p :: ps) a b).bytes ≠ spec (p :: ps) a b ↔
      p.length ≤ a ∧ spans3 (p :: ps) a b = true ∧ b < (flat (p :: ps)).length := by
  constructor
  · intro hne
    rcases Nat.lt_or_ge a p.length with h1 | h1
    · exact absurd (getBoxptrs_spec_first_part p ps a b hab h1) hne
    · refine ⟨h1, ?_, ?_⟩
      · cases hs : spans3 (p :: ps) a b with
        | true => rfl
        | false => exact absurd (getBoxptrs_spec_two_parts _ a b hab hlt hs) hne
      · rcases Nat.lt_or_ge b (flat (p :: ps)).length with h3 | h3
        · exact h3
        · exact absurd (getBoxptrs_spec_to_end _ a b hab hlt h3) hne
  · rintro ⟨h1, h2, h3⟩ heq
    have hk := skipLen_pos p ps a hp h1
    rw [getBoxptrs_bytes _ a b hab hlt, h2, if_pos rfl, spec_eq, spec_eq] at heq
    have := congrArg List.length heq
    simp only [List.length_drop, List.length_take] at this
    omega

example : (getBoxptrs ex7 2 5).bytes ≠ spec ex7 2 5 :=
  (getBoxptrs_wrong_iff _ _ 2 5 (by decide) (by decide) (by decide)).mpr (by decide)

/-- with `a ≤ b` no call of `get_boxptrs` can panic: every `block_boxptr_a(a)` has
`a ≤ len`, every `block_boxptr_b(b)` has `b ≤ len`, every `block_boxptr_ab(a, b)`
has `a ≤ b ≤ len`, `bptr_a.unwrap()` is on `Some`, and no `usize` subtraction underflows -/
theorem getBoxptrs_in_bounds (parts : List Bytes) (a b : Nat) (hab : a ≤ b) :
    getBoxptrsOk parts a b = true :=
  getBoxptrsOk_of_le parts a b hab

theorem getBoxptrs_slices_sub (parts : List Bytes) (a b : Nat) (hab : a ≤ b) :
    ∀ s ∈ (getBoxptrs parts a b).slices, ∃ p ∈ parts, ∃ i j, i ≤ j ∧ j ≤ p.length ∧
      s = (p.take j).drop i := by
  rcases Nat.lt_or_ge a (flat parts).length with hlt | hge
  · exact (getBoxptrs_inside parts a b hab hlt).1
  · rw [getBoxptrs_none_of_le parts a b hge]
    nofun

/-- `debug_assert_gt!(ptrs.len(), 1)`: a `MultiPtr` holds at least two slices -/
theorem getBoxptrs_multi_len (parts : List Bytes) (a b : Nat) (hab : a ≤ b) (ss : List Bytes)
    (h : getBoxptrs parts a b = .multi ss) : 2 ≤ ss.length := by
  rcases Nat.lt_or_ge a (flat parts).length with hlt | hge
  · have h' := (getBoxptrs_inside parts a b hab hlt).2
    rw [h] at h'
    split at h'
    · obtain ⟨_, ss', e, hl⟩ := h'
      cases e
      exact hl
    · rcases h'.2 with ⟨_, e⟩ | ⟨_, _, e⟩ <;> cases e
  · rw [getBoxptrs_none_of_le parts a b hge] at h
    cases h

example : getBoxptrsOk ex7 2 9 = true := getBoxptrs_in_bounds ex7 2 9 (by decide)

open S4V.Gen.DtStart in
/-- every `DTPD!` row of `DATETIME_PARSE_DATAS` has `range_regex.start = 0`
(generated from src/data/datetime.rs; a row with another start breaks this proof) -/
theorem all_range_starts_zero : ∀ s ∈ rangeStarts, s = 0 := by decide +kernel

open S4V.Gen.DtStart in
theorem range_starts_count : rangeStarts.length = parseDatasLen ∧ rangeEnds.length = parseDatasLen := by
  decide +kernel

open S4V.Gen.DtStart in
/-- so for every datetime pattern the regex is handed the first `min(b, len)` bytes of the line -/
theorem getBoxptrs_callers (parts : List Bytes) (b : Nat) :
    ∀ s ∈ rangeStarts, (getBoxptrs parts s b).bytes = (flat parts).take b := by
  intro s hs
  rw [all_range_starts_zero s hs]
  exact getBoxptrs_start_zero parts b

open S4V.Model.Lines in
/-- the byte contents of the parts of the line `find_line(fo)` returns at block size `bs` -/
def lineParts (bs : Nat) (d : List UInt8) (fo : Nat) : List (List UInt8) :=
  match findLine bs d fo with
  | .found _ ps => ps.map (Part.bytes d bs)
  | .done => []

open S4V.Model.Lines in
/-- the bytes of the line holding offset `fo` -/
def lineBytes (d : List UInt8) (fo : Nat) : List UInt8 :=
  (d.drop (lineStart d fo)).take (lineEnd d fo + 1 - lineStart d fo)

open S4V.Model.Lines in
theorem flat_map_bytes (d : List UInt8) (bs : Nat) (ps : List Part) :
    flat (ps.map (Part.bytes d bs)) = partsBytes d bs ps := by
  induction ps with
  | nil => rfl
  | cons p ps ih => rw [List.map_cons, flat_cons, ih]; rfl

open S4V.Model.Lines in
theorem flat_lineParts (bs : Nat) (d : List UInt8) (fo : Nat) (hbs : 1 ≤ bs) (hfo : fo < d.length) :
    flat (lineParts bs d fo) = lineBytes d fo := by
  obtain ⟨parts, h1, h2, _⟩ := S4V.Props.LinesSpec.findLine_spec bs d fo hbs hfo
  simp only [lineParts, h1, flat_map_bytes, h2, lineBytes]

open S4V.Model.Lines in
theorem lineParts_nonempty (bs : Nat) (d : List UInt8) (fo : Nat) (hbs : 1 ≤ bs) (hfo : fo < d.length) :
    ∀ p ∈ lineParts bs d fo, p ≠ [] := by
  obtain ⟨parts, h1, _, h3, _⟩ := S4V.Props.LinesSpec.findLine_spec bs d fo hbs hfo
  simp only [lineParts, h1]
  intro p hp
  obtain ⟨q, hq, rfl⟩ := List.mem_map.mp hp
  obtain ⟨h4, h5⟩ := h3 q hq
  intro h
  have := congrArg List.length h
  simp [Part.bytes] at this
  omega

theorem boxptrs_line_start_zero (bs : Nat) (d : List UInt8) (fo b : Nat) (hbs : 1 ≤ bs)
    (hfo : fo < d.length) :
    (getBoxptrs (lineParts bs d fo) 0 b).bytes = (lineBytes d fo).take b := by
  rw [getBoxptrs_start_zero, flat_lineParts bs d fo hbs hfo]

/-- C12 for `get_boxptrs`: the bytes handed to the datetime regex do not depend on the block size -/
theorem boxptrs_bs_independent (bs₁ bs₂ : Nat) (d : List UInt8) (fo b : Nat) (h₁ : 1 ≤ bs₁)
    (h₂ : 1 ≤ bs₂) (hfo : fo < d.length) :
    ∀ s ∈ S4V.Gen.DtStart.rangeStarts,
      (getBoxptrs (lineParts bs₁ d fo) s b).bytes = (getBoxptrs (lineParts bs₂ d fo) s b).bytes := by
  intro s hs
  rw [all_range_starts_zero s hs, boxptrs_line_start_zero bs₁ d fo b h₁ hfo,
    boxptrs_line_start_zero bs₂ d fo b h₂ hfo]

/-- for a general start offset that would be FALSE -/
def boxptrs_bs_independent_full : Prop :=
  ∀ (bs₁ bs₂ : Nat) (d : List UInt8) (fo a b : Nat), 1 ≤ bs₁ → 1 ≤ bs₂ → fo < d.length → a ≤ b →
    (getBoxptrs (lineParts bs₁ d fo) a b).bytes = (getBoxptrs (lineParts bs₂ d fo) a b).bytes

/-- file `abcdefg`, block size 1 vs 7, `get_boxptrs(2, 5)`: `cdefg` vs `cde` -/
theorem boxptrs_bs_independent_full_false : ¬ boxptrs_bs_independent_full := fun h =>
  absurd (h 1 7 [97, 98, 99, 100, 101, 102, 103] 0 2 5 (by decide) (by decide) (by decide) (by decide))
    (by decide)

example : lineParts 1 [97, 98, 99, 100, 101, 102, 103] 0 = ex7 := by decide
example : (getBoxptrs (lineParts 3 [120, 10, 97, 98, 99, 100, 101, 102, 103] 4) 0 5).bytes
    = [97, 98, 99, 100, 101] := by
  rw [boxptrs_line_start_zero 3 _ 4 5 (by decide) (by decide)]; decide

end S4V.Props.BoxptrsSpec
