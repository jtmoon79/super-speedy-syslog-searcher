/-
C04, regex slice — the 173 regular expressions of `DATETIME_PARSE_DATAS` inside the model.

Over `S4V.Gen.Regex` (regenerated from src/data/datetime.rs by gen/gen_regex.py: every row's
`regex_pattern` parsed into `Re`, `DTFSSet::has_year4/has_d2`, `range_regex`), the language
semantics `S4V.Model.Regex.Matches`, and the mirrors of `slice_contains_*`, `ezcheck_slice`,
`find_datetime_in_line` in `S4V.Model.Ezcheck`.

The byte tests compute their specifications. Every row's regex needs what its flags let EZCHECK test for: decided over the
generated table by `decide +kernel` and lifted to all matches by the soundness of the static analyses of `S4V.Lemmas.Regex`.
Hence `find_datetime_in_line` with the EZCHECKs is the same loop without them, given that every row has
`range_regex.start = 0`; without that the statement is false (`C04_ezcheck_transparent_full_false`: the cursors are offsets
into a `start = 0` slice but are applied to slices starting elsewhere; latent, no such row exists today). Last, whatever the
executable matcher `search` returns is a match of the language semantics.
-/
import S4V.Gen.Regex
import S4V.Gen.Consts
import S4V.Lemmas.Regex
import S4V.Lemmas.EzLoop
import S4V.Lemmas.RegexExec

namespace S4V.Props.RegexSpec
open S4V.Model.Regex S4V.Model.Ezcheck S4V.Gen.Regex
open S4V.Lemmas.Ezcheck S4V.Lemmas.Regex S4V.Lemmas.EzLoop

theorem has12_iff (s : List UInt8) : has12 s = true ↔ ∃ b ∈ s, b = 49 ∨ b = 50 := by
  simp [has12, hasByte, is12]

theorem hasD2_iff (s : List UInt8) :
    hasD2 s = true ↔ ∃ pre a b post, s = pre ++ a :: b :: post ∧ isDigit a = true ∧ isDigit b = true := by
  constructor
  · intro h
    induction s with
    | nil => simp [hasD2] at h
    | cons x t ih =>
      rw [hasD2_cons] at h
      simp only [Bool.or_eq_true, Bool.and_eq_true] at h
      rcases h with ⟨hx, ht⟩ | ht
      · cases t with
        | nil => simp [startsDb] at ht
        | cons y t => exact ⟨[], x, y, t, rfl, hx, ht⟩
      · obtain ⟨pre, a, b, post, hs, ha, hb⟩ := ih ht
        exact ⟨x :: pre, a, b, post, by simp [hs], ha, hb⟩
  · rintro ⟨pre, a, b, post, hs, ha, hb⟩
    subst hs
    exact hasD2_append_right _ (by simp [hasD2, ha, hb])

/-- `slice_contains_X_2(slice, b"12")` ⇔ the slice contains `'1'` or `'2'` -/
theorem C04_slice_contains_X_2_spec (s : List UInt8) :
    sliceContainsX2 s 49 50 = true ↔ ∃ b ∈ s, b = 49 ∨ b = 50 := by
  rw [sliceContainsX2_12, has12_iff]

/-- the hand-unrolled `slice_contains_X_2_unroll` (lengths 2…99 special-cased) is the same function -/
theorem C04_slice_contains_X_2_unroll_spec (s : List UInt8) (a b : UInt8) :
    sliceContainsX2Unroll s a b = sliceContainsX2 s a b := sliceContainsX2Unroll_eq s a b

/-- `slice_contains_D2` ⇔ two consecutive ASCII digits somewhere in the slice -/
theorem C04_slice_contains_D2_spec (s : List UInt8) :
    sliceContainsD2 s = true ↔
      ∃ pre a b post, s = pre ++ a :: b :: post ∧ isDigit a = true ∧ isDigit b = true := by
  rw [sliceContainsD2_eq, hasD2_iff]

/-- `slice_contains_12_D2` ⇔ `'1'`/`'2'` present, or two consecutive digits present -/
theorem C04_slice_contains_12_D2_spec (s : List UInt8) :
    sliceContains12D2 s = (sliceContainsX2 s 49 50 || sliceContainsD2 s) := by
  rw [sliceContains12D2_eq, sliceContainsX2_12, sliceContainsD2_eq]

def rowInfo (r : Row) : RowInfo := ⟨r.hasYear4, r.hasD2, r.rangeStart, r.rangeEnd⟩

def rowOk (r : Row) : Bool :=
  needsDigit r.re && (!r.hasYear4 || needs12 r.re) && (!r.hasD2 || needsD2 r.re) && r.rangeStart == 0

theorem rows_ok_all : rows.all rowOk = true := by decide +kernel

theorem rows_count : rows.length = rowCount := by decide +kernel

structure RowChecked (r : Row) : Prop where
  digit : needsDigit r.re = true
  year4 : r.hasYear4 = true → needs12 r.re = true
  d2 : r.hasD2 = true → needsD2 r.re = true
  start : r.rangeStart = 0

theorem rows_facts {r : Row} (hr : r ∈ rows) : RowChecked r := by
  have h := List.all_eq_true.mp rows_ok_all r hr
  simp only [rowOk, Bool.and_eq_true, beq_iff_eq, and_assoc] at h
  obtain ⟨hdig, h12, hd2, hs⟩ := h
  exact ⟨hdig, fun hy => by simpa [hy] using h12, fun hd => by simpa [hd] using hd2, hs⟩

/-- every match of every pattern contains an ASCII digit -/
theorem C04_every_pattern_needs_digit {r : Row} (hr : r ∈ rows) {pre s post : List UInt8}
    (hm : Matches r.re pre s post) : hasDigit s = true :=
  needsDigit_sound hm (rows_facts hr).digit

/-- a pattern whose `DTFSSet` has a four-digit year only matches text with a `'1'` or a `'2'` -/
theorem C04_year4_needs_12 {r : Row} (hr : r ∈ rows) (hy : r.hasYear4 = true) {pre s post : List UInt8}
    (hm : Matches r.re pre s post) : has12 s = true :=
  needs12_sound hm ((rows_facts hr).year4 hy)

/-- a pattern whose `DTFSSet` `has_d2` only matches text with two consecutive digits -/
theorem C04_d2_needs_D2 {r : Row} (hr : r ∈ rows) (hd : r.hasD2 = true) {pre s post : List UInt8}
    (hm : Matches r.re pre s post) : hasD2 s = true :=
  needsD2_sound hm ((rows_facts hr).d2 hd)

theorem C04_range_start_zero_rgx {r : Row} (hr : r ∈ rows) : r.rangeStart = 0 := (rows_facts hr).start

theorem matchesIn_flags {r : Row} (hr : r ∈ rows) {slice : List UInt8} (hm : MatchesIn r.re slice) :
    (r.hasYear4 = true → has12 slice = true) ∧ (r.hasD2 = true → hasD2 slice = true) :=
  ⟨fun hy => hasByte_of_matchesIn ((rows_facts hr).year4 hy) hm, fun hd => hasD2_of_matchesIn ((rows_facts hr).d2 hd) hm⟩

theorem ezcheckSkips_eq (d : RowInfo) (slice : List UInt8) :
    ezcheckSkips d slice =
      match d.hasYear4, d.hasD2 with
      | true, false => !has12 slice
      | false, true => !hasD2 slice
      | true, true => !(has12 slice || hasD2 slice)
      | false, false => false := by
  cases hy : d.hasYear4 <;> cases hd : d.hasD2 <;>
    simp [ezcheckSkips, ezcheckSlice, hy, hd, tailFrom, sliceContainsX2_12, sliceContainsD2_eq,
      sliceContains12D2_eq] <;>
    cases has12 slice <;> cases hasD2 slice <;> simp

/-- **EZCHECK soundness**: for every generated row and every byte slice, if `ezcheck_slice` says
"skip" then the row's regex has no match anywhere inside the slice -/
theorem C04_ezcheck_sound {r : Row} (hr : r ∈ rows) (slice : List UInt8)
    (hskip : ezcheckSkips (rowInfo r) slice = true) : ¬ MatchesIn r.re slice := by
  intro hm
  obtain ⟨h12, hd2⟩ := matchesIn_flags hr hm
  rw [ezcheckSkips_eq] at hskip
  simp only [rowInfo] at hskip
  cases hy : r.hasYear4 <;> cases hd : r.hasD2 <;> simp only [hy, hd] at hskip
  · cases hskip
  · simp [hd2 hd] at hskip
  · simp [h12 hy] at hskip
  · simp [h12 hy] at hskip

/-- the hypothesis of `C04_ezcheck_sound` is met: a line without digits is skipped for row 0 … -/
example : ezcheckSkips (rowInfo row0) "[hello world]".toUTF8.toList = true := by decide +kernel
/-- … and a line with a stamp is not -/
example : ezcheckSkips (rowInfo row0) "[2000-01-02 03:04:05.678]".toUTF8.toList = false := by decide +kernel

/-- `DATETIME_PARSE_DATAS[i]` (an out-of-range index panics in the code; the model answers row 0) -/
def rowAt (i : Nat) : Row := (rows[i]?).getD row0

theorem row0_mem : row0 ∈ rows := by
  simp [rows, rowsChunk0]

theorem rowAt_mem (i : Nat) : rowAt i ∈ rows := by
  unfold rowAt
  cases h : rows[i]? with
  | none => exact row0_mem
  | some r => exact List.mem_of_getElem? h

def tblInfo (i : Nat) : RowInfo := rowInfo (rowAt i)

/-- **EZCHECK transparency, generated table**: let `mt` stand for `bytes_to_regex_to_datetime` —
any function that answers `Some` only when the row's regex matches inside the slice. Then for every
line, every `charsz` and every list of row indexes, `find_datetime_in_line` returns the same
(row, value) as the same loop with every EZCHECK and cursor removed. -/
theorem C04_ezcheck_transparent {α : Type} (mt : Nat → List UInt8 → Option α)
    (hmt : ∀ i s x, mt i s = some x → MatchesIn (rowAt i).re s)
    (line : List UInt8) (charsz : Nat) (idxs : List Nat) :
    findDatetimeInLine S4V.Gen.Consts.DATETIME_STR_MIN tblInfo mt line charsz idxs =
      findDatetimeInLinePlain S4V.Gen.Consts.DATETIME_STR_MIN tblInfo mt line idxs := by
  apply findDatetimeInLine_eq_plain
  · intro i s x h
    exact matchesIn_flags (rowAt_mem i) (hmt i s x h)
  · intro i _
    exact C04_range_start_zero_rgx (rowAt_mem i)

/-- the same for any table, as long as the listed rows start their slice at 0 -/
theorem C04_ezcheck_transparent_general {α : Type} (strMin : Nat) (info : Nat → RowInfo)
    (mt : Nat → List UInt8 → Option α) (hR : Respects info mt) (line : List UInt8) (charsz : Nat)
    (idxs : List Nat) (hstart : ∀ i ∈ idxs, (info i).rangeStart = 0) :
    findDatetimeInLine strMin info mt line charsz idxs = findDatetimeInLinePlain strMin info mt line idxs :=
  findDatetimeInLine_eq_plain strMin info mt hR line charsz idxs hstart

/-- the statement without "start = 0" -/
def C04_ezcheck_transparent_full : Prop :=
  ∀ (info : Nat → RowInfo) (mt : Nat → List UInt8 → Option Unit), Respects info mt →
    ∀ (line : List UInt8) (charsz : Nat) (idxs : List Nat),
      findDatetimeInLine 8 info mt line charsz idxs = findDatetimeInLinePlain 8 info mt line idxs

/-- witness table: row 0 = `[0, 3)`, row 1 = `[2, 10)`, both `(has_year4, !has_d2)` -/
def wInfo (i : Nat) : RowInfo := if i = 0 then ⟨true, false, 0, 3⟩ else ⟨true, false, 2, 10⟩
/-- witness matcher: "matches" exactly the slices containing `'1'`/`'2'` -/
def wMt (_ : Nat) (s : List UInt8) : Option Unit := if has12 s then some () else none
/-- `xxx1xxxx`: row 0 proves `[0,3)` clean and sets the cursor to 2; row 1's slice `[2,8)` is then
tested from ITS offset 2 = line offset 4, which jumps over the `'1'` at line offset 3 -/
def wLine : List UInt8 := [120, 120, 120, 49, 120, 120, 120, 120]

theorem C04_ezcheck_transparent_full_false : ¬ C04_ezcheck_transparent_full := by
  intro h
  have hR : Respects wInfo wMt := by
    intro i s x hx
    refine ⟨fun _ => ?_, fun hd => ?_⟩
    · unfold wMt at hx
      split at hx
      · assumption
      · cases hx
    · unfold wInfo at hd
      split at hd <;> cases hd
  have := h wInfo wMt hR wLine 1 [0, 1]
  revert this
  decide +kernel

/-- hypotheses of `C04_ezcheck_transparent` are satisfiable by a non-trivial matcher: the model's
own `search` (its soundness is `C04_search_sound`) -/
example : ∃ mt : Nat → List UInt8 → Option Res,
    (∀ i s x, mt i s = some x → MatchesIn (rowAt i).re s) ∧
    mt 0 "[2000-01-02 03:04:05.678]".toUTF8.toList ≠ none :=
  ⟨fun i s => search (rowAt i).re s,
   fun _ _ x h => S4V.Lemmas.RegexExec.search_matchesIn h,
   by decide +kernel⟩

/-- **matcher soundness**: whatever `search` returns is a match of the language semantics, at the
reported span, in the context of the rest of the slice -/
theorem C04_search_sound {r : Re} {s : List UInt8} {res : Res} (h : search r s = some res) :
    ∃ pre mid post, s = pre ++ mid ++ post ∧ pre.length = res.start ∧
      res.stop = res.start + mid.length ∧ Matches r pre mid post :=
  S4V.Lemmas.RegexExec.search_sound h

end S4V.Props.RegexSpec
