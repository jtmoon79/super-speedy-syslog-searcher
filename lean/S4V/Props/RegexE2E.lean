/-
GENERATED by tools/mk_regexrows.py — regenerate, do not edit.

C04, regex slice — index of the per-row end-to-end theorems. The table row → theorem and the hypotheses it keeps | why not is in
`S4V.Props.RegexE2EShape`.
-/
import S4V.Props.RegexE2Ea
import S4V.Props.RegexE2Eb
import S4V.Props.RegexE2Ec
import S4V.Props.RegexE2Ed
import S4V.Props.RegexE2Ee
import S4V.Props.RegexE2Ef
import S4V.Props.RegexE2Eg

namespace S4V.Props.RegexE2E

/-- rows with a `C04_rowN_end_to_end_shaped` theorem -/
def e2eRows : List Nat := [0, 1, 2, 3, 4, 5, 6, 7, 8, 9, 10, 11, 12, 13, 14, 15, 16, 17, 18, 19, 20, 21, 22, 23, 24, 25, 26, 27, 28, 29, 30, 31, 32, 33, 34, 35, 36, 37, 38, 39, 40, 41, 42, 43, 44, 45, 46, 47, 48, 49, 50, 51, 52, 53, 54, 55, 56, 57, 58, 59, 60, 61, 62, 63, 64, 70, 71, 72, 73, 74, 75, 76, 77, 78, 79, 80, 81, 82, 83, 84, 85, 86, 87, 88, 89, 90, 91, 92, 93, 94, 95, 101, 102, 103, 104, 105, 106, 107, 108, 109, 110, 111, 112, 113, 114, 115, 116, 117, 118, 119, 120, 121, 122, 123, 124, 125, 126, 127, 128, 129, 130, 131, 132, 133, 134, 135, 136, 137, 138, 139, 140, 141, 142, 143, 144, 145, 146, 147, 148, 149, 150, 151, 152, 153, 154, 155, 156, 157, 158, 159, 160, 161, 162, 163, 164, 165, 166, 167, 168, 169, 170, 171, 172]
/-- covered rows whose catalogue has renderings longer than `range_regex.end` -/
def cutRows : List Nat := [5, 16, 20, 22, 33]
/-- epoch rows: the joined statement is false (F26) -/
def epochRows : List Nat := [96, 97, 98, 99, 100]

end S4V.Props.RegexE2E
