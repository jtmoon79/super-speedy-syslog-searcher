/-
Property theorems for the Lines model (`S4V.Model.Lines`):
`findLine` / `findLineInBlock` against the specification `lineStart` / `lineEnd`.

All proofs appeal to `S4V.Lemmas.Lines`; this file holds the readable statements.
-/
import S4V.Lemmas.Lines

namespace S4V.Props.LinesSpec
open S4V.Gen.Blocks S4V.Model.Lines S4V.Lemmas.Lines

/-- running example: `"ab\ncd"` -/
def ex : Bytes := [97, 98, 10, 99, 100]

/-! The specification itself: `lineStart` / `lineEnd` bound the line of `fo`, and are the only offsets that do. -/

theorem lineStart_le (d : Bytes) (fo : Nat) : lineStart d fo ≤ fo :=
  (isLineStart_lineStart d fo).le

theorem le_lineEnd (d : Bytes) (fo : Nat) (hfo : fo < d.length) : fo ≤ lineEnd d fo :=
  (isLineEnd_lineEnd d fo hfo).le

theorem lineEnd_lt (d : Bytes) (fo : Nat) (hfo : fo < d.length) : lineEnd d fo < d.length :=
  (isLineEnd_lineEnd d fo hfo).lt

theorem lineEnd_nl_or_last (d : Bytes) (fo : Nat) (hfo : fo < d.length) :
    d[lineEnd d fo]? = some NL ∨ lineEnd d fo = d.length - 1 :=
  (isLineEnd_lineEnd d fo hfo).nl_or_last

theorem no_nl_in_line (d : Bytes) (fo : Nat) (hfo : fo < d.length) (k : Nat)
    (h1 : lineStart d fo ≤ k) (h2 : k < lineEnd d fo) : d[k]? ≠ some NL := by
  rcases Nat.lt_or_ge k fo with h | h
  · exact (isLineStart_lineStart d fo).no_nl k h1 h
  · exact (isLineEnd_lineEnd d fo hfo).no_nl k h h2

theorem lineStart_zero_or_nl (d : Bytes) (fo : Nat) :
    lineStart d fo = 0 ∨ d[lineStart d fo - 1]? = some NL :=
  (isLineStart_lineStart d fo).isStart

theorem same_line (d : Bytes) (fo fo' : Nat) (hfo : fo < d.length)
    (h1 : lineStart d fo ≤ fo') (h2 : fo' ≤ lineEnd d fo) :
    lineStart d fo' = lineStart d fo ∧ lineEnd d fo' = lineEnd d fo :=
  S4V.Lemmas.Lines.same_line d fo fo' hfo h1 h2

theorem lineStart_unique (d : Bytes) (fo S : Nat) (h1 : S ≤ fo)
    (h2 : S = 0 ∨ d[S - 1]? = some NL) (h3 : ∀ k, S ≤ k → k < fo → d[k]? ≠ some NL) :
    lineStart d fo = S :=
  IsLineStart.eq ⟨h1, h2, h3⟩

theorem lineEnd_unique (d : Bytes) (fo E : Nat) (h1 : fo ≤ E) (h2 : E < d.length)
    (h3 : d[E]? = some NL ∨ E = d.length - 1) (h4 : ∀ k, fo ≤ k → k < E → d[k]? ≠ some NL) :
    lineEnd d fo = E :=
  IsLineEnd.eq ⟨h1, h2, h3, h4⟩

example : lineStart ex 4 = 3 ∧ lineEnd ex 4 = 4 ∧ lineStart ex 1 = 0 ∧ lineEnd ex 1 = 2 := by decide
example : ex[lineEnd ex 1]? = some NL ∨ lineEnd ex 1 = ex.length - 1 :=
  lineEnd_nl_or_last ex 1 (by decide)
example : lineStart ex 4 = lineStart ex 3 ∧ lineEnd ex 4 = lineEnd ex 3 :=
  same_line ex 3 4 (by decide) (by decide) (by decide)
example : ex[3]? ≠ some NL := no_nl_in_line ex 3 (by decide) 3 (by decide) (by decide)

/-- the parts tile the file from offset `start`: the first part begins at `start`
and each following part begins where the previous one ended -/
def Contiguous (bs : Nat) : Nat → List Part → Prop
  | _, [] => True
  | start, p :: ps =>
    p.foBeg bs = start ∧ Contiguous bs (fileOffsetAtBlockOffsetIndex p.bo bs p.biEnd) ps

theorem contiguous_of_chain {bs n : Nat} :
    ∀ {ps : List Part} {a b : Nat}, Chain bs n a b ps → Contiguous bs a ps
  | [], _, _, _ => trivial
  | _ :: _, _, _, h => ⟨h.1, contiguous_of_chain h.rest⟩

/-- main theorem: on a fresh reader `findLine` returns the line containing `fo`:
next offset, bytes, every part non-empty and inside its block, no gap/overlap. -/
theorem findLine_spec (bs : Nat) (d : Bytes) (fo : Nat) (hbs : 1 ≤ bs) (hfo : fo < d.length) :
    ∃ parts, findLine bs d fo = .found (lineEnd d fo + 1) parts ∧
      partsBytes d bs parts
        = (d.drop (lineStart d fo)).take (lineEnd d fo + 1 - lineStart d fo) ∧
      (∀ p ∈ parts, p.biBeg < p.biEnd ∧ p.biEnd ≤ (blockAt d bs p.bo).length) ∧
      Contiguous bs (lineStart d fo) parts ∧
      lineFoEnd bs parts = lineEnd d fo := by
  obtain ⟨parts, h1, h2⟩ := findLine_chain bs d fo hbs hfo
  have := h2.lineFoEnd (h2.ne_nil_of_line (lineStart_le d fo) hfo)
  exact ⟨parts, h1, h2.bytes, h2.inBounds, contiguous_of_chain h2, by omega⟩

theorem findLine_foNext (bs : Nat) (d : Bytes) (fo : Nat) (hbs : 1 ≤ bs) (hfo : fo < d.length) :
    ∃ parts, findLine bs d fo = .found (lineEnd d fo + 1) parts :=
  let ⟨parts, h, _⟩ := findLine_spec bs d fo hbs hfo
  ⟨parts, h⟩

theorem findLine_bytes (bs : Nat) (d : Bytes) (fo n : Nat) (parts : List Part) (hbs : 1 ≤ bs)
    (h : findLine bs d fo = .found n parts) :
    n = lineEnd d fo + 1 ∧ partsBytes d bs parts
      = (d.drop (lineStart d fo)).take (lineEnd d fo + 1 - lineStart d fo) := by
  rcases Nat.lt_or_ge fo d.length with hfo | hfo
  · obtain ⟨parts', h1, h2, _⟩ := findLine_spec bs d fo hbs hfo
    rw [h1] at h
    injection h with e1 e2
    subst e1 e2
    exact ⟨rfl, h2⟩
  · rw [findLine_done bs d fo hfo] at h; cases h

example : findLine 2 ex 3 = .found 5 [⟨1, 1, 2⟩, ⟨2, 0, 1⟩] := by decide
example : findLine 2 ex 1 = .found 3 [⟨0, 0, 2⟩, ⟨1, 0, 1⟩] := by decide
example : ∃ parts, findLine 2 ex 3 = .found (lineEnd ex 3 + 1) parts ∧
    partsBytes ex 2 parts = (ex.drop (lineStart ex 3)).take (lineEnd ex 3 + 1 - lineStart ex 3) ∧
    (∀ p ∈ parts, p.biBeg < p.biEnd ∧ p.biEnd ≤ (blockAt ex 2 p.bo).length) ∧
    Contiguous 2 (lineStart ex 3) parts ∧ lineFoEnd 2 parts = lineEnd ex 3 :=
  findLine_spec 2 ex 3 (by decide) (by decide)

theorem findLine_done (bs : Nat) (d : Bytes) (fo : Nat) (h : d.length ≤ fo) :
    findLine bs d fo = .done :=
  S4V.Lemmas.Lines.findLine_done bs d fo h

example : findLine 2 ex 5 = .done := findLine_done 2 ex 5 (by decide)

/-- what a caller sees of a result: next offset and line bytes -/
def Res.view (d : Bytes) (bs : Nat) : Res → Option (Nat × Bytes)
  | .done => none
  | .found n parts => some (n, partsBytes d bs parts)

theorem findLine_view (bs : Nat) (d : Bytes) (fo : Nat) (hbs : 1 ≤ bs) :
    Res.view d bs (findLine bs d fo) =
      if fo < d.length then
        some (lineEnd d fo + 1,
          (d.drop (lineStart d fo)).take (lineEnd d fo + 1 - lineStart d fo))
      else none := by
  split
  · rename_i hfo
    obtain ⟨parts, h1, h2, _⟩ := findLine_spec bs d fo hbs hfo
    rw [h1, Res.view, h2]
  · rename_i hfo
    rw [findLine_done bs d fo (by omega), Res.view]

theorem findLine_bs_independent (bs₁ bs₂ : Nat) (d : Bytes) (fo : Nat) (h₁ : 1 ≤ bs₁)
    (h₂ : 1 ≤ bs₂) :
    Res.view d bs₁ (findLine bs₁ d fo) = Res.view d bs₂ (findLine bs₂ d fo) := by
  rw [findLine_view bs₁ d fo h₁, findLine_view bs₂ d fo h₂]

example : Res.view ex 2 (findLine 2 ex 3) = Res.view ex 3 (findLine 3 ex 3) :=
  findLine_bs_independent 2 3 ex 3 (by decide) (by decide)
example : Res.view ex 2 (findLine 2 ex 3) = some (5, [99, 100]) := by decide

/-- iterate `findLine` from `fo`, following the returned next offset -/
def allLinesFrom (bs : Nat) (d : Bytes) : Nat → Nat → List Bytes
  | 0, _ => []
  | fuel + 1, fo =>
    match findLine bs d fo with
    | .found foNext parts => partsBytes d bs parts :: allLinesFrom bs d fuel foNext
    | .done => []

/-- all lines of the file, as found by `findLine` from offset 0 -/
def allLines (bs : Nat) (d : Bytes) : List Bytes := allLinesFrom bs d d.length 0

theorem allLinesFrom_spec (bs : Nat) (d : Bytes) (hbs : 1 ≤ bs) :
    ∀ fuel fo, d.length - fo ≤ fuel → Boundary d fo →
      (allLinesFrom bs d fuel fo).flatten = d.drop fo ∧
        ∀ l ∈ allLinesFrom bs d fuel fo, l ≠ [] := by
  intro fuel
  induction fuel with
  | zero =>
    intro fo h _
    exact ⟨by rw [List.drop_eq_nil_of_le (by omega)]; rfl, nofun⟩
  | succ fuel ih =>
    intro fo hfuel hst
    rcases Nat.lt_or_ge fo d.length with hfo | hfo
    · have hle := le_lineEnd d fo hfo
      have hlt := lineEnd_lt d fo hfo
      obtain ⟨parts, h1, h2⟩ := findLine_at_start bs d fo hbs hfo (hst.2.resolve_left (by omega))
      -- the next offset begins a line, or is the end of the file
      obtain ⟨ih1, ih2⟩ := ih (lineEnd d fo + 1) (by omega) (boundary_next hfo)
      simp only [allLinesFrom, h1]
      constructor
      · rw [List.flatten_cons, ih1, h2]
        have e : lineEnd d fo + 1 = fo + (lineEnd d fo + 1 - fo) := by omega
        conv => lhs; rhs; rw [e, ← List.drop_drop]
        exact List.take_append_drop _ _
      · refine List.forall_mem_cons.mpr ⟨?_, ih2⟩
        rw [h2, ← List.length_pos_iff, List.length_take, List.length_drop]
        exact Nat.lt_min.mpr ⟨Nat.sub_pos_of_lt (Nat.lt_succ_of_le hle), Nat.sub_pos_of_lt hfo⟩
    · simp only [allLinesFrom, S4V.Lemmas.Lines.findLine_done bs d fo hfo, List.flatten_nil,
        List.not_mem_nil, false_imp_iff, implies_true, and_true]
      rw [List.drop_eq_nil_of_le hfo]

theorem lines_partition (bs : Nat) (d : Bytes) (hbs : 1 ≤ bs) :
    (allLines bs d).flatten = d ∧ ∀ l ∈ allLines bs d, l ≠ [] := by
  have := allLinesFrom_spec bs d hbs d.length 0 (by omega) (boundary_zero d)
  simpa [allLines] using this

example : allLines 2 ex = [[97, 98, 10], [99, 100]] := by decide
example : (allLines 2 ex).flatten = ex := (lines_partition 2 ex (by decide)).1

/-- `.found`: it is the true line, as one part inside block `fo / bs` -/
theorem findLineInBlock_sound (bs : Nat) (d : Bytes) (fo n : Nat) (parts : List Part)
    (hbs : 1 ≤ bs) (h : findLineInBlock bs d fo = .found n parts) :
    n = lineEnd d fo + 1 ∧
      partsBytes d bs parts
        = (d.drop (lineStart d fo)).take (lineEnd d fo + 1 - lineStart d fo) ∧
      ∃ p, parts = [p] ∧ p.bo = fo / bs ∧ p.biBeg < p.biEnd ∧
        p.biEnd ≤ (blockAt d bs p.bo).length ∧ p.foBeg bs = lineStart d fo := by
  obtain ⟨hfo, h1, hS, _, rfl, hc⟩ := findLineInBlock_found bs d fo n parts hbs h
  have hb := Chain.inBounds d bs hc _ (List.mem_singleton.mpr rfl)
  exact ⟨h1, hc.bytes, _, rfl, rfl, hb.1, hb.2, by
    simp only [Part.foBeg, S4V.Lemmas.Blocks.fileOffsetAtBlockOffsetIndex_eq]; omega⟩

/-- `.part`: newline B is not in the block of `fo`; the line continues into the next block -/
theorem findLineInBlock_part (bs : Nat) (d : Bytes) (fo : Nat) (parts : List Part)
    (hbs : 1 ≤ bs) (h : findLineInBlock bs d fo = .part parts) :
    (fo / bs + 1) * bs ≤ lineEnd d fo :=
  (S4V.Lemmas.Lines.findLineInBlock_part bs d fo parts hbs h).1

example : findLineInBlock 3 ex 1 = .found 3 [⟨0, 0, 3⟩] := by decide
example : 3 = lineEnd ex 1 + 1 :=
  (findLineInBlock_sound 3 ex 1 3 [⟨0, 0, 3⟩] (by decide) (by decide)).1
example : findLineInBlock 2 ex 1 = .part [⟨0, 0, 2⟩] := by decide
example : (1 / 2 + 1) * 2 ≤ lineEnd ex 1 :=
  findLineInBlock_part 2 ex 1 [⟨0, 0, 2⟩] (by decide) (by decide)

end S4V.Props.LinesSpec
