/-
Property C10 (also C03 window, C19 reader-side counters), the event-log READER as a whole:
`EvtxReader::new` (parser settings) → `analyze` (both arms of the record loop) → `next()` until `None` → `summary()`,
as `exec_evtxprocessor` drives it. Model: `S4V.Model.EvtxReader`; regenerated parts: `S4V.Gen.Evtx`,
`EVTX_ANALYZE` (`S4V.Gen.Summary`), the map key (`S4V.Gen.Keys`), `tsPassFilters` (`S4V.Gen.Filter`),
`workerEvtx` (`S4V.Gen.Worker`).

  items                 what `EvtxParser::records()` yields: `ok ts id` | `err`, in file order
  evsFrom 0 items       the `ok` items as (creation time, enumeration index) — an `err` uses up an index, nothing else
  okTs items            their creation times
  outIdx a b items      the enumeration indices of the records `next()` hands out, in order

The order / exactly-once statements are NOT re-proved here: `C10_errors_do_not_drop_records` shows that the reader's
output is `evtxPrint` of `S4V.Model.SortDrain` on the `ok` items, whatever `err` items lie between them, and
`SortSpec.C10_order` / `SummaryReaderSpec.analyze_fields` are applied to that.

ASSUMPTION of the model (not a theorem, and FALSE of the evtx crate for some damaged files): `records()` yields a FINITE
list. Finding F38 (tools/evtx_size0_witness.py): a record whose 4-byte size field is 0 makes the chunk iterator of evtx
0.8.5 repeat the same `Err` for ever (it advances by that size field after a failed record); `records()` collects a
chunk's results into a Vec before it yields any, so it never yields, memory grows and `EvtxReader::analyze` never
returns. The tie's generator therefore never writes size 0.

Counter-models (`*_loses_*`, `*_hides_*`, `*_would_*`): the other value of each regenerated choice, run on a concrete file.
-/
import S4V.Lemmas.EvtxReader
import S4V.Props.SortSpec
import S4V.Props.SummaryReaderSpec
import S4V.Props.WorkerProtoSpec

namespace S4V.Props.EvtxReaderSpec
open S4V.Gen.Evtx S4V.Gen.Summary S4V.Gen.Filter S4V.Gen.Keys S4V.Gen.Worker
open S4V.Model.Summary S4V.Model.SortDrain S4V.Model.EvtxReader S4V.Lemmas.EvtxReader
open S4V.Props.SummaryReaderSpec (inWin minL maxL)

/-- the regenerated builder chain does not switch chunk-checksum validation on -/
theorem C10_chunk_validation_off : PARSER_VALIDATE_CHECKSUMS = false := by decide

/-- every chunk's items reach `analyze`, whatever its stored CRC32 -/
theorem C10_every_chunk_is_read (cs : List Chunk) :
    parserItems genCfg.validate cs = cs.flatMap (·.items) := by
  simp [parserItems, genCfg, PARSER_VALIDATE_CHECKSUMS]

theorem validation_on_replaces_stale_chunks (cs : List Chunk) :
    parserItems true cs = cs.flatMap (fun c => if c.crcOk then c.items else [Item.err]) := by
  unfold parserItems
  congr 1
  funext c
  cases c.crcOk <;> simp

/-- counter-model (seeded change C10-d, `.validate_checksums(true)`): a log copied from a running system — the middle
chunk's checksum is stale, its records intact. As the source has it: all five records. With validation on: the two
records of that chunk are gone (and an error is reported instead). -/
theorem validation_on_loses_stale_chunk :
    let cs : List Chunk := [⟨true, [.ok 10 1, .ok 20 2]⟩, ⟨false, [.ok 15 3, .ok 25 4]⟩, ⟨true, [.ok 30 5]⟩]
    (run none none cs).seq = [(1, 10), (3, 15), (2, 20), (4, 25), (5, 30)]
    ∧ (run none none cs).errorReported = false
    ∧ (runWith { genCfg with validate := true } none none cs).seq = [(1, 10), (2, 20), (5, 30)]
    ∧ (runWith { genCfg with validate := true } none none cs).errorReported = true := by decide

theorem analyze_eq (a b : Option Int) (items : List Item) :
    analyze genCfg a b items {} =
      { ev := S4V.Model.Summary.analyze EVTX_ANALYZE a b (okTs items) {}
        events := build (((evsFrom 0 items).filter (win a b)).map fun e => (evtxKey e, e.idx))
        outOfOrder := descents none (okTs items)
        error := lastErr 0 none items
        analyzed := true } := by
  unfold S4V.Model.EvtxReader.analyze
  rw [foldl_step a b items { rd := {} } rfl rfl]
  simp [build, List.foldl_map]

/-- `pop_first` (the regenerated `NEXT_POPS_FIRST` is `true`) until the map is empty hands the entries out in key order -/
theorem drainNext_all (n : Nat) : ∀ (rd : Reader), rd.events.length ≤ n →
    drainNext genCfg n rd = (rd.events, { rd with events := [] }) := by
  have hp : genCfg.popsFirst = true := by decide
  induction n with
  | zero =>
    intro rd h
    have : rd.events = [] := List.eq_nil_of_length_eq_zero (by omega)
    obtain ⟨ev, events, ooo, err, an⟩ := rd
    simp_all [drainNext]
  | succ n ih =>
    intro rd h
    obtain ⟨ev, events, ooo, err, an⟩ := rd
    cases events with
    | nil => simp [drainNext, next, hp]
    | cons x r =>
      have h' : r.length ≤ n := by simpa using h
      simp only [drainNext, next, hp, if_true]
      rw [ih ⟨ev, r, ooo, err, an⟩ h']

def outIdx (a b : Option Int) (items : List Item) : List Nat :=
  let rd := analyze genCfg a b items {}
  (drainNext genCfg rd.events.length rd).1.map (·.2)

theorem run_seq (a b : Option Int) (cs : List Chunk) :
    (run a b cs).seq = (outIdx a b (cs.flatMap (·.items))).map (recAt (cs.flatMap (·.items))) := by
  simp only [run, runWith, outIdx, C10_every_chunk_is_read, List.map_map]
  rfl

def okRecs : List Item → List (Int × Nat)
  | [] => []
  | .ok ts id :: r => (ts, id) :: okRecs r
  | .err :: r => okRecs r

/-- What the enumeration is, with the enumeration starting behind the items `pre`: indices strictly increase along the
file (the lower bound on them is what makes a new head smaller than everything behind it), and looking an entry's
index up in the file gives back its creation time and, entry by entry, the `ok` records. -/
theorem evsFrom_recAt (r : List Item) : ∀ pre : List Item,
    (evsFrom pre.length r).Pairwise (fun a b => a.idx < b.idx) ∧
    (∀ e ∈ evsFrom pre.length r, pre.length ≤ e.idx ∧ (recAt (pre ++ r) e.idx).2 = e.ts) ∧
    (evsFrom pre.length r).map (fun e => (e.ts, (recAt (pre ++ r) e.idx).1)) = okRecs r := by
  induction r with
  | nil => exact fun _ => ⟨.nil, nofun, rfl⟩
  | cons it r ih =>
    intro pre
    obtain ⟨hpw, hts, hmap⟩ := ih (pre ++ [it])
    rw [List.length_append] at hpw hts hmap
    rw [List.append_assoc] at hts hmap
    have hlt : ∀ e ∈ evsFrom (pre.length + 1) r, pre.length < e.idx := fun e he => (hts e he).1
    cases it with
    | ok ts id =>
      refine ⟨List.pairwise_cons.2 ⟨hlt, hpw⟩, fun e he => ?_, by simpa [evsFrom, okRecs, recAt] using hmap⟩
      rcases List.mem_cons.1 he with rfl | he
      · simp [recAt]
      · exact ⟨Nat.le_of_lt (hlt e he), (hts e he).2⟩
    | err => exact ⟨hpw, fun e he => ⟨Nat.le_of_lt (hlt e he), (hts e he).2⟩, hmap⟩

theorem evsFrom_pairwise (items : List Item) : (evsFrom 0 items).Pairwise (fun r s => r.idx < s.idx) :=
  (evsFrom_recAt items []).1

/-- the reader IS the map pipeline of `S4V.Model.SortDrain` on the `ok` items: an `Err(_)` from the parser neither
ends the loop nor disturbs the keys (because the regenerated `ERR_ARM_EXIT` is `next`) -/
theorem C10_errors_do_not_drop_records (a b : Option Int) (items : List Item) :
    outIdx a b items = evtxPrint (evsFrom 0 items) a b := by
  simp only [outIdx, analyze_eq]
  rw [drainNext_all]
  · rfl
  · exact Nat.le_refl _

/-- C10: the output is the stable sort by creation time of the `ok` records inside the window -/
theorem C10_reader_order (a b : Option Int) (items : List Item) :
    outIdx a b items =
      (stableSort (fun e => (e.ts, 0, 0))
        ((evsFrom 0 items).filter fun e => tsPassFilters e.ts a b == .InRange)).map (·.idx) := by
  rw [C10_errors_do_not_drop_records]
  exact SortSpec.C10_order (evsFrom_pairwise items) a b

/-- C10: every `ok` record inside the window is handed out exactly once, and nothing else is -/
theorem C10_reader_each_once (a b : Option Int) (items : List Item) :
    (outIdx a b items).Perm
      (((evsFrom 0 items).filter fun e => tsPassFilters e.ts a b == .InRange).map (·.idx)) :=
  C10_errors_do_not_drop_records a b items ▸ SortSpec.C10_each_once (evsFrom_pairwise items) a b

theorem C10_reader_nodup (a b : Option Int) (items : List Item) : (outIdx a b items).Nodup :=
  C10_errors_do_not_drop_records a b items ▸ SortSpec.C10_nodup (evsFrom_pairwise items) a b

theorem okRecs_filter_isOk (items : List Item) : okRecs (items.filter (·.isOk)) = okRecs items := by
  induction items with
  | nil => rfl
  | cons it r ih =>
    have h1 : ∀ ts id, (Item.ok ts id).isOk = true := fun _ _ => rfl
    have h2 : Item.err.isOk = false := rfl
    cases it <;> simp [okRecs, ih, h1, h2]

/-- C10 on the messages sent: they are the `ok` records inside the window, stably sorted by creation time — an
expression in which the `err` items do not occur -/
theorem C10_reader_payloads (a b : Option Int) (cs : List Chunk) :
    (run a b cs).seq =
      (stableSort (fun p : Int × Nat => (p.1, 0, 0))
        ((okRecs (cs.flatMap (·.items))).filter fun p => tsPassFilters p.1 a b == .InRange)).map
        fun p => (p.2, p.1) := by
  obtain ⟨-, hts, hmap⟩ := evsFrom_recAt (cs.flatMap (·.items)) []
  -- `okRecs` is a relabelling of `evsFrom 0` (`hmap`); filter and sort commute with it, so both sides become maps over
  -- the same sorted list of entries
  rw [run_seq, C10_reader_order, List.map_map, ← hmap, List.filter_map, S4V.Lemmas.SortDrain.stableSort_map,
    List.map_map]
  refine List.map_congr_left fun e he => ?_
  have := (hts e (List.mem_filter.1 (S4V.Lemmas.SortDrain.mem_stableSort.1 he)).1).2
  simp only [Function.comp, List.nil_append] at this ⊢
  rw [← this]

/-- removing the unreadable records from the parser's output changes nothing in what is sent -/
theorem C10_errors_are_transparent (a b : Option Int) (items : List Item) :
    (run a b [⟨true, items⟩]).seq = (run a b [⟨true, items.filter (·.isOk)⟩]).seq := by
  rw [C10_reader_payloads, C10_reader_payloads]
  simp [okRecs_filter_isOk]

-- non-vacuity: errors before, between and after the records; a tie (indices 1 and 4); both bounds hit
example :
    let items : List Item := [.err, .ok 30 7, .err, .err, .ok 30 8, .ok 10 9, .ok 31 1, .err, .ok 9 2, .ok 20 3, .err]
    outIdx (some 10) (some 30) items = [5, 9, 1, 4]
    ∧ evsFrom 0 items = [⟨30, 1⟩, ⟨30, 4⟩, ⟨10, 5⟩, ⟨31, 6⟩, ⟨9, 8⟩, ⟨20, 9⟩]
    ∧ (run (some 10) (some 30) [⟨true, items⟩]).seq = [(9, 10), (3, 20), (7, 30), (8, 30)]
    ∧ (run (some 10) (some 30) [⟨true, items.filter (·.isOk)⟩]).seq = [(9, 10), (3, 20), (7, 30), (8, 30)] := by decide

theorem lastErr_isSome (items : List Item) : ∀ (k : Nat) (e : Option Nat),
    (lastErr k e items).isSome = (e.isSome || items.any (fun it => !it.isOk)) := by
  induction items with
  | nil => intro k e; simp [lastErr]
  | cons it r ih =>
    intro k e
    cases it with
    | ok ts id => simp [lastErr, ih, Item.isOk]
    | err => simp [lastErr, ih, Item.isOk]

/-- what `summary()` reports after `analyze`: `SummaryReaderSpec.analyze_fields` on the `ok` items — the `err` items
are not counted as processed, they only set the error text -/
theorem C19_reader_counters (a b : Option Int) (items : List Item) :
    let rd := analyze genCfg a b items {}
    let recs := okTs items
    let acc := recs.filter (inWin a b)
    rd.ev.processed = recs.length ∧ rd.ev.accepted = acc.length ∧
    rd.ev.firstProcessed = minL recs ∧ rd.ev.lastProcessed = maxL recs ∧
    rd.ev.firstAccepted = minL acc ∧ rd.ev.lastAccepted = maxL acc ∧
    rd.outOfOrder = descents none recs ∧
    rd.error.isSome = items.any (fun it => !it.isOk) ∧ rd.analyzed = true := by
  simp [analyze_eq, SummaryReaderSpec.analyze_fields, lastErr_isSome, minL, maxL]

/-- each `SummaryEvtxReader` field reports the reader field of the same meaning (regenerated `SUMMARY_SOURCES`) -/
theorem C19_summary_fields (rd : Reader) (fsz : Nat) :
    summary rd fsz .processed = .n rd.ev.processed ∧ summary rd fsz .accepted = .n rd.ev.accepted ∧
    summary rd fsz .firstProcessed = .t rd.ev.firstProcessed ∧ summary rd fsz .lastProcessed = .t rd.ev.lastProcessed ∧
    summary rd fsz .firstAccepted = .t rd.ev.firstAccepted ∧ summary rd fsz .lastAccepted = .t rd.ev.lastAccepted ∧
    summary rd fsz .filesz = .n fsz ∧ summary rd fsz .outOfOrder = .n rd.outOfOrder := by
  refine ⟨rfl, rfl, rfl, rfl, rfl, rfl, rfl, rfl⟩

/-- "out of order" counts the records older than the record stored before them, over ALL `ok` records (the block
precedes the window filter) -/
example : descents none [30, 30, 10, 31, 9, 20] = 2
    ∧ (analyze genCfg (some 25) none [.ok 30 1, .err, .ok 30 2, .ok 10 3, .ok 31 4, .ok 9 5, .ok 20 6] {}).outOfOrder = 2 := by
  decide

/-- `break` / `return` in the `Err` arm: everything stored after the first unreadable record is lost -/
theorem err_arm_break_loses_the_rest :
    let cs : List Chunk := [⟨true, [.ok 10 1, .err, .ok 5 2, .ok 20 3]⟩]
    (run none none cs).seq = [(2, 5), (1, 10), (3, 20)]
    ∧ (runWith { genCfg with errExit := .leaveLoop } none none cs).seq = [(1, 10)]
    ∧ (runWith { genCfg with errExit := .returnEarly } none none cs).seq = [(1, 10)]
    ∧ (runWith { genCfg with errExit := .returnEarly } none none cs).rd.analyzed = false
    ∧ (run none none cs).rd.analyzed = true := by decide

/-- an `Err` arm that does not keep the error: a damaged file is reported as clean -/
theorem err_arm_without_store_hides_error :
    let cs : List Chunk := [⟨true, [.ok 10 1, .err]⟩]
    (run none none cs).errorReported = true
    ∧ (runWith { genCfg with errStores := false } none none cs).errorReported = false := by decide

/-- `pop_last` instead of `pop_first`: newest first -/
theorem pop_last_would_reverse :
    let cs : List Chunk := [⟨true, [.ok 20 1, .ok 10 2, .ok 20 3]⟩]
    (run none none cs).seq = [(2, 10), (1, 20), (3, 20)]
    ∧ (runWith { genCfg with popsFirst := false } none none cs).seq = [(3, 20), (1, 20), (2, 10)] := by decide

/-- the out-of-order block behind the window filter would count only among accepted records -/
theorem ooo_behind_filter_would_differ :
    let cs : List Chunk := [⟨true, [.ok 30 1, .ok 10 2, .ok 40 3]⟩]
    (run (some 25) none cs).rd.outOfOrder = 1
    ∧ (runWith { genCfg with oooBeforeFilter := false } (some 25) none cs).rd.outOfOrder = 0 := by decide

/-- the regenerated call order: open, analyze, drain with `next()`, `summary_complete()`, drop the reader (and its
temporary file), only then the `FileSummary`; `analyze` gets (after, before) in that order -/
theorem W_evtx_steps :
    WORKER_STEPS = [.new, .analyze, .drainNext, .summaryComplete, .dropReader, .sendSummary]
    ∧ WORKER_ANALYZE_ARGS = (.after, .before) := by decide

/-- were the two bounds passed the other way round, a window would select the wrong records -/
example :
    let cs : List Chunk := [⟨true, [.ok 10 1, .ok 20 2, .ok 30 3]⟩]
    (run (some 15) none cs).seq = [(2, 20), (3, 30)] ∧ (run none (some 15) cs).seq = [(1, 10)] := by decide

open S4V.Model.WorkerProto in
/-- the drain loop of the regenerated skeleton: any number of `NewMessage(_, false)`, then the `FileSummary(ok)` -/
theorem W_evtx_loop (env : Env) (n : Nat) :
    Exec env [.loop [.ite .opaque [] [.brk], .set 0 (some false), .send (.newMessage (.var 0))],
              .send (.fileSummary .ok)] initStore
      (List.replicate n (Ev.msg false) ++ [Ev.summary true]) .normal initStore := by
  induction n with
  | zero => exact Exec.loopBrk (t₁ := []) (Exec.iteAbrupt (c := false) rfl (Exec.brk _ _) (by decide)) (Exec.send rfl (Exec.nil _))
  | succ n ih =>
    exact Exec.loopIter (t₁ := [Ev.msg false])
      (Exec.iteNormal (c := true) (t₁ := []) rfl (Exec.nil _)
        (Exec.set (b := false) (by simp [setVals]) (Exec.send (by decide) (Exec.nil _))))
      (Or.inl rfl) ih

open S4V.Model.WorkerProto in
/-- what the coordinator receives from the worker of an event-log file that opens: `FileInfo(ok)`, one
`NewMessage(_, is_last = false)` per record handed out by `next()`, `FileSummary(ok)` — producible by the regenerated
skeleton `workerEvtx` for every count -/
theorem W_evtx_ok_trace (env : Env) (n : Nat) :
    Produces env workerEvtx ([Ev.fileInfo true] ++ List.replicate n (Ev.msg false) ++ [Ev.summary true]) := by
  refine ⟨.normal, initStore, ?_, Or.inl rfl⟩
  unfold workerEvtx
  exact Exec.iteNormal (c := true) (t₁ := []) rfl (Exec.nil _) (Exec.send rfl (W_evtx_loop env n))

open S4V.Model.WorkerProto in
/-- … and of one that does not (`EvtxReader::new` fails: `!` in the tie): `FileInfo(err)`, `FileSummary(err)` -/
theorem W_evtx_new_failed_trace (env : Env) :
    Produces env workerEvtx [Ev.fileInfo false, Ev.summary false] := by
  refine ⟨.ret, initStore, ?_, Or.inr rfl⟩
  unfold workerEvtx
  exact Exec.iteAbrupt (c := false) rfl
    (Exec.send rfl (Exec.send rfl (Exec.ret _ _))) (by decide)

end S4V.Props.EvtxReaderSpec
