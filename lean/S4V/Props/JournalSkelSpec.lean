/-
C09 over the REGENERATED enumeration loop. `S4V.Gen.JournalSkel.SKEL` is the control skeleton of
`JournalReader::analyze` / `next` / `next_fill_buffer` / `next_common` and of the worker loop of
`exec_journalprocessor`, translated from the source text as data (gen/gen_journal.py, whole-body
shape checks); `S4V.Model.JournalSkel` interprets it over an abstract journal. Here: the interpreter
of the regenerated skeleton IS the hand model of `S4V.Model.Journal` (so `C09_window`, `C09_stop_iff`,
`C09_all_once`, `C09_order` hold of the regenerated form), the worker sends every entry `next` finds,
and each one-edit mutant of the source (`S4V.Gen.JournalSkelMutants`) breaks the property.
-/
import S4V.Model.JournalSkel
import S4V.Gen.JournalSkelMutants
import S4V.Props.C09

namespace S4V.Props.JournalSkelSpec
open S4V.Model.JournalSkel S4V.Gen.JournalSkel S4V.Gen.Journal S4V.Gen.Filter S4V.Model.Journal S4V.Props.C09

variable {α : Type}

/-! ### one call of the regenerated `next_common` -/

theorem nc_nil (b : Option Int) : nextCommon SKEL b ([] : List (Item α)) = (.done, []) := rfl

theorem nc_fault (b : Option Int) (r : List (Item α)) : nextCommon SKEL b (.fault :: r) = (.err, r) := rfl

theorem nc_noRt (b : Option Int) (t : Int) (p : α) (r : List (Item α)) :
    nextCommon SKEL b (.entry t false p :: r) = (.errIgnore, r) := rfl

/-- the stop test sits BEFORE the entry is returned, and is the regenerated `stopAt` -/
theorem nc_entry (b : Option Int) (t : Int) (p : α) (r : List (Item α)) :
    nextCommon SKEL b (.entry t true p :: r) = if stopAt t b then (.done, r) else (.found t p, r) := by
  simp only [nextCommon, SKEL, common, runSteps, retOut, stopAt, List.mem_singleton, beq_iff_eq]
  by_cases h : emPassFilters t none b = .AfterRange <;> simp [h]

/-- the worker over a journal with faults, written by hand: an unreadable receive time skips the entry
(`ErrIgnore`), a failing `sd_journal_next` ends the run with `FileErrIo`, the stop test or the end of the
journal end it with `FILEOK` -/
def handF (b : Option Int) : List (Item α) → List α × WResult
  | [] => ([], .ok)
  | .fault :: _ => ([], .ioErr)
  | .entry _ false _ :: r => handF b r
  | .entry t true p :: r => if stopAt t b then ([], .ok) else (p :: (handF b r).1, (handF b r).2)

theorem skel_via : SKEL.via = .dispatch := rfl
theorem skel_onFound : SKEL.worker.onFound = [.send] := rfl
theorem skel_onDone : SKEL.worker.onDone = [.brk] := rfl
theorem skel_onErr : SKEL.worker.onErr = [.record, .brk] := rfl
theorem skel_onErrIgnore : SKEL.worker.onErrIgnore = [] := rfl

theorem workerLoop_eq_handF {b : Option Int} {l : List (Item α)} :
    ∀ {fuel : Nat} {st : FillSt α} {sent : List α}, l.length < fuel →
      workerLoop SKEL b fuel l st sent false = ⟨sent ++ (handF b l).1, (handF b l).2⟩ := by
  induction l with
  | nil =>
    intro fuel st sent h
    cases fuel with
    | zero => simp at h
    | succ f => simp [workerLoop, next, skel_via, nc_nil, skel_onDone, runWActs, handF]
  | cons i r ih =>
    intro fuel st sent h
    cases fuel with
    | zero => simp at h
    | succ f =>
      have hf : r.length < f := by simp at h; omega
      cases i with
      | fault => simp [workerLoop, next, skel_via, nc_fault, skel_onErr, runWActs, handF]
      | entry t ok p =>
        cases ok with
        | false => simp [workerLoop, next, skel_via, nc_noRt, skel_onErrIgnore, runWActs, handF, ih hf]
        | true =>
          by_cases hs : stopAt t b = true
          · simp [workerLoop, next, skel_via, nc_entry, skel_onDone, runWActs, handF, hs]
          · simp [workerLoop, next, skel_via, nc_entry, skel_onFound, runWActs, handF, hs, ih hf]

/-- an entry of the hand model as a position of the abstract journal (payload = the entry itself) -/
def toItem (e : Entry) : Item Entry := .entry e.realtime true e

theorem handF_map (b : Option Int) (es : List Entry) : handF b (es.map toItem) = (iterate b es, .ok) := by
  induction es with
  | nil => rfl
  | cons e r ih =>
    simp only [List.map_cons, toItem, handF, iterate]
    by_cases hs : stopAt e.realtime b = true <;> simp [hs, ih]

/-- `analyze` regenerated: `seek_head` without `--dt-after`, else `seek_realtime_usec(after)` = the hand model's `seek` -/
theorem analyze_eq_seek (a : Option Int) (es : List Entry) :
    runAnalyze SKEL.analyze false a (es.map toItem) = some ((seek a es).map toItem) := by
  cases a with
  | none => rfl
  | some x =>
    simp only [runAnalyze, SKEL, analyze, Bool.false_and, Bool.false_eq_true, ↓reduceIte, doSeekCall, seek, Option.some.injEq]
    induction es with
    | nil => rfl
    | cons e r ih =>
      simp only [List.map_cons, List.dropWhile_cons, toItem]
      by_cases h : e.realtime < x <;> simp [h, ih, toItem]

theorem seek_length_le (a : Option Int) (es : List Entry) : (seek a es).length ≤ es.length := by
  cases a with
  | none => exact Nat.le_refl _
  | some x => exact (List.dropWhile_sublist _).length_le

/-- **C09_iteration_skeleton_is_model.** The worker regenerated from the source (`analyze(after)`, then
`loop { match next(before) … }` with `next` = `next_dispatch` = `next_common`), run over a fault-free journal,
sends exactly the hand model's `select after before` — in that order — and ends with `FILEOK`; whatever the value
`g` of a condition in front of the loop would be (the regenerated skeleton has none). -/
theorem C09_iteration_skeleton_is_model (g : Bool) (a b : Option Int) (es : List Entry) (fuel : Nat) (h : es.length < fuel) :
    runWorker SKEL g false a b (es.map toItem) fuel = ⟨select a b es, .ok⟩ := by
  have hg : SKEL.worker.guard = none := rfl
  unfold runWorker
  rw [analyze_eq_seek]
  simp only [hg, Option.isSome_none, Bool.false_and, Bool.false_eq_true, ↓reduceIte]
  rw [workerLoop_eq_handF (Nat.lt_of_le_of_lt (by rw [List.length_map]; exact seek_length_le a es) h), handF_map]
  simp [select]

example (es : List Entry) : es.length < fuelFor (es.map toItem) := by simp [fuelFor]; omega

/-- `C09_window` of the regenerated form -/
theorem C09_skel_window (a b : Option Int) (es : List Entry) (hs : es.Pairwise (fun x y => x.realtime ≤ y.realtime)) :
    (runWorker SKEL true false a b (es.map toItem) (fuelFor (es.map toItem))).sent
      = es.filter (fun e => emPassFilters e.realtime a b == .InRange) := by
  rw [C09_iteration_skeleton_is_model _ _ _ _ _ (by simp [fuelFor]; omega)]
  exact C09_window a b es hs

/-- each enumerated entry once, in enumeration order (no window) -/
theorem C09_skel_all_once (es : List Entry) :
    runWorker SKEL true false none none (es.map toItem) (fuelFor (es.map toItem)) = ⟨es, .ok⟩ := by
  rw [C09_iteration_skeleton_is_model _ _ _ _ _ (by simp [fuelFor]; omega), C09_all_once]

/-- never duplicated or reordered, whatever the window and the receive times -/
theorem C09_skel_order (a b : Option Int) (es : List Entry) :
    (runWorker SKEL true false a b (es.map toItem) (fuelFor (es.map toItem))).sent.Sublist es := by
  rw [C09_iteration_skeleton_is_model _ _ _ _ _ (by simp [fuelFor]; omega)]
  exact C09_order a b es

example : (runWorker SKEL true false (some 20) (some 20) (exEntries.map toItem) 9).sent.map (·.cursor) = [[100], [101]] := by decide

/-- the positions that end the run: a failing `sd_journal_next`, or a readable entry past `--dt-before` -/
def ends (b : Option Int) : Item α → Bool
  | .fault => true
  | .entry t ok _ => ok && stopAt t b

def readable : Item α → Option α
  | .entry _ true p => some p
  | _ => none

theorem ends_fault (b : Option Int) : ends b (.fault : Item α) = true := rfl
theorem ends_entry (b : Option Int) (t : Int) (ok : Bool) (p : α) : ends b (.entry t ok p) = (ok && stopAt t b) := rfl
theorem readable_true (t : Int) (p : α) : readable (.entry t true p) = some p := rfl
theorem readable_false (t : Int) (p : α) : readable (.entry t false p) = none := rfl

theorem handF_eq (b : Option Int) (l : List (Item α)) :
    handF b l = ((l.takeWhile (fun i => !ends b i)).filterMap readable,
      match l.dropWhile (fun i => !ends b i) with | .fault :: _ => .ioErr | _ => .ok) := by
  induction l with
  | nil => rfl
  | cons i r ih =>
    cases i with
    | fault => simp [handF, ends_fault]
    | entry t ok p =>
      cases ok with
      | false => simp [handF, ends_entry, List.filterMap_cons, readable_false, ih]
      | true => by_cases hs : stopAt t b = true <;> simp [handF, ends_entry, readable_true, hs, ih]

/-- **C09_worker_sends_every_found_entry.** The regenerated worker loop has no exit but `Done` and `Err` and
nothing in front of it: over ANY journal (faults included) it sends the payload of every entry with a readable
receive time, in journal order, up to the first position that ends the run; the file result is `FileErrIo` exactly
when that position is a failing `sd_journal_next`. -/
theorem C09_worker_sends_every_found_entry (g : Bool) (b : Option Int) (all : List (Item α)) :
    runWorker SKEL g false none b all (fuelFor all)
      = ⟨(all.takeWhile (fun i => !ends b i)).filterMap readable,
         match all.dropWhile (fun i => !ends b i) with | .fault :: _ => .ioErr | _ => .ok⟩ := by
  have hg : SKEL.worker.guard = none := rfl
  have ha : runAnalyze SKEL.analyze false none all = some all := rfl
  unfold runWorker
  rw [ha]
  simp only [hg, Option.isSome_none, Bool.false_and, Bool.false_eq_true, ↓reduceIte]
  rw [workerLoop_eq_handF (by simp [fuelFor]; omega), handF_eq]
  simp

/-- a failing seek ends the worker before the loop: nothing is sent, the file result is the error -/
theorem C09_worker_analyze_error (g : Bool) (a b : Option Int) (all : List (Item α)) (fuel : Nat) :
    runWorker SKEL g true a b all fuel = ⟨[], .analyzeErr⟩ := by
  cases a <;> rfl

example : runWorker SKEL true false none (some 3)
    ([.entry 1 true 0, .entry 2 false 1, .entry 3 true 2, .fault, .entry 4 true 3] : List (Item Nat)) 12 = ⟨[0, 2], .ioErr⟩ := by decide

/-! ### counter-models: the skeleton re-translated from the source with ONE edit (`S4V.Gen.JournalSkelMutants`) -/

/-- what `C09_iteration_skeleton_is_model` says of a skeleton -/
def IsModel (sk : Skel) : Prop :=
  ∀ (g : Bool) (a b : Option Int) (es : List Entry) (fuel : Nat), es.length < fuel →
    runWorker sk g false a b (es.map toItem) fuel = ⟨select a b es, .ok⟩

theorem SKEL_isModel : IsModel SKEL := fun g a b es fuel h => C09_iteration_skeleton_is_model g a b es fuel h

def ent (t : Int) : Entry := ⟨t, [], 0, []⟩

/-- stop test moved behind the `Found` return: an entry after `--dt-before` is sent -/
theorem mutant_stopAfterReturn : ¬ IsModel S4V.Gen.JournalSkelMutants.stopAfterReturn.SKEL := by
  intro h
  have := h true none (some 20) [ent 10, ent 30] 3 (by decide)
  revert this; decide

/-- `<=` in the stop comparison: the entry exactly AT `--dt-before` is lost (the bound is inclusive) -/
theorem mutant_stopGe : ¬ IsModel S4V.Gen.JournalSkelMutants.stopGe.SKEL := by
  intro h
  have := h true none (some 20) [ent 10, ent 20] 3 (by decide)
  revert this; decide

/-- `seek_head` although `--dt-after` is given: entries before the bound are sent. Nothing downstream removes them:
`next_common` passes `&None` as the after-bound of `em_pass_filters`, and the main thread prints what it receives. -/
theorem mutant_seekHeadAlways : ¬ IsModel S4V.Gen.JournalSkelMutants.seekHeadAlways.SKEL := by
  intro h
  have := h true (some 20) none [ent 10, ent 30] 3 (by decide)
  revert this; decide

/-- seeded C09-e: a condition in front of the loop; when it is false nothing is sent -/
theorem mutant_workerGuarded : ¬ IsModel S4V.Gen.JournalSkelMutants.workerGuarded.SKEL := by
  intro h
  have := h false none none [ent 10] 2 (by decide)
  revert this; decide

/-- seeded C09-d: `next` through the fill buffer; a journal whose receive times step back comes out sorted -/
theorem mutant_nextViaFill : ¬ IsModel S4V.Gen.JournalSkelMutants.nextViaFill.SKEL := by
  intro h
  have := h true none none [ent 30, ent 10] 6 (by decide)
  revert this; decide

/-- `Done => {}` (no `break`): the loop has no exit at the end of the journal -/
theorem mutant_doneNoBreak : ¬ IsModel S4V.Gen.JournalSkelMutants.doneNoBreak.SKEL := by
  intro h
  have := h true none none [ent 10] 5 (by decide)
  revert this; decide

/-- return-code tests of `sd_journal_next` swapped: the end of the journal is reported as `FileErrIo` -/
theorem mutant_zeroIsErr : ¬ IsModel S4V.Gen.JournalSkelMutants.zeroIsErr.SKEL := by
  intro h
  have := h true none none [ent 10] 5 (by decide)
  revert this; decide

/-- the fill buffer itself (not on the path of the hard-wired override) still hands out every entry once: on the
example it is a permutation sorted by (receive time, index) -/
example : (runWorker S4V.Gen.JournalSkelMutants.nextViaFill.SKEL true false none none
    ([.entry 30 true 0, .entry 10 true 1, .entry 30 true 2, .entry 20 true 3] : List (Item Nat)) 10) = ⟨[1, 3, 0, 2], .ok⟩ := by decide

end S4V.Props.JournalSkelSpec
