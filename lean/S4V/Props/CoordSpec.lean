/-
Properties of the coordinator loop model (`S4V/Model/Coord.lean`); the definitions the statements use (`WF`, `deliverable`,
`specMsgs`, `Inv`, `μ`) are in `S4V/Lemmas/Coord.lean`.

Deviations from the requested statements (each is justified by a refutation of
the requested form, see `*_full`/`*_full_false`):
* `no_break`/`progress`/`bprogress` need `scripts ≠ []`: `init []` has
  `fi = some []`, so `waitCond` holds with nothing to poll and `brk` is enabled.
  (The real program returns before the loop when no channel was created.)
* the run-length bound counts loop iterations, i.e. all events except the
  stutter `Ev.fin`, which is enabled forever once `fin = true`.
* `confluence`, `isolation`, `errs_spec`, `terminates` hold for arbitrary scripts
  (no `WF` needed); `WF` is needed exactly for "never stops early".
-/
import S4V.Lemmas.Coord

namespace S4V.Props.CoordSpec
open S4V.Model.Coord S4V.Lemmas.Coord

def Reachable (scripts : List (List Datum)) (s : St) : Prop :=
  ∃ evs, run (init scripts) evs = some s

/-- two well-formed sources with interleaved and equal instants -/
def ex2 : List (List Datum) :=
  [ [.fileInfo true, .msg ⟨1, 0⟩, .msg ⟨3, 1⟩, .summary true],
    [.fileInfo true, .msg ⟨1, 0⟩, .msg ⟨2, 1⟩, .summary false] ]

def ex2run : List Ev :=
  [.recv 1, .recv 0, .recv 0, .recv 1, .print, .recv 0, .print, .recv 1, .print, .recv 1, .print, .recv 0]

example : WF ex2 := by decide
example : ex2 ≠ [] := by decide

example : (run (init ex2) ex2run).map (fun s => (s.fin, s.broke, s.errs, s.printed)) =
    some (true, false, 1, [(0, ⟨1, 0⟩), (1, ⟨1, 0⟩), (1, ⟨2, 1⟩), (0, ⟨3, 1⟩)]) := by decide

theorem ex2_reachable : ∃ s, run (init ex2) ex2run = some s ∧ s.fin = true :=
  ⟨_, rfl, rfl⟩

/-- a faulty source: data after its summary, and a source that disconnects without summary -/
def exFaulty : List (List Datum) :=
  [ [.fileInfo true, .msg ⟨5, 0⟩, .summary true, .msg ⟨6, 1⟩],
    [.fileInfo false, .msg ⟨4, 0⟩] ]

example : WF exFaulty := by decide

theorem inv_holds_init (scripts : List (List Datum)) : Inv scripts (init scripts) :=
  inv_init scripts

theorem inv_preserved {scripts : List (List Datum)} (hwf : WF scripts) {s s' : St} {e : Ev}
    (hi : Inv scripts s) (hs : step s e = some s') : Inv scripts s' :=
  inv_step hwf hi hs

theorem inv_reachable {scripts : List (List Datum)} (hwf : WF scripts) {s : St}
    (hr : Reachable scripts s) : Inv scripts s := by
  obtain ⟨evs, h⟩ := hr
  exact inv_run hwf (inv_init scripts) h

theorem inv0_reachable {scripts : List (List Datum)} {s : St}
    (hr : Reachable scripts s) : Inv0 scripts s := by
  obtain ⟨evs, h⟩ := hr
  exact inv0_run (inv0_init scripts) h

theorem inv_spelled {scripts : List (List Datum)} {s : St} (h : Inv scripts s) :
    -- shapes
    (s.streams.length = scripts.length ∧ s.live.length = scripts.length ∧
      s.pending.length = scripts.length) ∧
    -- a pending message belongs to a live channel
    (∀ i : Nat, (s.pending.getD i none).isSome = true → s.live.getD i false = true) ∧
    -- what is still to come is a suffix of the script
    (∀ i : Nat, s.streams.getD i [] <:+ scripts.getD i []) ∧
    -- while the FileInfo flags exist: flag `false` ⇔ nothing of that source was received
    (∀ flags, s.fi = some flags → ∀ i, i < scripts.length →
      (flags.getD i true = false ↔ s.streams.getD i [] = scripts.getD i []) ∧
      (flags.getD i true = false → s.live.getD i false = true ∧ s.pending.getD i none = none)) ∧
    -- flags cleared: every source's FileInfo has been received
    (s.fi = none → ∀ i, i < scripts.length →
      (s.streams.getD i []).length < (scripts.getD i []).length) ∧
    -- conservation of messages and of errors
    s.printed ++ merge (rems s) = merge (specMsgs scripts) ∧
    s.errs + ((List.range scripts.length).map (errsRem s)).sum = (scripts.map errsOf).sum ∧
    -- the loop ends exactly when no channel is left
    (s.fin = true → countTrue s.live = 0) := by
  obtain ⟨hb, hf, hfi⟩ := h
  refine ⟨⟨hb.len_streams, hb.len_live, hb.len_pending⟩, hb.pend_live, hb.suffix, ?_, hfi.fi_none,
    hb.cons, hb.errs, hf.fin_dead⟩
  intro flags hfl i hi
  obtain ⟨h1, h2⟩ := hfi.fi_some flags hfl i hi
  refine ⟨⟨fun h => (h1 h).1, fun h => ?_⟩, fun h => (h1 h).2⟩
  cases hf' : flags.getD i true with
  | false => rfl
  | true => have := h2 hf'; rw [h] at this; omega

example : Reachable ex2 (init ex2) := ⟨[], rfl⟩

/-- for scripts with nothing after the first summary, everything is deliverable -/
theorem deliverable_of_tidy (sc : List Datum)
    (h : ∀ pre ok post, sc = pre ++ Datum.summary ok :: post → post = []) : deliverable sc = sc := by
  induction sc with
  | nil => rfl
  | cons d r ih =>
    have hr : ∀ pre ok post, r = pre ++ Datum.summary ok :: post → post = [] := by
      intro pre ok post e
      exact h (d :: pre) ok post (by rw [e]; rfl)
    cases d with
    | fileInfo ok => simp [deliverable, ih hr]
    | msg m => simp [deliverable, ih hr]
    | summary ok => simp [deliverable]; exact (h [] ok r rfl)

example : ∀ sc ∈ ex2, deliverable sc = sc := by decide
example : deliverable (exFaulty.getD 0 []) = [.fileInfo true, .msg ⟨5, 0⟩, .summary true] := by decide

/-! ## C06: the loop never stops early -/

theorem no_break {scripts : List (List Datum)} (hwf : WF scripts) (hne : scripts ≠ []) {s : St}
    (hr : Reachable scripts s) : step s .brk = none :=
  inv_no_break hne (inv_reachable hwf hr)

/-- equivalently: whenever the loop waits, some channel is polled -/
theorem wait_has_eligible {scripts : List (List Datum)} (hwf : WF scripts) (hne : scripts ≠ [])
    {s : St} (hr : Reachable scripts s) (hw : waitCond s = true) : ∃ i, eligible s i = true :=
  anyEligible_iff.1 (inv_anyEligible hne (inv_reachable hwf hr) hw)

theorem never_broke {scripts : List (List Datum)} (hwf : WF scripts) (hne : scripts ≠ []) {s : St}
    (hr : Reachable scripts s) : s.broke = false := by
  obtain ⟨evs, h⟩ := hr
  exact inv_broke hwf hne (inv_init scripts) rfl h

example : ∀ s, Reachable ex2 s → step s .brk = none :=
  fun _ hr => no_break (by decide) (by decide) hr

/-- the requested form (without `scripts ≠ []`) is false of the model -/
def no_break_full : Prop :=
  ∀ (scripts : List (List Datum)) (s : St), WF scripts → Reachable scripts s → step s .brk = none

theorem no_break_full_false : ¬ no_break_full := by
  intro h
  have := h [] (init []) (by intro sc hsc; cases hsc) ⟨[], rfl⟩
  revert this
  decide

/-- `WF` is needed: if a worker dies before sending its FileInfo (script `[]`), the
loop can stop early, printing nothing although a message was received. -/
def exDead : List (List Datum) := [[.fileInfo true, .msg ⟨1, 0⟩, .summary true], []]

theorem wf_needed :
    ∃ evs s, run (init exDead) evs = some s ∧ s.broke = true ∧ s.printed = [] ∧
      merge (specMsgs exDead) ≠ [] :=
  ⟨[.recv 0, .recv 0, .recv 1, .brk], _, rfl, rfl, rfl, by decide⟩

example : ¬ WF exDead := by decide

/-! ## C01/C06: the output is a function of the inputs -/

/-- whatever the schedule, a finished run has printed exactly the merge -/
theorem confluence (scripts : List (List Datum)) (evs : List Ev) (s : St)
    (hr : run (init scripts) evs = some s) (hf : s.fin = true) :
    s.printed = merge (scripts.map (fun sc => msgsOf (deliverable sc))) :=
  fin_printed (inv0_reachable ⟨evs, hr⟩) hf

/-- two finished runs print the same -/
theorem confluence' (scripts : List (List Datum)) (evs₁ evs₂ : List Ev) (s₁ s₂ : St)
    (h₁ : run (init scripts) evs₁ = some s₁) (h₂ : run (init scripts) evs₂ = some s₂)
    (f₁ : s₁.fin = true) (f₂ : s₂.fin = true) : s₁.printed = s₂.printed := by
  rw [confluence scripts evs₁ s₁ h₁ f₁, confluence scripts evs₂ s₂ h₂ f₂]

example : ∃ s, run (init ex2) ex2run = some s ∧ s.fin = true ∧
    s.printed = merge (ex2.map (fun sc => msgsOf (deliverable sc))) :=
  ⟨_, rfl, rfl, by decide⟩

/-- at every moment the printed sequence is a prefix of the specification -/
theorem printed_prefix {scripts : List (List Datum)} {s : St} (hr : Reachable scripts s) :
    s.printed <+: merge (specMsgs scripts) :=
  ⟨_, (inv0_reachable hr).1.cons⟩

/-! ## C06: termination and progress -/

theorem measure_decreases {s s' : St} {e : Ev} (hs : step s e = some s') (he : e ≠ .fin) :
    μ s' < μ s :=
  step_decreases hs he

example : ∃ s', step (init ex2) (.recv 1) = some s' ∧ μ s' < μ (init ex2) := ⟨_, rfl, by decide⟩

/-- the number of loop iterations of any run is at most `μ (init scripts)` -/
theorem terminates (scripts : List (List Datum)) (evs : List Ev) (s : St)
    (hr : run (init scripts) evs = some s) :
    iterations evs ≤ 2 * (scripts.map List.length).sum + scripts.length + 2 := by
  have := run_iterations hr
  rw [μ_init] at this
  omega

example : iterations ex2run = 12 ∧ 2 * (ex2.map List.length).sum + ex2.length + 2 = 20 := by decide

/-- once finished, only the stutter `Ev.fin` is enabled and it changes nothing -/
theorem after_fin {s s' : St} {e : Ev} (hf : s.fin = true) (hs : step s e = some s') : s' = s := by
  cases Step.of_step hs with
  | iter h1 => rw [hf] at h1; cases h1
  | brk h1 => rw [hf] at h1; cases h1
  | fin => rfl

/-- a bound on the raw length of runs is false: `Ev.fin` stutters -/
def run_length_full : Prop :=
  ∀ (scripts : List (List Datum)) (evs : List Ev) (s : St), WF scripts →
    run (init scripts) evs = some s →
    evs.length ≤ (scripts.map List.length).sum + 2 * scripts.length +
      ((scripts.map msgsOf).map List.length).sum + 1

theorem run_length_full_false : ¬ run_length_full := by
  intro h
  have := h [[.fileInfo true, .summary true]] [.recv 0, .recv 0, .fin, .fin, .fin, .fin] _
    (by decide) rfl
  revert this
  decide

theorem progress {scripts : List (List Datum)} (hwf : WF scripts) (hne : scripts ≠ []) {s : St}
    (hr : Reachable scripts s) (hf : s.fin = false) :
    (step s .print).isSome = true ∨ ∃ i, (step s (.recv i)).isSome = true :=
  inv_progress hne (inv_reachable hwf hr) hf (never_broke hwf hne hr)

example : (step (init ex2) .print).isSome = true ∨ ∃ i, (step (init ex2) (.recv i)).isSome = true :=
  progress (by decide) (by decide) ⟨[], rfl⟩ rfl

/-- hence (with `terminates`) every run can be extended to a finished one, and by
`confluence` all of them print the same. -/
theorem can_finish {scripts : List (List Datum)} (hwf : WF scripts) (hne : scripts ≠ []) :
    ∀ (n : Nat) (s : St), Reachable scripts s → μ s ≤ n →
      ∃ evs s', run s evs = some s' ∧ s'.fin = true :=
  fun _ _ hr _ => inv_can_finish hwf hne (inv_reachable hwf hr) (never_broke hwf hne hr)

/-! ## C01: the specification `merge` (pure list facts) -/

theorem merge_per_source (ls : List (List Msg)) (i : Nat) :
    ((merge ls).filter (fun p => p.1 = i)).map (fun p => p.2) = ls.getD i [] :=
  S4V.Lemmas.Coord.merge_per_source ls i

/-- the element selected: head of its list, no head earlier, lower-numbered heads strictly later -/
theorem minHead_spec {ls : List (List Msg)} {i : Nat} {m : Msg} (h : minHead ls = some (i, m)) :
    (ls.getD i []).head? = some m ∧
    (∀ (j : Nat) (m' : Msg), (ls.getD j []).head? = some m' → m.dt ≤ m'.dt) ∧
    (∀ (j : Nat) (m' : Msg), j < i → (ls.getD j []).head? = some m' → m.dt < m'.dt) :=
  minHead_eq_some_iff.1 h

/-- and conversely (so `minHead` is characterised) -/
theorem minHead_complete {ls : List (List Msg)} {i : Nat} {m : Msg}
    (h1 : (ls.getD i []).head? = some m)
    (h2 : ∀ (j : Nat) (m' : Msg), (ls.getD j []).head? = some m' → m.dt ≤ m'.dt)
    (h3 : ∀ (j : Nat) (m' : Msg), j < i → (ls.getD j []).head? = some m' → m.dt < m'.dt) :
    minHead ls = some (i, m) :=
  minHead_eq_some_iff.2 ⟨h1, h2, h3⟩

theorem minHead_none_iff {ls : List (List Msg)} : minHead ls = none ↔ ∀ j : Nat, ls.getD j [] = [] :=
  minHead_eq_none_iff

theorem merge_unfold {ls : List (List Msg)} {i : Nat} {m : Msg} (h : minHead ls = some (i, m)) :
    merge ls = (i, m) :: merge (popAt ls i) :=
  merge_step h

/-- two sources, interleaved and equal instants -/
def exLs : List (List Msg) := [[⟨1, 0⟩, ⟨3, 1⟩, ⟨3, 2⟩], [⟨1, 0⟩, ⟨2, 1⟩, ⟨3, 2⟩]]

example : minHead exLs = some (0, ⟨1, 0⟩) := by decide
example : merge exLs =
    [(0, ⟨1, 0⟩), (1, ⟨1, 0⟩), (1, ⟨2, 1⟩), (0, ⟨3, 1⟩), (0, ⟨3, 2⟩), (1, ⟨3, 2⟩)] := by decide

/-- every element of the output was, when emitted, the first minimum among the heads of
what was then left -/
theorem merge_next_is_earliest {ls : List (List Msg)} {pre post : List (Nat × Msg)} {i : Nat}
    {m : Msg} (h : merge ls = pre ++ (i, m) :: post) :
    ∃ ls' : List (List Msg), ls'.length = ls.length ∧ (∀ j : Nat, ls'.getD j [] <:+ ls.getD j []) ∧
      merge ls' = (i, m) :: post ∧
      (ls'.getD i []).head? = some m ∧
      (∀ (j : Nat) (m' : Msg), (ls'.getD j []).head? = some m' → m.dt ≤ m'.dt) ∧
      (∀ (j : Nat) (m' : Msg), j < i → (ls'.getD j []).head? = some m' → m.dt < m'.dt) := by
  obtain ⟨ls', h1, h2, h3⟩ := merge_drop pre.length ls
  rw [h, List.drop_left] at h1
  exact ⟨ls', h2, h3, h1.symm, minHead_eq_some_iff.1 (merge_cons_inv h1.symm).1⟩

example : merge exLs = [(0, ⟨1, 0⟩), (1, ⟨1, 0⟩)] ++ (1, ⟨2, 1⟩) :: [(0, ⟨3, 1⟩), (0, ⟨3, 2⟩), (1, ⟨3, 2⟩)] := by
  decide

theorem merge_sorted (ls : List (List Msg))
    (h : ∀ j : Nat, (ls.getD j []).Pairwise (fun a b => a.dt ≤ b.dt)) :
    ((merge ls).map (fun p => p.2.dt)).Pairwise (· ≤ ·) := by
  rw [List.pairwise_map]
  refine List.Pairwise.imp ?_ (S4V.Lemmas.Coord.merge_sorted_lex ls h)
  intro a b hab
  simp only [LexLe] at hab
  omega

/-- with sorted inputs the output is sorted lexicographically by (instant, PathId) -/
theorem merge_sorted_lex (ls : List (List Msg))
    (h : ∀ j : Nat, (ls.getD j []).Pairwise (fun a b => a.dt ≤ b.dt)) :
    (merge ls).Pairwise (fun a b => a.2.dt < b.2.dt ∨ (a.2.dt = b.2.dt ∧ a.1 ≤ b.1)) :=
  S4V.Lemmas.Coord.merge_sorted_lex ls h

theorem merge_ties {ls : List (List Msg)}
    (hs : ∀ j : Nat, (ls.getD j []).Pairwise (fun a b => a.dt ≤ b.dt))
    {pre mid post : List (Nat × Msg)} {i j : Nat} {m m' : Msg}
    (h : merge ls = pre ++ (i, m) :: (mid ++ (j, m') :: post)) (hdt : m.dt = m'.dt) : i ≤ j := by
  have hp := S4V.Lemmas.Coord.merge_sorted_lex ls hs
  rw [h] at hp
  -- from `(i, m)` on the output is sorted, so `(i, m)` is `LexLe` everything after it
  obtain ⟨_, hq, _⟩ := List.pairwise_append.1 hp
  have := (List.pairwise_cons.1 hq).1 (j, m') (by simp)
  simp only [LexLe] at this
  omega

theorem exLs_sorted : ∀ j : Nat, (exLs.getD j []).Pairwise (fun a b => a.dt ≤ b.dt) := by
  intro j
  match j with
  | 0 => decide
  | 1 => decide
  | j + 2 => simp [exLs]

example : ((merge exLs).map (fun p => p.2.dt)).Pairwise (· ≤ ·) := merge_sorted exLs exLs_sorted

/-! ## C07: isolation, and the error count -/

theorem filter_merge (h : Nat → Bool) (ls : List (List Msg)) :
    (merge ls).filter (fun p => h p.1) =
      merge (ls.mapIdx (fun i l => if h i then l else [])) :=
  S4V.Lemmas.Coord.filter_merge h ls

example : (merge exLs).filter (fun p => p.1 == 1) = merge [[], [⟨1, 0⟩, ⟨2, 1⟩, ⟨3, 2⟩]] := by decide

/-- what is printed for the healthy sources does not depend on the other sources' scripts:
it is the merge of the healthy sources' messages (indices preserved) -/
theorem isolation (healthy : Nat → Bool) (scripts : List (List Datum)) (evs : List Ev) (s : St)
    (hr : run (init scripts) evs = some s) (hf : s.fin = true) :
    s.printed.filter (fun p => healthy p.1) =
      merge ((specMsgs scripts).mapIdx (fun i l => if healthy i then l else [])) := by
  rw [confluence scripts evs s hr hf]
  exact S4V.Lemmas.Coord.filter_merge healthy (specMsgs scripts)

/-- in particular two script lists that agree on the healthy sources print the same for them -/
theorem isolation' (healthy : Nat → Bool) (sc₁ sc₂ : List (List Datum))
    (hlen : sc₁.length = sc₂.length)
    (hag : ∀ i, healthy i = true → sc₁.getD i [] = sc₂.getD i [])
    (evs₁ evs₂ : List Ev) (s₁ s₂ : St)
    (h₁ : run (init sc₁) evs₁ = some s₁) (h₂ : run (init sc₂) evs₂ = some s₂)
    (f₁ : s₁.fin = true) (f₂ : s₂.fin = true) :
    s₁.printed.filter (fun p => healthy p.1) = s₂.printed.filter (fun p => healthy p.1) := by
  rw [isolation healthy sc₁ evs₁ s₁ h₁ f₁, isolation healthy sc₂ evs₂ s₂ h₂ f₂]
  congr 1
  refine ext_getD (d := []) (by simp [specMsgs, hlen]) fun j => ?_
  rw [← mask, ← mask, mask_getD, mask_getD, specMsgs_getD, specMsgs_getD]
  cases hh : healthy j with
  | false => rfl
  | true => rw [hag j hh]

example : ∃ s, run (init exFaulty) [.recv 0, .recv 1, .recv 1, .recv 0, .print, .recv 1, .print, .recv 0] = some s ∧
    s.fin = true ∧ s.printed.filter (fun p => p.1 == 0) = [(0, ⟨5, 0⟩)] := ⟨_, rfl, rfl, by decide⟩

/-- the error count at the end: not-ok FileInfo/Summary data received, plus disconnects -/
theorem errs_spec (scripts : List (List Datum)) (evs : List Ev) (s : St)
    (hr : run (init scripts) evs = some s) (hf : s.fin = true) :
    s.errs = (scripts.map (fun sc =>
      ((deliverable sc).filter (fun d => !okDatum d)).length +
        (if (deliverable sc).any isSummary then 0 else 1))).sum := by
  rw [fin_errs (inv0_reachable ⟨evs, hr⟩) hf]
  congr 1
  apply List.map_congr_left
  intro sc _
  exact errsOf_eq sc

/-- the run reports success iff all deliverable data are ok and every source sent its summary -/
theorem errs_zero_iff (scripts : List (List Datum)) (evs : List Ev) (s : St)
    (hr : run (init scripts) evs = some s) (hf : s.fin = true) :
    s.errs = 0 ↔ ∀ sc ∈ scripts,
      (∀ d ∈ deliverable sc, okDatum d = true) ∧ (deliverable sc).any isSummary = true := by
  rw [fin_errs (inv0_reachable ⟨evs, hr⟩) hf]
  exact sum_errsOf_eq_zero_iff scripts

example : ∃ s, run (init exFaulty) [.recv 0, .recv 1, .recv 1, .recv 0, .print, .recv 1, .print, .recv 0] = some s ∧
    s.fin = true ∧ s.errs = 2 := ⟨_, rfl, rfl, rfl⟩

/-- every layer-2 step is a worker step invisible at layer 1, or a layer-1 step -/
theorem bstep_refines {scripts : List (List Datum)} {cap : Nat} {b b' : BSt} {ev : BEv}
    (hw : BWf scripts b) (h : bstep cap b ev = some b') :
    match ev with
    | .coord e => step (abs b) e = some (abs b')
    | _ => abs b' = abs b :=
  (bstep_sim hw h).2

/-- `BWf` (shapes agree; a closed worker has nothing left to send) is an invariant of layer 2 -/
theorem bwf_invariant {scripts : List (List Datum)} {cap : Nat} :
    BWf scripts (binit scripts) ∧
    ∀ {b b' : BSt} {ev : BEv}, BWf scripts b → bstep cap b ev = some b' → BWf scripts b' :=
  ⟨bwf_init scripts, fun hw h => (bstep_sim hw h).1⟩

theorem layer2_projects {cap : Nat} {scripts : List (List Datum)} {b : BSt}
    (h : BReach cap scripts b) : Reachable scripts (abs b) :=
  (breach_abs h).2

/-- an execution with capacity 1: the workers block, the coordinator drains -/
def ex2brun : List BEv :=
  [.send 0, .send 1, .coord (.recv 1), .coord (.recv 0), .send 0, .send 1, .coord (.recv 0)]

theorem ex2_breach : ∃ b, brun 1 (binit ex2) ex2brun = some b ∧
    b.core.pending = [some ⟨1, 0⟩, none] ∧ b.buf = [[], [.msg ⟨1, 0⟩]] := ⟨_, rfl, rfl, rfl⟩

theorem b_no_break {cap : Nat} {scripts : List (List Datum)} (hwf : WF scripts) (hne : scripts ≠ [])
    {b : BSt} (h : BReach cap scripts b) : bstep cap b (.coord .brk) = none := by
  have h2 := step_other_frame b.core (absStreams b) .brk (by simp)
  rw [← abs_eq, no_break hwf hne (layer2_projects h)] at h2
  rw [bstep_coord b (by simp), Option.map_eq_none_iff.1 h2.symm]
  rfl

theorem b_confluence {cap : Nat} {scripts : List (List Datum)} {b : BSt}
    (h : BReach cap scripts b) (hf : b.core.fin = true) :
    b.core.printed = merge (scripts.map (fun sc => msgsOf (deliverable sc))) := by
  obtain ⟨evs, hr⟩ := layer2_projects h
  exact confluence scripts evs (abs b) hr hf

theorem b_isolation {cap : Nat} (healthy : Nat → Bool) {scripts : List (List Datum)} {b : BSt}
    (h : BReach cap scripts b) (hf : b.core.fin = true) :
    b.core.printed.filter (fun p => healthy p.1) =
      merge ((specMsgs scripts).mapIdx (fun i l => if healthy i then l else [])) := by
  obtain ⟨evs, hr⟩ := layer2_projects h
  exact isolation healthy scripts evs (abs b) hr hf

theorem bprogress {cap : Nat} (hcap : 1 ≤ cap) {scripts : List (List Datum)} (hwf : WF scripts)
    (hne : scripts ≠ []) {b : BSt} (hr : BReach cap scripts b) (hf : b.core.fin = false) :
    ∃ ev, (bstep cap b ev).isSome = true := by
  obtain ⟨hw, evs, hrun⟩ := breach_abs hr
  have hinv : Inv scripts (abs b) := inv_run hwf (inv_init scripts) hrun
  have hbk : (abs b).broke = false := inv_broke hwf hne (inv_init scripts) rfl hrun
  cases hwc : waitCond b.core with
  | false =>
    obtain ⟨c, hc⟩ := Option.isSome_iff_exists.1 (step_print_enabled hf hbk hwc)
    exact ⟨.coord .print, by simp only [bstep, hc]; rfl⟩
  | true =>
    -- the coordinator polls some channel `i`: it can receive if something is buffered or the sender is gone;
    -- otherwise worker `i` can send (its buffer is empty, `cap ≥ 1`) or drop its sender
    obtain ⟨i, hel⟩ : ∃ i, eligible b.core i = true := anyEligible_iff.1 (inv_anyEligible hne hinv (s := abs b) hwc)
    have hi : i < scripts.length := hinv.1.lt_of_live (s := abs b) (eligible_iff.1 hel).1
    cases hb : b.buf.getD i [] with
    | cons d r =>
      obtain ⟨c, hc⟩ := Option.isSome_iff_exists.1
        (step_recv_enabled (s := { b.core with streams := b.core.streams.set i [d] }) hf hbk hwc hel)
      exact ⟨.coord (.recv i), by simp only [bstep, hb, hc]; rfl⟩
    | nil =>
      cases hcl : b.closed.getD i false with
      | true =>
        obtain ⟨c, hc⟩ := Option.isSome_iff_exists.1
          (step_recv_enabled (s := { b.core with streams := b.core.streams.set i [] }) hf hbk hwc hel)
        exact ⟨.coord (.recv i), by simp only [bstep, hb, hcl, if_true, hc]; rfl⟩
      | false =>
        have hcl' : b.closed.getD i true = false := by
          rw [getD_default_irrel b.closed i true false (by rw [hw.len_closed]; exact hi)]; exact hcl
        cases hts : b.toSend.getD i [] with
        | cons d r =>
          refine ⟨.send i, ?_⟩
          simp only [bstep, hts, hb, hcl']
          simp; omega
        | nil =>
          refine ⟨.close i, ?_⟩
          simp only [bstep, hts, hcl']
          simp

example : ∃ b, BReach 1 ex2 b ∧ b.core.fin = false :=
  ⟨_, ⟨ex2brun, rfl⟩, rfl⟩

end S4V.Props.CoordSpec
