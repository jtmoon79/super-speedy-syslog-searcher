/-
C14 — first-match agreement for ALL rows of `CLI_FILTER_PATTERNS`.

`process_dt` (src/bin/s4.rs) tries the 76 pattern rows in table order and returns what the FIRST
row that parses gives. `C14_abs` (S4V.Props.CliSpec) says what each row gives for the values of its
OWN grammar. That `process_dt` as a whole gives the same is `S4V.Lemmas.CliRows.processDtL_render`, stated
here as `C14_first_match_full`: for each ordered pair (earlier row `rj`, later row `ri`) the generated table
decides (`S4V.Lemmas.CliNoSteal.pairOk` = `refusePair` or `agreePair`; the cases of each are listed at the head of
`S4V.Lemmas.CliNoSteal`) that `rj` refuses every value of `ri`, or refuses it or reads it to the same chrono
`Parsed` record under the same `has_tz` flag. `C14_no_steal` (S4V.Props.CliSpec) is the same statement for the
11 rows that `noStealRow` finds, proved from refusal alone.

The facts come from `S4V.Gen.CliTables` (rows, zone-name table, appended midnight); `S4V.Gen.CliItems` is a
generated CACHE of the rows' item lists, checked in Lean against the rows (`infos_eq`). Every theorem
below rests on decisions that unfold `cliFilterPatterns` (`row_facts`, giving `rows_ok` and `infos_eq`;
`table_kinds`) and `tzTable` (`tz_facts`, giving `tzTable_ok`, `zulu_names`, `lookupTz_nil`), so adding,
editing or reordering a row in s4.rs re-runs the decision.
-/
import S4V.Props.CliSpec
import S4V.Lemmas.CliNoStealTable

namespace S4V.Props.CliNoStealSpec
open S4V.Model.Cli S4V.Gen.CliTables S4V.Lemmas.CliAbs S4V.Lemmas.CliNoSteal S4V.Props.CliSpec

/-- For EVERY row of the generated table, EVERY value of the row's grammar
(`Fields.Valid`; `styleOk`: a `%z` / `%:z` row is given the minutes) resolves through the WHOLE of
`process_dt` — all earlier rows tried first — to the documented instant, whatever `--tz-offset`, the
other bound and the clock. -/
theorem C14_first_match_full (i : Nat) (row : Row) (hrow : cliFilterPatterns[i]? = some row)
    (f : Fields) (hf : f.Valid) (hst : styleOk f (parsePattern row.pattern.toList) = true)
    (tz : Int) (htz : -86400 < tz ∧ tz < 86400) (other : Option DT) (now : Int) :
    processDtL (render row f) tz other now = .some (denote row f tz) :=
  S4V.Lemmas.CliRows.processDtL_render i row hrow f hf hst tz htz other now

theorem C14_first_match_mem (row : Row) (hrow : row ∈ cliFilterPatterns)
    (f : Fields) (hf : f.Valid) (hst : styleOk f (parsePattern row.pattern.toList) = true)
    (tz : Int) (htz : -86400 < tz ∧ tz < 86400) (other : Option DT) (now : Int) :
    processDtL (render row f) tz other now = .some (denote row f tz) := by
  obtain ⟨i, hi⟩ := List.getElem?_of_mem hrow
  exact C14_first_match_full i row hi f hf hst tz htz other now

/-- `process_dt` as called (`String` value, other bound in epoch nanoseconds) -/
theorem C14_first_match_processDt (row : Row) (hrow : row ∈ cliFilterPatterns)
    (f : Fields) (hf : f.Valid) (hst : styleOk f (parsePattern row.pattern.toList) = true)
    (tz : Int) (htz : -86400 < tz ∧ tz < 86400) (other : Option Int) (now : Int) :
    processDt (String.ofList (render row f)) tz other now = .some (denote row f tz) := by
  simp only [processDt, String.toList_ofList]
  exact C14_first_match_mem row hrow f hf hst tz htz _ now

/-! ### the hypotheses are satisfiable; the statement says something for stolen rows -/

-- a `%Z` value: `2024-02-29T23:59:60 PST` (row 54) is FIRST read by row 51 (`%S%Z`), with the same result
example (tz : Int) (htz : -86400 < tz ∧ tz < 86400) (other : Option DT) (now : Int) :
    processDtL "2024-02-29T23:59:60 PST".toList tz other now =
      .some (civilDT 2024 2 29 23 59 60 0 (-28800)) := by
  have h := C14_first_match_full 54 ⟨"%Y-%m-%dT%H:%M:%S %Z", true, true, true, true⟩ rfl exFields exFields_valid
    (by decide +kernel) tz htz other now
  have e : render ⟨"%Y-%m-%dT%H:%M:%S %Z", true, true, true, true⟩ exFields = "2024-02-29T23:59:60 PST".toList := by
    decide +kernel
  rw [e] at h
  rw [h, C14_abs_zone_wins _ exFields tz 0 (by decide +kernel) (Or.inr (by decide +kernel))]
  decide +kernel

-- any `%:z` value of the help text's ISO form, any valid fields
example (f : Fields) (hf : f.Valid) (hz : f.zstyle = .colon) (tz : Int) (htz : -86400 < tz ∧ tz < 86400)
    (other : Option DT) (now : Int) :
    processDtL (render ⟨"%Y-%m-%dT%H:%M:%S%:z", true, true, false, true⟩ f) tz other now =
      .some (civilDT f.year f.month f.day f.hour f.minute f.second 0 f.zoneOff) :=
  C14_first_match_full 39 _ rfl f hf (by simp [styleOk, hz]) tz htz other now

/-- an earlier row really does read values of later rows (so refusal alone cannot prove the statement):
row 33 `%Y-%m-%dT%H:%M:%S%z` accepts the value `2024-02-29T23:59:58 +0530` of row 34 (`%S %z`) -/
theorem C14_steal_happens :
    (match cliFilterPatterns[33]?, cliFilterPatterns[34]? with
     | some rj, some ri => (attemptRow rj (render ri reprFields) 0).isSome && !refusePair rj ri && agreePair rj ri
     | _, _ => false) = true := by decide +kernel

/-- the rows ALL of whose earlier rows refuse every value (decided on the table): the 11 rows of
`C14_no_steal_rows`, the zone-less `.%6f` rows, the first `%z` rows of each skeleton and `+%s` -/
def refusedRows : List Nat :=
  [0, 1, 2, 3, 4, 5, 15, 16, 17, 18, 19, 20, 30, 31, 32, 33, 35, 36, 57, 58, 59, 60, 61, 62, 72, 73, 74, 75]

theorem C14_refused_rows : rowsWhere refusePairI (cliFilterPatterns.map rowInfo) = refusedRows := by
  rw [infos_eq]; exact table_refused

/-- `C14_no_steal` extended: for those 28 rows no earlier row reads ANY value of the row -/
theorem C14_no_steal_ext (i : Nat) (hi : i ∈ refusedRows) (row : Row) (hrow : cliFilterPatterns[i]? = some row)
    (f : Fields) (hf : f.Valid) (tz : Int) :
    ∀ r ∈ cliFilterPatterns.take i, attemptRow r (render row f) tz = none := by
  rw [← C14_refused_rows] at hi
  intro r hr
  exact refusePair_sound r row f hf tz (rowsWhere_sound refusePairI i hi row hrow r hr)

/-- how the 2850 ordered pairs (earlier, later) are settled: 2754 refused, 96 "refused or the same `Parsed`",
none open -/
theorem C14_pair_kinds :
    (List.range infosGen.length).foldl (fun acc i =>
      match infosGen[i]? with
      | some b => (infosGen.take i).foldl (fun acc a =>
          match pairKindI a b with
          | 0 => (acc.1 + 1, acc.2.1, acc.2.2)
          | 1 => (acc.1, acc.2.1 + 1, acc.2.2)
          | _ => (acc.1, acc.2.1, acc.2.2 + 1)) acc
      | none => acc) (0, 0, 0) = (2754, 96, 0) := table_kinds

/-! ### what the agreement rests on: counter-models

`firstRow` takes the row list as an argument, so a table edited in one token can be run. -/

/-- the table with the `has_tz` flag of row 33 (`%Y-%m-%dT%H:%M:%S%z`) flipped to `false` -/
def tableHasTzFlipped : List Row :=
  cliFilterPatterns.set 33 ⟨"%Y-%m-%dT%H:%M:%S%z", true, false, false, true⟩

/-- counter-model (one flag): with `has_tz` of row 33 flipped, the UNEDITED row 39
(`%Y-%m-%dT%H:%M:%S%:z`) does not get its documented instant: `2024-02-29T23:59:58+05:30` is read first by
row 33, which then ignores the written zone (`agreePair` demands equal `has_tz` flags). -/
theorem C14_first_match_needs_hasTz :
    (match cliFilterPatterns[39]? with
     | some ri =>
       let f := { reprFields with zstyle := .colon }
       attemptRow ri (render ri f) 0 == some (denote ri f 0) &&
       firstRow tableHasTzFlipped (render ri f) 0 != some (denote ri f 0) &&
       firstRow cliFilterPatterns (render ri f) 0 == some (denote ri f 0)
     | none => false) = true := by decide +kernel

/-- the decision notices it: on the table with that one flag flipped `allPairs pairOkI` is false, so the tally has an
open pair (`allPairs_of_kinds`) and `table_kinds` (hence `table_pairs` and `C14_first_match_full`) would not re-prove -/
theorem C14_decision_detects_hasTz_flip :
    allPairs pairOkI (infosGen.set 33 ⟨false, false, true,
      (parsePattern "%Y-%m-%dT%H:%M:%S%z".toList), (parsePattern "%Y-%m-%dT%H:%M:%S%z".toList),
      (parsePattern "%Y-%m-%dT%H:%M:%S%z".toList)⟩) = false := by decide +kernel

/-- what the `%#z` / `%Z` agreement rests on: `2024-02-29T23:59:58Z` is a value of row 51 (`%S%Z`, zone name
`Z`) and is read FIRST by row 45 (`%S%#z`) as UTC: the two agree because the generated zone table maps
`Z` and `z` to `+00:00` (`S4V.Lemmas.CliAbs.zulu_names`); an entry `("Z", "+01:00")` would make
`process_dt` return an instant one hour from the documented one. -/
theorem C14_zulu_name_is_stolen :
    (match cliFilterPatterns[45]?, cliFilterPatterns[51]? with
     | some rj, some ri =>
       let f := { reprFields with zname := ['Z'] }
       attemptRow rj (render ri f) 0 == some (denote ri f 0) && nameOff ['Z'] == 0 &&
       (attemptRow rj (render ri f) 0).map (·.off) == some 0
     | _, _ => false) = true := by decide +kernel

end S4V.Props.CliNoStealSpec
