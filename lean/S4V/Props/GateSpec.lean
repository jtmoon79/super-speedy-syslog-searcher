/-
Property theorems for the acceptance gate (`S4V.Model.Gate`), the "block-zero
analysis" that decides whether a text log is processed at all.

C12 says "the read block size never changes what is printed". Everything above
the gate is proved independent of the block size `bs`; the gate is NOT, because
it only looks at block zero (the first `bs` bytes):

* F1: a first message whose newline is not inside block zero is seen as a
  partial line cut at the start offset (one byte at offset 0), which no real
  parser accepts: the file is rejected at a small `bs`, accepted at a large one.
* F2: the number of lines / messages demanded grows with the size of block
  zero (1/1 below `SYSLOG_SZ_MAX`, 3/2 from there on): a file of one long
  message is accepted at a small `bs` and rejected at a large one.

What does hold: `gate_partial` / `gate_partial_any` (a `P`-accepted line lying
inside a block zero below the threshold size: accepted, at every such `bs`),
`gate_ok_of_counts` (both threshold regimes), `gate_eq_gateSpec` (exact
block-free characterisation of the verdict for parsers that reject one-byte
inputs) with `gate_bs_independent_whole_file`, `gate_reject_no_timestamp`
(nothing accepted by `P`: never accepted, at any `bs`) and `gate_fuel_enough`
(the fuel of the loops suffices).

All proofs appeal to `S4V.Lemmas.Gate`.
-/
import S4V.Lemmas.Gate

namespace S4V.Props.GateSpec
open S4V.Gen.Blocks S4V.Gen.Consts S4V.Model.Lines S4V.Model.Gate S4V.Lemmas.Gate

/-- tiny parser for the examples: a message is a line that starts with `'1'`
and has at least one more byte (so the one-byte cut of F1 is not a message) -/
def P1 : Bytes → Option Int
  | 49 :: _ :: _ => some 0
  | _ => none

/-- the wish: the block size does not change the verdict -/
def gate_full : Prop :=
  ∀ (P : Bytes → Option Int) (bs₁ bs₂ : Nat) (d : Bytes), 1 ≤ bs₁ → 1 ≤ bs₂ →
    gate P bs₁ d = gate P bs₂ d

/-- `"1aaaaaaaaa\n1b\n"`: the first line (11 bytes) is longer than 8, shorter than 64 -/
def exF1 : Bytes := [49, 97, 97, 97, 97, 97, 97, 97, 97, 97, 10, 49, 98, 10]

/-- block zero of 8 bytes holds no newline: `findLineInBlock` yields the partial
line `"1"` (defect: cut at the start offset), `P1` rejects it -/
theorem exF1_small : gate P1 8 exF1 = .noSyslines := by decide

theorem exF1_large : gate P1 64 exF1 = .ok := by decide

example : findLineInBlock 8 exF1 0 = .part [⟨0, 0, 1⟩] := by decide
example : lineBytes exF1 8 [⟨0, 0, 1⟩] = [49] := by decide

/-- F1 under the thresholds of the source: same file, same parser, two block
sizes, two verdicts -/
theorem gate_full_false : ¬ gate_full := by
  intro h
  have := h P1 8 64 exF1 (by decide) (by decide)
  rw [exF1_small, exF1_large] at this
  cases this

theorem threshold_shape : ∀ n, lineCountMin n = if n < SYSLOG_SZ_MAX then 1 else 3 := by
  intro n
  unfold lineCountMin SYSLOG_SZ_MAX
  split <;> simp [*]

theorem threshold_shape_sysline :
    ∀ n, syslineCountMin n = if n < SYSLOG_SZ_MAX then 1 else 2 := by
  intro n
  unfold syslineCountMin SYSLOG_SZ_MAX
  split <;> simp [*]

example : lineCountMin 8095 = 1 ∧ lineCountMin 8096 = 3 := by decide
example : syslineCountMin 8095 = 1 ∧ syslineCountMin 8096 = 2 := by decide

theorem syslineCountMin_pos (n : Nat) : 0 < syslineCountMin n := by
  unfold syslineCountMin
  split <;> omega

/-- thresholds of the generated shape with `16` in place of `SYSLOG_SZ_MAX = 8096` -/
def smallTh : Thresholds :=
  ⟨BLOCKZERO_ANALYSIS_BYTES_MIN, BLOCKZERO_ANALYSIS_BYTES_NULL_MAX,
    fun n => if n < 16 then 1 else 3, fun n => if n < 16 then 1 else 2⟩

/-- `"1a\nbbbbbbbbbbbbbbbb\n"`: one message of two lines, 20 bytes -/
def exF2 : Bytes :=
  [49, 97, 10, 98, 98, 98, 98, 98, 98, 98, 98, 98, 98, 98, 98, 98, 98, 98, 98, 10]

/-- `"1a\nb\nc\ndddddddddddd\n"`: one message of four lines, 20 bytes -/
def exF2' : Bytes :=
  [49, 97, 10, 98, 10, 99, 10, 100, 100, 100, 100, 100, 100, 100, 100, 100, 100, 100, 100, 10]

/-- F2 with small thresholds: a single 20-byte message is accepted when block
zero has 15 bytes (one line, one message suffice) and rejected when block zero
holds the whole file (three lines, two messages demanded). `smallTh` has the
shape of the generated thresholds (`threshold_shape`, `threshold_shape_sysline`)
with 16 for 8096, so the same happens to the real gate with a single message of
8096 bytes or more (too large a witness for the kernel). -/
theorem gate_threshold_dependence :
    (gateWith smallTh P1 15 exF2 = .ok ∧ gateWith smallTh P1 32 exF2 = .noLines) ∧
    (gateWith smallTh P1 15 exF2' = .ok ∧ gateWith smallTh P1 32 exF2' = .noSyslines) := by
  decide

/-- the wish for arbitrary thresholds, and its refutation by F2 alone -/
def gateWith_full : Prop :=
  ∀ (th : Thresholds) (P : Bytes → Option Int) (bs₁ bs₂ : Nat) (d : Bytes), 1 ≤ bs₁ → 1 ≤ bs₂ →
    gateWith th P bs₁ d = gateWith th P bs₂ d

theorem gateWith_full_false : ¬ gateWith_full := by
  intro h
  have := h smallTh P1 15 32 exF2 (by decide) (by decide)
  rw [gate_threshold_dependence.1.1, gate_threshold_dependence.1.2] at this
  cases this

/-- generalised form: under (i) enough bytes in block zero, (ii) its first
`NULL_MAX` bytes not all zero, (iii) block zero smaller than `SYSLOG_SZ_MAX`,
(iv) SOME line of `d` — starting at a line start `s`, after any number of
non-message lines — ends inside block zero and is accepted by `P`:
the file is accepted. -/
theorem gate_partial_any (P : Bytes → Option Int) (bs : Nat) (d : Bytes) (s : Nat) (hbs : 1 ≤ bs)
    (h1 : min BLOCKZERO_ANALYSIS_BYTES_MIN bs ≤ min bs d.length)
    (h2 : (d.take (min BLOCKZERO_ANALYSIS_BYTES_NULL_MAX (min bs d.length))).all (· == 0) = false)
    (h3 : min bs d.length < SYSLOG_SZ_MAX)
    (hs : s < d.length) (hst : s = 0 ∨ d[s - 1]? = some NL)
    (hE : lineEnd d s < bs)
    (hP : P ((d.drop s).take (lineEnd d s + 1 - s)) ≠ none) :
    gate P bs d = .ok := by
  have h2' : (d.take (min generated.nullMax bs)).all (· == 0) = false := by
    rw [← take_min_length]; exact h2
  have h3' : min bs d.length < 8096 := h3
  exact gateWith_ok generated P bs d s hbs h1 h2'
    (by simp only [generated, lineCountMin, h3', ↓reduceIte]; omega)
    (by simp only [generated, syslineCountMin, h3', ↓reduceIte]) hs hst hE hP

/-- the target statement: (i)–(iii) as above, (iv) the FIRST line of `d` ends
inside block zero and `P` accepts it -/
theorem gate_partial (P : Bytes → Option Int) (bs : Nat) (d : Bytes) (hbs : 1 ≤ bs)
    (h1 : min BLOCKZERO_ANALYSIS_BYTES_MIN bs ≤ min bs d.length)
    (h2 : (d.take (min BLOCKZERO_ANALYSIS_BYTES_NULL_MAX (min bs d.length))).all (· == 0) = false)
    (h3 : min bs d.length < SYSLOG_SZ_MAX)
    (hE : lineEnd d 0 < bs)
    (hP : P (d.take (lineEnd d 0 + 1)) ≠ none) :
    gate P bs d = .ok := by
  have hd : 0 < d.length := by
    have : 1 ≤ min BLOCKZERO_ANALYSIS_BYTES_MIN bs := by
      simp only [BLOCKZERO_ANALYSIS_BYTES_MIN]; omega
    omega
  exact gate_partial_any P bs d 0 hbs h1 h2 h3 hd (Or.inl rfl) hE (by simpa using hP)

/-- the conditions (i)–(iv) of `gate_partial_any` at block size `bs`, for the line starting at `s` -/
def SmallOk (P : Bytes → Option Int) (bs : Nat) (d : Bytes) (s : Nat) : Prop :=
  min BLOCKZERO_ANALYSIS_BYTES_MIN bs ≤ min bs d.length ∧
  (d.take (min BLOCKZERO_ANALYSIS_BYTES_NULL_MAX (min bs d.length))).all (· == 0) = false ∧
  min bs d.length < SYSLOG_SZ_MAX ∧
  s < d.length ∧ (s = 0 ∨ d[s - 1]? = some NL) ∧ lineEnd d s < bs ∧
  P ((d.drop s).take (lineEnd d s + 1 - s)) ≠ none

instance (P : Bytes → Option Int) (bs : Nat) (d : Bytes) (s : Nat) : Decidable (SmallOk P bs d s) := by
  unfold SmallOk; infer_instance

/-- two block sizes that both satisfy (i)–(iv) (possibly through different
lines) give the same verdict: accepted -/
theorem gate_bs_independent_small (P : Bytes → Option Int) (bs₁ bs₂ : Nat) (d : Bytes)
    (s₁ s₂ : Nat) (hbs₁ : 1 ≤ bs₁) (hbs₂ : 1 ≤ bs₂)
    (h₁ : SmallOk P bs₁ d s₁) (h₂ : SmallOk P bs₂ d s₂) :
    gate P bs₁ d = gate P bs₂ d := by
  obtain ⟨a1, a2, a3, a4, a5, a6, a7⟩ := h₁
  obtain ⟨b1, b2, b3, b4, b5, b6, b7⟩ := h₂
  rw [gate_partial_any P bs₁ d s₁ hbs₁ a1 a2 a3 a4 a5 a6 a7,
    gate_partial_any P bs₂ d s₂ hbs₂ b1 b2 b3 b4 b5 b6 b7]

/-- a file smaller than `SYSLOG_SZ_MAX` whose first byte is not NUL and that
has a `P`-accepted line ending at offset `e`: accepted at EVERY block size
above `e` and at least `BYTES_MIN` — the verdict is constant on that range -/
theorem gate_bs_independent_above (P : Bytes → Option Int) (bs : Nat) (d : Bytes) (s : Nat)
    (hlen : BLOCKZERO_ANALYSIS_BYTES_MIN ≤ d.length) (hmax : d.length < SYSLOG_SZ_MAX)
    (h0 : d[0]? ≠ some 0)
    (hs : s < d.length) (hst : s = 0 ∨ d[s - 1]? = some NL)
    (hP : P ((d.drop s).take (lineEnd d s + 1 - s)) ≠ none)
    (hbs : BLOCKZERO_ANALYSIS_BYTES_MIN ≤ bs) (hE : lineEnd d s < bs) :
    gate P bs d = .ok := by
  simp only [BLOCKZERO_ANALYSIS_BYTES_MIN] at hlen hbs
  refine gate_partial_any P bs d s (by omega) (by simp only [BLOCKZERO_ANALYSIS_BYTES_MIN]; omega)
    ?_ (by omega) hs hst hE hP
  cases d with
  | nil => simp at hlen
  | cons b rest =>
    have hb : b ≠ 0 := by simpa using h0
    have : min BLOCKZERO_ANALYSIS_BYTES_NULL_MAX (min bs (b :: rest).length)
        = (min BLOCKZERO_ANALYSIS_BYTES_NULL_MAX (min bs (b :: rest).length) - 1) + 1 := by
      simp only [BLOCKZERO_ANALYSIS_BYTES_NULL_MAX]; omega
    rw [this, List.take_succ_cons, List.all_cons]
    simp [hb]

/-- `"aa\n1b\nccc\n"`: a headless first line, then a message -/
def exHead : Bytes := [97, 97, 10, 49, 98, 10, 99, 99, 99, 10]

example : gate P1 64 exF1 = .ok :=
  gate_partial P1 64 exF1 (by decide) (by decide) (by decide) (by decide) (by decide) (by decide)
example : gate P1 8 exHead = .ok :=
  gate_partial_any P1 8 exHead 3 (by decide) (by decide) (by decide) (by decide) (by decide)
    (by decide) (by decide) (by decide)
example : gate P1 11 exF1 = gate P1 64 exF1 :=
  gate_bs_independent_small P1 11 64 exF1 0 0 (by decide) (by decide) (by decide) (by decide)
example : gate P1 6 exHead = gate P1 9 exHead :=
  gate_bs_independent_small P1 6 9 exHead 3 3 (by decide) (by decide) (by decide) (by decide)
example : gate P1 1000 exHead = .ok :=
  gate_bs_independent_above P1 1000 exHead 3 (by decide) (by decide) (by decide) (by decide)
    (by decide) (by decide) (by decide) (by decide)
/-- the hypothesis "the line ends inside block zero" cannot be dropped: F1 -/
example : ¬ lineEnd exF1 0 < 8 ∧ gate P1 8 exF1 ≠ .ok := by decide

/-- number of lines that start inside block zero (specification, no block walk):
`lc bs d fo` counts from line start `fo` on -/
def linesInBlockZero (bs : Nat) (d : Bytes) : Nat := lc bs d 0

/-- number of `P`-accepted lines that lie entirely inside block zero -/
def acceptedInBlockZero (P : Bytes → Option Int) (bs : Nat) (d : Bytes) : Nat := acc P bs d 0

/-- the defining equations of the two counts (walking the lines by `lineEnd`) -/
theorem lc_step (bs : Nat) (d : Bytes) (fo : Nat) :
    lc bs d fo = if fo < d.length ∧ fo < bs then 1 + lc bs d (lineEnd d fo + 1) else 0 :=
  lc_eq bs d fo

theorem acc_step (P : Bytes → Option Int) (bs : Nat) (d : Bytes) (fo : Nat) :
    acc P bs d fo =
      if fo < d.length ∧ lineEnd d fo < bs then
        (if (P ((d.drop fo).take (lineEnd d fo + 1 - fo))).isSome then 1 else 0)
          + acc P bs d (lineEnd d fo + 1)
      else 0 :=
  acc_eq P bs d fo

theorem gateWith_ok_of_counts (th : Thresholds) (P : Bytes → Option Int) (bs : Nat) (d : Bytes)
    (hbs : 1 ≤ bs)
    (h1 : min th.bytesMin bs ≤ min bs d.length)
    (h2 : (d.take (min th.nullMax bs)).all (· == 0) = false)
    (hl : th.lineMin (min bs d.length) ≤ linesInBlockZero bs d)
    (hs1 : 1 ≤ th.syslineMin (min bs d.length))
    (hs : th.syslineMin (min bs d.length) ≤ acceptedInBlockZero P bs d) :
    gateWith th P bs d = .ok :=
  gateWith_ok_counts th P bs d hbs h1 h2 hl hs1 hs

theorem gate_ok_of_counts (P : Bytes → Option Int) (bs : Nat) (d : Bytes) (hbs : 1 ≤ bs)
    (h1 : min BLOCKZERO_ANALYSIS_BYTES_MIN bs ≤ min bs d.length)
    (h2 : (d.take (min BLOCKZERO_ANALYSIS_BYTES_NULL_MAX bs)).all (· == 0) = false)
    (hl : lineCountMin (min bs d.length) ≤ linesInBlockZero bs d)
    (hs : syslineCountMin (min bs d.length) ≤ acceptedInBlockZero P bs d) :
    gate P bs d = .ok := by
  exact gateWith_ok_counts generated P bs d hbs h1 h2 hl (syslineCountMin_pos _) hs

/-- two block sizes that both see enough lines and messages in their block zero agree -/
theorem gate_bs_independent_counts (P : Bytes → Option Int) (bs₁ bs₂ : Nat) (d : Bytes)
    (hbs₁ : 1 ≤ bs₁) (hbs₂ : 1 ≤ bs₂)
    (a1 : min BLOCKZERO_ANALYSIS_BYTES_MIN bs₁ ≤ min bs₁ d.length)
    (a2 : (d.take (min BLOCKZERO_ANALYSIS_BYTES_NULL_MAX bs₁)).all (· == 0) = false)
    (a3 : lineCountMin (min bs₁ d.length) ≤ linesInBlockZero bs₁ d)
    (a4 : syslineCountMin (min bs₁ d.length) ≤ acceptedInBlockZero P bs₁ d)
    (b1 : min BLOCKZERO_ANALYSIS_BYTES_MIN bs₂ ≤ min bs₂ d.length)
    (b2 : (d.take (min BLOCKZERO_ANALYSIS_BYTES_NULL_MAX bs₂)).all (· == 0) = false)
    (b3 : lineCountMin (min bs₂ d.length) ≤ linesInBlockZero bs₂ d)
    (b4 : syslineCountMin (min bs₂ d.length) ≤ acceptedInBlockZero P bs₂ d) :
    gate P bs₁ d = gate P bs₂ d := by
  rw [gate_ok_of_counts P bs₁ d hbs₁ a1 a2 a3 a4, gate_ok_of_counts P bs₂ d hbs₂ b1 b2 b3 b4]

/-- `"aa\n1a\nx\n1b\nccccccccc\n"`: five lines, two messages, 21 bytes -/
def exTwo : Bytes :=
  [97, 97, 10, 49, 97, 10, 120, 10, 49, 98, 10, 99, 99, 99, 99, 99, 99, 99, 99, 99, 10]

example : linesInBlockZero 32 exTwo = 5 ∧ acceptedInBlockZero P1 32 exTwo = 2 := by decide
example : linesInBlockZero 9 exTwo = 4 ∧ acceptedInBlockZero P1 9 exTwo = 1 := by decide
/-- upper regime of `smallTh` (block zero of 21 ≥ 16 bytes: 3 lines, 2 messages demanded) -/
example : gateWith smallTh P1 32 exTwo = .ok :=
  gateWith_ok_of_counts smallTh P1 32 exTwo (by decide) (by decide) (by decide) (by decide)
    (by decide) (by decide)
example : gate P1 9 exTwo = .ok :=
  gate_ok_of_counts P1 9 exTwo (by decide) (by decide) (by decide) (by decide) (by decide)
example : gate P1 9 exTwo = gate P1 32 exTwo :=
  gate_bs_independent_counts P1 9 32 exTwo (by decide) (by decide) (by decide) (by decide)
    (by decide) (by decide) (by decide) (by decide) (by decide) (by decide)

/-! For a parser that accepts no input of at most one byte (`RejectsShort`; every
real datetime parser: `DATETIME_STR_MIN = 8`) the partial line of F1 is never a
message, and the gate is exactly `gateSpec`: a cascade of five tests on the two
counts `lc bs d 0` / `acc P bs d 0`, with no block walk and no fuel. The whole
dependence of the verdict on `bs` is the dependence of these counts and of the
thresholds on `bs` (F1 = a line leaving block zero is not counted by `acc`,
F2 = `lineMin`/`syslineMin` of `min bs |d|`). -/

theorem P1_rejectsShort : RejectsShort P1 := by
  intro l hl
  match l, hl with
  | [], _ => rfl
  | [b], _ => unfold P1; split <;> simp_all
  | _ :: _ :: _, h => simp at h

theorem gateWith_eq_gateSpec (th : Thresholds) (P : Bytes → Option Int) (bs : Nat) (d : Bytes)
    (hbs : 1 ≤ bs) (hP : RejectsShort P) (hs1 : 1 ≤ th.syslineMin (min bs d.length)) :
    gateWith th P bs d = gateSpec th P bs d :=
  gateWith_eq_spec th P bs d hbs hP hs1

theorem gate_eq_gateSpec (P : Bytes → Option Int) (bs : Nat) (d : Bytes) (hbs : 1 ≤ bs)
    (hP : RejectsShort P) : gate P bs d = gateSpec generated P bs d := by
  exact gateWith_eq_spec generated P bs d hbs hP (syslineCountMin_pos _)

theorem gateSpec_generated (P : Bytes → Option Int) (bs : Nat) (d : Bytes) :
    gateSpec generated P bs d =
      if d.length = 0 then .empty
      else if min bs d.length < min BLOCKZERO_ANALYSIS_BYTES_MIN bs then .tooSmall
      else if (d.take (min BLOCKZERO_ANALYSIS_BYTES_NULL_MAX bs)).all (· == 0) then .nullBytes
      else if linesInBlockZero bs d < lineCountMin (min bs d.length) then .noLines
      else if acceptedInBlockZero P bs d < syslineCountMin (min bs d.length) then .noSyslines
      else .ok := rfl

/-- no message lying inside block zero: never accepted (strong form of
`gate_reject_no_timestamp`: `P` may accept other inputs) -/
theorem gate_reject_no_message (P : Bytes → Option Int) (bs : Nat) (d : Bytes) (hbs : 1 ≤ bs)
    (hP : RejectsShort P) (h0 : acceptedInBlockZero P bs d = 0) : gate P bs d ≠ .ok := by
  rw [gate_eq_gateSpec P bs d hbs hP, gateSpec_generated, h0]
  rw [if_pos (syslineCountMin_pos _)]
  repeat' split
  all_goals decide

theorem gate_bs_independent_whole_file (P : Bytes → Option Int) (bs₁ bs₂ : Nat) (d : Bytes)
    (hP : RejectsShort P) (hlen : BLOCKZERO_ANALYSIS_BYTES_MIN ≤ d.length)
    (h₁ : d.length ≤ bs₁) (h₂ : d.length ≤ bs₂) : gate P bs₁ d = gate P bs₂ d := by
  have : 1 ≤ d.length := by simp only [BLOCKZERO_ANALYSIS_BYTES_MIN] at hlen; omega
  rw [gate_eq_gateSpec P bs₁ d (by omega) hP, gate_eq_gateSpec P bs₂ d (by omega) hP,
    gateSpec_whole generated P bs₁ d hlen h₁, gateSpec_whole generated P bs₂ d hlen h₂]

example : gate P1 8 exF1 = gateSpec generated P1 8 exF1 :=
  gate_eq_gateSpec P1 8 exF1 (by decide) P1_rejectsShort
example : gateSpec generated P1 8 exF1 = .noSyslines ∧ gateSpec generated P1 64 exF1 = .ok := by
  decide
example : acceptedInBlockZero P1 8 exF1 = 0 ∧ acceptedInBlockZero P1 64 exF1 = 2 := by decide
example : gate P1 8 exF1 ≠ .ok :=
  gate_reject_no_message P1 8 exF1 (by decide) P1_rejectsShort (by decide)
example : gate P1 14 exF1 = gate P1 65536 exF1 :=
  gate_bs_independent_whole_file P1 14 65536 exF1 P1_rejectsShort (by decide) (by decide)
    (by decide)
example : gateWith smallTh P1 32 exF2' = gateSpec smallTh P1 32 exF2' :=
  gateWith_eq_gateSpec smallTh P1 32 exF2' (by decide) P1_rejectsShort (by decide)
/-- `RejectsShort` cannot be dropped: a parser that accepts the one-byte cut
sees a message where `gateSpec` counts none -/
example : gate (fun l => if l = [49] then some 0 else none) 8 exF1 = .ok ∧
    gateSpec generated (fun l => if l = [49] then some 0 else none) 8 exF1 = .noSyslines := by
  decide

/-- whatever the block size (and the thresholds), a file in which the parser
recognises nothing is not accepted -/
theorem gateWith_reject_no_timestamp (th : Thresholds) (P : Bytes → Option Int) (bs : Nat)
    (d : Bytes) (hP : ∀ l, P l = none) : gateWith th P bs d ≠ .ok :=
  gateWith_none th P bs d hP

theorem gate_reject_no_timestamp (P : Bytes → Option Int) (bs : Nat) (d : Bytes)
    (hP : ∀ l, P l = none) : gate P bs d ≠ .ok :=
  gateWith_none generated P bs d hP

example : gate (fun _ => none) 64 exF1 ≠ .ok := gate_reject_no_timestamp _ 64 exF1 (fun _ => rfl)
example : gate (fun _ => none) 64 exF1 = .noSyslines := by decide

theorem gateLinesLoop_fuel_enough (bs : Nat) (d : Bytes) (m k : Nat) (hbs : 1 ≤ bs) :
    gateLinesLoop bs d m (d.length + 1 + k) 0 0 = gateLinesLoop bs d m (d.length + 1) 0 0 :=
  gateLinesLoop_fuel bs d m hbs k (d.length + 1) 0 0 (by omega)

theorem gateSyslinesLoop_fuel_enough (P : Bytes → Option Int) (bs : Nat) (d : Bytes) (m k : Nat)
    (hbs : 1 ≤ bs) :
    gateSyslinesLoop P bs d m (d.length + 1 + k) 0 0
      = gateSyslinesLoop P bs d m (d.length + 1) 0 0 :=
  gateSyslinesLoop_fuel P bs d m hbs k (d.length + 1) 0 0 (by omega) (S4V.Lemmas.Lines.boundary_zero d)

theorem findSyslineInBlock_fuel_enough (P : Bytes → Option Int) (bs : Nat) (d : Bytes)
    (k fo : Nat) (hbs : 1 ≤ bs) :
    findSyslineInBlock P bs d (d.length + 1 + k) fo = findSyslineInBlock P bs d (d.length + 1) fo :=
  findSyslineInBlock_fuel P bs d hbs k (d.length + 1) fo (by omega)

theorem sibPartB_never_out_of_fuel (P : Bytes → Option Int) (bs : Nat) (d : Bytes)
    (fin0 fo1 fin : Nat) (hbs : 1 ≤ bs) :
    sibPartB P bs d fin0 (d.length + 1) fo1 fin ≠ .done :=
  sibPartB_ne_done P bs d fin0 hbs (d.length + 1) fo1 fin (by omega) (by omega)

/-- the gate in which EVERY loop (line loop, sysline loop, sysline search,
part B) gets `k` more units of fuel returns the same verdict: no loop of the
model is ever cut short by its fuel -/
theorem gate_fuel_enough (k : Nat) (P : Bytes → Option Int) (bs : Nat) (d : Bytes)
    (hbs : 1 ≤ bs) : gateWithF k generated P bs d = gate P bs d :=
  gateWithF_eq k generated P bs d hbs

example : gateLinesLoop 4 exHead 3 (exHead.length + 1 + 5) 0 0
    = gateLinesLoop 4 exHead 3 (exHead.length + 1) 0 0 :=
  gateLinesLoop_fuel_enough 4 exHead 3 5 (by decide)
example : gateSyslinesLoop P1 8 exHead 2 (exHead.length + 1 + 5) 0 0
    = gateSyslinesLoop P1 8 exHead 2 (exHead.length + 1) 0 0 :=
  gateSyslinesLoop_fuel_enough P1 8 exHead 2 5 (by decide)
example : findSyslineInBlock P1 16 exHead (exHead.length + 1 + 5) 0 = .found 10 := by
  rw [findSyslineInBlock_fuel_enough P1 16 exHead 5 0 (by decide)]; decide
example : sibPartB P1 8 exHead 5 (exHead.length + 1) 6 5 = .donePartial := by decide
example : gateWithF 7 generated P1 8 exHead = .ok := by
  rw [gate_fuel_enough 7 P1 8 exHead (by decide)]; decide

/-! ### verdicts of the model on small inputs -/

example : gate P1 4 [] = .empty := by decide
example : gate P1 64 [49, 97, 10] = .tooSmall := by decide
example : gate P1 3 [49, 97, 10] = .ok ∧ gate P1 2 [49, 97, 10] = .noSyslines := by decide
example : gate P1 64 [0, 0, 0, 0, 0, 0, 0, 0] = .nullBytes := by decide
example : gate P1 64 [97, 97, 97, 97, 97, 97, 97, 10] = .noSyslines := by decide
example : gateWith smallTh P1 32 exF2 = .noLines := gate_threshold_dependence.1.2

end S4V.Props.GateSpec
