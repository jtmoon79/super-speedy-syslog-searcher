/-
C03 (and C02) — the datetime searches of `SyslineReader`, tied to the source text.

`S4V.Gen.Search` (regenerated by gen/gen_search.py on every run) holds the control skeletons of
`find_sysline_at_datetime_filter_binary_search`, `…_linear_search` and
`find_sysline_between_datetime_filters` as data: every cursor assignment with its arithmetic, every
release-active assertion, the loop-exit tests in source order, the convergence handling and its
decision table. `S4V.Model.SearchSkel` interprets such skeletons. Stated here:
* the interpreters run on the GENERATED skeletons are the hand models of `S4V.Model.Syslines`
  (proved in `S4V.Lemmas.SearchSkel` from `rfl` facts that spell every field of the generated
  skeletons out — so an edit of the source that changes a field breaks them), and so are the two
  line walks of `find_sysline_year` (part A, part B);
* the main theorems of `S4V.Props.SyslSpec` over the generated skeletons;
* counter-models: skeletons one token away from the generated ones, each with a concrete small
  file on which it loops, panics or returns a wrong message (what the tie protects against), and
  the one-token variants that are NOT distinguishable on two-byte messages, stated as such.

Vocabulary as in `S4V.Props.SyslSpec`: `WFLines`, `messages`, `Sorted`, `TwoBytes`, `firstAtOrAfter`.
-/
import S4V.Lemmas.SearchSkel

namespace S4V.Props.SearchSkelSpec
open S4V.Model.Syslines S4V.Gen.Filter S4V.Gen.Search S4V.Model.SearchSkel S4V.Lemmas.Syslines
  S4V.Lemmas.SearchSkel

/-- 4 lines, 3 messages, one continuation line, duplicate instants -/
def exA : List LineInfo := [⟨0, 3, some 5⟩, ⟨4, 6, none⟩, ⟨7, 9, some 5⟩, ⟨10, 12, some 8⟩]

example : WFLines exA ∧ Sorted exA ∧ TwoBytes exA := by decide

theorem C03_bsearch_loop_skeleton_is_model {ls : List LineInfo} (hwf : WFLines ls) (fileoffset : Nat)
    (flt : Option Int) (fuel : Nat) (st : BS) :
    bsearchLoopG S4V.Gen.Search.bsearch ls fileoffset flt fuel st = bsearchLoop ls fileoffset flt fuel st :=
  bsearchLoopG_eq hwf fileoffset flt fuel st

/-- binary search (well-formedness is used for the one assertion the hand model leaves out:
`assert_le!(try_fo_last, syslinep_foe)` never fires, because `find_sysline(fo)` returns a message that
ends at or after `fo`) -/
theorem C03_bsearch_skeleton_is_model {ls : List LineInfo} (hwf : WFLines ls) (fileoffset : Nat)
    (flt : Option Int) :
    bsearchG S4V.Gen.Search.bsearch ls fileoffset flt = S4V.Model.Syslines.bsearch ls fileoffset flt :=
  bsearchG_eq hwf fileoffset flt

theorem C03_lsearch_skeleton_is_model (ls : List LineInfo) (flt : Option Int) (fuel fileoffset : Nat) :
    lsearchG S4V.Gen.Search.lsearch ls flt fuel fileoffset = S4V.Model.Syslines.lsearch ls flt fuel fileoffset :=
  lsearchG_eq ls flt fuel fileoffset

/-- `find_sysline_between_datetime_filters` -/
theorem C03_between_skeleton_is_model {ls : List LineInfo} (hwf : WFLines ls) (streamed : Bool) (fo : Nat)
    (a b : Option Int) :
    betweenG S4V.Gen.Search.bsearch S4V.Gen.Search.lsearch S4V.Gen.Search.between ls streamed fo a b
      = S4V.Model.Syslines.between ls streamed fo a b :=
  betweenG_eq hwf streamed fo a b

/-- the message loop of `exec_syslogprocessor` over the generated searches -/
theorem C03_stream_skeleton_is_model {ls : List LineInfo} (hwf : WFLines ls) (streamed : Bool)
    (a b : Option Int) :
    streamAllG S4V.Gen.Search.bsearch S4V.Gen.Search.lsearch S4V.Gen.Search.between ls streamed a b
      = streamAll ls streamed a b :=
  streamAllG_eq hwf streamed a b

example : bsearchG S4V.Gen.Search.bsearch exA 0 (some 6) = .found 13 ⟨10, 12, 8⟩ ∧
          lsearchG S4V.Gen.Search.lsearch exA (some 6) 6 0 = .found 13 ⟨10, 12, 8⟩ := by decide

/-- the one assertion of the source that the hand model does not carry never fires on a well-formed
file: the message `find_sysline(fo)` returns ends at or after `fo` -/
theorem C03_probe_result_not_before_probe {ls : List LineInfo} (hwf : WFLines ls) {fo fo' : Nat} {s : Sysl}
    (h : findSysline ls fo = .found fo' s) : fo ≤ s.fin :=
  (findSysline_found hwf h).2.1

/-- **C03, generated binary search**: on a sorted file whose messages have at least two bytes, the
binary search AS WRITTEN IN THE SOURCE returns the FIRST message with `dt ≥ A` (with duplicates the
earliest), `.done` if there is none … -/
theorem C03_bsearch_generated_spec {ls : List LineInfo} (hwf : WFLines ls) (hs : Sorted ls)
    (h2 : TwoBytes ls) (A : Int) :
    bsearchG S4V.Gen.Search.bsearch ls 0 (some A) = firstAtOrAfter A (messages ls) := by
  rw [bsearchG_eq hwf]; exact bsearch_spec hwf hs h2 A

/-- … and from the first byte of any message (how the streaming loop calls it): the first message
at or after it -/
theorem C03_bsearch_generated_spec_at {ls : List LineInfo} (hwf : WFLines ls) (hs : Sorted ls)
    (h2 : TwoBytes ls) (A : Int) {M1 M2 : List Sysl} {m : Sysl} (hM : messages ls = M1 ++ m :: M2) :
    bsearchG S4V.Gen.Search.bsearch ls m.beg (some A) = firstAtOrAfter A (m :: M2) := by
  rw [bsearchG_eq hwf]; exact bsearch_spec_at hwf hs h2 A hM

theorem C03_bsearch_generated_spec_end {ls : List LineInfo} (hwf : WFLines ls) (a : Option Int) :
    bsearchG S4V.Gen.Search.bsearch ls (fileSz ls) a = .done := by
  rw [bsearchG_eq hwf]; exact bsearch_spec_end hwf a

/-- **C03, generated linear search** (no ordering hypothesis) -/
theorem C03_lsearch_generated_spec {ls : List LineInfo} (hwf : WFLines ls) (A : Int) :
    lsearchG S4V.Gen.Search.lsearch ls (some A) (ls.length + 2) 0 = firstAtOrAfter A (messages ls) := by
  rw [lsearchG_eq]; exact lsearch_spec hwf A

theorem C03_lsearch_generated_spec_at {ls : List LineInfo} (hwf : WFLines ls) (A : Int)
    {M1 M2 : List Sysl} {m : Sysl} (hM : messages ls = M1 ++ m :: M2) :
    lsearchG S4V.Gen.Search.lsearch ls (some A) (ls.length + 2) m.beg = firstAtOrAfter A (m :: M2) := by
  rw [lsearchG_eq]; exact lsearch_spec_at hwf A hM

/-- neither generated search panics (`.err`: `assert_le!` / `unwrap()`) nor runs out of fuel -/
theorem C03_search_generated_no_err {ls : List LineInfo} (hwf : WFLines ls) (hs : Sorted ls)
    (h2 : TwoBytes ls) (A : Int) :
    bsearchG S4V.Gen.Search.bsearch ls 0 (some A) ≠ .err ∧
    bsearchG S4V.Gen.Search.bsearch ls 0 (some A) ≠ .nofuel ∧
    lsearchG S4V.Gen.Search.lsearch ls (some A) (ls.length + 2) 0 ≠ .err ∧
    lsearchG S4V.Gen.Search.lsearch ls (some A) (ls.length + 2) 0 ≠ .nofuel := by
  rw [bsearchG_eq hwf, lsearchG_eq]
  exact ⟨(bsearch_no_err hwf hs h2 A).1, (bsearch_no_err hwf hs h2 A).2,
    (lsearch_no_err hwf A).1, (lsearch_no_err hwf A).2⟩

/-- **C03, generated window**: streaming with the searches and the window test as written in the
source sends exactly the messages with `a ≤ dt ≤ b`, in file order, for plain and streamed files -/
theorem C03_window_generated {ls : List LineInfo} (hwf : WFLines ls) (hs : Sorted ls)
    (h2 : TwoBytes ls) (streamed : Bool) (a b : Option Int) :
    streamAllG S4V.Gen.Search.bsearch S4V.Gen.Search.lsearch S4V.Gen.Search.between ls streamed a b
      = (messages ls).filter (fun m => dtPassFilters m.dt a b = .InRange) := by
  rw [streamAllG_eq hwf]; exact streamAll_window hwf hs h2 streamed a b

/-- **C02, generated**: without a window every message is sent exactly once, in order -/
theorem C02_stream_generated_unfiltered {ls : List LineInfo} (hwf : WFLines ls) (streamed : Bool) :
    streamAllG S4V.Gen.Search.bsearch S4V.Gen.Search.lsearch S4V.Gen.Search.between ls streamed none none
      = messages ls := by
  rw [streamAllG_eq hwf]; exact streamAll_unfiltered hwf streamed

example : streamAllG S4V.Gen.Search.bsearch S4V.Gen.Search.lsearch S4V.Gen.Search.between exA false (some 5) (some 7)
    = [⟨0, 6, 5⟩, ⟨7, 9, 5⟩] := by decide

/-- `C03_bsearch_generated_spec` without `TwoBytes` … -/
def C03_bsearch_generated_spec_full : Prop :=
  ∀ (ls : List LineInfo) (A : Int), WFLines ls → Sorted ls →
    bsearchG S4V.Gen.Search.bsearch ls 0 (some A) = firstAtOrAfter A (messages ls)

/-- … is false of the source as written (1-byte messages: not producible from a text log, whose
messages carry a timestamp; kept as a statement about the algorithm) -/
theorem C03_bsearch_generated_spec_full_false : ¬ C03_bsearch_generated_spec_full := by
  intro h
  have := h oneByteFile 1 (by decide) (by decide)
  revert this
  decide

/-! ### what the skeleton says, literally (each by unfolding the generated data) -/

/-- `fo_a + ((fo_b - fo_a) / 2)` -/
def floorMid : Expr :=
  .add (.v (.cur .foA)) (.div (.sub (.v (.cur .foB)) (.v (.cur .foA))) (.lit 2))

/-- every arm that goes on searching ends with `try_fo = fo_a + ((fo_b - fo_a) / 2)` (the midpoint is
rounded DOWN) and begins by saving `try_fo_last = try_fo` before `try_fo` is reassigned -/
theorem C03_midpoint_rounds_down :
    S4V.Gen.Search.bsearch.atOrAfter.getLast? = some (.assign .tryFo floorMid) ∧
    S4V.Gen.Search.bsearch.before.getLast? = some (.assign .tryFo floorMid) ∧
    S4V.Gen.Search.bsearch.doneArm.getLast? = some (.assign .tryFo floorMid) ∧
    S4V.Gen.Search.bsearch.before.head? = some (.assign .tryFoLast (.v (.cur .tryFo))) ∧
    S4V.Gen.Search.bsearch.doneArm.head? = some (.assign .tryFoLast (.v (.cur .tryFo))) := by
  decide

/-- the end marker moves to the BEGINNING of the message found (or the probe, if smaller), the begin
marker to its LAST byte (or the end marker, if smaller) -/
theorem C03_cursor_updates :
    Stmt.assign .foB (.min (.v .slBeg) (.v (.cur .tryFoLast))) ∈ S4V.Gen.Search.bsearch.atOrAfter ∧
    Stmt.assign .foA (.min (.v .slEnd) (.v (.cur .foB))) ∈ S4V.Gen.Search.bsearch.before ∧
    (∀ e, Stmt.assign .foA e ∉ S4V.Gen.Search.bsearch.atOrAfter) ∧
    (∀ e, Stmt.assign .foB e ∉ S4V.Gen.Search.bsearch.before) ∧
    (∀ c e, Stmt.assign c e ∈ S4V.Gen.Search.bsearch.doneArm → c = .tryFo ∨ c = .tryFoLast) := by
  refine ⟨by decide, by decide, ?_, ?_, ?_⟩
  · intro e h; simp [S4V.Gen.Search.bsearch] at h
  · intro e h; simp [S4V.Gen.Search.bsearch] at h
  · intro c e h
    simp [S4V.Gen.Search.bsearch] at h
    rcases h with ⟨rfl, _⟩ | ⟨rfl, _⟩ <;> simp

/-- the loop-exit tests in source order: first `done && try_fo == try_fo_last` (`break`), then
`try_fo != try_fo_last` (`continue`); the window test maps `InRange` to the message and both other
results to `Done`; the search is given the AFTER filter; streamed files take the linear search -/
theorem C03_exit_order_and_window :
    S4V.Gen.Search.bsearch.exits.map Prod.snd = [.brk, .cont] ∧
    S4V.Gen.Search.between.inRange = .retFound ∧ S4V.Gen.Search.between.beforeRange = .retDone ∧
    S4V.Gen.Search.between.afterRange = .retDone ∧ S4V.Gen.Search.between.searchWithAfter = true ∧
    S4V.Gen.Search.between.whenStreamed = .linear ∧ S4V.Gen.Search.between.whenPlain = .binary ∧
    S4V.Gen.Search.AT_LINEAR_IFF_STREAMED = true := by
  decide

/-! ### counter-models: skeletons one token away from the source -/

def cur (c : Cur) : Expr := .v (.cur c)

def f2 : List LineInfo := [⟨0, 1, some 0⟩]
def f22 : List LineInfo := [⟨0, 1, some 0⟩, ⟨2, 3, some 1⟩]
def f32 : List LineInfo := [⟨0, 2, some 0⟩, ⟨3, 4, some 0⟩]
def fNone : List LineInfo := [⟨0, 1, none⟩]
def f1 : List LineInfo := [⟨0, 0, some 0⟩]
def f11 : List LineInfo := [⟨0, 0, some 0⟩, ⟨1, 1, some 1⟩]

example : (WFLines f2 ∧ Sorted f2 ∧ TwoBytes f2) ∧ (WFLines f22 ∧ Sorted f22 ∧ TwoBytes f22) ∧
    (WFLines f32 ∧ Sorted f32 ∧ TwoBytes f32) ∧ (WFLines fNone ∧ Sorted fNone ∧ TwoBytes fNone) := by decide

/-- (a) midpoint biased UP in the `OccursBefore` arm: `try_fo = fo_a + ((fo_b - fo_a + 1) / 2)` -/
def midUpBefore : BSkel := { S4V.Gen.Search.bsearch with before :=
  [.assign .tryFoLast (cur .tryFo),
   .assert (.cmp .le (cur .tryFoLast) (.v .slEnd)),
   .assign .foA (.min (.v .slEnd) (cur .foB)),
   .assign .tryFo (.add (cur .foA) (.div (.add (.sub (cur .foB) (cur .foA)) (.lit 1)) (.lit 2)))] }

/-- the two states the biased loop alternates between on `f2` -/
def loopP (x : Nat) : BS := { tryFo := 2, tryFoLast := x, foA := 1, foB := 2, last := some ⟨0, 1, 0⟩ }
def loopQ : BS := { tryFo := 1, tryFoLast := 2, foA := 1, foB := 2, last := some ⟨0, 1, 0⟩ }

theorem midUp_step_P (n x : Nat) :
    bsearchLoopG midUpBefore f2 0 (some 1) (n + 1) (loopP x) = bsearchLoopG midUpBefore f2 0 (some 1) n loopQ := by
  have h : findSysline f2 2 = .done := by decide
  rw [bsearchLoopG]
  simp [midUpBefore, S4V.Gen.Search.bsearch, loopP, loopQ, Expr.eval, Var.get, getCur, h, execStmts, setCur,
    firstJump, BExpr.eval, Cmp.eval, cur]

theorem midUp_step_Q (n : Nat) :
    bsearchLoopG midUpBefore f2 0 (some 1) (n + 1) loopQ = bsearchLoopG midUpBefore f2 0 (some 1) n (loopP 1) := by
  have h : findSysline f2 1 = .found 2 ⟨0, 1, 0⟩ := by decide
  have hd : dtAfterOrBefore 0 (some 1) = .OccursBefore := by decide
  rw [bsearchLoopG]
  simp [midUpBefore, S4V.Gen.Search.bsearch, loopP, loopQ, Expr.eval, Var.get, getCur, h, hd, armOf, execStmts,
    setCur, firstJump, BExpr.eval, Cmp.eval, cur]

/-- … never terminates on a one-message file searched for a later instant: for EVERY amount of fuel
the loop is still running (`try_fo` alternates 2, 1, 2, 1, …) -/
theorem midpoint_up_loops_forever (fuel : Nat) :
    (∀ x, bsearchLoopG midUpBefore f2 0 (some 1) fuel (loopP x) = .nofuel) ∧
    bsearchLoopG midUpBefore f2 0 (some 1) fuel loopQ = .nofuel := by
  induction fuel with
  | zero => exact ⟨fun _ => rfl, rfl⟩
  | succ n ih =>
    refine ⟨fun x => ?_, ?_⟩
    · rw [midUp_step_P]; exact ih.2
    · rw [midUp_step_Q]; exact ih.1 1

/-- … in particular the search itself (the source's answer is `.done`) -/
theorem midpoint_up_loops :
    bsearchG midUpBefore f2 0 (some 1) = .nofuel ∧
    bsearchG S4V.Gen.Search.bsearch f2 0 (some 1) = .done ∧ firstAtOrAfter 1 (messages f2) = .done := by
  decide

/-- (b) `fo_a = min(syslinep.fileoffset_begin(), fo_b)` instead of `fileoffset_end()` in the
`OccursBefore` arm -/
def foABegin : BSkel := { S4V.Gen.Search.bsearch with before :=
  [.assign .tryFoLast (cur .tryFo),
   .assert (.cmp .le (cur .tryFoLast) (.v .slEnd)),
   .assign .foA (.min (.v .slBeg) (cur .foB)),
   .assign .tryFo floorMid] }

/-- … returns a message BEFORE the filter where there is none to return -/
theorem fo_a_begin_returns_wrong_message :
    bsearchG foABegin f32 0 (some 1) = .found 5 ⟨3, 4, 0⟩ ∧
    bsearchG S4V.Gen.Search.bsearch f32 0 (some 1) = .done ∧ firstAtOrAfter 1 (messages f32) = .done := by
  decide

/-- (c) the row `(OccursBefore, OccursAtOrAfter)` of the convergence table choosing `syslinep`
instead of `syslinep_next` -/
def tableRowCur : BSkel := { S4V.Gen.Search.bsearch with choose :=
  [(none, some .Pass, .brk), (some .Pass, none, .brk),
   (some .OccursBefore, some .OccursBefore, .next),
   (some .OccursBefore, some .OccursAtOrAfter, .cur),
   (some .OccursAtOrAfter, some .OccursAtOrAfter, .cur),
   (none, none, .brk)] }

/-- … returns the message before the threshold -/
theorem table_row_returns_wrong_message :
    bsearchG tableRowCur f22 0 (some 1) = .found 2 ⟨0, 1, 0⟩ ∧
    bsearchG S4V.Gen.Search.bsearch f22 0 (some 1) = .found 4 ⟨2, 3, 1⟩ ∧
    firstAtOrAfter 1 (messages f22) = .found 4 ⟨2, 3, 1⟩ := by
  decide

/-- (d) `try_fo < try_fo_last` instead of `!=` in the `continue` test -/
def exitLt : BSkel := { S4V.Gen.Search.bsearch with exits :=
  [(.and .done (.cmp .eq (cur .tryFo) (cur .tryFoLast)), .brk),
   (.cmp .lt (cur .tryFo) (cur .tryFoLast), .cont)] }

/-- … panics (`syslinep_opt.unwrap()` on `None`) on a file without any timestamp -/
theorem exit_lt_panics :
    bsearchG exitLt fNone 0 (some 0) = .err ∧
    bsearchG S4V.Gen.Search.bsearch fNone 0 (some 0) = .done := by
  decide

/-- (e) `fo_b = min(begin, try_fo_last) + 1` in the `OccursAtOrAfter` arm -/
def foBPlusOne : BSkel := { S4V.Gen.Search.bsearch with atOrAfter :=
  [.retFoundIf (.cmp .eq (cur .tryFo) (.v .fileoffset)),
   .assign .tryFoLast (cur .tryFo),
   .assign .foB (.add (.min (.v .slBeg) (cur .tryFoLast)) (.lit 1)),
   .assert (.cmp .le (cur .foA) (cur .foB)),
   .assign .tryFo floorMid] }

/-- (f) `fo_beg <= try_fo` instead of `<` in the re-find test of the convergence handling -/
def convLe : BSkel := { S4V.Gen.Search.bsearch with refindIf := .cmp .le (.v .slBeg) (cur .tryFo) }

/-- (e) and (f) are a different algorithm — they disagree with the source on ONE-byte messages (where,
as it happens, the source is the one that is wrong: `C03_bsearch_generated_spec_full_false`) — but on
every file of at most 4 lines of 1–3 bytes whose messages have two bytes they return what the source
returns (exhaustive evaluation, not a theorem). They are recorded here as edits that the equivalence
lemma rejects although no two-byte witness separates them. -/
theorem fo_b_plus_one_differs_only_seen_on_one_byte :
    bsearchG foBPlusOne f11 0 (some 1) = .found 2 ⟨1, 1, 1⟩ ∧
    bsearchG S4V.Gen.Search.bsearch f11 0 (some 1) = .found 1 ⟨0, 0, 0⟩ ∧
    firstAtOrAfter 1 (messages f11) = .found 2 ⟨1, 1, 1⟩ := by
  decide

theorem conv_le_differs_only_seen_on_one_byte :
    bsearchG convLe f1 0 (some 1) = .done ∧
    bsearchG S4V.Gen.Search.bsearch f1 0 (some 1) = .found 1 ⟨0, 0, 0⟩ ∧
    firstAtOrAfter 1 (messages f1) = .done := by
  decide

/-- (g) linear search advancing to the LAST byte of the message instead of the offset after it:
`fo_cursor = syslinep.fileoffset_end()` -/
def advanceToEnd : LSkel := { S4V.Gen.Search.lsearch with before := .advance (.v .slEnd) }

/-- … finds the same message again for ever -/
theorem advance_to_end_loops_forever (fuel : Nat) :
    lsearchLoopG advanceToEnd f22 0 (some 1) fuel 1 = .nofuel := by
  induction fuel with
  | zero => rfl
  | succ n ih =>
    have h : findSysline f22 1 = .found 2 ⟨0, 1, 0⟩ := by decide
    have hd : dtAfterOrBefore 0 (some 1) = .OccursBefore := by decide
    rw [lsearchLoopG]
    simp only [advanceToEnd, S4V.Gen.Search.lsearch, Expr.eval, Var.get, h, hd, larmOf]
    exact ih

theorem advance_to_end_loops :
    lsearchG advanceToEnd f22 (some 1) (f22.length + 2) 0 = .nofuel ∧
    lsearchG S4V.Gen.Search.lsearch f22 (some 1) (f22.length + 2) 0 = .found 4 ⟨2, 3, 1⟩ := by
  decide

/-- (h) the window test letting `AfterRange` through -/
def afterRangeFound : WSkel := { S4V.Gen.Search.between with afterRange := .retFound }

/-- … sends a message that lies after `--dt-before` -/
theorem after_range_found_leaks :
    streamAllG S4V.Gen.Search.bsearch S4V.Gen.Search.lsearch afterRangeFound f22 false none (some 0)
      = [⟨0, 1, 0⟩, ⟨2, 3, 1⟩] ∧
    streamAllG S4V.Gen.Search.bsearch S4V.Gen.Search.lsearch S4V.Gen.Search.between f22 false none (some 0)
      = [⟨0, 1, 0⟩] := by
  decide

/-- (i) the search given the BEFORE filter -/
def searchWithBefore : WSkel := { S4V.Gen.Search.between with searchWithAfter := false }

/-- … skips the messages between `--dt-after` and `--dt-before` -/
theorem search_with_before_loses :
    streamAllG S4V.Gen.Search.bsearch S4V.Gen.Search.lsearch searchWithBefore f22 false (some 0) (some 1)
      = [⟨2, 3, 1⟩] ∧
    streamAllG S4V.Gen.Search.bsearch S4V.Gen.Search.lsearch S4V.Gen.Search.between f22 false (some 0) (some 1)
      = [⟨0, 1, 0⟩, ⟨2, 3, 1⟩] := by
  decide

/-! ### `find_sysline_year`: the generated part A / part B walks (C02) -/

/-- part A as written in the source (empty store) is the hand model's `slPartA`; the offset it leaves in
`fo1` is the byte after the line found -/
theorem C02_partA_skeleton_is_model (ls : List LineInfo) (fileoffset fuel fo1 : Nat) (z : Bool) (m : Nat) :
    slPartAG findA (fun _ => false) ls fileoffset fuel ⟨fo1, z, m⟩
      = (slPartA ls fuel fo1 z m).map (fun l => (l, l.fin + 1)) :=
  slPartAG_eq ls fileoffset fuel fo1 z m

/-- part B as written in the source is `slPartB`; `fo_b` (the offset returned with the message) is the
byte after the last line pushed -/
theorem C02_partB_skeleton_is_model (ls : List LineInfo) (fuel fin : Nat) :
    slPartBG findB ls fuel ⟨fin + 1, fin + 1, fin⟩
      = ⟨slPartB ls fuel (fin + 1) fin + 1, slPartB ls fuel (fin + 1) fin + 1, slPartB ls fuel (fin + 1) fin⟩ :=
  slPartBG_eq ls fuel fin

theorem C02_findSysline_skeleton_is_model (ls : List LineInfo) (fo : Nat) :
    findSyslineG findA findB ls fo = findSysline ls fo :=
  findSyslineG_eq ls fo

/-- **C02, generated `find_sysline`**: on a well-formed file it returns the first message whose last byte
is at or after `fo` (any byte of a message finds that message, continuation lines included; an offset
in text before the first message finds the first message), with the offset after it -/
theorem C02_findSysline_generated_spec {ls : List LineInfo} (hwf : WFLines ls) (fo : Nat) :
    findSyslineG findA findB ls fo = match (messages ls).find? (fun m => fo ≤ m.fin) with
      | some m => .found (m.fin + 1) m
      | none => .done := by
  rw [findSyslineG_eq]; exact findSysline_eq hwf fo

/-- 4 lines, 2 messages: a head-less first line, a continuation line -/
def exB : List LineInfo := [⟨0, 1, none⟩, ⟨2, 4, some 3⟩, ⟨5, 5, none⟩, ⟨6, 8, some 3⟩]

example : WFLines exB := by decide
example : findSyslineG findA findB exB 0 = .found 6 ⟨2, 5, 3⟩ ∧ findSyslineG findA findB exB 5 = .found 6 ⟨2, 5, 3⟩ ∧
    findSyslineG findA findB exB 6 = .found 9 ⟨6, 8, 3⟩ ∧ findSyslineG findA findB exB 9 = .done := by decide

/-- (j) part A leaving `fo1 = sysline.fileoffset_end()` (no `+ charsz`) -/
def nextWithoutCharsz : ASkel := { findA with foundNext := .v .lineEnd }

/-- … part B meets the head line again and stops: the continuation line is lost -/
theorem next_without_charsz_loses_continuation :
    findSyslineG nextWithoutCharsz findB exB 2 = .found 4 ⟨2, 4, 3⟩ ∧
    findSyslineG findA findB exB 2 = .found 6 ⟨2, 5, 3⟩ := by decide

/-- (k) `fo_a_max = max(fo_a_max, fo1)` instead of `fo2` -/
def maxOfFo1 : ASkel := { findA with maxUpdate := .max (.v .foAMax) (.v .fo1) }

/-- … from text before the first message the walk turns forward to offset 0 again and again; the model
runs out of fuel (`.done`), the source finds the first message -/
theorem max_of_fo1_never_finds :
    findSyslineG maxOfFo1 findB exB 0 = .done ∧ findSyslineG findA findB exB 0 = .found 6 ⟨2, 5, 3⟩ := by decide

/-- (l) part B without the `break` on a line that carries a timestamp -/
def noBreakOnTimestamp : PSkel := { findB with hasDt := [.setFoB (.v .fo1)] }

/-- … the offset returned with the message skips the next message -/
theorem no_break_skips_next_message :
    findSyslineG findA noBreakOnTimestamp exB 2 = .found 9 ⟨2, 5, 3⟩ ∧
    findSyslineG findA findB exB 2 = .found 6 ⟨2, 5, 3⟩ := by decide

end S4V.Props.SearchSkelSpec
