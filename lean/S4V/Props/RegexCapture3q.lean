/-
GENERATED by tools/mk_regexrows.py from harness/src/rgx_rows.txt (gen/gen_regex.py) — regenerate, do not edit.

C04, regex slice: rows 169–172 of `DATETIME_PARSE_DATAS`. `rowsQ` holds the literals of their certificates (`RowFacts`,
`S4V.Lemmas.RegexTable`), `certsQ` is ONE kernel evaluation for all of them, and `certN`, `factsN` are its components for row N; a row
without an end-to-end theorem (the epoch rows; a row that failed `catOK`) has no certificate and evaluates its own `factsN`. `C04_rowN_search`: for EVERY
selection of entries of the row's catalogue (`rowBodyE` / `rowBodyP`, `S4V.Lemmas.RegexAuto`) and of concrete words, and every
admissible tail, `search` matches at 0, spans exactly the words (and the byte of a final group), and every capture group spans
the word of its item.
-/
import S4V.Gen.Regex
import S4V.Lemmas.RegexTable

namespace S4V.Props.RegexCapture3
open S4V.Model.Regex S4V.Gen.Regex S4V.Lemmas.RegexStep S4V.Lemmas.RegexSym S4V.Lemmas.RegexRows S4V.Lemmas.RegexAuto
open S4V.Lemmas.RegexE2E S4V.Lemmas.Utf8 S4V.Gen.TimeTables

def rowsQ : List RowFacts := [
  { row := row169, counts := [(105, 105), (1, 1), (46, 49), (2, 2), (25, 25), (2, 2), (1, 1), (2, 2), (2, 2), (1, 1), (1, 1), (1, 1), (3, 3)], digest := 416376816,
    line := some "Jun-16 14:09:58 -0700 2000 === Started libdnf-0.31.0 ===".toUTF8.toList, fits := true },
  { row := row170, counts := [(105, 105), (1, 1), (46, 49), (2, 2), (25, 25), (2, 2), (1, 1), (2, 2), (2, 2), (1, 1), (1, 1), (1, 1), (3, 3)], digest := 260661146,
    line := some "Jun-16 14:09:58 -07 2000 === Started libdnf-0.31.0 ===".toUTF8.toList, fits := true },
  { row := row171, counts := [(105, 105), (1, 1), (46, 49), (2, 2), (25, 25), (2, 2), (1, 1), (2, 2), (2, 2), (1, 1), (3, 3)], digest := 396625654,
    line := some "Jun-16 14:09:58 2000 === Started libdnf-0.31.0 ===".toUTF8.toList, fits := true },
  { row := row172, counts := [(105, 105), (1, 1), (46, 49), (2, 2), (25, 25), (2, 2), (1, 1), (2, 2), (2, 2)], digest := 884637046,
    line := some "Jun-16 14:09:58 === Started libdnf-0.31.0 ===".toUTF8.toList, fits := true }]

theorem certsQ : ∀ i (h : i < rowsQ.length), rowsQ[i].Cert :=
  RowFacts.certs_of_all (by
    unfold rowsQ
    rw [toUTF8_toList_ofList, toUTF8_toList_ofList, toUTF8_toList_ofList, toUTF8_toList_ofList]
    decide +kernel)

/-! ### row 169 (month:2,day:3,hour:4,minute:5,second:6,tz:7,year:8): head `softR`, end `(?P<g>[class]|$)` -/

theorem cert169 : (rowsQ[0]'(by decide)).Cert := certsQ 0 (by decide)

theorem facts169 : keptCounts (rowBodyE re169 1) = [(105, 105), (1, 1), (46, 49), (2, 2), (25, 25), (2, 2), (1, 1), (2, 2), (2, 2), (1, 1), (1, 1), (1, 1), (3, 3)] ∧
    catDigest (rowBodyE re169 1) = 416376816 ∧
    splitsL (rowBodyE re169 1) "Jun-16 14:09:58 -0700 2000 === Started libdnf-0.31.0 ===".toUTF8.toList = true := cert169.facts

theorem C04_row169_search (sel : Sel) (hv : Valid (rowBodyE re169 1) sel) (tail : List UInt8) (ht : TailIn (rowEndSym re169) tail) :
    RowResult row169.re (flat sel ++ tail) ((flat sel).length + tailLen tail) [((headParts re169).1, 0, 0)] (sel ++ [rowEndEw re169 tail]) :=
  auto_E (re := re169) (by rfl) cert169.headOk sel hv tail ht

/-! ### row 170 (month:2,day:3,hour:4,minute:5,second:6,tz:7,year:8): head `softR`, end `(?P<g>[class]|$)` -/

theorem cert170 : (rowsQ[1]'(by decide)).Cert := certsQ 1 (by decide)

theorem facts170 : keptCounts (rowBodyE re170 1) = [(105, 105), (1, 1), (46, 49), (2, 2), (25, 25), (2, 2), (1, 1), (2, 2), (2, 2), (1, 1), (1, 1), (1, 1), (3, 3)] ∧
    catDigest (rowBodyE re170 1) = 260661146 ∧
    splitsL (rowBodyE re170 1) "Jun-16 14:09:58 -07 2000 === Started libdnf-0.31.0 ===".toUTF8.toList = true := cert170.facts

theorem C04_row170_search (sel : Sel) (hv : Valid (rowBodyE re170 1) sel) (tail : List UInt8) (ht : TailIn (rowEndSym re170) tail) :
    RowResult row170.re (flat sel ++ tail) ((flat sel).length + tailLen tail) [((headParts re170).1, 0, 0)] (sel ++ [rowEndEw re170 tail]) :=
  auto_E (re := re170) (by rfl) cert170.headOk sel hv tail ht

/-! ### row 171 (month:2,day:3,hour:4,minute:5,second:6,year:7): head `softR`, end `(?P<g>[class]|$)` -/

theorem cert171 : (rowsQ[2]'(by decide)).Cert := certsQ 2 (by decide)

theorem facts171 : keptCounts (rowBodyE re171 1) = [(105, 105), (1, 1), (46, 49), (2, 2), (25, 25), (2, 2), (1, 1), (2, 2), (2, 2), (1, 1), (3, 3)] ∧
    catDigest (rowBodyE re171 1) = 396625654 ∧
    splitsL (rowBodyE re171 1) "Jun-16 14:09:58 2000 === Started libdnf-0.31.0 ===".toUTF8.toList = true := cert171.facts

theorem C04_row171_search (sel : Sel) (hv : Valid (rowBodyE re171 1) sel) (tail : List UInt8) (ht : TailIn (rowEndSym re171) tail) :
    RowResult row171.re (flat sel ++ tail) ((flat sel).length + tailLen tail) [((headParts re171).1, 0, 0)] (sel ++ [rowEndEw re171 tail]) :=
  auto_E (re := re171) (by rfl) cert171.headOk sel hv tail ht

/-! ### row 172 (month:2,day:3,hour:4,minute:5,second:6): head `softR`, end `(?P<g>[class]|$)` -/

theorem cert172 : (rowsQ[3]'(by decide)).Cert := certsQ 3 (by decide)

theorem facts172 : keptCounts (rowBodyE re172 1) = [(105, 105), (1, 1), (46, 49), (2, 2), (25, 25), (2, 2), (1, 1), (2, 2), (2, 2)] ∧
    catDigest (rowBodyE re172 1) = 884637046 ∧
    splitsL (rowBodyE re172 1) "Jun-16 14:09:58 === Started libdnf-0.31.0 ===".toUTF8.toList = true := cert172.facts

theorem C04_row172_search (sel : Sel) (hv : Valid (rowBodyE re172 1) sel) (tail : List UInt8) (ht : TailIn (rowEndSym re172) tail) :
    RowResult row172.re (flat sel ++ tail) ((flat sel).length + tailLen tail) [((headParts re172).1, 0, 0)] (sel ++ [rowEndEw re172 tail]) :=
  auto_E (re := re172) (by rfl) cert172.headOk sel hv tail ht

end S4V.Props.RegexCapture3
