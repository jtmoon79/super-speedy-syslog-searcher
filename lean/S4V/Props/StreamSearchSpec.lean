/-
C05 — the search strategy and the drop policy match what a one-way stream can answer.

`read_block_File{Gz,Bz2,Lz4}` decode forwards only and (look-back drop) keep just the highest block
decoded; a request for a block that was dropped ends in `Done`. `S4V.Props.StreamSpec` proves the
answers right for NON-DECREASING request sequences. This file ties that premise to what the
readers above do, through `BlockReader::is_streamed_file()`: the generated table flags every
(file type, archive) of a look-back-dropping kind as streamed; for a streamed file the generated
choice of search is the linear one, whose requests never go back (a bisection gets `Done` for a
block that exists: `binary_on_stream_loses`); a year-less log is read backwards from the end, and
under the generated condition `disable_drop_data()` is called first, after which every request
order is answered (`C05_yearless_keep`). The table facts are proved by `decide` over the generated
tables: a flipped row breaks the proof. One bridge to `S4V.Model.Syslines`: the offsets at which the
modelled linear search calls `find_sysline` increase strictly (`lsearch_probes_increasing`).

The traces (`S4V.Model.StreamSearch`) are an abstract model at the level of block offsets; the
block accesses INSIDE one `find_sysline` call (line scan, the look at the following line) are not
modelled there — the line and message caches that serve them are covered by the correspondence of
C01/C04 and, end to end, by the multi-block oracle of C05.
-/
import S4V.Props.StreamSpec
import S4V.Lemmas.StreamKeep
import S4V.Lemmas.SyslPart
import S4V.Model.StreamSearch

namespace S4V.Props.StreamSearchSpec
open S4V.Gen.Blocks S4V.Gen.Stream S4V.Model.Lines S4V.Model.Stream S4V.Lemmas.Stream
  S4V.Lemmas.StreamKeep S4V.Model.StreamSearch S4V.Props.StreamSpec

/-- **C05_streamed_table**: every row whose archive kind drops behind itself says "streamed" —
for every file type; the rows exist for every file type; and those archive kinds are the model's
gz, bz2, lz4 -/
theorem C05_streamed_table :
    (∀ row ∈ IS_STREAMED_TABLE, row.2.1 ∈ LOOKBACK_DROP_ARCHIVES → row.2.2 = true)
    ∧ (∀ ft ∈ FILE_TYPES, ∀ a ∈ LOOKBACK_DROP_ARCHIVES, isStreamed ft a = some true)
    ∧ lookbackKinds = [.bz2, .gz, .lz4] := by decide +kernel

/-- what the table says for the other kinds: xz (decoded whole in `new`, blocks dropped by the
layers above cannot be decoded again) and tar `true`; a plain file and `Unparsable` `false`; and the
table is the full product file type × archive plus `Unparsable` -/
theorem C05_streamed_table_rest :
    (∀ ft ∈ FILE_TYPES, isStreamed ft "Xz" = some true ∧ isStreamed ft "Tar" = some true
      ∧ isStreamed ft "Normal" = some false)
    ∧ isStreamed "Unparsable" "" = some false
    ∧ IS_STREAMED_TABLE.map (fun r => (r.1, r.2.1))
        = (FILE_TYPES.flatMap fun ft => ARCHIVES.map fun a => (ft, a)) ++ [("Unparsable", "")] := by decide +kernel

/-- the look-back-dropping functions are the three stream decoders, and `read_block` sends
exactly bz2, gz, lz4 to them -/
theorem lookback_fns_dispatch :
    LOOKBACK_DROP_FNS = ["read_block_FileBz2", "read_block_FileGz", "read_block_FileLz4"]
    ∧ ∀ row ∈ READ_BLOCK_DISPATCH, (row.2.2 ∈ LOOKBACK_DROP_FNS ↔ row.2.1 ∈ LOOKBACK_DROP_ARCHIVES) := by decide +kernel

theorem decOk_of_lookback {kind : Kind} (h : kind ∈ lookbackKinds) (bs : Nat) (cs : List Nat) : DecOk kind bs cs := by
  rw [C05_streamed_table.2.2] at h
  simp only [List.mem_cons, List.not_mem_nil, or_false] at h
  rcases h with rfl | rfl | rfl
  · exact .bz2
  · exact .gz
  · exact .lz4

theorem kind_mem_lookback {a : String} {kind : Kind} (ha : a ∈ LOOKBACK_DROP_ARCHIVES)
    (hk : kindOfArchive a = some kind) : kind ∈ lookbackKinds :=
  List.mem_filterMap.mpr ⟨a, ha, hk⟩

theorem linearTrace_isLinear (k : Nat) : IsLinearTrace (linearTrace k) := List.pairwise_le_range

/-- **C05_linear_on_stream_ok**: on a streamed reader — any of the look-back-dropping kinds, any
chunking of the decoder and of the size pre-pass, any block size, any content — every request of a
linear (non-decreasing) trace gets the plain file's answer -/
theorem C05_linear_on_stream_ok (kind : Kind) (hkind : kind ∈ lookbackKinds) (bs : Nat) (d : Bytes)
    (cs csPre : List Nat) (ks : List Nat) (hbs : 1 ≤ bs) (hlin : IsLinearTrace ks) :
    (readSeq (Rd.new kind bs d cs csPre) ks).1 = ks.map (specRes d bs)
    ∧ (readSeq (Rd.new kind bs d cs csPre) ks).1 = (readSeq (Rd.new .plain bs d [] []) ks).1 := by
  have hk := decOk_of_lookback hkind bs cs
  have h2 := C05_blocks_equal kind bs d cs csPre ks hbs hk hlin
  exact ⟨by rw [h2]; exact plain_any_order bs d ks hbs, h2⟩

/-- the hypotheses are satisfiable, and the conclusion is not vacuous -/
example : Kind.bz2 ∈ lookbackKinds := by decide +kernel
example : (readSeq (Rd.new .bz2 2 [1, 2, 3, 4, 5] [1, 3] [2]) (linearTrace 3)).1
    = [.found [1, 2], .found [3, 4], .found [5], .done] := by decide +kernel

/-- **C05_streamed_search_is_linear**: for every file type in a bz2 / gz / lz4 container the
generated choice of search, applied to the generated flag, is the linear one. Unfolds
`IS_STREAMED_TABLE`, `LOOKBACK_DROP_ARCHIVES` and `searchIsLinear`. -/
theorem C05_streamed_search_is_linear :
    ∀ ft ∈ FILE_TYPES, ∀ a ∈ LOOKBACK_DROP_ARCHIVES, (isStreamed ft a).map searchIsLinear = some true := by decide +kernel

/-- and for a plain file it is the binary one -/
theorem plain_search_is_binary :
    ∀ ft ∈ FILE_TYPES, (isStreamed ft "Normal").map searchIsLinear = some false := by decide +kernel

/-- **C05_search_on_streamed_ok**: file type `ft` in container `a` (bz2 / gz / lz4), the flag as the
table gives it, the search as the source chooses it: every block request of the datetime-filter
search is answered as the plain file would -/
theorem C05_search_on_streamed_ok (ft a : String) (hft : ft ∈ FILE_TYPES) (ha : a ∈ LOOKBACK_DROP_ARCHIVES)
    (kind : Kind) (hkind : kindOfArchive a = some kind) (streamed : Bool) (hs : isStreamed ft a = some streamed)
    (bs : Nat) (d : Bytes) (cs csPre : List Nat) (lin bin : List Nat) (hbs : 1 ≤ bs) (hlin : IsLinearTrace lin) :
    (readSeq (Rd.new kind bs d cs csPre) (searchTrace streamed lin bin)).1
      = (searchTrace streamed lin bin).map (specRes d bs) := by
  have h1 := C05_streamed_search_is_linear ft hft a ha
  rw [hs] at h1
  simp only [Option.map_some, Option.some.injEq] at h1
  unfold searchTrace
  rw [h1, if_pos rfl]
  exact (C05_linear_on_stream_ok kind (kind_mem_lookback ha hkind) bs d cs csPre lin hbs hlin).1

example : "Text" ∈ FILE_TYPES ∧ "Bz2" ∈ LOOKBACK_DROP_ARCHIVES ∧ kindOfArchive "Bz2" = some .bz2
    ∧ isStreamed "Text" "Bz2" = some true := by decide +kernel

/-- "a streamed reader answers a bisection like the plain reader does" -/
def C05_binary_on_stream_full : Prop :=
  ∀ (kind : Kind), kind ∈ lookbackKinds → ∀ (bs : Nat) (d : Bytes) (t : Nat), 1 ≤ bs →
    t ≤ blockOffsetLast d.length bs →
    (readSeq (Rd.new kind bs d [] []) (binaryTrace (blockOffsetLast d.length bs) t)).1
      = (binaryTrace (blockOffsetLast d.length bs) t).map (specRes d bs)

/-- **binary_on_stream_loses**: 4 bytes, `bs = 1` (blocks 0 … 3), the message sought is in block 0:
the bisection asks for blocks `0, 1, 0`; decoding block 1 dropped block 0, and the second request
for it — a block that exists — is answered `Done`. Same for gz, bz2 and lz4; the plain reader
answers all three requests. -/
theorem binary_on_stream_loses :
    binaryTrace 3 0 = [0, 1, 0]
    ∧ (∀ kind ∈ lookbackKinds,
        (readSeq (Rd.new kind 1 [1, 2, 3, 4] [] []) (binaryTrace 3 0)).1 = [.found [1], .found [2], .done])
    ∧ (readSeq (Rd.new .plain 1 [1, 2, 3, 4] [] []) (binaryTrace 3 0)).1 = [.found [1], .found [2], .found [1]]
    ∧ specRes [1, 2, 3, 4] 1 0 = .found [1] := by decide +kernel

theorem C05_binary_on_stream_full_false : ¬ C05_binary_on_stream_full := by
  intro h
  have := h .gz (by decide) 1 [1, 2, 3, 4] 0 (by decide) (by decide)
  revert this
  decide +kernel

/-- a larger bisection: 8 blocks, target block 1 — probes `0, 3, 1`; block 1 was decoded on the way to
block 3 and dropped -/
example : binaryTrace 7 1 = [0, 3, 1] := by decide +kernel
example : (readSeq (Rd.new .bz2 2 [1, 2, 3, 4, 5, 6, 7, 8, 9, 10, 11, 12, 13, 14, 15] [] []) (binaryTrace 7 1)).1
    = [.found [1, 2], .found [7, 8], .done] := by decide +kernel

/-- with the flag `false` the source would pick the bisection: what a flipped row would cause -/
theorem flag_false_picks_binary (lin bin : List Nat) : searchTrace false lin bin = bin := by
  unfold searchTrace
  rw [if_neg (by decide)]

/-- **C05_keep_any_order**: after `disable_drop_data()` a streamed reader answers every request
sequence, in ANY order, as the plain reader does (every chunking, block size, content) -/
theorem C05_keep_any_order (kind : Kind) (hkind : kind ∈ lookbackKinds) (bs : Nat) (d : Bytes)
    (cs csPre : List Nat) (ks : List Nat) (hbs : 1 ≤ bs) :
    (readSeq (Rd.new kind bs d cs csPre).disableDropData ks).1 = ks.map (specRes d bs) := by
  obtain ⟨h, e⟩ := KInv.new kind bs d cs csPre hbs (decOk_of_lookback hkind bs cs)
  have := readSeq_keep d ks _ 0 h
  rw [e] at this
  exact this

/-- the backwards trace with `drop_data` left on: only the last block is answered -/
theorem backward_on_stream_drop_loses :
    backwardTrace 2 = [2, 1, 0]
    ∧ (∀ kind ∈ lookbackKinds,
        (readSeq (Rd.new kind 1 [1, 2, 3] [] []) (backwardTrace 2)).1 = [.found [3], .done, .done])
    ∧ (∀ kind ∈ lookbackKinds,
        (readSeq (Rd.new kind 1 [1, 2, 3] [] []).disableDropData (backwardTrace 2)).1
          = [.found [3], .found [2], .found [1]]) := by decide +kernel

/-- "with `drop_data` on, the backwards pass is answered" — false -/
def C05_backward_with_drop_full : Prop :=
  ∀ (kind : Kind), kind ∈ lookbackKinds → ∀ (bs : Nat) (d : Bytes), 1 ≤ bs →
    (readSeq (Rd.new kind bs d [] []) (backwardTrace (blockOffsetLast d.length bs))).1
      = (backwardTrace (blockOffsetLast d.length bs)).map (specRes d bs)

theorem C05_backward_with_drop_full_false : ¬ C05_backward_with_drop_full := by
  intro h
  have := h .gz (by decide) 1 [1, 2, 3] (by decide)
  revert this
  decide +kernel

/-- the generated condition, applied to the generated flag: for every file type in a bz2 / gz / lz4
container without a year in its timestamps every block is kept -/
theorem yearless_streamed_keeps_all :
    ∀ ft ∈ FILE_TYPES, ∀ a ∈ LOOKBACK_DROP_ARCHIVES,
      (isStreamed ft a).map (fun s => keepAllBlocks s false) = some true := by decide +kernel

/-- with a year, or for a plain file, `drop_data` stays on (memory stays bounded: C17) -/
theorem year_keeps_drop (s : Bool) : keepAllBlocks s true = false ∧ keepAllBlocks false s = false := by
  cases s <;> decide

/-- **C05_yearless_keep**: file type `ft` in container `a` (bz2 / gz / lz4), no year in the
timestamps, the flag as the table gives it, `disable_drop_data()` as the source conditions it:
every request order — the backwards year pass in particular — is answered as the plain file would -/
theorem C05_yearless_keep (ft a : String) (hft : ft ∈ FILE_TYPES) (ha : a ∈ LOOKBACK_DROP_ARCHIVES)
    (kind : Kind) (hkind : kindOfArchive a = some kind) (streamed : Bool) (hs : isStreamed ft a = some streamed)
    (bs : Nat) (d : Bytes) (cs csPre : List Nat) (ks : List Nat) (hbs : 1 ≤ bs) :
    (readSeq (afterBlockzero (Rd.new kind bs d cs csPre) streamed false) ks).1 = ks.map (specRes d bs)
    ∧ (readSeq (afterBlockzero (Rd.new kind bs d cs csPre) streamed false) (backwardTrace (blockOffsetLast d.length bs))).1
        = (backwardTrace (blockOffsetLast d.length bs)).map (specRes d bs) := by
  have h1 := yearless_streamed_keeps_all ft hft a ha
  rw [hs] at h1
  simp only [Option.map_some, Option.some.injEq] at h1
  unfold afterBlockzero
  rw [h1, if_pos rfl]
  have hk := kind_mem_lookback ha hkind
  exact ⟨C05_keep_any_order kind hk bs d cs csPre ks hbs, C05_keep_any_order kind hk bs d cs csPre _ hbs⟩

example : (readSeq (afterBlockzero (Rd.new .lz4 2 [1, 2, 3, 4, 5] [1, 1, 2] [3]) true false) (backwardTrace 2)).1
    = [.found [5], .found [3, 4], .found [1, 2]] := by decide +kernel
/-- with a year the reader is left as it was: the backwards trace would lose blocks, but no
backwards pass is made for such a log -/
example : (readSeq (afterBlockzero (Rd.new .lz4 2 [1, 2, 3, 4, 5] [] []) true true) (backwardTrace 2)).1
    = [.found [5], .done, .done] := by decide +kernel

/-- `FixedStructReader::new` keeps every block of a streamed file (records are visited in time
order after the scan) -/
theorem fixedstruct_streamed_keeps_all :
    ∀ ft ∈ FILE_TYPES, ∀ a ∈ LOOKBACK_DROP_ARCHIVES, (isStreamed ft a).map fixedstructKeepAllBlocks = some true := by decide +kernel

open S4V.Model.Syslines S4V.Lemmas.Syslines in
theorem findSysline_advances {ls : List LineInfo} (hwf : WFLines ls) {fo fo' : Nat} {s : Sysl}
    (h : findSysline ls fo = .found fo' s) : fo < fo' := by
  obtain ⟨-, hle, rfl⟩ := findSysline_found hwf h
  omega

open S4V.Model.Syslines S4V.Lemmas.Syslines in
/-- **lsearch_probes_increasing**: the file offsets at which the linear datetime-filter search calls
`find_sysline` are strictly increasing (every well-formed line list, every filter) -/
theorem lsearch_probes_increasing {ls : List LineInfo} (hwf : WFLines ls) (flt : Option Int) :
    ∀ (fuel fo : Nat), (lsearchProbes ls flt fuel fo).Pairwise (· < ·)
      ∧ ∀ x ∈ lsearchProbes ls flt fuel fo, fo ≤ x := by
  intro fuel
  induction fuel with
  | zero => intro fo; exact ⟨List.Pairwise.nil, fun x hx => by cases hx⟩
  | succ fuel ih =>
    intro fo
    unfold lsearchProbes
    cases hf : findSysline ls fo with
    | found fo' s =>
      have hlt := findSysline_advances hwf hf
      simp only
      cases hdt : S4V.Gen.Filter.dtAfterOrBefore s.dt flt with
      | OccursBefore =>
        obtain ⟨i1, i2⟩ := ih fo'
        simp only
        refine ⟨List.pairwise_cons.mpr ⟨fun x hx => by have := i2 x hx; omega, i1⟩, ?_⟩
        intro x hx
        rcases List.mem_cons.mp hx with rfl | hx
        · exact Nat.le_refl _
        · have := i2 x hx; omega
      | _ => simp
    | _ => simp

open S4V.Model.Syslines S4V.Lemmas.Syslines in
/-- the blocks holding those offsets form a linear trace, at every block size -/
theorem lsearch_probe_blocks_linear {ls : List LineInfo} (hwf : WFLines ls) (flt : Option Int) (fuel fo bs : Nat) :
    IsLinearTrace ((lsearchProbes ls flt fuel fo).map (blockOffsetAtFileOffset · bs)) := by
  unfold IsLinearTrace
  rw [List.pairwise_map]
  exact List.Pairwise.imp (fun h => Nat.div_le_div_right (Nat.le_of_lt h)) (lsearch_probes_increasing hwf flt fuel fo).1

open S4V.Model.Syslines in
/-- three messages, filter after the second: probes at 0, 4, 8 -/
example : lsearchProbes [⟨0, 3, some 10⟩, ⟨4, 7, some 20⟩, ⟨8, 11, some 30⟩] (some 25) 5 0 = [0, 4, 8] := by decide +kernel
open S4V.Model.Syslines S4V.Lemmas.Syslines in
example : WFLines [⟨0, 3, some 10⟩, ⟨4, 7, some 20⟩, ⟨8, 11, some 30⟩] := by decide +kernel

end S4V.Props.StreamSearchSpec
