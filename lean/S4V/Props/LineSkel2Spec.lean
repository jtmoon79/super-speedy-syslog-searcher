/-
C12 / C02 / C17 — `LineReader::find_line_in_block`, `drop_line`, `drop_lines`, tied to the source text.

`S4V.Gen.Lines2` (regenerated by gen/gen_lines.py on every run) holds ALL of `find_line_in_block` as a program:
the statements it shares with `find_line` in the statement language of `S4V.Gen.Lines`, plus the five things only
it has (`partial_line`, `^`, `LineP::new(line)` = wrapped but not stored, `return (Done, Some(line))`, `if`s over
these); and the facts of `drop_line` / `drop_lines` (key, containers the key is removed from, which parts have
their block dropped, order). `S4V.Model.LineSkel2` interprets them. This file states

1. the interpreter run on the GENERATED program is the hand models: `findLineInBlock` (fresh reader, same parts,
   every block size) and `findLineInBlockCached` (same answer, same caches afterwards, EVERY store); so the
   in-block soundness theorem holds of the regenerated form, and so does finding F1 (a first line longer than the
   block yields a 1-byte partial line);
2. `drop_line` from the regenerated facts is the hand `dropLine` (LRU entry and `lines` entry removed,
   `foend_to_fobeg` kept) and releases the blocks of all parts but the last — finding F25: a line inside one
   block (for instance one ending exactly on the block end) never has its block released by `drop_line`;
3. histories of `find_line` / `find_line_in_block` / `drop_line` agree op by op;
4. counter-models: `S4V.Gen.Lines2Mutants` (source re-translated with one token edited), each with a concrete
   input on which a named statement of 1/2 is false.
-/
import S4V.Lemmas.LineSkel2
import S4V.Props.LineSkelSpec
import S4V.Props.C12
import S4V.Gen.Lines2Mutants

namespace S4V.Props.LineSkel2Spec
open S4V.Gen.Blocks S4V.Model.Lines S4V.Model.LinesCached S4V.Model.LineSkel S4V.Model.LineSkel2
  S4V.Lemmas.Lines S4V.Lemmas.LineSkel S4V.Lemmas.LineSkel2 S4V.Lemmas.Blocks S4V.Props.LineSkelSpec

/-- **with the caches**: for EVERY store, the regenerated `find_line_in_block` answers what the hand model
`findLineInBlockCached` answers (result, parts, partial line) and leaves the same caches -/
theorem C12_findLineInBlockCached_skeleton_is_model (bs : Nat) (d : Bytes) (s : Store) (fo : Nat) (hbs : 1 ≤ bs) :
    (findLineInBlockG bs d s fo).1 = (findLineInBlockCached bs d s fo).1 ∧
      (findLineInBlockG bs d s fo).2.1 = (findLineInBlockCached bs d s fo).2 :=
  findLineInBlockG_eq bs d s fo hbs

/-- **fresh reader**: the regenerated `find_line_in_block` builds exactly what the hand model
`findLineInBlock` builds (found / partial / nothing, same parts), every block size, file, offset -/
theorem C12_findLineInBlock_skeleton_is_model (bs : Nat) (d : Bytes) (fo : Nat) (hbs : 1 ≤ bs) :
    (findLineInBlockG bs d empty fo).1 = liftIB bs (Model.Lines.findLineInBlock bs d fo) := by
  rw [(findLineInBlockG_eq bs d empty fo hbs).1, findLineInBlockCached_empty]

example : (findLineInBlockG 4 [97, 10, 98] empty 1).1 = .res (.found 2 0 1 [⟨0, 0, 0, 2, 0⟩]) := by decide +kernel
example : (findLineInBlockG 2 [97, 97, 97, 10] empty 3).1 = .res .done := by decide +kernel

theorem toPart_ofPart (bs : Nat) (ps : List Part) : (ps.map (ofPart bs)).map GPart.toPart = ps := by
  induction ps with
  | nil => rfl
  | cons p r ih => simp only [List.map_cons, ih]; rfl

/-- hence the in-block soundness theorem (`C12_find_line_in_block_sound`) holds of the regenerated form: a line it
returns is the line of the file containing `fo` -/
theorem C12_findLineInBlock_generated_sound (bs : Nat) (d : Bytes) (fo n b e : Nat) (parts : List GPart)
    (hbs : 1 ≤ bs) (h : (findLineInBlockG bs d empty fo).1 = .res (.found n b e parts)) :
    n = lineEnd d fo + 1 ∧
      partsBytes d bs (parts.map GPart.toPart) = (d.drop (lineStart d fo)).take (lineEnd d fo + 1 - lineStart d fo) := by
  rw [C12_findLineInBlock_skeleton_is_model bs d fo hbs] at h
  rcases hh : Model.Lines.findLineInBlock bs d fo with _ | ⟨n', ps⟩ | ps
  · rw [hh] at h; simp [liftIB] at h
  · rw [hh] at h
    simp only [liftIB, GResIB.res.injEq, GRes.found.injEq] at h
    obtain ⟨h1, _, _, h4⟩ := h
    have := S4V.Props.C12.C12_find_line_in_block_sound bs d fo n' ps hbs hh
    rw [← h4, toPart_ofPart, ← h1]
    exact this
  · rw [hh] at h; simp [liftIB] at h

example : (findLineInBlockG 4 [97, 10, 98] empty 1).1 = .res (.found 2 0 1 [⟨0, 0, 0, 2, 0⟩]) ∧ (1 : Nat) ≤ 4 :=
  ⟨by decide +kernel, by decide⟩

/-- **finding F1 over the regenerated form**: when block zero holds no newline and is not the last block (the
first line is longer than the block), `find_line_in_block(0)` returns a partial line of ONE byte
(`bi_middle_end` stays at the start index), whatever the block size -/
theorem F1_regenerated (bs : Nat) (d : Bytes) (hbs : 1 ≤ bs) (hlong : bs < d.length)
    (hnl : ∀ i, i < bs → d[i]? ≠ some NL) :
    (findLineInBlockG bs d empty 0).1 = .part [⟨0, 0, 0, 1, 0⟩] := by
  obtain ⟨_, _, e3, _⟩ := isLineEnd_lineEnd d 0 (by omega)
  -- the first line does not end inside block zero
  have hE : bs ≤ lineEnd d 0 := by
    rcases Nat.lt_or_ge (lineEnd d 0) bs with h | h
    · rcases e3 with e3 | e3
      · exact absurd e3 (hnl _ h)
      · omega
    · exact h
  rw [C12_findLineInBlock_skeleton_is_model bs d 0 hbs,
    findLineInBlock_cut bs d 0 hbs (by omega) (Or.inl (Nat.zero_div _)) (by simpa using hE),
    Nat.le_zero.mp (isLineStart_lineStart d 0).le]
  simp [liftIB, ofPart, fileOffsetAtBlockOffsetIndex_eq]

/-- the witness of §7 F1 (`S4V.Props.GateSpec.exF1`: a 10-byte first line, blocks of 8) -/
def exF1 : Bytes := [49, 97, 97, 97, 97, 97, 97, 97, 97, 97, 10, 49, 98, 10]
example : (findLineInBlockG 8 exF1 empty 0).1 = .part [⟨0, 0, 0, 1, 0⟩] :=
  F1_regenerated 8 _ (by decide) (by decide) (by decide)

/-- the regenerated `drop_line` is the hand `dropLine` (the LRU entry keyed by the line's begin and the `lines`
entry go; `foend_to_fobeg` is kept), and the blocks released are those of all parts but the last, in order -/
theorem C17_dropLine_skeleton_is_model (s : Store) (beg fin : Nat) (parts : List GPart) :
    dropLineG s beg fin = dropLine s beg ∧ dropBlocksG parts = dropBlocks parts := by
  refine ⟨rfl, ?_⟩
  simp only [dropBlocksG, dropBlocksF, S4V.Gen.Lines2.DROP_KEEP, S4V.Gen.Lines2.DROP_TAKE_FIRST,
    S4V.Gen.Lines2.DROP_REVERSED, dropBlocks, Bool.false_eq_true, ↓reduceIte, List.dropLast_eq_take]
  cases parts <;> rfl

/-- `drop_line` never prunes `foend_to_fobeg` -/
theorem C17_dropLine_keeps_endToBeg (s : Store) (beg fin : Nat) : (dropLineG s beg fin).endToBeg = s.endToBeg := rfl

/-- **finding F25 over the regenerated form**: `drop_line` keeps the block of the LAST part … -/
theorem F25_regenerated (ps : List GPart) (p : GPart) : dropBlocksG (ps ++ [p]) = ps.map (·.bo) := by
  rw [(C17_dropLine_skeleton_is_model empty 0 0 _).2, dropBlocks, List.dropLast_concat]

/-- … so a line inside one block — for instance one that ends exactly on the block end, after which the reader
moves on to the next block — never has its block released by `drop_line` -/
theorem F25_single_block_line_releases_nothing (p : GPart) : dropBlocksG [p] = [] := F25_regenerated [] p

example : dropBlocksG [⟨3, 3, 5, 8, 29⟩, ⟨4, 4, 0, 8, 32⟩, ⟨5, 5, 0, 2, 40⟩] = [3, 4] := by decide

theorem eraseParts_of_toR {g : GRes} {r : R} (h : g.toR = some r) : eraseParts g = ofR r := by
  cases g <;> simp [GRes.toR] at h <;> subst h <;> rfl

/-- one reader, any sequence of `find_line`, `find_line_in_block`, `drop_line`: the regenerated forms answer what
the hand models answer, op by op, and leave the same caches -/
theorem C02_history2_skeleton_is_model (bs : Nat) (d : Bytes) (hbs : 1 ≤ bs) (ops : List Op2) (s : Store) :
    runOps2G bs d s ops = runOps2 bs d s ops := by
  induction ops generalizing s with
  | nil => rfl
  | cons op ops ih =>
    have hop : applyOp2G bs d s op = applyOp2 bs d s op := by
      cases op with
      | find fo =>
        obtain ⟨h1, h2⟩ := C12_findLineCached_skeleton_is_model bs d s fo hbs
        simp only [applyOp2G, applyOp2, eraseParts_of_toR h1, h2]
      | findib fo =>
        obtain ⟨h1, h2⟩ := findLineInBlockG_eq bs d s fo hbs
        simp only [applyOp2G, applyOp2, h1, h2]
      | drop fo =>
        simp only [applyOp2G, applyOp2]
        rcases getLinep s fo with _ | ⟨b, e⟩ <;> rfl
    simp only [runOps2G, runOps2, hop, ih]

example : (runOps2G 2 [97, 10, 98, 10] empty [.findib 0, .find 2, .drop 0, .findib 1]).1 =
    [some (.res (.found 2 0 1 [⟨0, 0, 0, 2, 0⟩])), some (.res (.found 4 2 3 [])), none,
     some (.res (.found 2 0 1 [⟨0, 0, 0, 2, 0⟩]))] := by decide +kernel

open S4V.Gen.Lines2Mutants

def ibEnv (bs : Nat) (d : Bytes) : Env := { bs := bs, d := d, checkStore := S4V.Gen.Lines.checkStore }

/-- statement 1 (fresh reader) at one input -/
def IBAgreesAt (prog : List S4V.Gen.Lines2.StmtIB) (bs : Nat) (d : Bytes) (fo : Nat) : Prop :=
  (runFindIB prog (ibEnv bs d) empty fo).1 = liftIB bs (Model.Lines.findLineInBlock bs d fo)
instance (prog bs d fo) : Decidable (IBAgreesAt prog bs d fo) := by unfold IBAgreesAt; infer_instance

/-- statement 1 (caches afterwards) at one input -/
def IBStoreAgreesAt (prog : List S4V.Gen.Lines2.StmtIB) (bs : Nat) (d : Bytes) (fo : Nat) : Prop :=
  (runFindIB prog (ibEnv bs d) empty fo).2.1 = (findLineInBlockCached bs d empty fo).2
instance (prog bs d fo) : Decidable (IBStoreAgreesAt prog bs d fo) := by unfold IBStoreAgreesAt; infer_instance

/-- `bi_middle_end + 1 -> bi_middle_end` in A0: the first line loses its newline -/
theorem ibA0End_wrong : ¬ IBAgreesAt ibA0End.findLineInBlock 4 [97, 10] 0 := by decide +kernel
example : IBAgreesAt S4V.Gen.Lines2.findLineInBlock 4 [97, 10] 0 := by decide +kernel

/-- `bof != bo_middle -> bof == bo_middle`: a line inside the block is not found -/
theorem ibBofEq_wrong : ¬ IBAgreesAt ibBofEq.findLineInBlock 4 [97, 10] 1 := by decide +kernel

/-- `bof == 0 -> bof != 0`: the start of block 1 is taken for the start of a line (unsound) -/
theorem ibBegof_wrong : ¬ IBAgreesAt ibBegof.findLineInBlock 2 [97, 97, 97, 10] 3 := by decide +kernel
example : IBAgreesAt S4V.Gen.Lines2.findLineInBlock 2 [97, 97, 97, 10] 3 := by decide +kernel

/-- `partial_line = true -> false`: a line without its end is returned as found (and stored) -/
theorem ibNoPartial_wrong : ¬ IBAgreesAt ibNoPartial.findLineInBlock 2 [97, 97, 97, 10] 0 := by decide +kernel
/-- … and at a later offset the release-active `assert!` fires -/
theorem ibNoPartial_panics :
    (runFindIB ibNoPartial.findLineInBlock (ibEnv 2 [97, 97, 97, 10]) empty 1).1 = .res .panic := by decide +kernel

/-- `LineP::new(line) -> self.insert_line(line)`: same answer, but the line is now stored -/
theorem ibStoreFinal_stores : ¬ IBStoreAgreesAt ibStoreFinal.findLineInBlock 4 [97, 10] 1 := by decide +kernel
example : IBStoreAgreesAt S4V.Gen.Lines2.findLineInBlock 4 [97, 10] 1 := by decide +kernel
example : IBAgreesAt ibStoreFinal.findLineInBlock 4 [97, 10] 1 := by decide +kernel

/-- `val - 1 -> val`: the block of the last part is released too (F25 would not hold) -/
theorem dropAllParts_releases_last :
    dropBlocksF dropAllParts.DROP_KEEP dropAllParts.DROP_TAKE_FIRST dropAllParts.DROP_REVERSED [⟨3, 3, 0, 8, 24⟩] ≠
      dropBlocks [⟨3, 3, 0, 8, 24⟩] := by decide

/-- `.take -> .skip`: only the block of the last part is released -/
theorem dropSkip_wrong :
    dropBlocksF dropSkip.DROP_KEEP dropSkip.DROP_TAKE_FIRST dropSkip.DROP_REVERSED [⟨3, 3, 5, 8, 29⟩, ⟨4, 4, 0, 2, 32⟩] ≠
      dropBlocks [⟨3, 3, 5, 8, 29⟩, ⟨4, 4, 0, 2, 32⟩] := by decide

/-- key `fileoffset_end()`: the stored line is not removed -/
theorem dropKeyEnd_wrong :
    dropLineF dropKeyEnd.DROP_KEY_IS_BEGIN dropKeyEnd.DROP_REMOVES ⟨[(0, 1)], [(1, 0)], []⟩ 0 1 ≠
      dropLine ⟨[(0, 1)], [(1, 0)], []⟩ 0 := by decide

end S4V.Props.LineSkel2Spec
