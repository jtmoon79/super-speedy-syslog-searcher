/-
Property C08 (also C12: block-size independence, C05: streamed reads) — the record walk of `FixedStructReader`
inside the model, for ALL file contents `d`, record sizes `sz ≥ 1` and windows, and for the plain reader as well as the
streamed reader that keeps its blocks (`new` calls `disable_drop_data` on a streamed file: generated
`STREAMED_KEEPS_BLOCKS`).

`readData_spec`, `plain_exact` and `keep_exact` are stated for requests of at most one block size (a record spans at most
two blocks when `bs ≥ sz`); `S4V.Props.FixedWalkManySpec` states them, and the theorems that rest on them, for every block
size (`bs < sz`: the record is assembled by the Many arm of `read_data`).

Counter-models (`*_loses`, `*_wrong`): other values of the regenerated facts of the walk, run on concrete files.
-/
import S4V.Lemmas.FixedWalkRead
import S4V.Props.SortSpec

namespace S4V.Props.FixedWalkSpec
open S4V.Gen.Blocks S4V.Gen.Stream S4V.Gen.Keys S4V.Gen.FixedWalk S4V.Model.Lines S4V.Model.Stream
  S4V.Model.SortDrain S4V.Model.FixedWalk S4V.Lemmas.SortDrain S4V.Lemmas.Stream S4V.Lemmas.StreamKeep
  S4V.Lemmas.FixedWalk S4V.Lemmas.FixedWalkRead

def PlainI (d : Bytes) (bs : Nat) : Rd → Prop := fun r => PInv d r ∧ r.bs = bs
/-- invariant of the streamed reader after `disable_drop_data` -/
def KeepI (d : Bytes) (bs : Nat) : Rd → Prop := fun r => (∃ n, KInv d r n) ∧ r.bs = bs

theorem plain_new (d : Bytes) (bs : Nat) (hbs : 1 ≤ bs) : PlainI d bs (rdNew cfg0 .plain bs d [] []) := by
  have : rdNew cfg0 .plain bs d [] [] = Rd.new .plain bs d [] [] := by simp [rdNew]
  rw [this]
  exact ⟨PInv.new bs d [] [] hbs, rfl⟩

/-- `new` on a streamed file: gz / bz2 / lz4 with every chunking of the decoder -/
theorem keep_new (kind : Kind) (d : Bytes) (bs : Nat) (cs csPre : List Nat) (hbs : 1 ≤ bs)
    (hk : kind = .gz ∨ kind = .bz2 ∨ kind = .lz4) : KeepI d bs (rdNew cfg0 kind bs d cs csPre) := by
  have hne : kind ≠ .plain := by rcases hk with h | h | h <;> rw [h] <;> decide
  have : rdNew cfg0 kind bs d cs csPre = (Rd.new kind bs d cs csPre).disableDropData := by
    simp [rdNew, cfg0, STREAMED_KEEPS_BLOCKS, hne]
  rw [this]
  have hdec : DecOk kind bs cs := by
    rcases hk with h | h | h
    · exact Or.inl h
    · exact Or.inr (Or.inl h)
    · exact Or.inr (Or.inr (Or.inl h))
  obtain ⟨h, e⟩ := KInv.new kind bs d cs csPre hbs hdec
  exact ⟨⟨0, h⟩, e⟩

theorem plain_exact (d : Bytes) (bs : Nat) (hbs : 1 ≤ bs) : ReadsExact d (PlainI d bs) bs :=
  readsExact (faithful_plain d bs hbs) bs

theorem keep_exact (d : Bytes) (bs : Nat) (hbs : 1 ≤ bs) : ReadsExact d (KeepI d bs) bs :=
  readsExact (faithful_keep d bs hbs) bs

/-- from any state of a faithful reader (plain file: any history of reads and drops; streamed file with blocks kept: any
history), a request of at most `bs` bytes returns exactly `d[beg, min end |d|)`: `Done` iff that range is empty, `Err`
iff the buffer is shorter than the range. Independent of where the block boundaries fall. -/
theorem readData_spec {d : Bytes} {bs : Nat} {I : Rd → Prop} (hF : Faithful d bs I) (r : Rd) (beg e len : Nat)
    (hr : I r) (hlen : 1 ≤ len) (hspan : e ≤ beg + bs) :
    ∃ r', I r' ∧ readDataToBuffer r beg e false len =
      (if beg ≥ min e d.length then R3.done
       else if len < min e d.length - beg then R3.err
       else R3.found (sl d beg (min e d.length)), r') := by
  obtain ⟨r', h1, _, h3⟩ := read_exact hF r beg e len hr hlen
  exact ⟨r', h1, h3⟩

/-- an empty buffer is an error before anything is read -/
theorem readData_empty_buffer (r : Rd) (beg e : Nat) (o : Bool) : readDataToBuffer r beg e o 0 = (.err, r) := by
  simp [readDataToBuffer, lenCheckFails, LEN_CHECK_STRICT]

-- non-vacuity and the arms beyond the theorem (Many, with `bs = 1, 2`), plain and gz, across block sizes
example : (readDataSeq (Rd.new .plain 4 [1, 2, 3, 4, 5, 6, 7, 8, 9] [] []) [(2, 7, false, 9), (7, 20, false, 9), (9, 12, false, 3), (3, 6, false, 2)]).1
    = [.found [3, 4, 5, 6, 7], .found [8, 9], .done, .err] := by decide +kernel
example : ∀ bs ∈ [1, 2, 3, 4, 5, 9, 10],
    (readDataSeq (Rd.new .plain bs [1, 2, 3, 4, 5, 6, 7, 8, 9] [] []) [(1, 8, false, 9), (0, 9, false, 9), (8, 9, false, 1)]).1
      = [.found [2, 3, 4, 5, 6, 7, 8], .found [1, 2, 3, 4, 5, 6, 7, 8, 9], .found [9]] := by decide +kernel
example : ∀ bs ∈ [1, 2, 3, 4, 9],
    (readDataSeq (Rd.new .gz bs [1, 2, 3, 4, 5, 6, 7, 8, 9] [] []).disableDropData [(5, 9, false, 9), (0, 6, false, 9)]).1
      = [.found [6, 7, 8, 9], .found [1, 2, 3, 4, 5, 6]] := by decide +kernel
-- `oneblock = true`: Done as soon as the range leaves the first block
example : (readDataSeq (Rd.new .plain 4 [1, 2, 3, 4, 5, 6, 7, 8, 9] [] []) [(2, 4, true, 9), (2, 5, true, 9)]).1
    = [.found [3, 4], .done] := by decide +kernel

/-- the whole records of the file: offsets `0, sz, 2·sz, …`, `|d| / sz` of them -/
def recsOf (p : P) (d : Bytes) : List Rec := recsAt p d (offs p.sz (d.length / p.sz) 0)

/-- whatever the block size (`≥` the size of a time value) and reader kind: the loop ends with `Done`,
the map is the ordered map of the non-null in-window records keyed `(tv, fo) ↦ fo`, and
`total_entries` = non-null records, `invalid` = records without a time value, `valid_no_pass_filter` = non-null records
outside the window, `out_of_order` = non-null records earlier than the previous non-null record. -/
theorem preprocess_spec {d : Bytes} {I : Rd → Prop} {span : Nat} (hI : ReadsExact d I span) (p : P)
    (a b : Option (Int × Int)) (hsz : 1 ≤ p.sz) (htv : 1 ≤ p.tvSz) (hin : p.tvOff + p.tvSz ≤ p.sz) (hsp : p.tvSz ≤ span)
    (hdiv : d.length % p.sz = 0) (r : Rd) (hr : I r) :
    ∃ r' k, I r' ∧ r'.bs = r.bs ∧
      preprocess cfg0 p a b r =
        (.found (k, build (((recsOf p d).filter (fixedKeep a b)).map fun x => (fixedKey x, x.idx))), r')
      ∧ k.total = (nonNull (recsOf p d)).length
      ∧ k.invalid = noneCount p d (offs p.sz (d.length / p.sz) 0)
      ∧ k.noPass = ((nonNull (recsOf p d)).filter (fun x => !fixedKeep a b x)).length
      ∧ k.ooo = descents none (nonNull (recsOf p d)) := by
  have hn : 0 + d.length / p.sz * p.sz = d.length := by
    have := Nat.div_add_mod' d.length p.sz
    omega
  have hle : d.length / p.sz ≤ d.length := Nat.div_le_self _ _
  obtain ⟨r', h1, h2, h3⟩ := preLoop_eq hI p a b htv hin hsp (d.length / p.sz) (r.fsz + 2) r 0
    (List.replicate p.tvSz 0) (none, {}, []) hr (by rw [hI.fsz r hr]; omega) hn (by simp)
  have hm := preFold_map p a b d (offs p.sz (d.length / p.sz) 0) (none, {}, [])
  obtain ⟨c1, c2, c3, c4⟩ := preFold_cnt p a b d (offs p.sz (d.length / p.sz) 0) (none, {}, [])
  refine ⟨r', (preFold cfg0 p a b d (offs p.sz (d.length / p.sz) 0) (none, {}, [])).2.1, h1, h2, ?_, ?_, ?_, ?_, ?_⟩
  · unfold preprocess
    rw [h3, hm]
    rfl
  · simpa [recsOf] using c1
  · simpa using c2
  · simpa [recsOf] using c3
  · simpa [recsOf] using c4

theorem recsOf_idx {p : P} {d : Bytes} {x : Rec} (h : x ∈ recsOf p d) : ∃ i, i < d.length / p.sz ∧ x.idx = i * p.sz := by
  rw [recsOf, recsAt_eq, offs_eq] at h
  obtain ⟨fo, hfo, hx⟩ := List.mem_filterMap.1 h
  obtain ⟨i, hi, rfl⟩ := List.mem_map.1 hfo
  obtain ⟨tv, -, rfl⟩ := Option.map_eq_some_iff.1 hx
  exact ⟨i, List.mem_range.1 hi, Nat.zero_add _⟩

theorem recsOf_pairwise (p : P) (d : Bytes) (hsz : 1 ≤ p.sz) : (recsOf p d).Pairwise (fun x y => x.idx < y.idx) := by
  rw [recsOf, recsAt_eq, offs_eq, List.filterMap_map, List.pairwise_filterMap]
  refine List.pairwise_lt_range.imp fun {i j} hij x hx y hy => ?_
  obtain ⟨_, -, rfl⟩ := Option.map_eq_some_iff.1 hx
  obtain ⟨_, -, rfl⟩ := Option.map_eq_some_iff.1 hy
  exact Nat.add_lt_add_left (Nat.mul_lt_mul_of_pos_right hij hsz) 0

theorem built_mapOk (p : P) (d : Bytes) (a b : Option (Int × Int)) (hsz : 1 ≤ p.sz) :
    MapOk p.sz d.length (build (((recsOf p d).filter (fixedKeep a b)).map fun x => (fixedKey x, x.idx))) := by
  have hL : ((recsOf p d).filter (fixedKeep a b)).Pairwise (fun x y => x.idx < y.idx) :=
    (recsOf_pairwise p d hsz).sublist List.filter_sublist
  -- the keys `(tv, fo)` differ because the offsets do, so `build` only permutes its input
  have hperm := SortSpec.build_mem_of_distinct
    (xs := ((recsOf p d).filter (fixedKeep a b)).map fun x => (fixedKey x, x.idx)) (by
      rw [List.map_map, List.Nodup, List.pairwise_map]
      exact hL.imp SortSpec.fixedKey_ne)
  refine ⟨build_ksorted _, fun e he => ?_, (hperm.map (·.2)).nodup_iff.2 ?_⟩
  · obtain ⟨x, hx, rfl⟩ := List.mem_map.1 (hperm.mem_iff.1 he)
    obtain ⟨i, hi, e⟩ := recsOf_idx (List.mem_filter.1 hx).1
    have h2 : (i + 1) * p.sz ≤ d.length / p.sz * p.sz := Nat.mul_le_mul_right _ hi
    have := Nat.div_mul_le_self d.length p.sz
    rw [Nat.add_mul] at h2
    exact ⟨by rw [e]; exact Nat.mul_mod_left i p.sz, by simp only; omega⟩
  · rw [List.map_map, List.Nodup, List.pairwise_map]
    exact hL.imp Nat.ne_of_lt

/-- the reader `new` built (`frNew … = ok fr …`, with ANY set of records pre-parsed by `score_file` in its cache, as
long as each is the record of the file at its offset), driven as `exec_fixedstructprocessor` drives it: one entry per
key of the map, in ascending `(tv, fo)` order, each with the bytes `d[fo, fo + sz)`, then `Done`. A record
`FixedStruct::new` rejects is a recoverable error (`Emit.bad`) and the walk goes on. Block sizes `bs ≥ sz`; plain or
streamed reader (any `I` with exact reads). -/
theorem walk_spec {d : Bytes} {I : Rd → Prop} {span : Nat} (hI : ReadsExact d I span) (p : P)
    (a b : Option (Int × Int)) (hsz : 1 ≤ p.sz) (htv : 1 ≤ p.tvSz) (hin : p.tvOff + p.tvSz ≤ p.sz) (hsp : p.sz ≤ span)
    (hdiv : d.length % p.sz = 0) (r : Rd) (hr : I r) (scored : List (Nat × Bytes)) (hsc : CacheOk p d scored)
    (buflen : Nat) (hbuf : p.sz ≤ buflen) {fr : FR} {k : Cnt} {fef mx : Nat}
    (hnew : frNew cfg0 p a b r scored = .ok fr k fef mx) :
    fr.map = build (((recsOf p d).filter (fixedKeep a b)).map fun x => (fixedKey x, x.idx))
    ∧ ∃ fr', walk cfg0 p buflen fr = (fr.map.map (emitOf p d), .done, fr') := by
  obtain ⟨r', k', h1, -, h3, -⟩ := preprocess_spec hI p a b hsz htv hin (by omega) hdiv r hr
  rw [frNew, h3] at hnew
  simp only at hnew
  split at hnew
  · split at hnew <;> cases hnew
  · cases hnew
    exact ⟨rfl, walk_exact hI p hsz hsp hdiv buflen hbuf _ ⟨h1, built_mapOk p d a b hsz, hsc.filter _⟩⟩

/-- the offsets the worker visits are the non-null in-window records of the file stably sorted by time value (equal
times in file order): `SortSpec.C08_order` applied to the map `walk_spec` walks. So the printed sequence is the same for
every block size `≥ sz` and for plain or streamed (blocks kept) reads. -/
theorem C08_walk_is_stable_sort {d : Bytes} {I : Rd → Prop} {span : Nat} (hI : ReadsExact d I span) (p : P)
    (a b : Option (Int × Int)) (hsz : 1 ≤ p.sz) (htv : 1 ≤ p.tvSz) (hin : p.tvOff + p.tvSz ≤ p.sz) (hsp : p.sz ≤ span)
    (hdiv : d.length % p.sz = 0) (r : Rd) (hr : I r) (scored : List (Nat × Bytes)) (hsc : CacheOk p d scored)
    (buflen : Nat) (hbuf : p.sz ≤ buflen) {fr : FR} {k : Cnt} {fef mx : Nat}
    (hnew : frNew cfg0 p a b r scored = .ok fr k fef mx) :
    ∃ fr', walk cfg0 p buflen fr = (fr.map.map (emitOf p d), .done, fr')
      ∧ fr.map.map (·.2) =
          (stableSort (fun x : Rec => (x.tv.1, x.tv.2, 0)) ((recsOf p d).filter (fixedKeep a b))).map (·.idx) := by
  obtain ⟨hm, fr', hw⟩ := walk_spec hI p a b hsz htv hin hsp hdiv r hr scored hsc buflen hbuf hnew
  refine ⟨fr', hw, ?_⟩
  rw [hm]
  exact SortSpec.C08_order (recsOf_pairwise p d hsz) a b

/-- a toy layout: 2-byte records, the first byte is the time (seconds), `[9, 9]` is rejected by `FixedStruct::new` -/
def pT : P :=
  { sz := 2, tvOff := 0, tvSz := 1,
    tvOf := fun b => match b with | [x] => some (x.toNat, 0) | _ => none,
    newOk := fun r => r != [9, 9] }

/-- `new` (given what `score_file` cached) + the worker loop: what is sent, how the loop ended -/
def runWalk (c : Cfg) (kind : Kind) (bs : Nat) (d : Bytes) (a b : Option (Int × Int)) (scored : List (Nat × Bytes)) :
    Option (List Emit × End) :=
  match frNew c pT a b (rdNew c kind bs d [] []) scored with
  | .ok fr _ _ _ => let w := walk c pT 8 fr; some (w.1, w.2.1)
  | _ => none

/-- five records: times 3, 1, 2, 0 (null), 2 -/
def dT : Bytes := [3, 10, 1, 11, 2, 12, 0, 13, 2, 14]

def expectedT : List Emit := [.msg 2 [1, 11] false, .msg 4 [2, 12] false, .msg 8 [2, 14] true, .msg 0 [3, 10] false]

/-- the same sequence for every block size (1 and 2: a record spans blocks; 3: records straddle boundaries; 10, 64: one
block), plain or gz, with or without cached records: time order, the tie 4/8 in file order, the null record skipped;
`is_last` marks the positionally last record, which is NOT the last one sent -/
theorem walk_example :
    (∀ bs ∈ [1, 2, 3, 4, 10, 64], ∀ kind ∈ [Kind.plain, Kind.gz],
      ∀ scored ∈ [[], [(0, [3, 10]), (4, [2, 12])], [(8, [2, 14])]],
        runWalk cfg0 kind bs dT none none scored = some (expectedT, .done)) := by decide +kernel

/-- a record `FixedStruct::new` rejects: a recoverable error, the walk goes on -/
example : runWalk cfg0 .plain 3 [3, 10, 9, 9, 2, 12] none none [] = some ([.msg 4 [2, 12] true, .msg 0 [3, 10] false, .bad], .done) := by
  decide +kernel

/-- window: both bounds inclusive -/
example : runWalk cfg0 .plain 3 dT (some (2, 0)) (some (3, 0)) [] = some ([.msg 4 [2, 12] false, .msg 8 [2, 14] true, .msg 0 [3, 10] false], .done) := by
  decide +kernel

/-- counter-model — `fo_next_` taken from the CURRENT pair (match-this before take-next): the first record is sent twice,
then the walk stops -/
theorem next_from_current_wrong :
    runWalk { cfg0 with nextFirst := false } .plain 3 dT none none [] = some ([.msg 2 [1, 11] false, .msg 2 [1, 11] false], .done) := by
  decide +kernel

/-- counter-model — prefilter `<` → `<=`: the records AT the lower bound are lost -/
theorem prefilter_le_loses :
    runWalk { cfg0 with skipAfter := fun tv f => fixedSkipAfter tv f || tv == f } .plain 3 dT (some (2, 0)) (some (3, 0)) []
      = some ([.msg 0 [3, 10] false], .done) := by decide +kernel

/-- counter-model — reading `end - 1`: every record loses its last byte (the zeroed slice shows through) -/
theorem read_end_minus_one_wrong :
    runWalk { cfg0 with recEnd := fun fo sz => fo + sz - 1 } .plain 3 dT none none []
      = some ([.msg 2 [1, 0] false, .msg 4 [2, 0] false, .msg 8 [2, 0] true, .msg 0 [3, 0] false], .done) := by decide +kernel

/-- … but a record served from the cache is unaffected: cache and fresh read would disagree -/
example :
    runWalk { cfg0 with recEnd := fun fo sz => fo + sz - 1 } .plain 3 dT none none [(4, [2, 12])]
      = some ([.msg 2 [1, 0] false, .msg 4 [2, 12] false, .msg 8 [2, 0] true, .msg 0 [3, 0] false], .done) := by decide +kernel

/-- counter-model — reading one byte less of the time value: an empty request is `Done` at once, no record is found -/
theorem tv_end_minus_one_wrong :
    runWalk { cfg0 with tvEnd := fun b sz => b + sz - 1 } .plain 3 dT none none [] = none := by decide +kernel

/-- counter-model (the defect repaired by `fix:` fd997268, F24) — a streamed file whose blocks are NOT kept: the scan reads
ahead, the look-back drop discards the earlier blocks, the first `process_entry_at` gets `Done`: nothing is printed -/
theorem streamed_without_keep_loses :
    (∀ bs ∈ [1, 2, 3], runWalk { cfg0 with keepStreamed := false } .gz bs dT none none [] = some ([], .done))
    ∧ runWalk { cfg0 with keepStreamed := false } .gz 10 dT none none [] = some (expectedT, .done) := by decide +kernel

/-- edits that do NOT change what is sent (each key is still visited once): leaving the key in the map, leaving the
record in the cache -/
example : runWalk { cfg0 with removesKey := false } .plain 3 dT none none [(0, [3, 10])] = some (expectedT, .done)
    ∧ runWalk { cfg0 with cacheRemoves := false } .plain 3 dT none none [(0, [3, 10])] = some (expectedT, .done) := by decide +kernel

/-- the generated facts the theorems above rest on -/
theorem generated_facts :
    WALK_NEXT_CHECK_FIRST = true ∧ WALK_REMOVES_KEY = true ∧ CACHE_HIT_REMOVES = true ∧ STREAMED_KEEPS_BLOCKS = true
    ∧ PE_DONE_GE = true ∧ NEW_ERR_CONTINUES = true ∧ REC_ONEBLOCK = false ∧ PRE_ONEBLOCK = false
    ∧ RD_MANY_LOOP_INCLUSIVE = true ∧ LEN_CHECK_STRICT = true ∧ USE_COUNT_INCLUSIVE = DROP_LOOP_INCLUSIVE
    ∧ PRE_STEPS = ["invalid", "null", "ooo", "prev", "total", "after", "before", "insert", "advance"]
    ∧ fixedOutOfOrder (1, 0) (1, 0) = false ∧ fixedOutOfOrder (1, 0) (1, 1) = true ∧ fixedOutOfOrder (2, 0) (1, 5) = false
    ∧ dropWhen 1 = true ∧ dropWhen 2 = false ∧ dropEndFo 6 2 = 8 ∧ peFloor 7 2 = 6
    ∧ isLastRec 8 2 10 = true ∧ isLastRec 6 2 10 = false ∧ MANY_MID_SKIP = 1 ∧ MANY_MID_LESS = 2 := by decide

/-- `drop_entry` never disturbs later reads: whatever blocks it drops (plain file) or fails to drop (streamed file, blocks
kept), the reader stays faithful — so a dropped block that IS needed again (plain file) is read again correctly -/
theorem dropEntry_safe {d : Bytes} {I : Rd → Prop} {span : Nat} (hI : ReadsExact d I span) (p : P) (fr : FR) (fo : Nat)
    (h : I fr.rd) : I (dropEntry p fr fo).rd ∧ (dropEntry p fr fo).map = fr.map ∧ (dropEntry p fr fo).cache = fr.cache :=
  dropEntry_inv hI p fr fo h

/-- on a streamed file (`drop_data` off) `drop_entry` drops nothing and counts an error when a use count reaches 1 -/
example :
    let fr : FR := { rd := (Rd.new .gz 2 [1, 2, 3, 4] [] []).disableDropData, map := [], cache := [], use := [(0, 1), (1, 2)] }
    ((dropEntry pT fr 0).dropOk, (dropEntry pT fr 0).dropErr, (dropEntry pT fr 0).use) = (0, 1, [(1, 1), (0, 1)]) := by decide +kernel
/-- on a plain file the block whose count reaches 1 is dropped, the other count goes down -/
example :
    let fr : FR := { rd := Rd.new .plain 2 [1, 2, 3, 4] [] [], map := [], cache := [], use := [(0, 1), (1, 2)] }
    ((dropEntry pT fr 0).dropOk, (dropEntry pT fr 0).dropErr, (dropEntry pT fr 0).use) = (1, 0, [(1, 1)]) := by decide +kernel

end S4V.Props.FixedWalkSpec
