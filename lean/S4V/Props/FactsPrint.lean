/-
An obligation over a fact regenerated from the source, with the counter-model of the seeded change that showed the fact
matters. See DESIGN.md §10.5.
-/
import S4V.Gen.Print

namespace S4V.Props.FactsPrint

/-- the datetime fields printed for a run of messages with instants `ts`: `fmt` is the formatting of one instant in the
requested zone and -d format (chrono, trusted). `stateless = true`: each message is formatted from its own instant.
`false`: the last formatted field is remembered under `key t` and reused while the key repeats (the shape the
regenerated fact rules out). -/
def dtFields (stateless : Bool) (key : Int → Int) (fmt : Int → List UInt8) : Option (Int × List UInt8) → List Int → List (List UInt8)
  | _, [] => []
  | last, t :: ts =>
    if stateless then fmt t :: dtFields stateless key fmt none ts
    else match last with
      | some (k, f) => if k = key t then f :: dtFields stateless key fmt (some (k, f)) ts
                       else fmt t :: dtFields stateless key fmt (some (key t, fmt t)) ts
      | none => fmt t :: dtFields stateless key fmt (some (key t, fmt t)) ts

theorem dtFields_stateless (key : Int → Int) (fmt : Int → List UInt8) (last) (ts : List Int) :
    dtFields true key fmt last ts = ts.map fmt := by
  induction ts generalizing last with
  | nil => rfl
  | cons t ts ih => simp [dtFields, ih]

/-- **C13_dt_field_own_instant.** Unfolds the regenerated `DT_FIELD_STATELESS`: every message's datetime field is the
formatting of ITS instant, whatever came before it. -/
theorem C13_dt_field_own_instant (key : Int → Int) (fmt : Int → List UInt8) (ts : List Int) :
    dtFields S4V.Gen.Print.DT_FIELD_STATELESS key fmt none ts = ts.map fmt := by
  have h : S4V.Gen.Print.DT_FIELD_STATELESS = true := by decide
  rw [h]; exact dtFields_stateless key fmt none ts

/-- counter-model (seeded change C13-d): a cache keyed on milliseconds gives the second of two messages in the same
millisecond the first one's field (instants in microseconds, the field shows microseconds) -/
theorem cached_dt_field_wrong :
    dtFields false (· / 1000) (fun t => [(t % 256).toNat.toUInt8]) none [5000001, 5000002] = [[65], [65]] ∧
    [5000001, 5000002].map (fun t : Int => [(t % 256).toNat.toUInt8]) = [[65], [66]] := by decide

end S4V.Props.FactsPrint
