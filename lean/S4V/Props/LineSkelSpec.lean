/-
C12 / C02 / C05 — `LineReader::find_line`, tied to the source text.

`S4V.Gen.Lines` (regenerated by gen/gen_lines.py on every run) holds ALL of `find_line` as a program in a
small statement language: the order of the cache checks, every quick check with its key arithmetic, both
scan loops with their step / exit test, the two block loops with their bounds, every `LinePart::new` with
its arguments and `+1`s and whether it is appended or prepended, what is inserted and cached, every return.
`S4V.Model.LineSkel` interprets that language. This file states

1. the interpreter run on the GENERATED program is the hand models: `findLine` (the block walk: same parts,
   for every block size) and `findLineCached` (same answer and same caches afterwards, for EVERY store) —
   so `findLine_spec`, `findLine_bs_independent`, `findLineCached_transparent`, `runOps_transparent` hold of
   the regenerated form;
2. which blocks it reads: when the previous line is in the store nothing below the block of `fo` is
   requested (the discipline a streamed reader relies on), and a cached answer reads nothing;
3. counter-models: programs regenerated from the source with one token edited (`S4V.Gen.LinesMutants`),
   each with a concrete file on which a named statement of 1/2 is false.

The proofs are in `S4V.Lemmas.LineSkel`; they unfold every generated section.
-/
import S4V.Lemmas.LineSkel
import S4V.Props.CacheSpec
import S4V.Gen.LinesMutants

namespace S4V.Props.LineSkelSpec
open S4V.Gen.Blocks S4V.Model.Lines S4V.Model.LinesCached S4V.Model.LineSkel S4V.Lemmas.Lines S4V.Lemmas.LineSkel
  S4V.Props.LinesSpec S4V.Props.CacheSpec S4V.Lemmas.Blocks
open S4V.Lemmas.LinesCached (begChoice begChoice_le begChoice_of_prev begChoice_eq findLineCached_miss)

/-- running examples: `"ab\ncd"`, `"a\nbc"` -/
def exA : Bytes := [97, 98, 10, 99, 100]
def exB : Bytes := [97, 10, 98, 99]

/-- a hand-model result seen through `LinePart::new` / `Line::fileoffset_begin` / `fileoffset_end` -/
def liftRes (bs : Nat) : Res → GRes
  | .done => .done
  | .found n ps => .found n (gLineFoBeg (ps.map (ofPart bs))) (gLineFoEnd (ps.map (ofPart bs))) (ps.map (ofPart bs))

/-- **the block walk**: on a fresh reader the regenerated `find_line` builds exactly the parts of the hand
model `findLine` (block pointer = declared block, declared offset = offset of the first byte), returns the
same next offset, for every block size `≥ 1`, every file, every offset -/
theorem C12_findLine_skeleton_is_model (bs : Nat) (d : Bytes) (fo : Nat) (hbs : 1 ≤ bs) :
    (findLineG bs d empty fo).1 = liftRes bs (findLine bs d fo) := by
  rcases Nat.lt_or_ge fo d.length with hfo | hfo
  · obtain ⟨parts, reads, hG, hch, _, hm⟩ := findLineG_miss bs d empty fo hbs hfo rfl rfl rfl
    have hne := hch.ne_nil_of_line (begChoice_le d empty fo) hfo
    rw [hG, hm rfl rfl, liftRes, ← (Chain.gBounds hch hne).2]
    rfl
  · rw [findLineG_nowalk bs d empty fo (Or.inr (Or.inr (Or.inl hfo))), S4V.Lemmas.Lines.findLine_done bs d fo hfo]
    simp [findLineCached, empty, lruGet, hfo, ofR, liftRes]

/-- **with the caches**: for EVERY store (no invariant needed), the regenerated `find_line` answers what the
hand model `findLineCached` answers (next offset and bounds of the line) and leaves the same caches -/
theorem C12_findLineCached_skeleton_is_model (bs : Nat) (d : Bytes) (s : Store) (fo : Nat) (hbs : 1 ≤ bs) :
    (findLineG bs d s fo).1.toR = some (findLineCached d s fo).1 ∧
      (findLineG bs d s fo).2.1 = (findLineCached d s fo).2 := by
  by_cases hw : lruGet s.lru fo ≠ none ∨ d.length = 0 ∨ fo ≥ d.length ∨ linesGet s.lines fo ≠ none ∨
      getLinep s fo ≠ none
  · rw [findLineG_nowalk bs d s fo hw]
    refine ⟨?_, rfl⟩
    cases (findLineCached d s fo).1 <;> rfl
  · simp only [not_or, ne_eq, Decidable.not_not] at hw
    obtain ⟨hlru, hd0, hfo, hl, hg⟩ := hw
    have hfo : fo < d.length := by omega
    obtain ⟨parts, reads, hG, hch, _⟩ := findLineG_miss bs d s fo hbs hfo hlru hl hg
    -- the bounds of the line built are those the hand model stores
    obtain ⟨hB, hE⟩ := Chain.gBounds hch (hch.ne_nil_of_line (begChoice_le d s fo) hfo)
    rw [hG, findLineCached_miss hfo hlru hl hg]
    simp only [retOf, GRes.toR, storeAfter, hB, Nat.succ.inj hE, lruPutG_eq]
    exact ⟨trivial, trivial⟩

example : (findLineG 2 exA empty 3).1 = .found 5 3 4 [⟨1, 1, 1, 2, 3⟩, ⟨2, 2, 0, 1, 4⟩] := by decide +kernel
example : (findLineG 2 exA empty 3).1 = liftRes 2 (findLine 2 exA 3) :=
  C12_findLine_skeleton_is_model 2 exA 3 (by decide)

/-- hence `findLine_spec` holds of the regenerated form: next offset, bytes, bounds -/
theorem C12_findLine_generated_spec (bs : Nat) (d : Bytes) (fo : Nat) (hbs : 1 ≤ bs) (hfo : fo < d.length) :
    ∃ parts, (findLineG bs d empty fo).1 = .found (lineEnd d fo + 1) (lineStart d fo) (lineEnd d fo) parts ∧
      partsBytes d bs (parts.map GPart.toPart)
        = (d.drop (lineStart d fo)).take (lineEnd d fo + 1 - lineStart d fo) ∧
      (∀ p ∈ parts, p.src = p.bo ∧ p.fo = fileOffsetAtBlockOffsetIndex p.bo bs p.biBeg) := by
  obtain ⟨parts, reads, hG, hch, _⟩ := findLineG_miss bs d empty fo hbs hfo rfl rfl rfl
  have hbeg : begChoice d empty fo = lineStart d fo := by
    unfold begChoice
    split
    · subst fo; exact (Nat.le_zero.mp (lineStart_le d 0)).symm
    · rfl
  rw [hbeg] at hch
  obtain ⟨hB, hE⟩ := Chain.gBounds hch (hch.ne_nil_of_line (lineStart_le d fo) hfo)
  refine ⟨parts.map (ofPart bs), by rw [hG, retOf, hB, Nat.succ.inj hE], ?_, ?_⟩
  · have : (parts.map (ofPart bs)).map GPart.toPart = parts := by
      simp [List.map_map, Function.comp_def, GPart.toPart, ofPart]
    rw [this, hch.bytes]
  · intro p hp
    obtain ⟨q, _, rfl⟩ := List.mem_map.mp hp
    exact ⟨rfl, rfl⟩

/-- … and the block size does not change what a caller sees (C12) -/
theorem C12_findLine_generated_bs_independent (bs₁ bs₂ : Nat) (d : Bytes) (fo : Nat) (h₁ : 1 ≤ bs₁) (h₂ : 1 ≤ bs₂) :
    (findLineG bs₁ d empty fo).1.toR = (findLineG bs₂ d empty fo).1.toR := by
  rw [(C12_findLineCached_skeleton_is_model bs₁ d empty fo h₁).1, (C12_findLineCached_skeleton_is_model bs₂ d empty fo h₂).1]

/-- … and every history of finds and drops through the regenerated `find_line` is the hand-model history:
same answers, same caches (C02: hence `runOps_transparent`: every `find` answers the true line) -/
theorem C02_history_skeleton_is_model (bs : Nat) (d : Bytes) (hbs : 1 ≤ bs) (ops : List Op) (s : Store) :
    (runOpsG S4V.Gen.Lines.findLine { bs := bs, d := d, checkStore := S4V.Gen.Lines.checkStore } s ops).1.map
        (fun o => o.bind GRes.toR) = (runOps d s ops).1 ∧
      (runOpsG S4V.Gen.Lines.findLine { bs := bs, d := d, checkStore := S4V.Gen.Lines.checkStore } s ops).2
        = (runOps d s ops).2 := by
  induction ops generalizing s with
  | nil => exact ⟨rfl, rfl⟩
  | cons op ops ih =>
    cases op with
    | find fo =>
      obtain ⟨h1, h2⟩ := C12_findLineCached_skeleton_is_model bs d s fo hbs
      unfold findLineG at h1 h2
      simp only [runOpsG, runOps, applyOpG, applyOp, List.map_cons, Option.bind_some, h1, h2]
      obtain ⟨i1, i2⟩ := ih (findLineCached d s fo).2
      exact ⟨by rw [i1], i2⟩
    | drop fo =>
      simp only [runOpsG, runOps, applyOpG, applyOp]
      cases getLinep s fo with
      | none =>
        obtain ⟨i1, i2⟩ := ih s
        exact ⟨by simp only [List.map_cons, Option.bind_none, i1], i2⟩
      | some be =>
        obtain ⟨i1, i2⟩ := ih (dropLine s be.1)
        exact ⟨by simp only [List.map_cons, Option.bind_none, i1], i2⟩

/-- every `find` of every history through the regenerated `find_line` answers the true line -/
theorem C02_history_generated_transparent (bs : Nat) (d : Bytes) (hbs : 1 ≤ bs) (ops : List Op) :
    (runOpsG S4V.Gen.Lines.findLine { bs := bs, d := d, checkStore := S4V.Gen.Lines.checkStore } empty ops).1.map
        (fun o => o.bind GRes.toR) =
      ops.map (fun op => match op with
        | .find fo => some (findLinePlain d fo)
        | .drop _ => none) := by
  rw [(C02_history_skeleton_is_model bs d hbs ops empty).1, runOps_transparent]
  exact List.map_congr_left (fun op _ => by cases op <;> rfl)

/-- the blocks `find_line(fo)` requests, in order -/
def readsOf (prog : List S4V.Gen.Lines.Stmt) (bs : Nat) (d : Bytes) (s : Store) (fo : Nat) : List Nat :=
  (runFind prog { bs := bs, d := d, checkStore := S4V.Gen.Lines.checkStore } s fo).2.2

/-- the access discipline at one request: no block below the block of `fo` is requested -/
def NoLookbackAt (prog : List S4V.Gen.Lines.Stmt) (bs : Nat) (d : Bytes) (s : Store) (fo : Nat) : Prop :=
  ∀ r ∈ readsOf prog bs d s fo, fo / bs ≤ r

instance (prog : List S4V.Gen.Lines.Stmt) (bs : Nat) (d : Bytes) (s : Store) (fo : Nat) :
    Decidable (NoLookbackAt prog bs d s fo) := by
  unfold NoLookbackAt; exact inferInstance

/-- **C05, access discipline**: when the previous line is in the store (a stored line begins at `fo - 1`
— quick check A1a — or contains it — A1b) and `fo` itself is not cached, the regenerated `find_line(fo)`
requests the block of `fo` and then only higher blocks: it never goes back to a block a streamed reader may
have dropped. (Every store; with the invariant of `CacheSpec` the line then starts AT `fo`, see below.) -/
theorem C05_findLine_no_lookback (bs : Nat) (d : Bytes) (s : Store) (fo : Nat) (hbs : 1 ≤ bs) (hfo : fo < d.length)
    (hlru : lruGet s.lru fo = none) (hl : linesGet s.lines fo = none) (hg : getLinep s fo = none)
    (hprev : (linesGet s.lines (fo - 1)).isSome = true ∨ (getLinep s (fo - 1)).isSome = true) :
    NoLookbackAt S4V.Gen.Lines.findLine bs d s fo := by
  obtain ⟨parts, reads, hG, hch, hr, _⟩ := findLineG_miss bs d s fo hbs hfo hlru hl hg
  intro r hmem
  have : readsOf S4V.Gen.Lines.findLine bs d s fo = reads := by
    show (findLineG bs d s fo).2.2 = reads
    rw [hG]
  rw [this, hr hprev] at hmem
  obtain ⟨p, hp, rfl⟩ := List.mem_map.mp hmem
  exact begChoice_of_prev d hprev ▸ Chain.bo_ge hbs hch p hp

/-- … and under the invariant of the caches the line found starts at `fo`, so this is "never below the
block of the line's start" -/
theorem C05_no_lookback_line_start {d : Bytes} {s : Store} (hs : Inv d s) (fo : Nat) (hfo : fo < d.length)
    (hlru : lruGet s.lru fo = none) (hl : linesGet s.lines fo = none) (hg : getLinep s fo = none)
    (hprev : (linesGet s.lines (fo - 1)).isSome = true ∨ (getLinep s (fo - 1)).isSome = true) :
    lineStart d fo = fo :=
  (begChoice_eq ((inv_iff d s).mp hs) hfo hg).symm.trans (begChoice_of_prev d hprev)

/-- a cached answer (LRU, `lines`, `foend_to_fobeg`) or `Done` past the end reads no block at all -/
theorem C05_findLine_cached_reads_nothing (bs : Nat) (d : Bytes) (s : Store) (fo : Nat)
    (h : lruGet s.lru fo ≠ none ∨ d.length = 0 ∨ fo ≥ d.length ∨ linesGet s.lines fo ≠ none ∨ getLinep s fo ≠ none) :
    readsOf S4V.Gen.Lines.findLine bs d s fo = [] := by
  show (findLineG bs d s fo).2.2 = []
  rw [findLineG_nowalk bs d s fo h]

/-- `"a\na"` at block size 1 after `find_line(0)`: line `(0, 1)` is stored -/
def exC : Bytes := [97, 10, 97]
def stC : Store := (findLineG 1 exC empty 0).2.1

example : stC = ⟨[(0, 1)], [(1, 0)], [(0, .found 2 0 1)]⟩ := by decide +kernel
example : readsOf S4V.Gen.Lines.findLine 1 exC stC 2 = [2] := by decide +kernel
example : NoLookbackAt S4V.Gen.Lines.findLine 1 exC stC 2 :=
  C05_findLine_no_lookback 1 exC stC 2 (by decide) (by decide) (by decide +kernel) (by decide +kernel)
    (by decide +kernel) (by decide +kernel)

/-- the statement of `C12_findLine_generated_spec` for any program, at one request -/
def SpecAt (prog : List S4V.Gen.Lines.Stmt) (bs : Nat) (d : Bytes) (fo : Nat) : Prop :=
  match (runFind prog { bs := bs, d := d, checkStore := S4V.Gen.Lines.checkStore } empty fo).1 with
  | .found n b e parts =>
    n = lineEnd d fo + 1 ∧ b = lineStart d fo ∧ e = lineEnd d fo ∧
      partsBytes d bs (parts.map GPart.toPart) = (d.drop (lineStart d fo)).take (lineEnd d fo + 1 - lineStart d fo) ∧
      ∀ p ∈ parts, p.src = p.bo ∧ p.fo = fileOffsetAtBlockOffsetIndex p.bo bs p.biBeg
  | _ => False

instance (prog : List S4V.Gen.Lines.Stmt) (bs : Nat) (d : Bytes) (fo : Nat) : Decidable (SpecAt prog bs d fo) := by
  unfold SpecAt; split <;> exact inferInstance

theorem specAt_generated (bs : Nat) (d : Bytes) (fo : Nat) (hbs : 1 ≤ bs) (hfo : fo < d.length) :
    SpecAt S4V.Gen.Lines.findLine bs d fo := by
  obtain ⟨parts, h1, h2, h3⟩ := C12_findLine_generated_spec bs d fo hbs hfo
  unfold findLineG at h1
  unfold SpecAt
  rw [h1]
  exact ⟨rfl, rfl, rfl, h2, h3⟩

/-- the statement of `C02_history_generated_transparent` for any program, at one history -/
def TransparentAt (prog : List S4V.Gen.Lines.Stmt) (bs : Nat) (d : Bytes) (ops : List Op) : Prop :=
  (runOpsG prog { bs := bs, d := d, checkStore := S4V.Gen.Lines.checkStore } empty ops).1.map
      (fun o => o.bind GRes.toR) =
    ops.map (fun op => match op with
      | .find fo => some (findLinePlain d fo)
      | .drop _ => none)

instance (prog : List S4V.Gen.Lines.Stmt) (bs : Nat) (d : Bytes) (ops : List Op) :
    Decidable (TransparentAt prog bs d ops) := by
  unfold TransparentAt; exact inferInstance

theorem transparentAt_generated (bs : Nat) (d : Bytes) (ops : List Op) (hbs : 1 ≤ bs) :
    TransparentAt S4V.Gen.Lines.findLine bs d ops :=
  C02_history_generated_transparent bs d hbs ops

open S4V.Gen.LinesMutants

/-- B2 `bi_beg + 1` → `bi_beg`: `"a\n"` at block size 1 loses its newline -/
theorem b2PartEnd_wrong : ¬ SpecAt b2PartEnd.findLine 1 [97, 10] 0 := by decide +kernel
example : SpecAt S4V.Gen.Lines.findLine 1 [97, 10] 0 := by decide +kernel

/-- B2 `bof <= blockoffset_last` → `<`: the last block is never scanned, `"aa"` ends after one byte -/
theorem b2WhileLt_wrong : ¬ SpecAt b2WhileLt.findLine 1 [97, 97] 0 := by decide +kernel

/-- B2 `line.append` → `line.prepend`: the parts of `"aaaa"` (from offset 1) come out of order -/
theorem b2Order_wrong : ¬ SpecAt b2Order.findLine 1 [97, 97, 97, 97] 1 := by decide +kernel

/-- B1 `bi_at - charsz_bi` → `bi_at` at end of file: the one-byte file `"a"` gets a two-byte line -/
theorem b1EofIdx_wrong : ¬ SpecAt b1EofIdx.findLine 1 [97] 0 := by decide +kernel

/-- A2 search for newline A starts AT `fileoffset`: asked at the newline of `"a\n"`, the line found is empty -/
theorem a2Start_wrong : ¬ SpecAt a2Start.findLine 1 [97, 10] 1 := by decide +kernel

/-- A5 `bi_start + 1` → `bi_start`: an earlier block of the line contributes an empty part -/
theorem a5PartEnd_wrong : ¬ SpecAt a5PartEnd.findLine 1 [97, 97] 1 := by decide +kernel

/-- D `fo_end + 1` → `fo_end`: the next offset points back into the line -/
theorem dNext_wrong : ¬ SpecAt dNext.findLine 1 [97, 97] 1 := by decide +kernel

/-- A2a `bof != 0` → `bof == 0`: block 0 is walked a second time -/
theorem a2aBof_wrong : ¬ SpecAt a2aBof.findLine 2 [97, 97] 1 := by decide +kernel

/-- A1 key `fileoffset - 1` → `fileoffset - 2`: on `"\naa"`, after `find_line(0)`, `find_line(2)` trusts the stored
line `(0, 0)` and answers `(2, 2)` for the line `(1, 2)`: cache transparency fails (fresh readers do not notice) -/
theorem a1Key_wrong : ¬ TransparentAt a1Key.findLine 1 [10, 97, 97] [.find 0, .find 2] := by decide +kernel
example : TransparentAt S4V.Gen.Lines.findLine 1 [10, 97, 97] [.find 0, .find 2] := by decide +kernel
example : SpecAt a1Key.findLine 1 [10, 97, 97] 2 := by decide +kernel

/-- **the planted A1b rewrite** (peek at the previous byte of the block in hand; at block index 0 fall through
to the backwards walk): every answer is still right — fresh readers and whole histories agree with the
specification on this file — but with the previous line stored, `find_line(2)` on `"a\na"` at block size 1
requests block 1 again after block 2: the access discipline `C05_findLine_no_lookback` fails -/
theorem a1bPeek_looks_back : ¬ NoLookbackAt a1bPeek.findLine 1 exC stC 2 := by decide +kernel
theorem a1bPeek_reads : readsOf a1bPeek.findLine 1 exC stC 2 = [2, 1] := by decide +kernel
example : SpecAt a1bPeek.findLine 1 exC 2 ∧ TransparentAt a1bPeek.findLine 1 exC [.find 0, .find 2] := by
  decide +kernel

end S4V.Props.LineSkelSpec
