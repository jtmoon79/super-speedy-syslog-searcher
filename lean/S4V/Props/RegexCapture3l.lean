/-
GENERATED by tools/mk_regexrows.py from harness/src/rgx_rows.txt (gen/gen_regex.py) — regenerate, do not edit.

C04, regex slice: rows 114–129 of `DATETIME_PARSE_DATAS`. `rowsL` holds the literals of their certificates (`RowFacts`,
`S4V.Lemmas.RegexTable`), `certsL` is ONE kernel evaluation for all of them, and `certN`, `factsN` are its components for row N; a row
without an end-to-end theorem (the epoch rows; a row that failed `catOK`) has no certificate and evaluates its own `factsN`. `C04_rowN_search`: for EVERY
selection of entries of the row's catalogue (`rowBodyE` / `rowBodyP`, `S4V.Lemmas.RegexAuto`) and of concrete words, and every
admissible tail, `search` matches at 0, spans exactly the words (and the byte of a final group), and every capture group spans
the word of its item.
-/
import S4V.Gen.Regex
import S4V.Lemmas.RegexTable

namespace S4V.Props.RegexCapture3
open S4V.Model.Regex S4V.Gen.Regex S4V.Lemmas.RegexStep S4V.Lemmas.RegexSym S4V.Lemmas.RegexRows S4V.Lemmas.RegexAuto
open S4V.Lemmas.RegexE2E S4V.Lemmas.Utf8 S4V.Gen.TimeTables

def rowsL : List RowFacts := [
  { row := row114, counts := [(1, 1), (3, 3), (1, 1), (2, 2), (1, 1), (2, 2), (1, 1), (3, 3), (2, 2), (12, 12), (2, 2), (37, 49), (2, 2), (25, 25), (2, 2), (1, 1), (2, 2), (2, 2), (1, 1), (9, 9), (2, 2), (1, 1), (1, 1)], digest := 456457737,
    line := some "\"datetime\":\"2000-01-02T05:01:32.123+0000\"}".toUTF8.toList, fits := true },
  { row := row115, counts := [(1, 1), (3, 3), (1, 1), (2, 2), (1, 1), (2, 2), (1, 1), (3, 3), (2, 2), (12, 12), (2, 2), (37, 49), (2, 2), (25, 25), (2, 2), (1, 1), (2, 2), (2, 2), (1, 1), (9, 9), (2, 2), (1, 1), (1, 1)], digest := 402646882,
    line := some "\"datetime\":\"2000-01-02T05:01:32.123 +00\"}".toUTF8.toList, fits := true },
  { row := row116, counts := [(1, 1), (3, 3), (1, 1), (2, 2), (1, 1), (2, 2), (1, 1), (3, 3), (2, 2), (12, 12), (2, 2), (37, 49), (2, 2), (25, 25), (2, 2), (1, 1), (2, 2), (2, 2), (1, 1), (9, 9), (1, 1)], digest := 926724414,
    line := some "\"datetime\":\"2000-01-02T05:01:32.123\"}".toUTF8.toList, fits := true },
  { row := row117, counts := [(1, 1), (3, 3), (1, 1), (2, 2), (1, 1), (2, 2), (1, 1), (3, 3), (2, 2), (12, 12), (2, 2), (37, 49), (2, 2), (25, 25), (2, 2), (1, 1), (2, 2), (2, 2), (2, 2), (392, 392), (1, 1)], digest := 633872427,
    line := some "\"datetime\":\"2000-01-02T05:01:32Z\"}".toUTF8.toList, fits := true },
  { row := row118, counts := [(1, 1), (3, 3), (1, 1), (2, 2), (1, 1), (2, 2), (1, 1), (3, 3), (2, 2), (12, 12), (2, 2), (37, 49), (2, 2), (25, 25), (2, 2), (1, 1), (2, 2), (2, 2), (2, 2), (1, 1), (1, 1)], digest := 291358427,
    line := some "\"datetime\":\"2000-01-02T05:01:32 +00:00\"}".toUTF8.toList, fits := true },
  { row := row119, counts := [(1, 1), (3, 3), (1, 1), (2, 2), (1, 1), (2, 2), (1, 1), (3, 3), (2, 2), (12, 12), (2, 2), (37, 49), (2, 2), (25, 25), (2, 2), (1, 1), (2, 2), (2, 2), (2, 2), (1, 1), (1, 1)], digest := 365722868,
    line := some "\"datetime\":\"2000-01-02T05:01:32+0000\"}".toUTF8.toList, fits := true },
  { row := row120, counts := [(1, 1), (3, 3), (1, 1), (2, 2), (1, 1), (2, 2), (1, 1), (3, 3), (2, 2), (12, 12), (2, 2), (37, 49), (2, 2), (25, 25), (2, 2), (1, 1), (2, 2), (2, 2), (2, 2), (1, 1), (1, 1)], digest := 989299202,
    line := some "\"datetime\":\"2000-01-02T05:01:32 +00\"}".toUTF8.toList, fits := true },
  { row := row121, counts := [(1, 1), (3, 3), (1, 1), (2, 2), (1, 1), (2, 2), (1, 1), (3, 3), (2, 2), (12, 12), (2, 2), (37, 49), (2, 2), (25, 25), (2, 2), (1, 1), (2, 2), (2, 2), (1, 1)], digest := 298239934,
    line := some "\"datetime\":\"2000-01-02T05:01:32\"}".toUTF8.toList, fits := true },
  { row := row122, counts := [(1, 1), (4, 4), (1, 1), (2, 2), (1, 1), (2, 2), (1, 1), (12, 12), (2, 2), (37, 49), (2, 2), (25, 25), (2, 2), (1, 1), (2, 2), (2, 2), (1, 1)], digest := 270557201,
    line := some "\"logTime\": \"0226/052726\", \"correlationVector\":\"A\",\"action\":\"FETCH_UX_CONFIG\", \"result\":\"\"}".toUTF8.toList, fits := true },
  { row := row123, counts := [(1, 1), (3, 3), (2, 2), (12, 12), (2, 2), (37, 49), (2, 2), (25, 25), (2, 2), (1, 1), (2, 2), (2, 2), (1, 1), (9, 9), (2, 2), (1, 1), (1, 1)], digest := 764503691,
    line := some "<2000/01/02 05:01:32.123 -1100> a".toUTF8.toList, fits := true },
  { row := row124, counts := [(1, 1), (3, 3), (2, 2), (12, 12), (2, 2), (37, 49), (2, 2), (25, 25), (2, 2), (1, 1), (2, 2), (2, 2), (1, 1), (9, 9), (2, 2), (1, 1), (1, 1)], digest := 821566189,
    line := some "{2000/01/03 05:02:33.123456-11:30} ab".toUTF8.toList, fits := true },
  { row := row125, counts := [(1, 1), (3, 3), (2, 2), (12, 12), (2, 2), (37, 49), (2, 2), (25, 25), (2, 2), (1, 1), (2, 2), (2, 2), (1, 1), (9, 9), (2, 2), (1, 1), (1, 1)], digest := 723368652,
    line := some "[2000/01/04 00:03:34,123456789 -11]".toUTF8.toList, fits := true },
  { row := row126, counts := [(1, 1), (3, 3), (2, 2), (12, 12), (2, 2), (37, 49), (2, 2), (25, 25), (2, 2), (1, 1), (2, 2), (2, 2), (1, 1), (9, 9), (2, 2), (392, 392), (1, 1)], digest := 177131344,
    line := some "<2000/01/05 00:04:35.123456789 VLAT>:".toUTF8.toList, fits := true },
  { row := row127, counts := [(1, 1), (3, 3), (2, 2), (12, 12), (2, 2), (37, 49), (2, 2), (25, 25), (2, 2), (1, 1), (2, 2), (2, 2), (1, 1), (9, 9), (1, 1)], digest := 54108925,
    line := some "(2020-01-06 00:05:26.123456789) abcdefg".toUTF8.toList, fits := true },
  { row := row128, counts := [(3, 3), (2, 2), (12, 12), (2, 2), (37, 49), (2, 2), (25, 25), (2, 2), (1, 1), (2, 2), (2, 2), (1, 1), (9, 9), (2, 2), (1, 1)], digest := 521503594,
    line := some "2000/01/02 07:08:32.123 -1100 a".toUTF8.toList, fits := true },
  { row := row129, counts := [(3, 3), (2, 2), (12, 12), (2, 2), (37, 49), (2, 2), (25, 25), (2, 2), (1, 1), (2, 2), (2, 2), (1, 1), (9, 9), (2, 2), (1, 1)], digest := 180363252,
    line := some "2000/01/03 00:02:03.123456 -11:30 ab".toUTF8.toList, fits := true }]

theorem certsL : ∀ i (h : i < rowsL.length), rowsL[i].Cert :=
  RowFacts.certs_of_all (by
    unfold rowsL
    rw [toUTF8_toList_ofList, toUTF8_toList_ofList, toUTF8_toList_ofList, toUTF8_toList_ofList, toUTF8_toList_ofList, toUTF8_toList_ofList, toUTF8_toList_ofList, toUTF8_toList_ofList, toUTF8_toList_ofList, toUTF8_toList_ofList, toUTF8_toList_ofList, toUTF8_toList_ofList, toUTF8_toList_ofList, toUTF8_toList_ofList, toUTF8_toList_ofList, toUTF8_toList_ofList]
    decide +kernel)

/-! ### row 114 (year:2,month:3,day:4,hour:5,minute:6,second:7,fractional:8,tz:9): head `none`, end `plain` -/

theorem cert114 : (rowsL[0]'(by decide)).Cert := certsL 0 (by decide)

theorem facts114 : keptCounts (rowBodyP re114 0) = [(1, 1), (3, 3), (1, 1), (2, 2), (1, 1), (2, 2), (1, 1), (3, 3), (2, 2), (12, 12), (2, 2), (37, 49), (2, 2), (25, 25), (2, 2), (1, 1), (2, 2), (2, 2), (1, 1), (9, 9), (2, 2), (1, 1), (1, 1)] ∧
    catDigest (rowBodyP re114 0) = 456457737 ∧
    splitsL (rowBodyP re114 0) "\"datetime\":\"2000-01-02T05:01:32.123+0000\"}".toUTF8.toList = true := cert114.facts

theorem C04_row114_search (sel : Sel) (hv : Valid (rowBodyP re114 0) sel) (tail : List UInt8) (ht : TailF (autoTail re114) tail) :
    RowResult row114.re (flat sel ++ tail) (flat sel).length [] sel :=
  auto_P (re := re114) (by rfl) rfl sel hv tail ht

/-! ### row 115 (year:2,month:3,day:4,hour:5,minute:6,second:7,fractional:8,tz:9): head `none`, end `plain` -/

theorem cert115 : (rowsL[1]'(by decide)).Cert := certsL 1 (by decide)

theorem facts115 : keptCounts (rowBodyP re115 0) = [(1, 1), (3, 3), (1, 1), (2, 2), (1, 1), (2, 2), (1, 1), (3, 3), (2, 2), (12, 12), (2, 2), (37, 49), (2, 2), (25, 25), (2, 2), (1, 1), (2, 2), (2, 2), (1, 1), (9, 9), (2, 2), (1, 1), (1, 1)] ∧
    catDigest (rowBodyP re115 0) = 402646882 ∧
    splitsL (rowBodyP re115 0) "\"datetime\":\"2000-01-02T05:01:32.123 +00\"}".toUTF8.toList = true := cert115.facts

theorem C04_row115_search (sel : Sel) (hv : Valid (rowBodyP re115 0) sel) (tail : List UInt8) (ht : TailF (autoTail re115) tail) :
    RowResult row115.re (flat sel ++ tail) (flat sel).length [] sel :=
  auto_P (re := re115) (by rfl) rfl sel hv tail ht

/-! ### row 116 (year:2,month:3,day:4,hour:5,minute:6,second:7,fractional:8): head `none`, end `plain` -/

theorem cert116 : (rowsL[2]'(by decide)).Cert := certsL 2 (by decide)

theorem facts116 : keptCounts (rowBodyP re116 0) = [(1, 1), (3, 3), (1, 1), (2, 2), (1, 1), (2, 2), (1, 1), (3, 3), (2, 2), (12, 12), (2, 2), (37, 49), (2, 2), (25, 25), (2, 2), (1, 1), (2, 2), (2, 2), (1, 1), (9, 9), (1, 1)] ∧
    catDigest (rowBodyP re116 0) = 926724414 ∧
    splitsL (rowBodyP re116 0) "\"datetime\":\"2000-01-02T05:01:32.123\"}".toUTF8.toList = true := cert116.facts

theorem C04_row116_search (sel : Sel) (hv : Valid (rowBodyP re116 0) sel) (tail : List UInt8) (ht : TailF (autoTail re116) tail) :
    RowResult row116.re (flat sel ++ tail) (flat sel).length [] sel :=
  auto_P (re := re116) (by rfl) rfl sel hv tail ht

/-! ### row 117 (year:2,month:3,day:4,hour:5,minute:6,second:7,tz:8): head `none`, end `plain` -/

theorem cert117 : (rowsL[3]'(by decide)).Cert := certsL 3 (by decide)

theorem facts117 : keptCounts (rowBodyP re117 0) = [(1, 1), (3, 3), (1, 1), (2, 2), (1, 1), (2, 2), (1, 1), (3, 3), (2, 2), (12, 12), (2, 2), (37, 49), (2, 2), (25, 25), (2, 2), (1, 1), (2, 2), (2, 2), (2, 2), (392, 392), (1, 1)] ∧
    catDigest (rowBodyP re117 0) = 633872427 ∧
    splitsL (rowBodyP re117 0) "\"datetime\":\"2000-01-02T05:01:32Z\"}".toUTF8.toList = true := cert117.facts

theorem C04_row117_search (sel : Sel) (hv : Valid (rowBodyP re117 0) sel) (tail : List UInt8) (ht : TailF (autoTail re117) tail) :
    RowResult row117.re (flat sel ++ tail) (flat sel).length [] sel :=
  auto_P (re := re117) (by rfl) rfl sel hv tail ht

/-! ### row 118 (year:2,month:3,day:4,hour:5,minute:6,second:7,tz:8): head `none`, end `plain` -/

theorem cert118 : (rowsL[4]'(by decide)).Cert := certsL 4 (by decide)

theorem facts118 : keptCounts (rowBodyP re118 0) = [(1, 1), (3, 3), (1, 1), (2, 2), (1, 1), (2, 2), (1, 1), (3, 3), (2, 2), (12, 12), (2, 2), (37, 49), (2, 2), (25, 25), (2, 2), (1, 1), (2, 2), (2, 2), (2, 2), (1, 1), (1, 1)] ∧
    catDigest (rowBodyP re118 0) = 291358427 ∧
    splitsL (rowBodyP re118 0) "\"datetime\":\"2000-01-02T05:01:32 +00:00\"}".toUTF8.toList = true := cert118.facts

theorem C04_row118_search (sel : Sel) (hv : Valid (rowBodyP re118 0) sel) (tail : List UInt8) (ht : TailF (autoTail re118) tail) :
    RowResult row118.re (flat sel ++ tail) (flat sel).length [] sel :=
  auto_P (re := re118) (by rfl) rfl sel hv tail ht

/-! ### row 119 (year:2,month:3,day:4,hour:5,minute:6,second:7,tz:8): head `none`, end `plain` -/

theorem cert119 : (rowsL[5]'(by decide)).Cert := certsL 5 (by decide)

theorem facts119 : keptCounts (rowBodyP re119 0) = [(1, 1), (3, 3), (1, 1), (2, 2), (1, 1), (2, 2), (1, 1), (3, 3), (2, 2), (12, 12), (2, 2), (37, 49), (2, 2), (25, 25), (2, 2), (1, 1), (2, 2), (2, 2), (2, 2), (1, 1), (1, 1)] ∧
    catDigest (rowBodyP re119 0) = 365722868 ∧
    splitsL (rowBodyP re119 0) "\"datetime\":\"2000-01-02T05:01:32+0000\"}".toUTF8.toList = true := cert119.facts

theorem C04_row119_search (sel : Sel) (hv : Valid (rowBodyP re119 0) sel) (tail : List UInt8) (ht : TailF (autoTail re119) tail) :
    RowResult row119.re (flat sel ++ tail) (flat sel).length [] sel :=
  auto_P (re := re119) (by rfl) rfl sel hv tail ht

/-! ### row 120 (year:2,month:3,day:4,hour:5,minute:6,second:7,tz:8): head `none`, end `plain` -/

theorem cert120 : (rowsL[6]'(by decide)).Cert := certsL 6 (by decide)

theorem facts120 : keptCounts (rowBodyP re120 0) = [(1, 1), (3, 3), (1, 1), (2, 2), (1, 1), (2, 2), (1, 1), (3, 3), (2, 2), (12, 12), (2, 2), (37, 49), (2, 2), (25, 25), (2, 2), (1, 1), (2, 2), (2, 2), (2, 2), (1, 1), (1, 1)] ∧
    catDigest (rowBodyP re120 0) = 989299202 ∧
    splitsL (rowBodyP re120 0) "\"datetime\":\"2000-01-02T05:01:32 +00\"}".toUTF8.toList = true := cert120.facts

theorem C04_row120_search (sel : Sel) (hv : Valid (rowBodyP re120 0) sel) (tail : List UInt8) (ht : TailF (autoTail re120) tail) :
    RowResult row120.re (flat sel ++ tail) (flat sel).length [] sel :=
  auto_P (re := re120) (by rfl) rfl sel hv tail ht

/-! ### row 121 (year:2,month:3,day:4,hour:5,minute:6,second:7): head `none`, end `plain` -/

theorem cert121 : (rowsL[7]'(by decide)).Cert := certsL 7 (by decide)

theorem facts121 : keptCounts (rowBodyP re121 0) = [(1, 1), (3, 3), (1, 1), (2, 2), (1, 1), (2, 2), (1, 1), (3, 3), (2, 2), (12, 12), (2, 2), (37, 49), (2, 2), (25, 25), (2, 2), (1, 1), (2, 2), (2, 2), (1, 1)] ∧
    catDigest (rowBodyP re121 0) = 298239934 ∧
    splitsL (rowBodyP re121 0) "\"datetime\":\"2000-01-02T05:01:32\"}".toUTF8.toList = true := cert121.facts

theorem C04_row121_search (sel : Sel) (hv : Valid (rowBodyP re121 0) sel) (tail : List UInt8) (ht : TailF (autoTail re121) tail) :
    RowResult row121.re (flat sel ++ tail) (flat sel).length [] sel :=
  auto_P (re := re121) (by rfl) rfl sel hv tail ht

/-! ### row 122 (month:2,day:3,hour:4,minute:5,second:6): head `none`, end `plain` -/

theorem cert122 : (rowsL[8]'(by decide)).Cert := certsL 8 (by decide)

theorem facts122 : keptCounts (rowBodyP re122 0) = [(1, 1), (4, 4), (1, 1), (2, 2), (1, 1), (2, 2), (1, 1), (12, 12), (2, 2), (37, 49), (2, 2), (25, 25), (2, 2), (1, 1), (2, 2), (2, 2), (1, 1)] ∧
    catDigest (rowBodyP re122 0) = 270557201 ∧
    splitsL (rowBodyP re122 0) "\"logTime\": \"0226/052726\", \"correlationVector\":\"A\",\"action\":\"FETCH_UX_CONFIG\", \"result\":\"\"}".toUTF8.toList = true := cert122.facts

theorem C04_row122_search (sel : Sel) (hv : Valid (rowBodyP re122 0) sel) (tail : List UInt8) (ht : TailF (autoTail re122) tail) :
    RowResult row122.re (flat sel ++ tail) (flat sel).length [] sel :=
  auto_P (re := re122) (by rfl) rfl sel hv tail ht

/-! ### row 123 (year:1,month:2,day:3,hour:4,minute:5,second:6,fractional:7,tz:8): head `none`, end `plain` -/

theorem cert123 : (rowsL[9]'(by decide)).Cert := certsL 9 (by decide)

theorem facts123 : keptCounts (rowBodyP re123 0) = [(1, 1), (3, 3), (2, 2), (12, 12), (2, 2), (37, 49), (2, 2), (25, 25), (2, 2), (1, 1), (2, 2), (2, 2), (1, 1), (9, 9), (2, 2), (1, 1), (1, 1)] ∧
    catDigest (rowBodyP re123 0) = 764503691 ∧
    splitsL (rowBodyP re123 0) "<2000/01/02 05:01:32.123 -1100> a".toUTF8.toList = true := cert123.facts

theorem C04_row123_search (sel : Sel) (hv : Valid (rowBodyP re123 0) sel) (tail : List UInt8) (ht : TailF (autoTail re123) tail) :
    RowResult row123.re (flat sel ++ tail) (flat sel).length [] sel :=
  auto_P (re := re123) (by rfl) rfl sel hv tail ht

/-! ### row 124 (year:1,month:2,day:3,hour:4,minute:5,second:6,fractional:7,tz:8): head `none`, end `plain` -/

theorem cert124 : (rowsL[10]'(by decide)).Cert := certsL 10 (by decide)

theorem facts124 : keptCounts (rowBodyP re124 0) = [(1, 1), (3, 3), (2, 2), (12, 12), (2, 2), (37, 49), (2, 2), (25, 25), (2, 2), (1, 1), (2, 2), (2, 2), (1, 1), (9, 9), (2, 2), (1, 1), (1, 1)] ∧
    catDigest (rowBodyP re124 0) = 821566189 ∧
    splitsL (rowBodyP re124 0) "{2000/01/03 05:02:33.123456-11:30} ab".toUTF8.toList = true := cert124.facts

theorem C04_row124_search (sel : Sel) (hv : Valid (rowBodyP re124 0) sel) (tail : List UInt8) (ht : TailF (autoTail re124) tail) :
    RowResult row124.re (flat sel ++ tail) (flat sel).length [] sel :=
  auto_P (re := re124) (by rfl) rfl sel hv tail ht

/-! ### row 125 (year:1,month:2,day:3,hour:4,minute:5,second:6,fractional:7,tz:8): head `none`, end `plain` -/

theorem cert125 : (rowsL[11]'(by decide)).Cert := certsL 11 (by decide)

theorem facts125 : keptCounts (rowBodyP re125 0) = [(1, 1), (3, 3), (2, 2), (12, 12), (2, 2), (37, 49), (2, 2), (25, 25), (2, 2), (1, 1), (2, 2), (2, 2), (1, 1), (9, 9), (2, 2), (1, 1), (1, 1)] ∧
    catDigest (rowBodyP re125 0) = 723368652 ∧
    splitsL (rowBodyP re125 0) "[2000/01/04 00:03:34,123456789 -11]".toUTF8.toList = true := cert125.facts

theorem C04_row125_search (sel : Sel) (hv : Valid (rowBodyP re125 0) sel) (tail : List UInt8) (ht : TailF (autoTail re125) tail) :
    RowResult row125.re (flat sel ++ tail) (flat sel).length [] sel :=
  auto_P (re := re125) (by rfl) rfl sel hv tail ht

/-! ### row 126 (year:1,month:2,day:3,hour:4,minute:5,second:6,fractional:7,tz:8): head `none`, end `plain` -/

theorem cert126 : (rowsL[12]'(by decide)).Cert := certsL 12 (by decide)

theorem facts126 : keptCounts (rowBodyP re126 0) = [(1, 1), (3, 3), (2, 2), (12, 12), (2, 2), (37, 49), (2, 2), (25, 25), (2, 2), (1, 1), (2, 2), (2, 2), (1, 1), (9, 9), (2, 2), (392, 392), (1, 1)] ∧
    catDigest (rowBodyP re126 0) = 177131344 ∧
    splitsL (rowBodyP re126 0) "<2000/01/05 00:04:35.123456789 VLAT>:".toUTF8.toList = true := cert126.facts

theorem C04_row126_search (sel : Sel) (hv : Valid (rowBodyP re126 0) sel) (tail : List UInt8) (ht : TailF (autoTail re126) tail) :
    RowResult row126.re (flat sel ++ tail) (flat sel).length [] sel :=
  auto_P (re := re126) (by rfl) rfl sel hv tail ht

/-! ### row 127 (year:1,month:2,day:3,hour:4,minute:5,second:6,fractional:7): head `none`, end `plain` -/

theorem cert127 : (rowsL[13]'(by decide)).Cert := certsL 13 (by decide)

theorem facts127 : keptCounts (rowBodyP re127 0) = [(1, 1), (3, 3), (2, 2), (12, 12), (2, 2), (37, 49), (2, 2), (25, 25), (2, 2), (1, 1), (2, 2), (2, 2), (1, 1), (9, 9), (1, 1)] ∧
    catDigest (rowBodyP re127 0) = 54108925 ∧
    splitsL (rowBodyP re127 0) "(2020-01-06 00:05:26.123456789) abcdefg".toUTF8.toList = true := cert127.facts

theorem C04_row127_search (sel : Sel) (hv : Valid (rowBodyP re127 0) sel) (tail : List UInt8) (ht : TailF (autoTail re127) tail) :
    RowResult row127.re (flat sel ++ tail) (flat sel).length [] sel :=
  auto_P (re := re127) (by rfl) rfl sel hv tail ht

/-! ### row 128 (year:2,month:3,day:4,hour:5,minute:6,second:7,fractional:8,tz:9): head `softL`, end `(?P<g>[class]|$)` -/

theorem cert128 : (rowsL[14]'(by decide)).Cert := certsL 14 (by decide)

theorem facts128 : keptCounts (rowBodyE re128 1) = [(3, 3), (2, 2), (12, 12), (2, 2), (37, 49), (2, 2), (25, 25), (2, 2), (1, 1), (2, 2), (2, 2), (1, 1), (9, 9), (2, 2), (1, 1)] ∧
    catDigest (rowBodyE re128 1) = 521503594 ∧
    splitsL (rowBodyE re128 1) "2000/01/02 07:08:32.123 -1100 a".toUTF8.toList = true := cert128.facts

theorem C04_row128_search (sel : Sel) (hv : Valid (rowBodyE re128 1) sel) (tail : List UInt8) (ht : TailIn (rowEndSym re128) tail) :
    RowResult row128.re (flat sel ++ tail) ((flat sel).length + tailLen tail) [((headParts re128).1, 0, 0)] (sel ++ [rowEndEw re128 tail]) :=
  auto_E (re := re128) (by rfl) cert128.headOk sel hv tail ht

/-! ### row 129 (year:2,month:3,day:4,hour:5,minute:6,second:7,fractional:8,tz:9): head `softL`, end `(?P<g>[class]|$)` -/

theorem cert129 : (rowsL[15]'(by decide)).Cert := certsL 15 (by decide)

theorem facts129 : keptCounts (rowBodyE re129 1) = [(3, 3), (2, 2), (12, 12), (2, 2), (37, 49), (2, 2), (25, 25), (2, 2), (1, 1), (2, 2), (2, 2), (1, 1), (9, 9), (2, 2), (1, 1)] ∧
    catDigest (rowBodyE re129 1) = 180363252 ∧
    splitsL (rowBodyE re129 1) "2000/01/03 00:02:03.123456 -11:30 ab".toUTF8.toList = true := cert129.facts

theorem C04_row129_search (sel : Sel) (hv : Valid (rowBodyE re129 1) sel) (tail : List UInt8) (ht : TailIn (rowEndSym re129) tail) :
    RowResult row129.re (flat sel ++ tail) ((flat sel).length + tailLen tail) [((headParts re129).1, 0, 0)] (sel ++ [rowEndEw re129 tail]) :=
  auto_E (re := re129) (by rfl) cert129.headOk sel hv tail ht

end S4V.Props.RegexCapture3
